/-
C03W with re-wiring — the projection `swr` (static part of every device WITHOUT its wiring, which
device a maintenance target shuts down, the group table): nothing but `create` changes it, not even
`rewire`.
-/
import SimProc.Proofs.C03YTopo
import SimProc.Proofs.WorldWalk

namespace SimProc
namespace C02V
open World

/-- the static part of the devices and of the maintenance targets -/
def swr (w : World) : List Dev × List (Option Nat) × List Group :=
  (w.devs.map C03W.stat0, w.targets.map (·.dev), w.groups)

theorem swr_setDev_same (w : World) (x : Nat) (d : Dev) (h : C03W.stat0 d = C03W.stat0 (w.dev x)) :
    swr (w.setDev x d) = swr w := by
  simp only [swr, World.setDev]
  rw [map_set_getD_self C03W.stat0 w.devs x default d h]

theorem swr_blind : Blind fun w w' => swr w' = swr w where
  refl := fun _ => rfl
  trans := fun h1 h2 => h2.trans h1
  tables := fun _ _ _ _ _ _ _ _ _ _ _ _ _ _ _ _ _ => rfl
  setDev := fun w x d h => swr_setDev_same w x d (congrArg C03W.stat0 h :)
  setBlockInput := fun w x _ => swr_setDev_same w x _ rfl
  setMaxParts := fun w x _ => swr_setDev_same w x _ rfl
  setInited := fun w x _ => swr_setDev_same w x _ rfl
  addFinSensor := fun w x _ => swr_setDev_same w x _ rfl
  setParams := fun w tgt _ => by
    simp only [swr]
    congr 2
    exact map_set_getD_self (fun t : Target => t.dev) w.targets tgt default _ rfl

theorem swr_rewire (w : World) (x : Nat) (ups : List Nat) : swr (w.rewire x ups) = swr w :=
  swr_blind.floor.rewire_of (fun w x _ _ => swr_setDev_same w x _ rfl) w x ups

/-- Operations other than `create` keep the static data (the wiring aside). -/
theorem swr_applyOp (w : World) (op : Op) (h2 : ∀ s, op ≠ .create s) :
    swr (w.applyOp op).1 = swr w :=
  swr_blind.applyOp w op h2 fun d ups _ => swr_rewire w d ups

end C02V
end SimProc

namespace SimProc
namespace C03W
open World C02V

theorem noBatch_of_swr {w w' : World} (h : swr w' = swr w) : NoBatch w' ↔ NoBatch w := by
  have h1 : w'.devs.map stat0 = w.devs.map stat0 := congrArg Prod.fst h
  have key : ∀ v : World, NoBatch v ↔ ∀ d ∈ v.devs.map stat0, d.kind ≠ .batcher ∧ d.genBatch = 0 ∧
      d.kind ≠ .gpath ∧ d.kind ≠ .ginput ∧ d.kind ≠ .goutput := by
    intro v
    unfold NoBatch
    simp only [List.mem_map]
    constructor
    · rintro hv d ⟨d0, hd0, rfl⟩; exact hv d0 hd0
    · intro hv d hd; exact hv (stat0 d) ⟨d, hd, rfl⟩
  rw [key, key, h1]

theorem hasRes_of_swr {w w' : World} (h : swr w' = swr w) : hasRes w' = hasRes w := by
  have h1 : w'.devs.map stat0 = w.devs.map stat0 := congrArg Prod.fst h
  have key : ∀ v : World, hasRes v = (v.devs.map stat0).any (fun d => d.resReq.isSome) := by
    intro v; unfold hasRes; rw [List.any_map]; rfl
  rw [key, key, h1]

end C03W
end SimProc
