/-
Helper lemmas for `SimProc/Props/C13.lean` and `SimProc/Props/C06.lean`: processors (shutdown,
failure, restore, finish-cycle scheduling).

* Part 1: the projection `World.quiet` (the world without the *contents* of the event queue, the
  error flag and the devices' flow flags, but WITH the clock and the two logs) and
  `(f w).quiet = w.quiet` for the notification/scheduling primitives.
* Part 2: the environment only grows under the notification/scheduling primitives (`EnvGrows`).
* Part 3: closed forms / device-level characterisations of `shutdownDev`, `failDev`, `restoreDev`,
  `finishCycleHandler`, `finishCycle`, `scheduleFinish`, `tryMove`, `initDev`, `acceptPart`.
-/
import SimProc.Proofs.FloorCore2
import SimProc.Proofs.FloorWalk
import SimProc.Props.C07

namespace SimProc
open FloorCoreL
namespace World

/-! ## Part 1: `quiet` -/

/-- The world without the contents of its event queue, its error flag and the flow flags of the
devices; the clock and the logs (`results`, `recs`) are kept. -/
def quiet (w : World) : World :=
  { w with env := { now := w.env.now }, error := none, devs := w.devs.map Dev.core }

theorem core_eq_quiet (w : World) :
    w.core = { w.quiet with env := {}, results := [], recs := [] } := rfl

theorem core_of_quiet_eq {w w' : World} (h : w'.quiet = w.quiet) : w'.core = w.core := by
  rw [core_eq_quiet, core_eq_quiet, h]

theorem quiet_eq_now {w w' : World} (h : w'.quiet = w.quiet) : w'.now = w.now := by
  have := congrArg (fun w : World => w.env.now) h; exact this

theorem quiet_eq_results {w w' : World} (h : w'.quiet = w.quiet) : w'.results = w.results := by
  have := congrArg World.results h; exact this

theorem quiet_eq_recs {w w' : World} (h : w'.quiet = w.quiet) : w'.recs = w.recs := by
  have := congrArg World.recs h; exact this

theorem quiet_eq_devs_length {w w' : World} (h : w'.quiet = w.quiet) :
    w'.devs.length = w.devs.length := core_eq_devs_length (core_of_quiet_eq h)

theorem foldl_quiet {α} (g : World → α → World) (l : List α) (w : World)
    (h : ∀ w a, (g w a).quiet = w.quiet) : (l.foldl g w).quiet = w.quiet :=
  foldl_preserve quiet g l w h

@[simp] theorem setErr_quiet (w : World) (m : String) : (w.setErr m).quiet = w.quiet := by
  unfold setErr; split <;> rfl

theorem schedule_now {s s' : Env} {t a : Int} {act : Nat} {p : Int} {k : Nat}
    (h : s.schedule t a act p k = some s') : s'.now = s.now := by
  obtain ⟨_, rfl⟩ := Env.schedule_some.mp h; rfl

@[simp] theorem sched_fst_quiet (w : World) (t a : Int) (act : Action) (p : Int) :
    (w.sched t a act p).1.quiet = w.quiet := by
  unfold sched; dsimp only
  simp only [Env.apply]
  cases h : w.env.schedule t a act.toNat p (weightOf w.seed w.wmod t a act.toNat p) with
  | none => rfl
  | some s' =>
    have := schedule_now h
    simp only [quiet, this]

@[simp] theorem schedLib_quiet (w : World) (t a : Int) (act : Action) (p : Int) :
    (w.schedLib t a act p).quiet = w.quiet := by
  have h := sched_fst_quiet w t a act p
  unfold schedLib
  generalize w.sched t a act p = s at h ⊢
  obtain ⟨w', r⟩ := s
  cases r <;> simp_all

theorem setDev_quiet_of_core_eq {w : World} {x : Nat} {d : Dev} (h : d.core = (w.dev x).core) :
    (w.setDev x d).quiet = w.quiet := by
  have := map_set_of_eq Dev.core w.devs x d default h
  simp only [quiet, setDev, this]

@[simp] theorem setWaiting_quiet (w : World) (x : Nat) (a b : Bool) :
    (w.setWaiting x a b).quiet = w.quiet := by
  unfold setWaiting
  dsimp only
  repeat' split
  all_goals first | rfl | exact setDev_quiet_of_core_eq rfl

@[simp] theorem schedulePass_quiet (w : World) (x : Nat) (o : Int) :
    (w.schedulePass x o).quiet = w.quiet := by
  unfold schedulePass
  dsimp only
  split
  · rfl
  · rw [schedLib_quiet]; exact setDev_quiet_of_core_eq rfl

theorem notifyUp_spaceAvail_quiet (n : Nat) :
    ∀ w x, (notifyUp n w x).quiet = w.quiet ∧ (spaceAvail n w x).quiet = w.quiet :=
  notify_walk (R := fun w w' => w'.quiet = w.quiet) (fun _ => rfl) (fun h1 h2 => h2.trans h1)
    (setErr_quiet · _) (fun w x _ => setWaiting_quiet w x _ _) (fun w x _ _ => schedulePass_quiet w x _) n

@[simp] theorem notifyUp_quiet (n : Nat) (w : World) (x : Nat) : (notifyUp n w x).quiet = w.quiet :=
  (notifyUp_spaceAvail_quiet n w x).1

@[simp] theorem notify_quiet (w : World) (x : Nat) : (w.notify x).quiet = w.quiet :=
  notifyUp_quiet _ _ _

/-! ### the clock -/

@[simp] theorem now_setDev (w : World) (x : Nat) (d : Dev) : (w.setDev x d).now = w.now := rfl
@[simp] theorem now_modDev (w : World) (x : Nat) (f : Dev → Dev) : (w.modDev x f).now = w.now := rfl
@[simp] theorem now_addRec (w : World) (r : Rec) : (w.addRec r).now = w.now := rfl
@[simp] theorem now_addRes (w : World) (r : Res) : (w.addRes r).now = w.now := rfl
@[simp] theorem now_modPart (w : World) (p : Nat) (g : PartRec → PartRec) :
    (w.modPart p g).now = w.now := rfl
@[simp] theorem now_setErr (w : World) (m : String) : (w.setErr m).now = w.now :=
  quiet_eq_now (setErr_quiet w m)
@[simp] theorem now_schedLib (w : World) (t a : Int) (act : Action) (p : Int) :
    (w.schedLib t a act p).now = w.now := quiet_eq_now (schedLib_quiet ..)
@[simp] theorem now_setWaiting (w : World) (x : Nat) (a b : Bool) :
    (w.setWaiting x a b).now = w.now := quiet_eq_now (setWaiting_quiet ..)
@[simp] theorem now_schedulePass (w : World) (x : Nat) (o : Int) :
    (w.schedulePass x o).now = w.now := quiet_eq_now (schedulePass_quiet ..)
@[simp] theorem now_notify (w : World) (x : Nat) : (w.notify x).now = w.now :=
  quiet_eq_now (notify_quiet ..)

@[simp] theorem now_envOp_pause (w : World) (a : Int) : (w.envOp (.pause a)).now = w.now := rfl
@[simp] theorem now_envOp_unpause (w : World) (a : Int) : (w.envOp (.unpause a)).now = w.now := rfl
@[simp] theorem now_envOp_cancel (w : World) (a : Int) : (w.envOp (.cancel a)).now = w.now := rfl

theorem now_foldl {α} (g : World → α → World) (l : List α) (w : World)
    (h : ∀ w a, (g w a).now = w.now) : (l.foldl g w).now = w.now :=
  foldl_preserve now g l w h

@[simp] theorem now_applyPartCb (w : World) (x p : Nat) (c : PartCb) :
    (w.applyPartCb x p c).now = w.now := by
  unfold now; rw [applyPartCb_env]

@[simp] theorem now_addHist (w : World) (p d : Nat) : (w.addHist p d).now = w.now := by
  unfold now; rw [addHist_env]

theorem senseOutput_frame (w : World) (s p : Nat) :
    (w.senseOutput s p).env = w.env ∧ (w.senseOutput s p).devs = w.devs ∧
    (w.senseOutput s p).parts = w.parts ∧ (w.senseOutput s p).recs = w.recs ∧
    (w.senseOutput s p).seed = w.seed ∧ (w.senseOutput s p).wmod = w.wmod ∧
    (w.senseOutput s p).error = w.error ∧ (w.senseOutput s p).lost = w.lost := by
  have key : ({ w.senseOutput s p with sensors := [], results := [] } : World) =
      { w with sensors := [], results := [] } := by
    unfold senseOutput
    dsimp only
    split
    · exact foldl_preserve (fun w : World => ({ w with sensors := [], results := [] } : World))
        _ _ _ (fun _ _ => rfl)
    · rfl
  refine ⟨?_, ?_, ?_, ?_, ?_, ?_, ?_, ?_⟩
  · have h := congrArg World.env key; exact h
  · have h := congrArg World.devs key; exact h
  · have h := congrArg World.parts key; exact h
  · have h := congrArg World.recs key; exact h
  · have h := congrArg World.seed key; exact h
  · have h := congrArg World.wmod key; exact h
  · have h := congrArg World.error key; exact h
  · have h := congrArg World.lost key; exact h

@[simp] theorem now_senseOutput (w : World) (s p : Nat) : (w.senseOutput s p).now = w.now := by
  unfold now; rw [(senseOutput_frame w s p).1]

@[simp] theorem dev_senseOutput (w : World) (s p x : Nat) : (w.senseOutput s p).dev x = w.dev x :=
  dev_congr (senseOutput_frame w s p).2.1 x

/-! ### logs of the primitives -/

theorem foldl_addRes {α} (g : α → Res) (l : List α) (w : World) :
    l.foldl (fun w k => w.addRes (g k)) w = { w with results := w.results ++ l.map g } := by
  induction l generalizing w with
  | nil => simp
  | cons a l ih => rw [List.foldl_cons, ih]; simp [addRes]

theorem rmEffects_recs (w : World) (recs : List ResRec) (check : Bool) :
    (w.rmEffects recs check).recs =
      w.recs ++ recs.map (fun r => Rec.resUpdate r.res w.now r.inUse r.cap) := by
  have key : ∀ (l : List ResRec) (w : World),
      (l.foldl (fun w r => w.addRec (.resUpdate r.res w.now r.inUse r.cap)) w).recs =
        w.recs ++ l.map (fun r => Rec.resUpdate r.res w.now r.inUse r.cap) ∧
      (l.foldl (fun w r => w.addRec (.resUpdate r.res w.now r.inUse r.cap)) w).now = w.now := by
    intro l
    induction l with
    | nil => intro w; simp
    | cons a l ih =>
      intro w
      rw [List.foldl_cons]
      obtain ⟨h1, h2⟩ := ih (w.addRec (.resUpdate a.res w.now a.inUse a.cap))
      refine ⟨?_, by rw [h2]; rfl⟩
      rw [h1]; simp [addRec, now]
  unfold rmEffects
  split
  · rw [quiet_eq_recs (schedLib_quiet ..)]; exact (key recs w).1
  · exact (key recs w).1

end World
end SimProc

namespace SimProc
open FloorCoreL
namespace World

/-! ## Part 3a: `shutdownDev` in closed form -/

/-- What the first shutdown does to the device record. -/
def shutDev (now : Int) (d : Dev) : Dev :=
  { d with
    shutDown := true, since := none,
    uptime := d.uptime + (now - d.lastRestore.getD now), lastRestore := none,
    timeInUse := (match d.lastUseStart with | some t => d.timeInUse + (now - t) | none => d.timeInUse),
    lastUseStart := none }

/-- The log entries of the shutdown callbacks: one per callback, in registration order. -/
def shutLog (x n : Nat) (isF : Bool) (lost : Option Nat) : List Res :=
  (List.range n).map (fun k => Res.shut x k isF lost)

theorem setDev_setDev (w : World) (x : Nat) (a b : Dev) :
    (w.setDev x a).setDev x b = w.setDev x b := by
  simp [setDev]

theorem setWaiting_false (w : World) (x : Nat) (r : Bool) :
    w.setWaiting x false r = w.setDev x { w.dev x with since := none } := by
  simp [setWaiting]

/-- `shutdownDev` on an operational device, in closed form. -/
theorem shutdownDev_eq_up (w : World) {x : Nat} (isF : Bool) (lost : Option Nat)
    (hx : x < w.devs.length) (hs : (w.dev x).shutDown = false) :
    w.shutdownDev x isF lost =
      { w with
        devs := w.devs.set x (shutDev w.now (w.dev x))
        env := if isF then w.env.cancel (w.dev x).aid else w.env.pause (w.dev x).aid
        results := w.results ++ shutLog x (w.dev x).nShutCbs isF lost } := by
  have hx' : ∀ (d : Dev) (op : EnvOp), x < ((w.setDev x d).envOp op).devs.length := by
    intro d op; simpa using hx
  unfold shutdownDev
  simp only [hs, Bool.false_eq_true, if_false]
  cases isF
  · simp only [Bool.false_eq_true, if_false]
    rw [dev_envOp, dev_setDev_same hx]
    simp only [now_envOp_pause, now_setDev]
    cases hlu : (w.dev x).lastUseStart
    all_goals
      simp only []
      rw [setWaiting_false, dev_setDev_same (hx' _ _), setDev_setDev, foldl_addRes]
      simp only [setDev, envOp, shutDev, hlu, Env.apply, List.set_set, shutLog]
  · simp only [if_true]
    rw [dev_envOp, dev_setDev_same hx]
    simp only [now_envOp_cancel, now_setDev]
    cases hlu : (w.dev x).lastUseStart
    all_goals
      simp only []
      rw [setWaiting_false, dev_setDev_same (hx' _ _), setDev_setDev, foldl_addRes]
      simp only [setDev, envOp, shutDev, hlu, Env.apply, List.set_set, shutLog]

/-- `shutdownDev` on a device that is already shut down, in closed form. -/
theorem shutdownDev_eq_down (w : World) (x : Nat) (isF : Bool) (lost : Option Nat)
    (hs : (w.dev x).shutDown = true) :
    w.shutdownDev x isF lost =
      if isF && lost.isSome then
        { w with
          env := w.env.cancel (w.dev x).aid
          results := w.results ++ shutLog x (w.dev x).nShutCbs true lost }
      else w := by
  unfold shutdownDev
  simp only [hs, if_true]
  split
  · rw [foldl_addRes]; rfl
  · rfl

/-- A device that is shut down exists. -/
theorem lt_of_shutDown {w : World} {x : Nat} (hs : (w.dev x).shutDown = true) :
    x < w.devs.length := by
  apply Nat.lt_of_not_le
  intro h
  rw [dev_of_length_le h] at hs
  cases hs

theorem lt_of_processor {w : World} {x : Nat} (hk : (w.dev x).kind = .processor) :
    x < w.devs.length := by
  apply Nat.lt_of_not_le
  intro h
  rw [dev_of_length_le h] at hk
  cases hk

/-! ## Part 2: the event queue only grows under scheduling -/

/-- `e'` is `e` with more events scheduled: same clock, same paused events, same termination flag,
the old queue is a sub-list of the new one. -/
def EnvGrows (e e' : Env) : Prop :=
  e'.now = e.now ∧ e'.paused = e.paused ∧ e'.terminated = e.terminated ∧ e.events.Sublist e'.events ∧
  e.nextUid ≤ e'.nextUid

theorem EnvGrows.refl (e : Env) : EnvGrows e e :=
  ⟨rfl, rfl, rfl, List.Sublist.refl _, Nat.le_refl _⟩

theorem EnvGrows.trans {a b c : Env} (h1 : EnvGrows a b) (h2 : EnvGrows b c) : EnvGrows a c :=
  ⟨h2.1.trans h1.1, h2.2.1.trans h1.2.1, h2.2.2.1.trans h1.2.2.1, h1.2.2.2.1.trans h2.2.2.2.1,
    Nat.le_trans h1.2.2.2.2 h2.2.2.2.2⟩

theorem EnvGrows.of_eq {a b : Env} (h : b = a) : EnvGrows a b := h ▸ EnvGrows.refl a

theorem EnvGrows.mem {a b : Env} (h : EnvGrows a b) {e : Event} (he : e ∈ a.events) : e ∈ b.events :=
  h.2.2.2.1.subset he

theorem foldl_envGrows {α} (g : World → α → World) (l : List α) (w : World)
    (h : ∀ w a, EnvGrows w.env (g w a).env) : EnvGrows w.env (l.foldl g w).env := by
  induction l generalizing w with
  | nil => exact EnvGrows.refl _
  | cons a l ih => rw [List.foldl_cons]; exact (h w a).trans (ih _)

theorem schedule_envGrows {s s' : Env} {t a : Int} {act : Nat} {p : Int} {k : Nat}
    (h : s.schedule t a act p k = some s') : EnvGrows s s' := by
  obtain ⟨_, rfl⟩ := Env.schedule_some.mp h
  exact ⟨rfl, rfl, rfl, sublist_insort _ _, Nat.le_succ _⟩

theorem sched_fst_envGrows (w : World) (t a : Int) (act : Action) (p : Int) :
    EnvGrows w.env (w.sched t a act p).1.env := by
  unfold sched; dsimp only
  simp only [Env.apply]
  cases h : w.env.schedule t a act.toNat p (weightOf w.seed w.wmod t a act.toNat p) with
  | none => exact EnvGrows.refl _
  | some s' => exact schedule_envGrows h

theorem setErr_env (w : World) (m : String) : (w.setErr m).env = w.env := by
  unfold setErr; split <;> rfl

theorem schedLib_envGrows (w : World) (t a : Int) (act : Action) (p : Int) :
    EnvGrows w.env (w.schedLib t a act p).env := by
  have h := sched_fst_envGrows w t a act p
  unfold schedLib
  generalize w.sched t a act p = s at h ⊢
  obtain ⟨w', r⟩ := s
  cases r <;> simp_all [setErr_env]

theorem setWaiting_env (w : World) (x : Nat) (a b : Bool) : (w.setWaiting x a b).env = w.env := by
  unfold setWaiting
  dsimp only
  repeat' split
  all_goals rfl

theorem schedulePass_envGrows (w : World) (x : Nat) (o : Int) :
    EnvGrows w.env (w.schedulePass x o).env := by
  unfold schedulePass
  dsimp only
  split
  · exact EnvGrows.refl _
  · exact schedLib_envGrows _ _ _ _ _

theorem notifyUp_spaceAvail_envGrows (n : Nat) :
    ∀ w x, EnvGrows w.env (notifyUp n w x).env ∧ EnvGrows w.env (spaceAvail n w x).env :=
  notify_walk (R := fun w w' => EnvGrows w.env w'.env) (fun _ => EnvGrows.refl _)
    (fun h1 h2 => h1.trans h2) (fun w => EnvGrows.of_eq (setErr_env w _))
    (fun w x _ => EnvGrows.of_eq (setWaiting_env w x _ _)) (fun w x _ _ => schedulePass_envGrows w x _) n

theorem notify_envGrows (w : World) (x : Nat) : EnvGrows w.env (w.notify x).env :=
  (notifyUp_spaceAvail_envGrows _ w x).1

theorem rmEffects_envGrows (w : World) (recs : List ResRec) (check : Bool) :
    EnvGrows w.env (w.rmEffects recs check).env := by
  have h : EnvGrows w.env
      (recs.foldl (fun w r => w.addRec (.resUpdate r.res w.now r.inUse r.cap)) w).env :=
    foldl_envGrows _ _ _ (fun _ _ => EnvGrows.refl _)
  unfold rmEffects
  split
  · exact h.trans (schedLib_envGrows _ _ _ _ _)
  · exact h

theorem rmEffects_results (w : World) (recs : List ResRec) (check : Bool) :
    (w.rmEffects recs check).results = w.results := by
  unfold rmEffects
  split
  · rw [quiet_eq_results (schedLib_quiet ..)]
    exact foldl_preserve World.results _ _ _ (fun _ _ => rfl)
  · exact foldl_preserve World.results _ _ _ (fun _ _ => rfl)

@[simp] theorem now_rmEffects (w : World) (recs : List ResRec) (check : Bool) :
    (w.rmEffects recs check).now = w.now := by
  unfold rmEffects
  split
  · rw [now_schedLib]
    exact foldl_preserve World.now _ _ _ (fun _ _ => rfl)
  · exact foldl_preserve World.now _ _ _ (fun _ _ => rfl)

/-! ### `releaseReserved` on the logs and the queue -/

/-- The `resource_update` records written when device `x` gives back what it holds. -/
def releaseRecs (w : World) (x : Nat) : List Rec :=
  match (w.dev x).reserved with
  | none => []
  | some id => (w.rm.release id none).2.2.1.map (fun r => Rec.resUpdate r.res w.now r.inUse r.cap)

theorem releaseReserved_recs (w : World) (x : Nat) :
    (w.releaseReserved x).recs = w.recs ++ w.releaseRecs x := by
  unfold releaseReserved releaseRecs
  split
  · next h => simp [h]
  · next id h =>
    dsimp only
    rw [modDev_recs, rmEffects_recs, h]; rfl

@[simp] theorem releaseReserved_results (w : World) (x : Nat) :
    (w.releaseReserved x).results = w.results := by
  unfold releaseReserved
  split
  · rfl
  · dsimp only
    rw [modDev_results, rmEffects_results]

@[simp] theorem now_releaseReserved (w : World) (x : Nat) : (w.releaseReserved x).now = w.now := by
  unfold releaseReserved
  split
  · rfl
  · dsimp only
    rw [now_modDev, now_rmEffects]; rfl

theorem releaseReserved_envGrows (w : World) (x : Nat) :
    EnvGrows w.env (w.releaseReserved x).env := by
  unfold releaseReserved
  split
  · exact EnvGrows.refl _
  · split
    -- elaborated on its own: against the goal, `w` itself is tried for the world first
    exact (rmEffects_envGrows { w with rm := _ } _ _ :)

/-! ## Part 3b: `failDev` -/

/-- The leaves of the part a failure discards. -/
def lostLeaves (w : World) (x : Nat) : List Nat :=
  match (w.dev x).part with
  | some p => w.leavesOf p
  | none => []

/-- `_fail` up to (excluding) the final `_shutdown(True, lost)`, without the ghost log. -/
def failPre (w : World) (x : Nat) (lost : Option Nat) : World :=
  ((w.modDev x (fun d => { d with part := none })).releaseReserved x).addRec (.failure x w.now lost)

theorem failDev_eq_c13 (w : World) (x : Nat) :
    w.failDev x =
      (({ w with lost := w.lost ++ w.lostLeaves x } : World).failPre x (w.dev x).part).shutdownDev x true
        (w.dev x).part := by
  unfold failDev lostLeaves failPre
  cases h : (w.dev x).part with
  | none =>
    simp only [List.append_nil, now_releaseReserved, now_modDev]
  | some p =>
    simp only [now_releaseReserved, now_modDev]

theorem failPre_dev_same (w : World) (x : Nat) (lost : Option Nat) :
    (w.failPre x lost).dev x = { w.dev x with part := none, reserved := none } := by
  unfold failPre
  rw [dev_addRec, releaseReserved_dev_same]
  by_cases hx : x < w.devs.length
  · rw [dev_modDev_same hx]
  · rw [modDev_out_of_range (Nat.not_lt.1 hx), dev_of_length_le (Nat.not_lt.1 hx)]; rfl

theorem failPre_dev_ne (w : World) {x y : Nat} (lost : Option Nat) (h : y ≠ x) :
    (w.failPre x lost).dev y = w.dev y := by
  unfold failPre
  rw [dev_addRec, releaseReserved_dev_ne _ h, dev_modDev_ne (Ne.symm h)]

@[simp] theorem failPre_devs_length (w : World) (x : Nat) (lost : Option Nat) :
    (w.failPre x lost).devs.length = w.devs.length := by
  unfold failPre
  show ((w.modDev x _).releaseReserved x).devs.length = _
  simp

@[simp] theorem now_failPre (w : World) (x : Nat) (lost : Option Nat) :
    (w.failPre x lost).now = w.now := by
  unfold failPre; simp

@[simp] theorem failPre_results (w : World) (x : Nat) (lost : Option Nat) :
    (w.failPre x lost).results = w.results := by
  unfold failPre
  show ((w.modDev x _).releaseReserved x).results = _
  simp

@[simp] theorem failPre_lost (w : World) (x : Nat) (lost : Option Nat) :
    (w.failPre x lost).lost = w.lost := by
  unfold failPre
  show ((w.modDev x _).releaseReserved x).lost = _
  simp

@[simp] theorem failPre_parts (w : World) (x : Nat) (lost : Option Nat) :
    (w.failPre x lost).parts = w.parts := by
  unfold failPre
  show ((w.modDev x _).releaseReserved x).parts = _
  simp

theorem failPre_recs (w : World) (x : Nat) (lost : Option Nat) :
    (w.failPre x lost).recs = w.recs ++ w.releaseRecs x ++ [Rec.failure x w.now lost] := by
  unfold failPre
  show ((w.modDev x _).releaseReserved x).recs ++ _ = _
  rw [releaseReserved_recs, modDev_recs]
  congr 2
  unfold releaseRecs
  have : ((w.modDev x (fun d => { d with part := none })).dev x).reserved = (w.dev x).reserved :=
    modDev_dev_field Dev.reserved w x _ rfl x
  rw [this, modDev_rm, now_modDev]

theorem failPre_envGrows (w : World) (x : Nat) (lost : Option Nat) :
    EnvGrows w.env (w.failPre x lost).env := by
  unfold failPre
  show EnvGrows w.env ((w.modDev x _).releaseReserved x).env
  exact releaseReserved_envGrows _ _

/-! ## Part 3c: `restoreDev` -/

theorem quiet_setDev (w : World) (x : Nat) (d : Dev) :
    (w.setDev x d).quiet = w.quiet.setDev x d.core := by
  simp [quiet, setDev, List.map_set]

theorem quiet_dev (w : World) (x : Nat) : w.quiet.dev x = (w.dev x).core := by
  unfold dev
  show (w.devs.map Dev.core).getD x default = _
  rw [← Dev.core_default, getD_map, Dev.core_default]

theorem quiet_eq_dev {w w' : World} (h : w'.quiet = w.quiet) (x : Nat) :
    (w'.dev x).core = (w.dev x).core := core_eq_dev (core_of_quiet_eq h) x

/-- `modDev` with a function that commutes with `Dev.core` respects `quiet`-equality. -/
theorem modDev_quiet_congr {w w' : World} (h : w'.quiet = w.quiet) (x : Nat) (f : Dev → Dev)
    (hf : ∀ d, (f d).core = f d.core) : (w'.modDev x f).quiet = (w.modDev x f).quiet := by
  unfold modDev
  rw [quiet_setDev, quiet_setDev, hf, hf, quiet_eq_dev h, h]

theorem addResults_quiet_congr {w w' : World} (h : w'.quiet = w.quiet) (l : List Res) :
    ({ w' with results := w'.results ++ l } : World).quiet =
      ({ w with results := w.results ++ l } : World).quiet := by
  show ({ w'.quiet with results := w'.quiet.results ++ l } : World) =
    { w.quiet with results := w.quiet.results ++ l }
  rw [h]

@[simp] theorem envOp_unpause_quiet (w : World) (a : Int) : (w.envOp (.unpause a)).quiet = w.quiet :=
  rfl
@[simp] theorem envOp_pause_quiet (w : World) (a : Int) : (w.envOp (.pause a)).quiet = w.quiet := rfl
@[simp] theorem envOp_cancel_quiet (w : World) (a : Int) : (w.envOp (.cancel a)).quiet = w.quiet :=
  rfl

/-- What a restore does to the device record (flow flags aside). -/
def restDev (now : Int) (d : Dev) : Dev :=
  { d with
    shutDown := false, lastRestore := some now,
    lastUseStart := if d.part.isSome then some now else d.lastUseStart }

/-- The log entries of the restored callbacks: one per callback, in registration order. -/
def restLog (x n : Nat) : List Res := (List.range n).map (fun k => Res.restored x k)

/-- First part of a restore: clear the flag, stamp the clock, resume the device's events. -/
def restorePre (w : World) (x : Nat) : World :=
  (w.setDev x { w.dev x with shutDown := false, lastRestore := some w.now }).envOp
    (.unpause (w.dev x).aid)

/-- Second part: get the part flow going again. -/
def restoreFlow (w : World) (x : Nat) : World :=
  if (w.dev x).output.isSome then w.schedulePass x 0
  else if (w.dev x).part.isNone then w.notify x else w

theorem restoreDev_eq_up (w : World) (x : Nat) (hs : (w.dev x).shutDown = false) :
    w.restoreDev x = w := by
  unfold restoreDev; simp [hs]

theorem restoreDev_eq_down (w : World) (x : Nat) (hs : (w.dev x).shutDown = true) :
    w.restoreDev x =
      (let w2 := (w.restorePre x).restoreFlow x
       let w3 := if (w2.dev x).part.isSome then
           w2.modDev x (fun d => { d with lastUseStart := some w2.now }) else w2
       { w3 with results := w3.results ++ restLog x (w.dev x).nRestCbs }) := by
  unfold restoreDev
  simp only [hs, Bool.not_true, Bool.false_eq_true, if_false]
  rw [foldl_addRes]
  rfl

@[simp] theorem restoreFlow_quiet (w : World) (x : Nat) : (w.restoreFlow x).quiet = w.quiet := by
  unfold restoreFlow
  repeat' split
  all_goals first | rfl | exact schedulePass_quiet _ _ _ | exact notify_quiet _ _

theorem restoreFlow_envGrows (w : World) (x : Nat) : EnvGrows w.env (w.restoreFlow x).env := by
  unfold restoreFlow
  repeat' split
  all_goals first
    | exact EnvGrows.refl _ | exact schedulePass_envGrows _ _ _ | exact notify_envGrows _ _

theorem restorePre_env (w : World) (x : Nat) :
    (w.restorePre x).env = w.env.unpause Arith.exact (w.dev x).aid := rfl

/-- The environment after a restore: the device's events are resumed, then the flow part
schedules what it schedules. -/
theorem restoreDev_env (w : World) (x : Nat) (hs : (w.dev x).shutDown = true) :
    (w.restoreDev x).env = ((w.restorePre x).restoreFlow x).env := by
  rw [restoreDev_eq_down w x hs]
  dsimp only
  split <;> rfl

/-- A restore of a shut-down device, up to flow state: the device record becomes `restDev`, the
restored callbacks are logged; nothing else that `quiet` sees changes. -/
theorem restoreDev_quiet (w : World) (x : Nat) (hs : (w.dev x).shutDown = true) :
    (w.restoreDev x).quiet =
      ({ w.setDev x (restDev w.now (w.dev x)) with
          results := w.results ++ restLog x (w.dev x).nRestCbs } : World).quiet := by
  have hx := lt_of_shutDown hs
  rw [restoreDev_eq_down w x hs]
  dsimp only
  have h2 : ((w.restorePre x).restoreFlow x).quiet = (w.restorePre x).quiet := restoreFlow_quiet _ _
  have hd1 : (w.restorePre x).dev x = { w.dev x with shutDown := false, lastRestore := some w.now } := by
    unfold restorePre; rw [dev_envOp, dev_setDev_same hx]
  have hpart : (((w.restorePre x).restoreFlow x).dev x).part = (w.dev x).part := by
    rw [core_eq_dev_part (core_of_quiet_eq h2), hd1]
  have hnow : ((w.restorePre x).restoreFlow x).now = w.now := by
    rw [quiet_eq_now h2]; rfl
  rw [hpart, hnow]
  have hpre : ∀ D : Dev, ((w.restorePre x).setDev x D).quiet = (w.setDev x D).quiet := by
    intro D
    unfold restorePre
    rw [quiet_setDev, envOp_unpause_quiet, ← quiet_setDev, setDev_setDev]
  by_cases hp : (w.dev x).part.isSome = true
  · simp only [hp, if_true]
    have h3 : (((w.restorePre x).restoreFlow x).modDev x
        (fun d => { d with lastUseStart := some w.now })).quiet =
        (w.setDev x (restDev w.now (w.dev x))).quiet := by
      refine (modDev_quiet_congr h2 x (fun d => { d with lastUseStart := some w.now })
        (fun _ => rfl)).trans ?_
      unfold modDev
      rw [hd1, hpre]
      simp only [restDev, hp, if_true]
    exact addResults_quiet_congr h3 _
  · simp only [hp, Bool.false_eq_true, if_false]
    have h3 : ((w.restorePre x).restoreFlow x).quiet =
        (w.setDev x (restDev w.now (w.dev x))).quiet := by
      rw [h2, ← hpre]
      simp only [restDev, hp, Bool.false_eq_true, if_false]
      rw [← hd1, setDev_dev_self]
    exact addResults_quiet_congr h3 _

/-! ## Part 3d: finishing a cycle -/

/-- What `PartHandler._finish_cycle` does to the device record: the part moves from the input to
the output slot if the device is operational, has a part and a free output slot; otherwise (an
assertion of the library fails) nothing moves. -/
def finH (op : Bool) (d : Dev) : Dev :=
  if op then
    match d.part with
    | none => d
    | some p => if d.output.isSome then d else { d with output := some p, part := none }
  else d

theorem finishCycleHandler_quiet (w : World) (x : Nat) :
    (w.finishCycleHandler x).quiet = (w.setDev x (finH (w.operational x) (w.dev x))).quiet := by
  unfold finishCycleHandler finH
  dsimp only
  cases hop : w.operational x
  · simp only [Bool.not_false, if_true, Bool.false_eq_true, if_false, setErr_quiet, setDev_dev_self]
  · simp only [Bool.not_true, Bool.false_eq_true, if_false, if_true]
    cases hp : (w.dev x).part
    · simp only [setErr_quiet, setDev_dev_self]
    · simp only
      split
      · simp only [setErr_quiet, setDev_dev_self]
      · rw [schedulePass_quiet]

/-- The successful case in closed form. -/
theorem finishCycleHandler_ok (w : World) {x p : Nat} (hop : w.operational x = true)
    (hp : (w.dev x).part = some p) (ho : (w.dev x).output = none) :
    w.finishCycleHandler x =
      (w.setDev x { w.dev x with output := some p, part := none }).schedulePass x 0 := by
  unfold finishCycleHandler
  simp [hop, hp, ho]

theorem finishCycleHandler_envGrows (w : World) (x : Nat) :
    EnvGrows w.env (w.finishCycleHandler x).env := by
  unfold finishCycleHandler
  dsimp only
  repeat' split
  all_goals first
    | exact EnvGrows.of_eq (setErr_env _ _)
    | exact schedulePass_envGrows _ _ _

/-- What `PartProcessor._finish_cycle` does to the device record, the callbacks' changes of
`cycle`/`offset` aside. -/
def finDev (now : Int) (op : Bool) (d : Dev) : Dev :=
  let d := finH op d
  { d with timeInUse := d.timeInUse + (now - d.lastUseStart.getD now), lastUseStart := none }

theorem foldl_applyPartCb_dev_field {α} (g : Dev → α)
    (hg : ∀ d cy o, g { d with cycle := cy, offset := o } = g d) (cbs : List PartCb) (w : World)
    (x p y : Nat) : g ((cbs.foldl (fun w c => w.applyPartCb x p c) w).dev y) = g (w.dev y) :=
  foldl_preserve (fun w : World => g (w.dev y)) _ _ _
    (fun w c => applyPartCb_dev_field g hg w x p c y)

theorem foldl_senseOutput_dev (l : List Nat) (w : World) (p y : Nat) :
    (l.foldl (fun w s => w.senseOutput s p) w).dev y = w.dev y :=
  foldl_preserve (fun w : World => w.dev y) _ _ _ (fun w s => dev_senseOutput w s p y)

theorem now_foldl_applyPartCb (cbs : List PartCb) (w : World) (x p : Nat) :
    (cbs.foldl (fun w c => w.applyPartCb x p c) w).now = w.now :=
  now_foldl _ _ _ (fun w c => now_applyPartCb w x p c)

theorem now_foldl_senseOutput (l : List Nat) (w : World) (p : Nat) :
    (l.foldl (fun w s => w.senseOutput s p) w).now = w.now :=
  now_foldl _ _ _ (fun w s => now_senseOutput w s p)

/-- The processor branch of `finishCycle`, split into its bookkeeping part … -/
def finishBook (w : World) (x : Nat) : World :=
  let w := w.finishCycleHandler x
  let d := w.dev x
  let w := w.setDev x { d with timeInUse := d.timeInUse + (w.now - d.lastUseStart.getD w.now),
                               lastUseStart := none }
  if d.reserved.isSome then w.schedLib w.now d.aid (.releaseIfIdle x) pRelease else w

/-- … and the callbacks on the finished part. -/
def finishCbs (w : World) (x : Nat) (cbs : List PartCb) (sensors : List Nat) : World :=
  match (w.dev x).output with
  | none => w
  | some p =>
    let w := cbs.foldl (fun w c => w.applyPartCb x p c) w
    let w := sensors.foldl (fun w s => w.senseOutput s p) w
    w.addRec (.produced x w.now p (w.part p).quality (w.partValue p))

theorem finishCycle_proc (w : World) {x : Nat} (hk : (w.dev x).kind = .processor) :
    w.finishCycle x =
      (w.finishBook x).finishCbs x ((w.finishCycleHandler x).dev x).finCbs
        ((w.finishCycleHandler x).dev x).finSensors := by
  unfold finishCycle
  simp only [hk]
  rfl

theorem finishBook_quiet (w : World) (x : Nat) :
    (w.finishBook x).quiet = (w.setDev x (finDev w.now (w.operational x) (w.dev x))).quiet := by
  have h1 := finishCycleHandler_quiet w x
  have hn : (w.finishCycleHandler x).now = w.now := by
    have := quiet_eq_now h1; exact this
  have key : ((w.finishCycleHandler x).setDev x
      { (w.finishCycleHandler x).dev x with
        timeInUse := ((w.finishCycleHandler x).dev x).timeInUse +
          ((w.finishCycleHandler x).now - ((w.finishCycleHandler x).dev x).lastUseStart.getD
            (w.finishCycleHandler x).now),
        lastUseStart := none }).quiet =
      (w.setDev x (finDev w.now (w.operational x) (w.dev x))).quiet := by
    have := modDev_quiet_congr h1 x
      (fun d => { d with timeInUse := d.timeInUse + (w.now - d.lastUseStart.getD w.now),
                         lastUseStart := none }) (fun _ => rfl)
    rw [hn]
    refine this.trans ?_
    by_cases hx : x < w.devs.length
    · unfold modDev
      rw [dev_setDev_same hx, setDev_setDev]; rfl
    · have hx' := Nat.not_lt.1 hx
      rw [dev_setDev_out_of_range hx', dev_setDev_out_of_range hx', modDev_out_of_range hx']
  unfold finishBook
  dsimp only
  split
  · rw [schedLib_quiet]; exact key
  · exact key

theorem finishBook_envGrows (w : World) (x : Nat) : EnvGrows w.env (w.finishBook x).env := by
  unfold finishBook
  dsimp only
  split
  · exact (finishCycleHandler_envGrows w x).trans (schedLib_envGrows _ _ _ _ _)
  · exact finishCycleHandler_envGrows w x

theorem finishCbs_dev_field {α} (g : Dev → α)
    (hg : ∀ d cy o, g { d with cycle := cy, offset := o } = g d) (w : World) (x : Nat)
    (cbs : List PartCb) (sensors : List Nat) (y : Nat) :
    g ((w.finishCbs x cbs sensors).dev y) = g (w.dev y) := by
  unfold finishCbs
  split
  · rfl
  · dsimp only
    rw [dev_addRec, foldl_senseOutput_dev, foldl_applyPartCb_dev_field g hg]

@[simp] theorem now_finishCbs (w : World) (x : Nat) (cbs : List PartCb) (sensors : List Nat) :
    (w.finishCbs x cbs sensors).now = w.now := by
  unfold finishCbs
  split
  · rfl
  · dsimp only
    rw [now_addRec, now_foldl_senseOutput, now_foldl_applyPartCb]

theorem finishCbs_env (w : World) (x : Nat) (cbs : List PartCb) (sensors : List Nat) :
    (w.finishCbs x cbs sensors).env = w.env := by
  unfold finishCbs
  split
  · rfl
  · dsimp only
    show (sensors.foldl (fun (w : World) s => w.senseOutput s _) _).env = _
    rw [foldl_preserve World.env _ _ _ (fun (w : World) s => (senseOutput_frame w s _).1),
      foldl_preserve World.env _ _ _ (fun (w : World) c => applyPartCb_env w x _ c)]

/-- Every observation of the processor's own record that reads neither the flow flags nor
`cycle`/`offset` sees `finDev` after `finishCycle`. -/
theorem finishCycle_proc_field {α} (g : Dev → α) (hcore : ∀ d, g d.core = g d)
    (hg : ∀ d cy o, g { d with cycle := cy, offset := o } = g d) (w : World) {x : Nat}
    (hk : (w.dev x).kind = .processor) :
    g ((w.finishCycle x).dev x) = g (finDev w.now (w.operational x) (w.dev x)) := by
  have hx := lt_of_processor hk
  rw [finishCycle_proc w hk, finishCbs_dev_field g hg, ← hcore,
    quiet_eq_dev (finishBook_quiet w x), dev_setDev_same hx, hcore]

theorem finishCbs_dev_ne (w : World) {x y : Nat} (cbs : List PartCb) (sensors : List Nat)
    (hy : y ≠ x) : (w.finishCbs x cbs sensors).dev y = w.dev y := by
  unfold finishCbs
  split
  · rfl
  · dsimp only
    rw [dev_addRec, foldl_senseOutput_dev]
    exact foldl_preserve (fun w : World => w.dev y) _ _ _
      (fun w c => applyPartCb_dev_ne w _ c hy)

/-- Other devices keep everything but their flow flags. -/
theorem finishCycle_proc_dev_ne (w : World) {x y : Nat} (hk : (w.dev x).kind = .processor)
    (hy : y ≠ x) : ((w.finishCycle x).dev y).core = (w.dev y).core := by
  rw [finishCycle_proc w hk, finishCbs_dev_ne _ _ _ hy, quiet_eq_dev (finishBook_quiet w x),
    dev_setDev_ne (Ne.symm hy)]

@[simp] theorem now_finishCycle_proc (w : World) {x : Nat} (hk : (w.dev x).kind = .processor) :
    (w.finishCycle x).now = w.now := by
  rw [finishCycle_proc w hk, now_finishCbs, quiet_eq_now (finishBook_quiet w x)]; rfl

theorem finishCycle_proc_envGrows (w : World) {x : Nat} (hk : (w.dev x).kind = .processor) :
    EnvGrows w.env (w.finishCycle x).env := by
  rw [finishCycle_proc w hk, finishCbs_env]
  exact finishBook_envGrows w x

/-! ## Part 3e: scheduling the end of a cycle -/

/-- The delay `_schedule_finish_cycle` uses: cycle time plus one-shot offset, floored at zero. -/
def finishDelay (w : World) (x : Nat) : Int :=
  let c := w.cycleTime x + (w.dev x).offset
  if c < 0 then 0 else c

theorem finishDelay_eq_max (w : World) (x : Nat) :
    w.finishDelay x = max 0 (w.cycleTime x + (w.dev x).offset) := by
  unfold finishDelay
  dsimp only
  split <;> omega

theorem finishDelay_nonneg (w : World) (x : Nat) : 0 ≤ w.finishDelay x := by
  rw [finishDelay_eq_max]; omega

/-- The event `schedule_event(t, asset, act, prio)` creates in world `w`. -/
def newEv (w : World) (t asset : Int) (a : Action) (prio : Int) : Event :=
  w.env.newEvent t asset a.toNat prio (weightOf w.seed w.wmod t asset a.toNat prio)

/-- A request that is not in the past is accepted: exactly one event is inserted, no error. -/
theorem schedLib_ok (w : World) (t asset : Int) (a : Action) (prio : Int) (h : w.now ≤ t) :
    w.schedLib t asset a prio =
      { w with env := { w.env with
          events := insort (w.newEv t asset a prio) w.env.events
          nextUid := w.env.nextUid + 1 } } := by
  have h' : ¬ t < w.env.now := Int.not_lt.2 h
  simp only [schedLib, sched, Env.apply, Env.schedule, h', if_false, newEv]

theorem schedLib_ok_env (w : World) (t asset : Int) (a : Action) (prio : Int) (h : w.now ≤ t) :
    (w.schedLib t asset a prio).env =
      (w.env.apply Arith.exact
        (.sched t asset a.toNat prio (weightOf w.seed w.wmod t asset a.toNat prio))).1 ∧
    (w.env.apply Arith.exact
        (.sched t asset a.toNat prio (weightOf w.seed w.wmod t asset a.toNat prio))).2 = .ok := by
  have h' : ¬ t < w.env.now := Int.not_lt.2 h
  rw [schedLib_ok w t asset a prio h]
  simp only [Env.apply, Env.schedule, h', if_false, newEv]
  constructor <;> first | rfl | trivial

theorem scheduleFinish_pos (w : World) (x : Nat) (hc : 0 < w.finishDelay x) :
    w.scheduleFinish x =
      (w.setDev x { w.dev x with offset := 0 }).schedLib (w.now + w.finishDelay x) (w.dev x).aid
        (.finishCycle x) pFinish := by
  have hc' : ¬ w.finishDelay x ≤ 0 := Int.not_le.2 hc
  unfold finishDelay at hc'
  unfold scheduleFinish finishDelay
  simp only [hc', if_false]
  rfl

theorem scheduleFinish_nonpos (w : World) (x : Nat) (hc : w.finishDelay x ≤ 0) :
    w.scheduleFinish x = (w.setDev x { w.dev x with offset := 0 }).finishCycle x := by
  unfold finishDelay at hc
  unfold scheduleFinish
  simp only [hc, if_true]

theorem tryMove_proc (w : World) {x : Nat} (hk : (w.dev x).kind = .processor) :
    w.tryMove x =
      if w.operational x && (w.dev x).part.isSome && (w.dev x).output.isNone then
        (w.setDev x { w.dev x with lastUseStart := some w.now }).scheduleFinish x
      else w := by
  unfold tryMove
  simp only [hk]

theorem tryMove_handler (w : World) {x : Nat} (hk : (w.dev x).kind = .handler) :
    w.tryMove x =
      if w.operational x && (w.dev x).part.isSome && (w.dev x).output.isNone then
        w.scheduleFinish x
      else w := by
  unfold tryMove
  simp only [hk]

/-! ### `initDev` of a processor -/

theorem initDev_proc_quiet (w : World) {x : Nat} (hk : (w.dev x).kind = .processor) :
    (w.initDev x).quiet =
      (w.setDev x { w.dev x with inited := true, val := (w.dev x).val.reset,
                                 lastRestore := some w.now }).quiet := by
  have hx := lt_of_processor hk
  unfold initDev
  have hk' : ((w.modDev x (fun d => { d with inited := true, val := d.val.reset })).dev x).kind =
      .processor := by rw [dev_modDev_same hx]; exact hk
  simp only [hk']
  rw [now_setWaiting, now_modDev]
  refine (modDev_quiet_congr (setWaiting_quiet _ x true true) x
    (fun d => { d with lastRestore := some w.now }) (fun _ => rfl)).trans ?_
  rw [modDev_modDev]
  rfl

/-! ### accepting a part (handler / processor) -/

/-- The device record when `_try_move_part_to_output` is reached inside `_accept_part`: the part
is in the input slot and the receive callbacks have adjusted `cycle` / `offset`. -/
def recvDev (p : Nat) (d : Dev) : Dev :=
  d.recvCbs.foldl (fun d c => cbDev c d) { d with part := some p, since := none }

/-- `_accept_part` up to (excluding) `_try_move_part_to_output`. -/
def acceptPre (w : World) (x p : Nat) : World :=
  let w := w.modDev x (fun d => { d with part := some p })
  let w := w.addHist p x
  let w := w.setWaiting x false false
  let w := w.addRec (.received x w.now p (w.part p).quality (w.partValue p))
  (w.dev x).recvCbs.foldl (fun w c => w.applyPartCb x p c) w

theorem acceptPart_eq (w : World) {x : Nat} (p : Nat)
    (hk : (w.dev x).kind = .processor ∨ (w.dev x).kind = .handler) :
    w.acceptPart x p =
      if ((w.acceptPre x p).dev x).output.isNone then (w.acceptPre x p).tryMove x
      else w.acceptPre x p := by
  have hk3 : ((((w.modDev x (fun d => { d with part := some p })).addHist p x).setWaiting x false
      false).dev x).kind = (w.dev x).kind := by
    rw [core_eq_dev_kind (setWaiting_core _ _ _ _), dev_addHist]
    exact modDev_dev_field Dev.kind w x _ rfl x
  have hns : ((w.dev x).kind == Kind.sink) = false := by
    rcases hk with hk | hk <;> rw [hk] <;> decide
  unfold acceptPart onReceived
  simp only [hns, Bool.false_eq_true, if_false]
  rcases hk with hk | hk
  · rw [hk] at hk3
    simp only [hk3]
    rfl
  · rw [hk] at hk3
    simp only [hk3]
    rfl

theorem foldl_applyPartCb_dev_same (cbs : List PartCb) (w : World) {x : Nat} (p : Nat)
    (hx : x < w.devs.length) :
    (cbs.foldl (fun w c => w.applyPartCb x p c) w).dev x =
      cbs.foldl (fun d c => cbDev c d) (w.dev x) := by
  induction cbs generalizing w with
  | nil => rfl
  | cons c cbs ih =>
    rw [List.foldl_cons, List.foldl_cons, ih _ (by simpa using hx), applyPartCb_dev_same w p c hx]

theorem acceptPre_dev_same (w : World) {x : Nat} (p : Nat) (hx : x < w.devs.length) :
    (w.acceptPre x p).dev x = recvDev p (w.dev x) := by
  unfold acceptPre recvDev
  dsimp only
  have h3 : (((w.modDev x (fun d => { d with part := some p })).addHist p x).setWaiting x false
      false).dev x = { w.dev x with part := some p, since := none } := by
    rw [setWaiting_false, dev_setDev_same (by simpa using hx), dev_addHist, dev_modDev_same hx]
  rw [foldl_applyPartCb_dev_same _ _ _ (by simpa using hx)]
  simp only [dev_addRec, h3]

theorem acceptPre_frame (w : World) (x p : Nat) :
    (w.acceptPre x p).env = w.env ∧ (w.acceptPre x p).seed = w.seed ∧
    (w.acceptPre x p).wmod = w.wmod ∧ (w.acceptPre x p).devs.length = w.devs.length := by
  unfold acceptPre
  dsimp only
  refine ⟨?_, ?_, ?_, ?_⟩
  · rw [foldl_preserve World.env _ _ _ (fun (w : World) c => applyPartCb_env w x p c)]
    show (((w.modDev x _).addHist p x).setWaiting x false false).env = _
    rw [setWaiting_env, addHist_env, modDev_env]
  · rw [foldl_preserve World.seed _ _ _ (fun (w : World) c => applyPartCb_seed w x p c)]
    show (((w.modDev x _).addHist p x).setWaiting x false false).seed = _
    rw [setWaiting_seed, addHist_seed, modDev_seed]
  · rw [foldl_preserve World.wmod _ _ _ (fun (w : World) c => applyPartCb_wmod w x p c)]
    show (((w.modDev x _).addHist p x).setWaiting x false false).wmod = _
    rw [setWaiting_wmod, addHist_wmod, modDev_wmod]
  · rw [foldl_preserve (fun w : World => w.devs.length) _ _ _
      (fun (w : World) c => applyPartCb_devs_length w x p c)]
    show (((w.modDev x _).addHist p x).setWaiting x false false).devs.length = _
    rw [setWaiting_devs_length, addHist_devs, modDev_devs_length]

@[simp] theorem now_acceptPre (w : World) (x p : Nat) : (w.acceptPre x p).now = w.now := by
  unfold now; rw [(acceptPre_frame w x p).1]

/-! ## Part 3f: `failDev` and `shutdownDev`, field by field -/

/-- The world `_fail` hands to `_shutdown`. -/
def failMid (w : World) (x : Nat) : World :=
  ({ w with lost := w.lost ++ w.lostLeaves x } : World).failPre x (w.dev x).part

theorem failDev_eq_c13' (w : World) (x : Nat) :
    w.failDev x = (w.failMid x).shutdownDev x true (w.dev x).part := failDev_eq_c13 w x

theorem failMid_dev_same (w : World) (x : Nat) :
    (w.failMid x).dev x = { w.dev x with part := none, reserved := none } :=
  failPre_dev_same _ x _

theorem failMid_dev_ne (w : World) {x y : Nat} (h : y ≠ x) : (w.failMid x).dev y = w.dev y :=
  failPre_dev_ne _ _ h

@[simp] theorem failMid_devs_length (w : World) (x : Nat) :
    (w.failMid x).devs.length = w.devs.length := failPre_devs_length _ x _

@[simp] theorem now_failMid (w : World) (x : Nat) : (w.failMid x).now = w.now := now_failPre _ x _

@[simp] theorem failMid_results (w : World) (x : Nat) : (w.failMid x).results = w.results :=
  failPre_results _ x _

@[simp] theorem failMid_lost (w : World) (x : Nat) :
    (w.failMid x).lost = w.lost ++ w.lostLeaves x := failPre_lost _ x _

@[simp] theorem failMid_parts (w : World) (x : Nat) : (w.failMid x).parts = w.parts :=
  failPre_parts _ x _

theorem failMid_recs (w : World) (x : Nat) :
    (w.failMid x).recs = w.recs ++ w.releaseRecs x ++ [Rec.failure x w.now (w.dev x).part] :=
  failPre_recs _ x _

theorem failMid_envGrows (w : World) (x : Nat) : EnvGrows w.env (w.failMid x).env :=
  failPre_envGrows _ x _

/-- Fields of the world that `shutdownDev` never touches. -/
theorem shutdownDev_frame (w : World) {x : Nat} (isF : Bool) (lost : Option Nat)
    (hx : x < w.devs.length) :
    (w.shutdownDev x isF lost).recs = w.recs ∧ (w.shutdownDev x isF lost).lost = w.lost ∧
    (w.shutdownDev x isF lost).parts = w.parts ∧ (w.shutdownDev x isF lost).now = w.now ∧
    (w.shutdownDev x isF lost).devs.length = w.devs.length ∧
    (w.shutdownDev x isF lost).error = w.error ∧ (w.shutdownDev x isF lost).rm = w.rm := by
  cases hs : (w.dev x).shutDown
  · rw [shutdownDev_eq_up w isF lost hx hs]
    refine ⟨rfl, rfl, rfl, ?_, by simp, rfl, rfl⟩
    cases isF <;> rfl
  · rw [shutdownDev_eq_down w x isF lost hs]
    split <;> exact ⟨rfl, rfl, rfl, rfl, rfl, rfl, rfl⟩

theorem shutdownDev_dev_same (w : World) {x : Nat} (isF : Bool) (lost : Option Nat)
    (hx : x < w.devs.length) :
    (w.shutdownDev x isF lost).dev x =
      if (w.dev x).shutDown then w.dev x else shutDev w.now (w.dev x) := by
  cases hs : (w.dev x).shutDown
  · rw [shutdownDev_eq_up w isF lost hx hs]
    simp only [Bool.false_eq_true, if_false]
    exact getD_set_same _ _ _ _ hx
  · rw [shutdownDev_eq_down w x isF lost hs]
    simp only [if_true]
    split <;> rfl

theorem shutdownDev_dev_ne (w : World) {x y : Nat} (isF : Bool) (lost : Option Nat)
    (hx : x < w.devs.length) (h : y ≠ x) : (w.shutdownDev x isF lost).dev y = w.dev y := by
  cases hs : (w.dev x).shutDown
  · rw [shutdownDev_eq_up w isF lost hx hs]
    exact getD_set_ne _ _ _ _ _ (Ne.symm h)
  · rw [shutdownDev_eq_down w x isF lost hs]
    split <;> rfl

theorem shutdownDev_results (w : World) {x : Nat} (isF : Bool) (lost : Option Nat)
    (hx : x < w.devs.length) :
    (w.shutdownDev x isF lost).results =
      w.results ++ (if !(w.dev x).shutDown || (isF && lost.isSome)
        then shutLog x (w.dev x).nShutCbs isF lost else []) := by
  cases hs : (w.dev x).shutDown
  · rw [shutdownDev_eq_up w isF lost hx hs]; simp
  · rw [shutdownDev_eq_down w x isF lost hs]
    cases isF <;> cases lost <;> simp

theorem shutdownDev_env (w : World) {x : Nat} (isF : Bool) (lost : Option Nat)
    (hx : x < w.devs.length) :
    (w.shutdownDev x isF lost).env =
      if (w.dev x).shutDown then
        (if isF && lost.isSome then w.env.cancel (w.dev x).aid else w.env)
      else (if isF then w.env.cancel (w.dev x).aid else w.env.pause (w.dev x).aid) := by
  cases hs : (w.dev x).shutDown
  · rw [shutdownDev_eq_up w isF lost hx hs]; simp
  · rw [shutdownDev_eq_down w x isF lost hs]
    simp only [if_true]
    split <;> rfl

/-- The device record after `_fail`. -/
theorem failDev_dev_same (w : World) {x : Nat} (hx : x < w.devs.length) :
    (w.failDev x).dev x =
      if (w.dev x).shutDown then { w.dev x with part := none, reserved := none }
      else shutDev w.now { w.dev x with part := none, reserved := none } := by
  rw [failDev_eq_c13', shutdownDev_dev_same _ _ _ (by simpa using hx), failMid_dev_same, now_failMid]

theorem failDev_dev_ne_c13 (w : World) {x y : Nat} (hx : x < w.devs.length) (h : y ≠ x) :
    (w.failDev x).dev y = w.dev y := by
  rw [failDev_eq_c13', shutdownDev_dev_ne _ _ _ (by simpa using hx) h, failMid_dev_ne w h]

theorem failDev_frame (w : World) {x : Nat} (hx : x < w.devs.length) :
    (w.failDev x).recs = w.recs ++ w.releaseRecs x ++ [Rec.failure x w.now (w.dev x).part] ∧
    (w.failDev x).lost = w.lost ++ w.lostLeaves x ∧ (w.failDev x).parts = w.parts ∧
    (w.failDev x).now = w.now ∧ (w.failDev x).devs.length = w.devs.length := by
  obtain ⟨h1, h2, h3, h4, h5, _, _⟩ :=
    shutdownDev_frame (w.failMid x) true (w.dev x).part (by simpa using hx)
  rw [failDev_eq_c13', h1, h2, h3, h4, h5]
  exact ⟨failMid_recs w x, failMid_lost w x, failMid_parts w x, now_failMid w x,
    failMid_devs_length w x⟩

theorem failDev_results (w : World) {x : Nat} (hx : x < w.devs.length) :
    (w.failDev x).results =
      w.results ++ (if !(w.dev x).shutDown || (w.dev x).part.isSome
        then shutLog x (w.dev x).nShutCbs true (w.dev x).part else []) := by
  rw [failDev_eq_c13', shutdownDev_results _ _ _ (by simpa using hx), failMid_results, failMid_dev_same]
  simp

theorem failDev_env (w : World) {x : Nat} (hx : x < w.devs.length) :
    (w.failDev x).env =
      if (w.dev x).shutDown && (w.dev x).part.isNone then (w.failMid x).env
      else (w.failMid x).env.cancel (w.dev x).aid := by
  rw [failDev_eq_c13', shutdownDev_env _ _ _ (by simpa using hx), failMid_dev_same]
  cases (w.dev x).shutDown <;> cases (w.dev x).part <;> simp

/-! ## Part 3g: `scheduleFinish`, `tryMove`, `acceptPart` on a processor, device level -/

theorem finDev_offset (now : Int) (op : Bool) (d : Dev) (o : Int) :
    finDev now op { d with offset := o } = { finDev now op d with offset := o } := by
  unfold finDev finH
  dsimp only
  repeat' split
  all_goals rfl

theorem operational_setDev_of_eq (w : World) {x : Nat} (d : Dev) (hx : x < w.devs.length)
    (hk : d.kind = (w.dev x).kind) (hs : d.shutDown = (w.dev x).shutDown) :
    (w.setDev x d).operational x = w.operational x := by
  unfold operational
  rw [dev_setDev_same hx, hk, hs]

theorem cycleTime_setDev_of_eq (w : World) {x : Nat} (d : Dev) (hx : x < w.devs.length)
    (hk : d.kind = (w.dev x).kind) (hc : d.cycle = (w.dev x).cycle) :
    (w.setDev x d).cycleTime x = w.cycleTime x := by
  unfold cycleTime
  rw [dev_setDev_same hx, hk, hc]

@[simp] theorem now_scheduleFinish_proc (w : World) {x : Nat} (hk : (w.dev x).kind = .processor) :
    (w.scheduleFinish x).now = w.now := by
  have hx := lt_of_processor hk
  by_cases hc : 0 < w.finishDelay x
  · rw [scheduleFinish_pos w x hc]; simp
  · rw [scheduleFinish_nonpos w x (Int.not_lt.1 hc), now_finishCycle_proc]
    · rfl
    · rw [dev_setDev_same hx]; exact hk

/-- Every observation of the processor's own record that reads neither the flow flags nor
`cycle`/`offset`, after `_schedule_finish_cycle`: unchanged if a finish event is scheduled, the
finished state if the cycle ends at once. -/
theorem scheduleFinish_proc_field {α} (g : Dev → α) (hcore : ∀ d, g d.core = g d)
    (hg : ∀ d cy o, g { d with cycle := cy, offset := o } = g d) (w : World) {x : Nat}
    (hk : (w.dev x).kind = .processor) :
    g ((w.scheduleFinish x).dev x) =
      if 0 < w.finishDelay x then g (w.dev x)
      else g (finDev w.now (w.operational x) (w.dev x)) := by
  have hx := lt_of_processor hk
  have hoff : ∀ d : Dev, ∀ o, g { d with offset := o } = g d := fun d o => hg d d.cycle o
  split
  · next hc =>
    rw [scheduleFinish_pos w x hc, dev_schedLib, dev_setDev_same hx, hoff]
  · next hc =>
    rw [scheduleFinish_nonpos w x (Int.not_lt.1 hc)]
    have hk0 : ((w.setDev x { w.dev x with offset := 0 }).dev x).kind = .processor := by
      rw [dev_setDev_same hx]; exact hk
    rw [finishCycle_proc_field g hcore hg _ hk0, dev_setDev_same hx, now_setDev,
      operational_setDev_of_eq w { w.dev x with offset := 0 } hx rfl rfl, finDev_offset, hoff]

theorem scheduleFinish_proc_envGrows (w : World) {x : Nat} (hk : (w.dev x).kind = .processor) :
    EnvGrows w.env (w.scheduleFinish x).env := by
  have hx := lt_of_processor hk
  by_cases hc : 0 < w.finishDelay x
  · rw [scheduleFinish_pos w x hc]
    exact schedLib_envGrows _ _ _ _ _
  · rw [scheduleFinish_nonpos w x (Int.not_lt.1 hc)]
    exact finishCycle_proc_envGrows _ (by rw [dev_setDev_same hx]; exact hk)

/-- The device record after `_try_move_part_to_output` found a part to process (callbacks'
changes of `cycle`/`offset` aside): processing starts now; if the delay is zero it also ends now. -/
def moveDev (now : Int) (delayPos : Bool) (d : Dev) : Dev :=
  if delayPos then { d with lastUseStart := some now }
  else finDev now true { d with lastUseStart := some now }

theorem finishDelay_setDev_of_eq (w : World) {x : Nat} (d : Dev) (hx : x < w.devs.length)
    (hk : d.kind = (w.dev x).kind) (hc : d.cycle = (w.dev x).cycle)
    (ho : d.offset = (w.dev x).offset) : (w.setDev x d).finishDelay x = w.finishDelay x := by
  unfold finishDelay
  rw [cycleTime_setDev_of_eq w d hx hk hc, dev_setDev_same hx, ho]

theorem tryMove_proc_field {α} (g : Dev → α) (hcore : ∀ d, g d.core = g d)
    (hg : ∀ d cy o, g { d with cycle := cy, offset := o } = g d) (w : World) {x : Nat}
    (hk : (w.dev x).kind = .processor) :
    g ((w.tryMove x).dev x) =
      if w.operational x && (w.dev x).part.isSome && (w.dev x).output.isNone then
        g (moveDev w.now (decide (0 < w.finishDelay x)) (w.dev x))
      else g (w.dev x) := by
  have hx := lt_of_processor hk
  rw [tryMove_proc w hk]
  split
  · next hc =>
    have hop : w.operational x = true := by
      simp only [Bool.and_eq_true] at hc; exact hc.1.1
    have hk1 : ((w.setDev x { w.dev x with lastUseStart := some w.now }).dev x).kind =
        .processor := by rw [dev_setDev_same hx]; exact hk
    rw [scheduleFinish_proc_field g hcore hg _ hk1, dev_setDev_same hx, now_setDev,
      operational_setDev_of_eq w { w.dev x with lastUseStart := some w.now } hx rfl rfl,
      finishDelay_setDev_of_eq w { w.dev x with lastUseStart := some w.now } hx rfl rfl rfl, hop]
    unfold moveDev
    by_cases hd : 0 < w.finishDelay x <;> simp [hd]
  · rfl

@[simp] theorem now_tryMove_proc (w : World) {x : Nat} (hk : (w.dev x).kind = .processor) :
    (w.tryMove x).now = w.now := by
  have hx := lt_of_processor hk
  rw [tryMove_proc w hk]
  split
  · rw [now_scheduleFinish_proc]
    · rfl
    · rw [dev_setDev_same hx]; exact hk
  · rfl

/-- The receive callbacks only touch `cycle` and `offset`. -/
theorem recvDev_field {α} (g : Dev → α)
    (hg : ∀ d cy o, g { d with cycle := cy, offset := o } = g d) (p : Nat) (d : Dev) :
    g (recvDev p d) = g { d with part := some p, since := none } := by
  unfold recvDev
  generalize ({ d with part := some p, since := none } : Dev) = d0
  induction d.recvCbs generalizing d0 with
  | nil => rfl
  | cons c cs ih => rw [List.foldl_cons, ih]; exact hg _ _ _

/-- The delay of the cycle that starts when part `p` is accepted: computed from the cycle time
and offset in effect after the receive callbacks ran. -/
def acceptDelay (w : World) (x p : Nat) : Int := (w.acceptPre x p).finishDelay x

theorem acceptPart_proc_field {α} (g : Dev → α) (hcore : ∀ d, g d.core = g d)
    (hg : ∀ d cy o, g { d with cycle := cy, offset := o } = g d) (w : World) {x : Nat} (p : Nat)
    (hk : (w.dev x).kind = .processor) (hacc : w.canAcceptBasic x p = true) :
    g ((w.acceptPart x p).dev x) =
      g (moveDev w.now (decide (0 < w.acceptDelay x p)) (recvDev p (w.dev x))) := by
  have hx := lt_of_processor hk
  have hpre := acceptPre_dev_same w p hx
  have hacc' : (w.dev x).shutDown = false ∧ (w.dev x).part = none ∧ (w.dev x).output = none := by
    simp [canAcceptBasic, hk, operational] at hacc
    exact ⟨hacc.1.1.1, hacc.1.2, hacc.2⟩
  have hk1 : ((w.acceptPre x p).dev x).kind = .processor := by
    rw [hpre, recvDev_field Dev.kind (fun _ _ _ => rfl)]; exact hk
  have ho1 : ((w.acceptPre x p).dev x).output = none := by
    rw [hpre, recvDev_field Dev.output (fun _ _ _ => rfl)]; exact hacc'.2.2
  have hp1 : ((w.acceptPre x p).dev x).part = some p := by
    rw [hpre, recvDev_field Dev.part (fun _ _ _ => rfl)]
  have hs1 : ((w.acceptPre x p).dev x).shutDown = false := by
    rw [hpre, recvDev_field Dev.shutDown (fun _ _ _ => rfl)]; exact hacc'.1
  have hop1 : (w.acceptPre x p).operational x = true := by
    simp [operational, hk1, hs1]
  rw [acceptPart_eq w p (Or.inl hk)]
  simp only [ho1, Option.isNone_none, if_true]
  rw [tryMove_proc_field g hcore hg _ hk1]
  simp only [hop1, hp1, ho1, Option.isSome_some, Option.isNone_none, Bool.and_self, if_true]
  rw [now_acceptPre, hpre]
  rfl

@[simp] theorem now_acceptPart_proc (w : World) {x : Nat} (p : Nat)
    (hk : (w.dev x).kind = .processor) : (w.acceptPart x p).now = w.now := by
  have hx := lt_of_processor hk
  have hk1 : ((w.acceptPre x p).dev x).kind = .processor := by
    rw [acceptPre_dev_same w p hx, recvDev_field Dev.kind (fun _ _ _ => rfl)]; exact hk
  rw [acceptPart_eq w p (Or.inl hk)]
  split
  · rw [now_tryMove_proc _ hk1, now_acceptPre]
  · exact now_acceptPre w x p

theorem finDev_cycle_offset (now : Int) (op : Bool) (d : Dev) (cy o : Int) :
    finDev now op { d with cycle := cy, offset := o } =
      { finDev now op d with cycle := cy, offset := o } := by
  unfold finDev finH
  dsimp only
  repeat' split
  all_goals rfl

theorem moveDev_cycle_offset (now : Int) (b : Bool) (d : Dev) (cy o : Int) :
    moveDev now b { d with cycle := cy, offset := o } =
      { moveDev now b d with cycle := cy, offset := o } := by
  unfold moveDev
  split
  · rfl
  · exact finDev_cycle_offset now true { d with lastUseStart := some now } cy o

/-- `acceptPart_proc_field` with the receive callbacks' changes stripped. -/
theorem acceptPart_proc_field' {α} (g : Dev → α) (hcore : ∀ d, g d.core = g d)
    (hg : ∀ d cy o, g { d with cycle := cy, offset := o } = g d) (w : World) {x : Nat} (p : Nat)
    (hk : (w.dev x).kind = .processor) (hacc : w.canAcceptBasic x p = true) :
    g ((w.acceptPart x p).dev x) =
      g (moveDev w.now (decide (0 < w.acceptDelay x p)) { w.dev x with part := some p }) := by
  rw [acceptPart_proc_field g hcore hg w p hk hacc]
  have h1 := recvDev_field (fun d => g (moveDev w.now (decide (0 < w.acceptDelay x p)) d))
    (fun d cy o => by simp only [moveDev_cycle_offset, hg]) p (w.dev x)
  rw [h1]
  have h2 : moveDev w.now (decide (0 < w.acceptDelay x p))
      { w.dev x with part := some p, since := none } =
      { moveDev w.now (decide (0 < w.acceptDelay x p)) { w.dev x with part := some p } with
        since := none } := by
    unfold moveDev finDev finH
    dsimp only
    repeat' split
    all_goals rfl
  rw [h2]
  generalize moveDev w.now (decide (0 < w.acceptDelay x p)) { w.dev x with part := some p } = D
  have e1 := hcore { D with since := none }
  have e2 := hcore D
  rw [Dev.core_with_since] at e1
  exact e1.symm.trans e2

/-! ## Part 3h: the pass-part event a restore schedules -/

/-- `_schedule_pass_part_downstream()` (offset 0) on a device that is not a sink inserts exactly
one `passPart` event at the current time (at 0 if the clock is negative). -/
theorem schedulePass_zero_env (w : World) {x : Nat} (hk : (w.dev x).kind ≠ .sink) :
    (w.schedulePass x 0).env =
      { w.env with
        events := insort (w.newEv (if w.now < 0 then 0 else w.now) (w.dev x).aid (.passPart x)
          pPassPart) w.env.events
        nextUid := w.env.nextUid + 1 } := by
  unfold schedulePass
  dsimp only
  split
  · next h => exact absurd h hk
  · simp only [Int.add_zero]
    rw [schedLib_ok]
    · rfl
    · simp only [now_setDev]
      by_cases h0 : w.now < 0 <;> simp only [h0, if_true, if_false] <;> omega

theorem restoreDev_env_output (w : World) {x : Nat} (hk : (w.dev x).kind = .processor)
    (hs : (w.dev x).shutDown = true) (ho : (w.dev x).output.isSome = true) :
    (w.restoreDev x).env =
      { w.env.unpause Arith.exact (w.dev x).aid with
        events := insort
          ((w.env.unpause Arith.exact (w.dev x).aid).newEvent (if w.now < 0 then 0 else w.now)
            (w.dev x).aid (Action.passPart x).toNat pPassPart
            (weightOf w.seed w.wmod (if w.now < 0 then 0 else w.now) (w.dev x).aid
              (Action.passPart x).toNat pPassPart))
          (w.env.unpause Arith.exact (w.dev x).aid).events
        nextUid := (w.env.unpause Arith.exact (w.dev x).aid).nextUid + 1 } := by
  have hx := lt_of_processor hk
  have hd1 : (w.restorePre x).dev x =
      { w.dev x with shutDown := false, lastRestore := some w.now } := by
    unfold restorePre; rw [dev_envOp, dev_setDev_same hx]
  rw [restoreDev_env w x hs]
  have ho1 : ((w.restorePre x).dev x).output.isSome = true := by rw [hd1]; exact ho
  unfold restoreFlow
  simp only [ho1, if_true]
  rw [schedulePass_zero_env _ (by rw [hd1]; simp [hk])]
  rw [hd1]
  rfl

theorem restoreDev_env_busy (w : World) {x : Nat}
    (hs : (w.dev x).shutDown = true) (ho : (w.dev x).output = none)
    (hp : (w.dev x).part.isSome = true) :
    (w.restoreDev x).env = w.env.unpause Arith.exact (w.dev x).aid := by
  have hx := lt_of_shutDown hs
  have hd1 : (w.restorePre x).dev x =
      { w.dev x with shutDown := false, lastRestore := some w.now } := by
    unfold restorePre; rw [dev_envOp, dev_setDev_same hx]
  rw [restoreDev_env w x hs]
  unfold restoreFlow
  rw [hd1]
  have hp' : (w.dev x).part.isNone = false := by
    cases h : (w.dev x).part <;> simp [h] at hp ⊢
  simp only [ho, Option.isSome_none, Bool.false_eq_true, if_false, hp']
  rfl

/-! ## Part 3i: closed forms for C06 -/

/-- `_schedule_finish_cycle` with a positive delay, in closed form: the offset is consumed, one
finish event is inserted, nothing else changes. -/
theorem scheduleFinish_pos_eq (w : World) (x : Nat) (hc : 0 < w.finishDelay x) :
    w.scheduleFinish x =
      { w.setDev x { w.dev x with offset := 0 } with
        env := { w.env with
          events := insort (w.newEv (w.now + w.finishDelay x) (w.dev x).aid (.finishCycle x) pFinish)
            w.env.events
          nextUid := w.env.nextUid + 1 } } := by
  rw [scheduleFinish_pos w x hc, schedLib_ok]
  · rfl
  · simp only [now_setDev]; omega

theorem cbDev_core (c : PartCb) (d : Dev) : (cbDev c d).core = cbDev c d.core := rfl

theorem foldl_cbDev_core (cbs : List PartCb) (d : Dev) :
    (cbs.foldl (fun d c => cbDev c d) d).core = cbs.foldl (fun d c => cbDev c d) d.core := by
  induction cbs generalizing d with
  | nil => rfl
  | cons c cs ih => rw [List.foldl_cons, List.foldl_cons, ih, cbDev_core]

theorem foldl_cbDev_offset (cbs : List PartCb) (d : Dev) :
    (cbs.foldl (fun d c => cbDev c d) d).offset = d.offset + (cbs.map PartCb.offset).sum := by
  induction cbs generalizing d with
  | nil => simp
  | cons c cs ih =>
    rw [List.foldl_cons, ih, List.map_cons, List.sum_cons]
    show d.offset + c.offset + _ = _
    omega

/-- Fields other than `cycle`/`offset` survive the callbacks. -/
theorem foldl_cbDev_field {α} (g : Dev → α)
    (hg : ∀ d cy o, g { d with cycle := cy, offset := o } = g d) (cbs : List PartCb) (d : Dev) :
    g (cbs.foldl (fun d c => cbDev c d) d) = g d := by
  induction cbs generalizing d with
  | nil => rfl
  | cons c cs ih => rw [List.foldl_cons, ih]; exact hg _ _ _

theorem finishCbs_dev_same (w : World) {x : Nat} (cbs : List PartCb) (sensors : List Nat)
    (hx : x < w.devs.length) :
    (w.finishCbs x cbs sensors).dev x =
      match (w.dev x).output with
      | none => w.dev x
      | some _ => cbs.foldl (fun d c => cbDev c d) (w.dev x) := by
  unfold finishCbs
  split
  · rfl
  · dsimp only
    rw [dev_addRec, foldl_senseOutput_dev, foldl_applyPartCb_dev_same _ _ _ hx]

/-- The processor's record after `_finish_cycle`, flow flags aside: the bookkeeping of `finDev`,
then — if there is a part in the output slot — the finish callbacks' changes of `cycle`/`offset`. -/
theorem finishCycle_proc_dev_core (w : World) {x : Nat} (hk : (w.dev x).kind = .processor) :
    ((w.finishCycle x).dev x).core =
      (match (finDev w.now (w.operational x) (w.dev x)).output with
       | none => finDev w.now (w.operational x) (w.dev x)
       | some _ => (w.dev x).finCbs.foldl (fun d c => cbDev c d)
            (finDev w.now (w.operational x) (w.dev x))).core := by
  have hx := lt_of_processor hk
  have hq := finishBook_quiet w x
  have hc : ((w.finishBook x).dev x).core = (finDev w.now (w.operational x) (w.dev x)).core := by
    rw [quiet_eq_dev hq, dev_setDev_same hx]
  have hfc : ((w.finishCycleHandler x).dev x).finCbs = (w.dev x).finCbs := by
    have := core_eq_dev_finCbs (core_of_quiet_eq (finishCycleHandler_quiet w x)) x
    rw [this, dev_setDev_same hx]
    unfold finH
    repeat' split
    all_goals rfl
  have ho : ((w.finishBook x).dev x).output = (finDev w.now (w.operational x) (w.dev x)).output :=
    by have := congrArg Dev.output hc; exact this
  rw [finishCycle_proc w hk, finishCbs_dev_same _ _ _ (by rw [quiet_eq_devs_length hq]; simpa using hx),
    hfc, ho]
  cases (finDev w.now (w.operational x) (w.dev x)).output with
  | none => exact hc
  | some q =>
    simp only
    rw [foldl_cbDev_core, foldl_cbDev_core, hc]


theorem with_env_congr {a b : World} {e e' : Env} (h1 : a = b) (h2 : e = e') :
    ({ a with env := e } : World) = { b with env := e' } := by subst h1 h2; rfl

/-- The finish event scheduled when part `p` is accepted by device `x` in world `w`. -/
def acceptEv (w : World) (x p : Nat) : Event :=
  { uid := w.env.nextUid
    time := w.now + w.acceptDelay x p
    prio := pFinish
    weight := weightOf w.seed w.wmod (w.now + w.acceptDelay x p) (w.dev x).aid
      (Action.finishCycle x).toNat pFinish
    asset := (w.dev x).aid
    act := (Action.finishCycle x).toNat }

theorem canAccept_fields (w : World) {x p : Nat}
    (hk : (w.dev x).kind = .processor ∨ (w.dev x).kind = .handler)
    (hacc : w.canAcceptBasic x p = true) :
    w.operational x = true ∧ (w.dev x).part = none ∧ (w.dev x).output = none := by
  rcases hk with hk | hk <;> simp [canAcceptBasic, hk] at hacc <;> exact ⟨hacc.1.1.1, hacc.1.2, hacc.2⟩

/-- `_accept_part` on a processor or handler that can accept the part, when the delay is positive,
in closed form: the receive bookkeeping of `acceptPre`, the offset consumed, (processor) the
utilisation interval opened, and exactly one finish event inserted. -/
theorem acceptPart_pos (w : World) {x : Nat} (p : Nat) (hx : x < w.devs.length)
    (hk : (w.dev x).kind = .processor ∨ (w.dev x).kind = .handler)
    (hacc : w.canAcceptBasic x p = true) (hc : 0 < w.acceptDelay x p) :
    w.acceptPart x p =
      { (w.acceptPre x p).setDev x
          { recvDev p (w.dev x) with
            offset := 0
            lastUseStart := if (w.dev x).kind = .processor then some w.now
                            else (w.dev x).lastUseStart } with
        env := { w.env with
          events := insort (w.acceptEv x p) w.env.events
          nextUid := w.env.nextUid + 1 } } := by
  obtain ⟨hop, hp0, ho0⟩ := canAccept_fields w hk hacc
  obtain ⟨henv, hseed, hwmod, hlen⟩ := acceptPre_frame w x p
  have hx1 : x < (w.acceptPre x p).devs.length := by rw [hlen]; exact hx
  have hpre := acceptPre_dev_same w p hx
  have hk1 : ((w.acceptPre x p).dev x).kind = (w.dev x).kind := by
    rw [hpre, recvDev_field Dev.kind (fun _ _ _ => rfl)]
  have ho1 : ((w.acceptPre x p).dev x).output = none := by
    rw [hpre, recvDev_field Dev.output (fun _ _ _ => rfl)]; exact ho0
  have hp1 : ((w.acceptPre x p).dev x).part = some p := by
    rw [hpre, recvDev_field Dev.part (fun _ _ _ => rfl)]
  have hs1 : ((w.acceptPre x p).dev x).shutDown = (w.dev x).shutDown := by
    rw [hpre, recvDev_field Dev.shutDown (fun _ _ _ => rfl)]
  have haid : ((w.acceptPre x p).dev x).aid = (w.dev x).aid := by
    rw [hpre, recvDev_field Dev.aid (fun _ _ _ => rfl)]
  have hlu : (recvDev p (w.dev x)).lastUseStart = (w.dev x).lastUseStart := by
    rw [recvDev_field Dev.lastUseStart (fun _ _ _ => rfl)]
  have hop1 : (w.acceptPre x p).operational x = true := by
    unfold operational at hop ⊢; rw [hk1, hs1]; exact hop
  have hcond : ((w.acceptPre x p).operational x && ((w.acceptPre x p).dev x).part.isSome &&
      ((w.acceptPre x p).dev x).output.isNone) = true := by simp [hop1, hp1, ho1]
  have hcond0 : ((w.acceptPre x p).dev x).output.isNone = true := by simp [ho1]
  rw [acceptPart_eq w p hk, if_pos hcond0]
  have hev : ∀ W2 : World, W2.env = w.env → W2.seed = w.seed → W2.wmod = w.wmod →
      (W2.dev x).aid = (w.dev x).aid →
      W2.newEv (w.now + w.acceptDelay x p) (W2.dev x).aid (.finishCycle x) pFinish =
        w.acceptEv x p := by
    intro W2 h1 h2 h3 h4
    unfold newEv acceptEv Env.newEvent
    rw [h1, h2, h3, h4]
  rcases hk with hk | hk
  · have hk1' : ((w.acceptPre x p).dev x).kind = .processor := hk1.trans hk
    rw [tryMove_proc _ hk1', if_pos hcond]
    have hd : ((w.acceptPre x p).setDev x
        { (w.acceptPre x p).dev x with lastUseStart := some (w.acceptPre x p).now }).finishDelay x =
        w.acceptDelay x p :=
      finishDelay_setDev_of_eq _ { (w.acceptPre x p).dev x with
        lastUseStart := some (w.acceptPre x p).now } hx1 rfl rfl rfl
    rw [scheduleFinish_pos_eq _ _ (by rw [hd]; exact hc), hd, now_setDev, now_acceptPre]
    refine with_env_congr ?_ ?_
    · rw [dev_setDev_same hx1, setDev_setDev, hpre, if_pos hk]
    · rw [hev ((w.acceptPre x p).setDev x { (w.acceptPre x p).dev x with
          lastUseStart := some w.now }) henv hseed hwmod (by rw [dev_setDev_same hx1]; exact haid)]
      show ({ (w.acceptPre x p).env with
        events := insort (w.acceptEv x p) (w.acceptPre x p).env.events,
        nextUid := (w.acceptPre x p).env.nextUid + 1 } : Env) = _
      rw [henv]
  · have hk1' : ((w.acceptPre x p).dev x).kind = .handler := hk1.trans hk
    rw [tryMove_handler _ hk1', if_pos hcond]
    have hd : (w.acceptPre x p).finishDelay x = w.acceptDelay x p := rfl
    rw [scheduleFinish_pos_eq _ _ (by rw [hd]; exact hc), hd, now_acceptPre]
    refine with_env_congr ?_ ?_
    · have hne : ¬ ((w.dev x).kind = Kind.processor) := by rw [hk]; decide
      rw [hpre, if_neg hne, ← hlu]
    · rw [hev (w.acceptPre x p) henv hseed hwmod haid, henv]

/-! ## Part 3j: offsets and the pass-part event of `finishCycle` -/

theorem finDev_offset_eq (now : Int) (op : Bool) (d : Dev) :
    (finDev now op d).offset = d.offset ∧ (finDev now op d).finCbs = d.finCbs := by
  unfold finDev finH
  dsimp only
  repeat' split
  all_goals exact ⟨rfl, rfl⟩

/-- The offset after `_finish_cycle` of a processor: what it was, plus — if a part is in the
output slot, i.e. the finish callbacks ran — the offsets the finish callbacks added. -/
theorem finishCycle_proc_offset (w : World) {x : Nat} (hk : (w.dev x).kind = .processor) :
    ((w.finishCycle x).dev x).offset =
      (w.dev x).offset +
        (if ((w.finishCycle x).dev x).output.isSome then ((w.dev x).finCbs.map PartCb.offset).sum
         else 0) := by
  have hc := finishCycle_proc_dev_core w hk
  obtain ⟨h1, h2⟩ := finDev_offset_eq w.now (w.operational x) (w.dev x)
  cases hD : (finDev w.now (w.operational x) (w.dev x)).output with
  | none =>
    rw [hD] at hc
    have ho : ((w.finishCycle x).dev x).offset =
        (finDev w.now (w.operational x) (w.dev x)).offset := by
      have := congrArg Dev.offset hc; exact this
    have hu : ((w.finishCycle x).dev x).output =
        (finDev w.now (w.operational x) (w.dev x)).output := by
      have := congrArg Dev.output hc; exact this
    rw [ho, hu, hD, h1]; simp
  | some q =>
    rw [hD] at hc
    have ho : ((w.finishCycle x).dev x).offset =
        ((w.dev x).finCbs.foldl (fun d c => cbDev c d)
          (finDev w.now (w.operational x) (w.dev x))).offset := by
      have := congrArg Dev.offset hc; exact this
    have hu : ((w.finishCycle x).dev x).output =
        ((w.dev x).finCbs.foldl (fun d c => cbDev c d)
          (finDev w.now (w.operational x) (w.dev x))).output := by
      have := congrArg Dev.output hc; exact this
    rw [ho, hu, foldl_cbDev_offset, foldl_cbDev_field Dev.output (fun _ _ _ => rfl), hD, h1]
    simp

theorem finishBook_envGrows' (w : World) (x : Nat) :
    EnvGrows (w.finishCycleHandler x).env (w.finishBook x).env := by
  unfold finishBook
  dsimp only
  split
  · exact (EnvGrows.refl _).trans (schedLib_envGrows _ _ _ _ _)
  · exact EnvGrows.refl _

/-- A successful `_finish_cycle` of a processor leaves a pass-part event of the machine in the
queue, due now. -/
theorem finishCycle_proc_pass_event (w : World) {x p : Nat} (hk : (w.dev x).kind = .processor)
    (hs : (w.dev x).shutDown = false) (hp : (w.dev x).part = some p)
    (ho : (w.dev x).output = none) :
    ∃ e ∈ (w.finishCycle x).env.events,
      e.act = (Action.passPart x).toNat ∧ e.asset = (w.dev x).aid ∧
      e.time = (if w.now < 0 then 0 else w.now) ∧ e.prio = pPassPart ∧ e.cancelled = false ∧
      e.pausedAt = none := by
  have hx := lt_of_processor hk
  have hop : w.operational x = true := by simp [operational, hk, hs]
  rw [finishCycle_proc w hk, finishCbs_env]
  have hg := finishBook_envGrows' w x
  have hne : ((w.setDev x { w.dev x with output := some p, part := none }).dev x).kind ≠ .sink := by
    rw [dev_setDev_same hx]; simp [hk]
  have henv := schedulePass_zero_env (w.setDev x { w.dev x with output := some p, part := none }) hne
  rw [finishCycleHandler_ok w hop hp ho] at hg
  refine ⟨_, hg.mem (by rw [henv]; exact insort_mem.mpr (Or.inl rfl)), rfl, ?_, rfl, rfl, rfl, rfl⟩
  show ((w.setDev x _).dev x).aid = _
  rw [dev_setDev_same hx]

theorem acceptDelay_eq (w : World) {x : Nat} (p : Nat) (hx : x < w.devs.length)
    (hk : (w.dev x).kind = .processor ∨ (w.dev x).kind = .handler) :
    w.acceptDelay x p =
      max 0 ((recvDev p (w.dev x)).cycle + (recvDev p (w.dev x)).offset) := by
  unfold acceptDelay
  rw [finishDelay_eq_max]
  unfold cycleTime
  rw [acceptPre_dev_same w p hx]
  have hk1 : (recvDev p (w.dev x)).kind = (w.dev x).kind :=
    recvDev_field Dev.kind (fun _ _ _ => rfl) p (w.dev x)
  rcases hk with hk | hk <;> rw [hk] at hk1 <;> simp only [hk1]

end World
end SimProc

namespace SimProc

/-! ## Part 4: a cancelled event never runs, however long one waits (environment only) -/

theorem ran_mem_popped {e : Event} {os : List EnvOut} (h : EnvOut.ran e ∈ os) :
    e.uid ∈ C01.poppedUids os := by
  induction os with
  | nil => cases h
  | cons o os ih =>
    rcases List.mem_cons.mp h with rfl | h
    · simp [C01.poppedUids]
    · have := ih h
      cases o <;> simp [C01.poppedUids, this]

theorem nextUid_mono_apply (ar : Arith) {s : Env} (op : EnvOp) (h : C01.Inv s) :
    s.nextUid ≤ (s.apply ar op).1.nextUid := by
  by_cases hst : op = .step
  · subst hst
    cases hs : s.step with
    | none => rw [apply_step_none ar hs]; exact Nat.le_refl _
    | some p =>
      obtain ⟨e, s'⟩ := p
      rw [apply_step_some ar hs]
      exact Nat.le_of_eq (C01.step_uid h hs).2.2.1.symm
  · exact (C01.apply_non_step ar s op hst).2.1

/-- Along any operation sequence from a state satisfying the queue invariant, no event that is
cancelled in that state ever has its action run (uids identify events). -/
theorem cancelled_uid_never_runs (ar : Arith) {s : Env} (ops : List EnvOp) (h : C01.Inv s) :
    ∀ e, EnvOut.ran e ∈ (s.applyAll ar ops).2 → e.uid ∉ C07.cancelledUids s := by
  induction ops generalizing s with
  | nil => intro e he; simp [Env.applyAll] at he
  | cons op ops ih =>
    intro e he hc
    simp only [Env.applyAll, List.mem_cons] at he
    -- the witness of `hc`
    have hc' := hc
    unfold C07.cancelledUids at hc'
    obtain ⟨e0, he0, hue0⟩ := List.mem_map.mp hc'
    obtain ⟨he0m, he0c⟩ := List.mem_filter.mp he0
    rcases he with he | he
    · -- `e` is run by this very operation
      have hlive : e.cancelled = false := by
        by_cases hst : op = .step
        · subst hst; exact C01.ran_live ar s e he.symm
        · have := (C01.apply_non_step ar s op hst).1
          rw [← he] at this; simp [EnvOut.isPop] at this
      have hmem : e ∈ s.events ++ s.paused := by
        by_cases hst : op = .step
        · subst hst
          cases hs : s.step with
          | none => rw [apply_step_none ar hs] at he; cases he
          | some p =>
            obtain ⟨e1, s'⟩ := p
            rw [apply_step_some ar hs] at he
            obtain ⟨es, heq, _⟩ := Env.step_some.mp hs
            by_cases hl : e1.live = true
            · simp only [hl, if_true] at he
              cases he
              simp [heq]
            · simp [hl] at he
        · have := (C01.apply_non_step ar s op hst).1
          rw [← he] at this; simp [EnvOut.isPop] at this
      have : e0 = e := eq_of_nodup_map Event.uid h.uids he0m hmem hue0
      subst this
      rw [hlive] at he0c
      cases he0c
    · -- `e` is run later
      have h1 := C01.inv_apply ar op h
      have hih := ih h1 e he
      rcases C01.popped_known ar ops h1 e.uid (ran_mem_popped he) with hk | hk
      · apply hih
        unfold C01.known at hk
        obtain ⟨e2, he2, hue2⟩ := List.mem_map.mp hk
        have hcan : e2.cancelled = true :=
          C07.cancelled_stays ar s op h e2 he2 (by rw [hue2]; exact hc)
        unfold C07.cancelledUids
        exact List.mem_map.mpr ⟨e2, List.mem_filter.mpr ⟨he2, hcan⟩, hue2⟩
      · have hf := h.fresh e0 he0m
        have hm := nextUid_mono_apply ar op h
        omega

end SimProc

namespace SimProc
open FloorCoreL
namespace World

/-! ## Part 5: the accounting of a processor record (definitions used by `Props/C13`) -/

/-- The public `uptime` property of a device record at clock value `now`. -/
def _root_.SimProc.Dev.uptimeAt (d : Dev) (now : Int) : Int :=
  d.uptime + (match d.lastRestore with | some t => now - t | none => 0)

/-- The public `utilization_time` property of a device record at clock value `now`. -/
def _root_.SimProc.Dev.utilAt (d : Dev) (now : Int) : Int :=
  d.timeInUse + (match d.lastUseStart with | some t => now - t | none => 0)

/-- The bookkeeping invariant of a processor record: the uptime interval is open exactly while
the machine is operational, the utilisation interval is open exactly while an operational machine
has a part in process. -/
structure _root_.SimProc.Dev.UpInv (d : Dev) : Prop where
  restore : d.lastRestore.isSome = true ↔ d.shutDown = false
  use : d.lastUseStart.isSome = true ↔ (d.part.isSome = true ∧ d.shutDown = false)

/-! #### device-level facts -/

theorem shutDev_upInv (now : Int) (d : Dev) : (shutDev now d).UpInv :=
  ⟨by simp [shutDev], by simp [shutDev]⟩

theorem shutDev_acct (now : Int) (d : Dev) :
    (shutDev now d).uptimeAt now = d.uptimeAt now ∧ (shutDev now d).utilAt now = d.utilAt now := by
  unfold shutDev Dev.uptimeAt Dev.utilAt
  cases d.lastRestore <;> cases d.lastUseStart <;> simp <;> omega

theorem restDev_upInv (now : Int) (d : Dev) (h : d.UpInv) (hs : d.shutDown = true) :
    (restDev now d).UpInv := by
  have h1 : d.lastUseStart = none := by
    cases hl : d.lastUseStart with
    | none => rfl
    | some t => have := (h.use.mp (by simp [hl])).2; simp [hs] at this
  constructor
  · simp [restDev]
  · cases hp : d.part <;> simp [restDev, hp, h1]

theorem restDev_acct (now : Int) (d : Dev) (h : d.UpInv) (hs : d.shutDown = true) :
    (restDev now d).uptimeAt now = d.uptimeAt now ∧ (restDev now d).utilAt now = d.utilAt now := by
  have h1 : d.lastUseStart = none := by
    cases hl : d.lastUseStart with
    | none => rfl
    | some t => have := (h.use.mp (by simp [hl])).2; simp [hs] at this
  have h2 : d.lastRestore = none := by
    cases hl : d.lastRestore with
    | none => rfl
    | some t => have := h.restore.mp (by simp [hl]); simp [hs] at this
  unfold restDev Dev.uptimeAt Dev.utilAt
  cases hp : d.part <;> simp [h1, h2]

theorem finDev_upInv (now : Int) (op : Bool) (d : Dev) (h : d.UpInv) (hop : op = !d.shutDown)
    (hout : d.part.isSome = true → d.output = none) : (finDev now op d).UpInv := by
  constructor
  · have := h.restore
    unfold finDev finH
    dsimp only
    repeat' split
    all_goals simpa using this
  · unfold finDev finH
    dsimp only
    cases hs : d.shutDown
    · cases hp : d.part with
      | none => simp [hop, hs, hp]
      | some p =>
        have ho := hout (by simp [hp])
        simp [hop, hs, ho]
    · simp [hop, hs]

theorem finDev_acct (now : Int) (op : Bool) (d : Dev) :
    (finDev now op d).uptimeAt now = d.uptimeAt now ∧ (finDev now op d).utilAt now = d.utilAt now := by
  have key : ∀ d' : Dev, d'.uptime = d.uptime → d'.lastRestore = d.lastRestore →
      d'.timeInUse = d.timeInUse → d'.lastUseStart = d.lastUseStart →
      ({ d' with timeInUse := d'.timeInUse + (now - d'.lastUseStart.getD now),
                 lastUseStart := none } : Dev).uptimeAt now = d.uptimeAt now ∧
      ({ d' with timeInUse := d'.timeInUse + (now - d'.lastUseStart.getD now),
                 lastUseStart := none } : Dev).utilAt now = d.utilAt now := by
    intro d' h1 h2 h3 h4
    unfold Dev.uptimeAt Dev.utilAt
    simp only [h1, h2, h3, h4]
    cases d.lastUseStart <;> simp
  unfold finDev finH
  dsimp only
  repeat' split
  all_goals exact key _ rfl rfl rfl rfl


/-! #### transfer along `core` and along `cycle` / `offset` -/

theorem upInv_core (d : Dev) : d.core.UpInv = d.UpInv :=
  propext ⟨fun h => ⟨h.restore, h.use⟩, fun h => ⟨h.restore, h.use⟩⟩

theorem upInv_cycle_offset (d : Dev) (cy o : Int) :
    ({ d with cycle := cy, offset := o } : Dev).UpInv = d.UpInv :=
  propext ⟨fun h => ⟨h.restore, h.use⟩, fun h => ⟨h.restore, h.use⟩⟩

theorem upInv_of_core_eq {d d' : Dev} (h : d'.core = d.core) (hi : d.UpInv) : d'.UpInv := by
  rw [← upInv_core, h, upInv_core]; exact hi

theorem acct_of_core_eq {d d' : Dev} (h : d'.core = d.core) (now : Int) :
    d'.uptimeAt now = d.uptimeAt now ∧ d'.utilAt now = d.utilAt now := by
  have h1 : d'.core.uptimeAt now = d.core.uptimeAt now := by rw [h]
  have h2 : d'.core.utilAt now = d.core.utilAt now := by rw [h]
  exact ⟨h1, h2⟩

theorem moveDev_upInv (now : Int) (b : Bool) (d : Dev)
    (hr : d.lastRestore.isSome = true ↔ d.shutDown = false) (hs : d.shutDown = false)
    (hp : d.part.isSome = true) (ho : d.output = none) : (moveDev now b d).UpInv := by
  have h1 : ({ d with lastUseStart := some now } : Dev).UpInv := ⟨hr, by simp [hp, hs]⟩
  unfold moveDev
  split
  · exact h1
  · exact finDev_upInv now true _ h1 (by simp [hs]) (fun _ => ho)

theorem moveDev_acct (now : Int) (b : Bool) (d : Dev) (hl : d.lastUseStart = none) :
    (moveDev now b d).uptimeAt now = d.uptimeAt now ∧ (moveDev now b d).utilAt now = d.utilAt now := by
  have h1 : ({ d with lastUseStart := some now } : Dev).uptimeAt now = d.uptimeAt now ∧
      ({ d with lastUseStart := some now } : Dev).utilAt now = d.utilAt now := by
    unfold Dev.uptimeAt Dev.utilAt; simp [hl]
  unfold moveDev
  split
  · exact h1
  · have h2 := finDev_acct now true { d with lastUseStart := some now }
    exact ⟨h2.1.trans h1.1, h2.2.trans h1.2⟩

end World
end SimProc
