/-
Helper lemmas for C11 (resources of a processor).

Part 1: the frame `keep g w = (w.rm, w.devs.map g)`: which floor functions keep the resource
manager and an observation `g` of every device (for the two observations `Dev.resA`, `Dev.resM`).
Part 2: the event queue after `schedLib`.
        Closed forms of `procAcquire`, `give` on a processor, `failDev`, `releaseReserved`.
Part 3: sums over association lists (for the closed form of pool usage).
Part 4: `Owned resv rs` (who references which reservation) on plain lists, and what `procAcquire`
        and `releaseReserved` do to `(w.rm.resv, w.rsv)`.
-/
import SimProc.Proofs.FloorCore2
import SimProc.Props.C09
import SimProc.Props.C01

namespace SimProc
open FloorCoreL

/-- What accepting, processing and finishing a part never changes of a device. -/
def Dev.resA (d : Dev) : Option Nat × Option Req × Bool × Kind × Int × Bool :=
  (d.reserved, d.resReq, d.waitingRes, d.kind, d.aid, d.shutDown)

/-- What shutting a device down and restoring it never changes. -/
def Dev.resM (d : Dev) : Option Nat × Option Req × Bool × Kind × Int × Option Nat × Option Nat :=
  (d.reserved, d.resReq, d.waitingRes, d.kind, d.aid, d.part, d.output)

/-! The components of `resA` and `resM`, from an equation between devices: stated for variables, so
that reading a component off such an equation does not unfold the worlds the devices come from. -/

theorem Dev.reserved_of_resA {d d' : Dev} (h : d'.resA = d.resA) : d'.reserved = d.reserved :=
  congrArg (·.1) h
theorem Dev.resReq_of_resA {d d' : Dev} (h : d'.resA = d.resA) : d'.resReq = d.resReq :=
  congrArg (·.2.1) h
theorem Dev.reserved_of_resM {d d' : Dev} (h : d'.resM = d.resM) : d'.reserved = d.reserved :=
  congrArg (·.1) h
theorem Dev.resReq_of_resM {d d' : Dev} (h : d'.resM = d.resM) : d'.resReq = d.resReq :=
  congrArg (·.2.1) h
theorem Dev.part_of_resM {d d' : Dev} (h : d'.resM = d.resM) : d'.part = d.part :=
  congrArg (·.2.2.2.2.2.1) h
theorem Dev.output_of_resM {d d' : Dev} (h : d'.resM = d.resM) : d'.output = d.output :=
  congrArg (·.2.2.2.2.2.2) h

namespace World

/-! ### Part 1: the frame -/

/-- The resource manager together with an observation of every device. -/
def keep {α : Type} (g : Dev → α) (w : World) : RM × List α := (w.rm, w.devs.map g)

section keep
variable {α : Type} (g : Dev → α)

theorem keep_rm {w w' : World} (h : keep g w' = keep g w) : w'.rm = w.rm := congrArg Prod.fst h

theorem keep_dev {w w' : World} (h : keep g w' = keep g w) (y : Nat) :
    g (w'.dev y) = g (w.dev y) := by
  have h2 : w'.devs.map g = w.devs.map g := congrArg Prod.snd h
  show g (w'.devs.getD y default) = g (w.devs.getD y default)
  rw [← getD_map g w'.devs, ← getD_map g w.devs, h2]

theorem keep_length {w w' : World} (h : keep g w' = keep g w) :
    w'.devs.length = w.devs.length := by
  have h2 : w'.devs.map g = w.devs.map g := congrArg Prod.snd h
  have := congrArg List.length h2
  simpa using this

theorem keep_of_eq {w w' : World} (h1 : w'.devs = w.devs) (h2 : w'.rm = w.rm) :
    keep g w' = keep g w := by
  unfold keep; rw [h1, h2]

theorem keep_of_noFlow_eq {w w' : World} (h : w'.noFlow = w.noFlow) : keep g w' = keep g w :=
  keep_of_eq g (show w'.noFlow.devs = w.noFlow.devs from congrArg World.devs h)
    (show w'.noFlow.rm = w.noFlow.rm from congrArg World.rm h)

theorem keep_of_core_eq (hg : ∀ d, g d.core = g d) {w w' : World} (h : w'.core = w.core) :
    keep g w' = keep g w := by
  have hm : ∀ w : World, w.devs.map g = w.core.devs.map g := by
    intro w
    rw [core_devs, List.map_map]
    apply List.map_congr_left
    intro d _
    exact (hg d).symm
  unfold keep
  rw [hm w', hm w, h, ← core_rm w', ← core_rm w, h]

theorem keep_setDev (w : World) (x : Nat) (d : Dev) (h : g d = g (w.dev x)) :
    keep g (w.setDev x d) = keep g w := by
  unfold keep
  have := map_set_of_eq g w.devs x d default h
  simp only [setDev, this]

theorem keep_modDev (w : World) (x : Nat) (f : Dev → Dev) (h : g (f (w.dev x)) = g (w.dev x)) :
    keep g (w.modDev x f) = keep g w := keep_setDev g w x _ h

theorem keep_modPart (w : World) (p : Nat) (f : PartRec → PartRec) :
    keep g (w.modPart p f) = keep g w := rfl

theorem keep_newPart (w : World) (r : PartRec) : keep g (w.newPart r).1 = keep g w := rfl

theorem keep_setErr (w : World) (m : String) : keep g (w.setErr m) = keep g w :=
  keep_of_noFlow_eq g (setErr_noFlow w m)

theorem keep_addRec (w : World) (r : Rec) : keep g (w.addRec r) = keep g w := rfl
theorem keep_addRes (w : World) (r : Res) : keep g (w.addRes r) = keep g w := rfl
theorem keep_envOp (w : World) (op : EnvOp) : keep g (w.envOp op) = keep g w := rfl

theorem keep_schedLib (w : World) (t a : Int) (act : Action) (p : Int) :
    keep g (w.schedLib t a act p) = keep g w := keep_of_noFlow_eq g (schedLib_noFlow w t a act p)

theorem keep_addHist (w : World) (p d : Nat) : keep g (w.addHist p d) = keep g w :=
  keep_of_eq g (addHist_devs w p d) (addHist_rm w p d)

theorem keep_foldl {β : Type} (f : World → β → World) (l : List β) (w : World)
    (h : ∀ w a, keep g (f w a) = keep g w) : keep g (l.foldl f w) = keep g w :=
  foldl_preserve (keep g) f l w h

theorem keep_applyPartCb (hc : ∀ c d, g (cbDev c d) = g d) (w : World) (x p : Nat) (c : PartCb) :
    keep g (w.applyPartCb x p c) = keep g w := by
  rw [keep_of_eq g (applyPartCb_devs w x p c)
    ((applyPartCb_rm w x p c).trans (modDev_rm w x (cbDev c)).symm)]
  exact keep_modDev g w x _ (hc _ _)

variable (hg : ∀ d, g d.core = g d)
include hg

theorem keep_setWaiting (w : World) (x : Nat) (a b : Bool) :
    keep g (w.setWaiting x a b) = keep g w := keep_of_core_eq g hg (setWaiting_core w x a b)

theorem keep_schedulePass (w : World) (x : Nat) (o : Int) :
    keep g (w.schedulePass x o) = keep g w := keep_of_core_eq g hg (schedulePass_core w x o)

theorem keep_notify (w : World) (x : Nat) : keep g (w.notify x) = keep g w :=
  keep_of_core_eq g hg (notify_core w x)

end keep

/-! #### `senseOutput` only touches the sensors and the action log -/

def noSense (w : World) : World := { w with sensors := [], results := [] }

theorem senseOutput_noSense (w : World) (s p : Nat) : (w.senseOutput s p).noSense = w.noSense := by
  unfold senseOutput
  dsimp only
  split
  · refine (foldl_preserve noSense _ _ _ ?_).trans rfl
    intro _ _; rfl
  · rfl

theorem senseOutput_devs (w : World) (s p : Nat) : (w.senseOutput s p).devs = w.devs := by
  have h := congrArg World.devs (senseOutput_noSense w s p); exact h
theorem senseOutput_rm (w : World) (s p : Nat) : (w.senseOutput s p).rm = w.rm := by
  have h := congrArg World.rm (senseOutput_noSense w s p); exact h
theorem senseOutput_env (w : World) (s p : Nat) : (w.senseOutput s p).env = w.env := by
  have h := congrArg World.env (senseOutput_noSense w s p); exact h

theorem keep_senseOutput {α : Type} (g : Dev → α) (w : World) (s p : Nat) :
    keep g (w.senseOutput s p) = keep g w :=
  keep_of_eq g (senseOutput_devs w s p) (senseOutput_rm w s p)

/-! #### the part-flow functions keep `Dev.resA` and the manager -/

theorem _root_.SimProc.Dev.resA_core (d : Dev) : d.core.resA = d.resA := rfl
theorem _root_.SimProc.Dev.resM_core (d : Dev) : d.core.resM = d.resM := rfl

/-- Peel the outermost world operation off a goal `keep g (op …) = keep g w`. -/
local macro "keepA_peel" : tactic => `(tactic| first
  | rfl
  | rw [keep_setErr] | rw [keep_schedLib] | rw [keep_addRec] | rw [keep_addRes] | rw [keep_envOp]
  | rw [keep_modPart] | rw [keep_addHist] | rw [keep_senseOutput]
  | rw [keep_schedulePass _ Dev.resA_core] | rw [keep_setWaiting _ Dev.resA_core]
  | rw [keep_notify _ Dev.resA_core]
  | rw [keep_applyPartCb _ (fun _ _ => rfl)]
  | (rw [keep_setDev]; case h => rfl)
  | (rw [keep_modDev]; case h => rfl))

theorem finishCycleHandler_keepA (w : World) (x : Nat) :
    keep Dev.resA (w.finishCycleHandler x) = keep Dev.resA w := by
  unfold finishCycleHandler
  dsimp only
  repeat' split
  all_goals repeat keepA_peel

theorem genPart_keep {α : Type} (g : Dev → α) (w : World) (x : Nat) :
    keep g (w.genPart x).1 = keep g w := by
  unfold genPart
  dsimp only
  split
  · rfl
  · exact foldl_preserve (fun acc : World × List Nat => keep g acc.1) _ _ _ (fun _ _ => rfl)

local macro "keepA_fold" : tactic => `(tactic|
  (rw [keep_foldl]; case h => (intro _ _; keepA_peel)))

theorem finishCycle_keepA (w : World) (x : Nat) :
    keep Dev.resA (w.finishCycle x) = keep Dev.resA w := by
  unfold finishCycle
  dsimp only
  repeat' split
  all_goals repeat (first | keepA_peel | keepA_fold | rw [genPart_keep] | rw [finishCycleHandler_keepA])

theorem scheduleFinish_keepA (w : World) (x : Nat) :
    keep Dev.resA (w.scheduleFinish x) = keep Dev.resA w := by
  unfold scheduleFinish
  dsimp only
  repeat' split
  all_goals repeat (first | keepA_peel | rw [finishCycle_keepA])

/-- `_get_part_from_input` of the batcher. -/
def bGet (w : World) (x p : Nat) : World × Nat :=
  match (w.part p).kids with
  | some (k :: rest) =>
    let w := w.modPart p (fun r => { r with kids := some rest })
    let w := if rest.isEmpty then w.modDev x (fun d => { d with part := none }) else w
    (w, k)
  | _ => (w.modDev x (fun d => { d with part := none }), p)

/-- `_add_part_to_output` of the batcher. -/
def bAdd (w : World) (x t : Nat) : World :=
  match (w.dev x).bsize with
  | none => w.modDev x (fun d => { d with output := some t })
  | some n =>
    let (w, b) := match (w.dev x).inprog with
      | some b => (w, b)
      | none =>
        let (w, b) := w.newPart { quality := 0, value := 0, kids := some [] }
        (w.modDev x (fun d => { d with inprog := some b }), b)
    let w := w.modPart b (fun r => { r with kids := some ((r.kids.getD []) ++ [t]) })
    if ((w.part b).kids.getD []).length ≥ n then
      w.modDev x (fun d => { d with output := some b, inprog := none })
    else w

theorem batcherLoop_succ (f : Nat) (w : World) (x : Nat) :
    batcherLoop (f + 1) w x =
      match (w.dev x).output, (w.dev x).part with
      | none, some p => batcherLoop f (bAdd (bGet w x p).1 x (bGet w x p).2) x
      | _, _ => w := rfl

theorem bGet_keepA (w : World) (x p : Nat) : keep Dev.resA (bGet w x p).1 = keep Dev.resA w := by
  unfold bGet
  dsimp only
  repeat' split
  all_goals repeat keepA_peel

theorem bAdd_keepA (w : World) (x t : Nat) : keep Dev.resA (bAdd w x t) = keep Dev.resA w := by
  unfold bAdd
  dsimp only
  repeat' split
  all_goals repeat keepA_peel

theorem batcherLoop_keepA (f : Nat) : ∀ (w : World) (x : Nat),
    keep Dev.resA (batcherLoop f w x) = keep Dev.resA w := by
  induction f with
  | zero => intro w x; rfl
  | succ f ih =>
    intro w x
    rw [batcherLoop_succ]
    split
    · rw [ih, bAdd_keepA, bGet_keepA]
    · rfl

theorem tryMove_keepA (w : World) (x : Nat) :
    keep Dev.resA (w.tryMove x) = keep Dev.resA w := by
  unfold tryMove
  dsimp only
  repeat' split
  all_goals repeat (first | keepA_peel | rw [scheduleFinish_keepA] | rw [batcherLoop_keepA])

theorem onReceived_keepA (w : World) (x p : Nat) :
    keep Dev.resA (w.onReceived x p) = keep Dev.resA w := by
  unfold onReceived
  dsimp only
  repeat' split
  all_goals repeat (first | keepA_peel | keepA_fold | rw [tryMove_keepA])

theorem acceptPart_keepA (w : World) (x p : Nat) :
    keep Dev.resA (w.acceptPart x p) = keep Dev.resA w := by
  unfold acceptPart
  dsimp only
  repeat' split
  all_goals repeat (first | keepA_peel | rw [onReceived_keepA])

/-! #### shutdown and restore keep `Dev.resM` and the manager -/

local macro "keepM_peel" : tactic => `(tactic| first
  | rfl
  | rw [keep_setErr] | rw [keep_schedLib] | rw [keep_addRec] | rw [keep_addRes] | rw [keep_envOp]
  | rw [keep_schedulePass _ Dev.resM_core] | rw [keep_setWaiting _ Dev.resM_core]
  | rw [keep_notify _ Dev.resM_core]
  | (rw [keep_setDev]; case h => rfl)
  | (rw [keep_modDev]; case h => rfl)
  | (rw [keep_foldl]; case h => (intro _ _; rfl)))

theorem shutdownDev_keepM (w : World) (x : Nat) (isFailure : Bool) (lost : Option Nat) :
    keep Dev.resM (w.shutdownDev x isFailure lost) = keep Dev.resM w := by
  unfold shutdownDev
  dsimp only
  repeat' split
  all_goals repeat keepM_peel

theorem restoreDev_keepM (w : World) (x : Nat) :
    keep Dev.resM (w.restoreDev x) = keep Dev.resM w := by
  unfold restoreDev
  dsimp only
  repeat' split
  all_goals repeat keepM_peel

theorem keep_comp {α β : Type} (g : Dev → α) (f : α → β) {w w' : World}
    (h : keep g w' = keep g w) : keep (fun d => f (g d)) w' = keep (fun d => f (g d)) w := by
  have h1 : w'.rm = w.rm := keep_rm g h
  have h2 : w'.devs.map g = w.devs.map g := congrArg Prod.snd h
  have h3 := congrArg (List.map f) h2
  simp only [List.map_map] at h3
  unfold keep
  rw [h1]
  exact congrArg (Prod.mk w.rm) h3

/-! ### Part 2: the event queue -/

/-- A live (not cancelled, not paused) event with the given action, time, priority and asset is in
the queue. -/
def Queued (w : World) (act : Action) (t prio asset : Int) : Prop :=
  ∃ e ∈ w.env.events, e.act = act.toNat ∧ e.time = t ∧ e.prio = prio ∧ e.asset = asset ∧
    e.cancelled = false ∧ e.pausedAt = none

theorem Queued_of_env_eq {w w' : World} (h : w'.env = w.env) {act : Action} {t prio asset : Int}
    (hq : Queued w act t prio asset) : Queued w' act t prio asset := by
  unfold Queued; rw [h]; exact hq

theorem schedLib_env_of_le (w : World) (t a : Int) (act : Action) (p : Int) (h : w.env.now ≤ t) :
    (w.schedLib t a act p).env =
      { w.env with
        events := insort (w.env.newEvent t a act.toNat p (weightOf w.seed w.wmod t a act.toNat p))
          w.env.events
        nextUid := w.env.nextUid + 1 } := by
  have hn : ¬ t < w.env.now := by omega
  simp [schedLib, sched, Env.apply, Env.schedule, hn]

theorem schedLib_env_of_lt (w : World) (t a : Int) (act : Action) (p : Int) (h : t < w.env.now) :
    (w.schedLib t a act p).env = w.env := by
  simp only [schedLib, sched, Env.apply, Env.schedule, h, if_true]
  unfold setErr; split <;> rfl

theorem schedLib_now (w : World) (t a : Int) (act : Action) (p : Int) :
    (w.schedLib t a act p).now = w.now := by
  unfold now
  by_cases h : t < w.env.now
  · rw [schedLib_env_of_lt w t a act p h]
  · rw [schedLib_env_of_le w t a act p (by omega)]

theorem Queued_schedLib_new (w : World) (t a : Int) (act : Action) (p : Int) (h : w.now ≤ t) :
    Queued (w.schedLib t a act p) act t p a := by
  unfold Queued
  rw [schedLib_env_of_le w t a act p h]
  exact ⟨_, insort_mem.2 (Or.inl rfl), rfl, rfl, rfl, rfl, rfl, rfl⟩

theorem Queued_schedLib_mono (w : World) (t a : Int) (act : Action) (p : Int)
    {act' : Action} {t' p' a' : Int} (hq : Queued w act' t' p' a') :
    Queued (w.schedLib t a act p) act' t' p' a' := by
  by_cases h : t < w.env.now
  · exact Queued_of_env_eq (schedLib_env_of_lt w t a act p h) hq
  · obtain ⟨e, he, hrest⟩ := hq
    unfold Queued
    rw [schedLib_env_of_le w t a act p (by omega)]
    exact ⟨e, insort_mem.2 (Or.inr he), hrest⟩

theorem setErr_env (w : World) (m : String) : (w.setErr m).env = w.env := by
  unfold setErr; split <;> rfl

theorem schedulePass_now (w : World) (x : Nat) (o : Int) : (w.schedulePass x o).now = w.now := by
  unfold schedulePass
  dsimp only
  split
  · rfl
  · rw [schedLib_now]; rfl

theorem finishCycleHandler_now (w : World) (x : Nat) : (w.finishCycleHandler x).now = w.now := by
  unfold finishCycleHandler
  dsimp only
  repeat' split
  all_goals first
    | exact congrArg Env.now (setErr_env _ _)
    | (rw [schedulePass_now]; rfl)

/-- The callbacks, sensors and the `produced` record at the end of a processor's `_finish_cycle`
do not touch the event queue. -/
theorem finishTail_env (W : World) (x p : Nat) (cbs : List PartCb) (ss : List Nat) :
    (ss.foldl (fun w s => w.senseOutput s p) (cbs.foldl (fun w c => w.applyPartCb x p c) W)).env =
      W.env := by
  rw [foldl_preserve World.env _ _ _ (fun w s => senseOutput_env w s p),
    foldl_preserve World.env _ _ _ (fun w c => applyPartCb_env w x p c)]

theorem addRec_env (w : World) (r : Rec) : (w.addRec r).env = w.env := rfl

theorem schedLib_env_congr {w w' : World} (h1 : w'.env = w.env) (h2 : w'.seed = w.seed)
    (h3 : w'.wmod = w.wmod) (t a : Int) (act : Action) (p : Int) :
    (w'.schedLib t a act p).env = (w.schedLib t a act p).env := by
  by_cases h : t < w.env.now
  · rw [schedLib_env_of_lt w t a act p h, schedLib_env_of_lt w' t a act p (by rw [h1]; exact h), h1]
  · rw [schedLib_env_of_le w t a act p (by omega),
      schedLib_env_of_le w' t a act p (by rw [h1]; omega), h1, h2, h3]

theorem finishCycle_processor_env (w : World) (x : Nat) (hk : (w.dev x).kind = .processor) :
    (w.finishCycle x).env =
      (if (w.dev x).reserved.isSome then
        (w.finishCycleHandler x).schedLib w.now (w.dev x).aid (.releaseIfIdle x) pRelease
      else w.finishCycleHandler x).env := by
  have hA := keep_dev _ (finishCycleHandler_keepA w x) x
  have hres : ((w.finishCycleHandler x).dev x).reserved = (w.dev x).reserved := congrArg (·.1) hA
  have haid : ((w.finishCycleHandler x).dev x).aid = (w.dev x).aid := congrArg (·.2.2.2.2.1) hA
  have hnow := finishCycleHandler_now w x
  unfold finishCycle
  simp only [hk]
  generalize w.finishCycleHandler x = w1 at *
  rw [hres, haid]
  have hsch : ∀ d : Dev, ((w1.setDev x d).schedLib (w1.setDev x d).now (w.dev x).aid
      (.releaseIfIdle x) pRelease).env =
      (w1.schedLib w.now (w.dev x).aid (.releaseIfIdle x) pRelease).env := by
    intro d
    rw [← hnow]
    exact schedLib_env_congr (w := w1) (w' := w1.setDev x d) rfl rfl rfl _ _ _ _
  by_cases hr : (w.dev x).reserved.isSome = true
  · simp only [hr, if_true]
    split
    · exact hsch _
    · rw [addRec_env, finishTail_env]; exact hsch _
  · simp only [hr]
    split
    · rfl
    · rw [addRec_env, finishTail_env]; rfl

theorem finishCycle_release_queued (w : World) (x : Nat) (hk : (w.dev x).kind = .processor)
    (hr : (w.dev x).reserved.isSome = true) :
    Queued (w.finishCycle x) (.releaseIfIdle x) w.now pRelease (w.dev x).aid := by
  apply Queued_of_env_eq (finishCycle_processor_env w x hk)
  rw [if_pos hr]
  exact Queued_schedLib_new _ _ _ _ _ (by rw [finishCycleHandler_now]; exact Int.le_refl _)

theorem valid_of_part {w : World} {x p : Nat} (hp : (w.dev x).part = some p) : x < w.devs.length := by
  apply Nat.lt_of_not_le
  intro h
  rw [dev_of_length_le h] at hp
  cases hp

theorem schedulePass_queued (w : World) (x : Nat) (hnk : (w.dev x).kind ≠ .sink) (h0 : 0 ≤ w.now) :
    Queued (w.schedulePass x 0) (.passPart x) w.now pPassPart (w.dev x).aid := by
  unfold schedulePass
  dsimp only
  split
  · next h => exact absurd h hnk
  · have hn : ∀ d, (w.setDev x d).now = w.now := fun _ => rfl
    rw [hn, Int.add_zero, if_neg (by omega)]
    exact Queued_schedLib_new _ _ _ _ _ (by rw [hn]; exact Int.le_refl _)

theorem finishCycleHandler_pass_queued (w : World) (x p : Nat) (hnk : (w.dev x).kind ≠ .sink)
    (hop : w.operational x = true) (hp : (w.dev x).part = some p) (ho : (w.dev x).output = none)
    (h0 : 0 ≤ w.now) :
    Queued (w.finishCycleHandler x) (.passPart x) w.now pPassPart (w.dev x).aid := by
  have hx := valid_of_part hp
  unfold finishCycleHandler
  simp only [hop, hp, ho, Bool.not_true, Bool.false_eq_true, if_false, Option.isSome_none]
  have h := schedulePass_queued (w.setDev x { w.dev x with output := some p, part := none }) x
    (by rw [dev_setDev_same hx]; exact hnk) h0
  rw [dev_setDev_same hx] at h
  exact h

theorem finishCycle_pass_queued (w : World) (x p : Nat) (hk : (w.dev x).kind = .processor)
    (hop : w.operational x = true) (hp : (w.dev x).part = some p) (ho : (w.dev x).output = none)
    (h0 : 0 ≤ w.now) :
    Queued (w.finishCycle x) (.passPart x) w.now pPassPart (w.dev x).aid := by
  apply Queued_of_env_eq (finishCycle_processor_env w x hk)
  have h1 := finishCycleHandler_pass_queued w x p (by rw [hk]; decide) hop hp ho h0
  split
  · exact Queued_schedLib_mono _ _ _ _ _ h1
  · exact h1

/-! #### closed forms of `procAcquire` -/

theorem schedLib_eq_of_le (w : World) (t a : Int) (act : Action) (p : Int) (h : w.now ≤ t) :
    w.schedLib t a act p =
      { w with env := { w.env with
          events := insort (w.env.newEvent t a act.toNat p (weightOf w.seed w.wmod t a act.toNat p))
            w.env.events
          nextUid := w.env.nextUid + 1 } } := by
  have hn : ¬ t < w.env.now := by unfold now at h; omega
  simp [schedLib, sched, Env.apply, Env.schedule, hn]

theorem rmEffects_error (w : World) (recs : List ResRec) (chk : Bool) :
    (w.rmEffects recs chk).error = w.error := by
  unfold rmEffects
  have h1 : ∀ (l : List ResRec) (w : World),
      (l.foldl (fun w r => w.addRec (.resUpdate r.res w.now r.inUse r.cap)) w).error = w.error ∧
      (l.foldl (fun w r => w.addRec (.resUpdate r.res w.now r.inUse r.cap)) w).env = w.env := by
    intro l
    induction l with
    | nil => intro w; exact ⟨rfl, rfl⟩
    | cons a l ih => intro w; rw [List.foldl_cons]; exact ⟨(ih _).1.trans rfl, (ih _).2.trans rfl⟩
  dsimp only
  split
  · rw [schedLib_eq_of_le _ (World.now _) _ _ _ (Int.le_refl _)]
    exact (h1 recs w).1
  · exact (h1 recs w).1

theorem valid_of_resReq {w : World} {x : Nat} {req : Req} (h : (w.dev x).resReq = some req) :
    x < w.devs.length := by
  apply Nat.lt_of_not_le
  intro hle
  rw [dev_of_length_le hle] at h
  cases h

theorem valid_of_reserved {w : World} {x id : Nat} (h : (w.dev x).reserved = some id) :
    x < w.devs.length := by
  apply Nat.lt_of_not_le
  intro hle
  rw [dev_of_length_le hle] at h
  cases h

theorem procAcquire_noop (w : World) (x : Nat)
    (h : (w.dev x).resReq = none ∨ (w.dev x).reserved.isSome = true) : w.procAcquire x = (w, true) := by
  unfold procAcquire
  dsimp only
  rcases h with h | h
  · rw [h]
  · split
    · rfl
    · rw [if_pos h]

/-- Closed form when the request fits. -/
theorem procAcquire_fits (w : World) (x : Nat) (req : Req) (hreq : (w.dev x).resReq = some req)
    (hres : (w.dev x).reserved = none) (hnn : ∀ e ∈ req, 0 ≤ e.2) (hf : C09.fits w.rm req) :
    w.procAcquire x =
      ((({ w with rm := (w.rm.reserve req).1 } : World).rmEffects (w.rm.reserve req).2.2.2 false).modDev x
        (fun d => { d with reserved := some w.rm.resv.length }), true) := by
  have hs := (C09.reserve_iff_fits w.rm req hnn).2 hf
  obtain ⟨id, hid⟩ := Option.isSome_iff_exists.1 hs
  have hlen := (C09.reserve_success hid).2.2.1
  subst hlen
  unfold procAcquire
  simp only [hreq, hres, Option.isSome_none, Bool.false_eq_true, if_false]
  rcases hR : w.rm.reserve req with ⟨rm', res, oid, recs⟩
  rw [hR] at hid
  simp only at hid
  subst hid
  rfl

/-- Closed form when the request does not fit (no negative amounts). -/
theorem procAcquire_not_fits (w : World) (x : Nat) (req : Req) (hreq : (w.dev x).resReq = some req)
    (hres : (w.dev x).reserved = none) (hnn : ∀ e ∈ req, 0 ≤ e.2) (hf : ¬ C09.fits w.rm req) :
    w.procAcquire x =
      if (w.dev x).waitingRes then (w, false)
      else ((({ w with rm := (w.rm.register req (.proc x)).1 } : World).rmEffects [] w.rm.inited).modDev x
        (fun d => { d with waitingRes := true }), false) := by
  have hany : req.any (fun p => p.2 < 0) = false := by
    rw [List.any_eq_false]; intro e he; have := hnn e he; simp; omega
  have hc : ¬ w.rm.canFulfill (req.filter (fun p => p.2 > 0)) = true :=
    fun h => hf ((C09.canFulfill_filter_iff w.rm req).1 h)
  have hR : w.rm.reserve req = (w.rm, .none_, none, []) := by
    rw [RM.reserve_eq]; simp [hany, hc]
  unfold procAcquire
  simp only [hreq, hres, Option.isSome_none, Bool.false_eq_true, if_false, hR]
  rfl

/-- A negative amount makes `reserve_resources` raise: nothing changes but the error flag. -/
theorem procAcquire_negative (w : World) (x : Nat) (req : Req) (hreq : (w.dev x).resReq = some req)
    (hres : (w.dev x).reserved = none) (hneg : ∃ e ∈ req, e.2 < 0) :
    w.procAcquire x = (w.setErr "reserve-raised", false) := by
  have hany : req.any (fun p => p.2 < 0) = true := by
    rw [List.any_eq_true]; obtain ⟨e, he, hlt⟩ := hneg; exact ⟨e, he, by simpa using hlt⟩
  have hR : w.rm.reserve req = (w.rm, .err .value, none, []) := by
    rw [RM.reserve_eq]; simp [hany]
  unfold procAcquire
  simp only [hreq, hres, Option.isSome_none, Bool.false_eq_true, if_false, hR]

theorem releaseReserved_rm (w : World) (x : Nat) :
    (w.releaseReserved x).rm =
      match (w.dev x).reserved with
      | none => w.rm
      | some id => (w.rm.release id none).1 := by
  unfold releaseReserved
  split
  · next h => simp only [h]
  · next id h => simp only [h, modDev_rm, rmEffects_rm]

theorem releaseReserved_none (w : World) (x : Nat) (h : (w.dev x).reserved = none) :
    w.releaseReserved x = w := by
  unfold releaseReserved; rw [h]

/-- Whenever `procAcquire` refuses, no pool and no reservation has changed, and no device's
`reserved` and `part`. -/
theorem procAcquire_false (w : World) (x : Nat) (h : (w.procAcquire x).2 = false) :
    (w.procAcquire x).1.rm.pools = w.rm.pools ∧ (w.procAcquire x).1.rm.resv = w.rm.resv ∧
    ∀ y, ((w.procAcquire x).1.dev y).reserved = (w.dev y).reserved := by
  unfold procAcquire at h ⊢
  dsimp only at h ⊢
  repeat' split at h
  all_goals first
    | cases h
    | skip
  all_goals simp only [*, Bool.false_eq_true, if_false]
  · exact ⟨by rw [setErr_rm], by rw [setErr_rm], fun y => by rw [dev_setErr]⟩
  · exact ⟨rfl, rfl, fun _ => rfl⟩
  · refine ⟨?_, ?_, fun y => ?_⟩
    · simp only [modDev_rm, rmEffects_rm]; rfl
    · simp only [modDev_rm, rmEffects_rm]; rfl
    · exact (modDev_dev_field Dev.reserved _ x _ rfl y).trans (by rw [dev_rmEffects]; rfl)

/-! #### `give` to a processor, `failDev` -/

theorem give_processor (f : Nat) (w : World) (x p : Nat) (hk : (w.dev x).kind = .processor) :
    give (f + 1) w x p =
      if w.canAcceptBasic x p then
        (match w.procAcquire x with
         | (w, true) => (w.acceptPart x p, true)
         | (w, false) => (w, false))
      else (w, false) := by
  rw [give]
  simp only [hk]
  rfl

/-- `_fail()` as a composition (the ghost log `lost` aside). -/
theorem failDev_eq (w : World) (x : Nat) : ∃ w0 : World, w0.devs = w.devs ∧ w0.rm = w.rm ∧
    w.failDev x =
      (((w0.modDev x fun d => { d with part := none }).releaseReserved x).addRec
        (.failure x ((w0.modDev x fun d => { d with part := none }).releaseReserved x).now
          (w.dev x).part)).shutdownDev x true (w.dev x).part := by
  unfold failDev
  dsimp only
  split
  · next p _ => exact ⟨{ w with lost := w.lost ++ w.leavesOf p }, rfl, rfl, rfl⟩
  · exact ⟨w, rfl, rfl, rfl⟩

theorem failDev_rm (w : World) (x : Nat) :
    (w.failDev x).rm =
      match (w.dev x).reserved with
      | none => w.rm
      | some id => (w.rm.release id none).1 := by
  obtain ⟨w0, h1, h2, heq⟩ := failDev_eq w x
  rw [heq, keep_rm _ (shutdownDev_keepM _ x true _), addRec_rm, releaseReserved_rm]
  have : ((w0.modDev x fun d => { d with part := none }).dev x).reserved = (w.dev x).reserved := by
    rw [modDev_dev_field Dev.reserved w0 x _ rfl x, dev_congr h1]
  rw [this, modDev_rm, h2]

theorem failDev_dev (w : World) (x : Nat) (hx : x < w.devs.length) :
    ((w.failDev x).dev x).reserved = none ∧ ((w.failDev x).dev x).part = none := by
  obtain ⟨w0, h1, h2, heq⟩ := failDev_eq w x
  have hx0 : x < w0.devs.length := by rw [h1]; exact hx
  have hM := keep_dev _ (shutdownDev_keepM
    (((w0.modDev x fun d => { d with part := none }).releaseReserved x).addRec
        (.failure x ((w0.modDev x fun d => { d with part := none }).releaseReserved x).now
          (w.dev x).part)) x true (w.dev x).part) x
  rw [← heq, dev_addRec, releaseReserved_dev_same, dev_modDev_same hx0] at hM
  exact ⟨congrArg (·.1) hM, congrArg (·.2.2.2.2.2.1) hM⟩

/-- Other devices keep what they hold and their part when `x` fails. -/
theorem failDev_dev_ne (w : World) (x y : Nat) (hy : y ≠ x) :
    ((w.failDev x).dev y).reserved = (w.dev y).reserved ∧ ((w.failDev x).dev y).part = (w.dev y).part := by
  obtain ⟨w0, h1, h2, heq⟩ := failDev_eq w x
  have hM := keep_dev _ (shutdownDev_keepM
    (((w0.modDev x fun d => { d with part := none }).releaseReserved x).addRec
        (.failure x ((w0.modDev x fun d => { d with part := none }).releaseReserved x).now
          (w.dev x).part)) x true (w.dev x).part) y
  rw [← heq, dev_addRec, releaseReserved_dev_ne _ hy, dev_modDev_ne (Ne.symm hy), dev_congr h1] at hM
  exact ⟨congrArg (·.1) hM, congrArg (·.2.2.2.2.2.1) hM⟩

local macro "keepS_peel" : tactic => `(tactic| first
  | rfl
  | rw [keep_setErr] | rw [keep_addRes] | rw [keep_envOp]
  | rw [keep_setWaiting _ (fun _ => rfl)]
  | (rw [keep_setDev]; case h => rfl)
  | (rw [keep_foldl]; case h => (intro _ _; rfl)))

/-- After `_shutdown` a valid processor is shut down. -/
theorem shutdownDev_shutDown (w : World) (x : Nat) (isFailure : Bool) (lost : Option Nat)
    (hx : x < w.devs.length) : ((w.shutdownDev x isFailure lost).dev x).shutDown = true := by
  by_cases hs : (w.dev x).shutDown = true
  · have : keep Dev.shutDown (w.shutdownDev x isFailure lost) = keep Dev.shutDown w := by
      unfold shutdownDev
      dsimp only
      repeat' split
      all_goals repeat keepS_peel
    rw [keep_dev _ this x, hs]
  · have : keep Dev.shutDown (w.shutdownDev x isFailure lost) =
        keep Dev.shutDown (w.setDev x { w.dev x with shutDown := true }) := by
      unfold shutdownDev
      dsimp only
      rw [if_neg hs]
      repeat' split
      all_goals repeat keepS_peel
    rw [keep_dev _ this x, dev_setDev_same hx]

/-! #### `_finish_cycle` only removes the part -/

local macro "keepP_peel" : tactic => `(tactic| first
  | rfl
  | rw [keep_setErr] | rw [keep_schedLib] | rw [keep_addRec]
  | rw [keep_senseOutput]
  | rw [keep_schedulePass _ (fun _ => rfl)]
  | rw [keep_applyPartCb _ (fun _ _ => rfl)]
  | (rw [keep_setDev]; case h => rfl)
  | (rw [keep_foldl]; case h => (intro _ _; first
      | rw [keep_senseOutput] | rw [keep_applyPartCb _ (fun _ _ => rfl)])))

/-- The handler part of `_finish_cycle` takes the part out of the input or leaves it there. -/
theorem finishCycleHandler_part (w : World) (x y : Nat) :
    ((w.finishCycleHandler x).dev y).part = (w.dev y).part ∨
    ((w.finishCycleHandler x).dev y).part = none := by
  unfold finishCycleHandler
  dsimp only
  repeat' split
  all_goals first
    | (left; rw [dev_setErr]; done)
    | skip
  next p hp _ =>
  have hk := keep_dev _ (keep_schedulePass Dev.part (fun _ => rfl)
    (w.setDev x { w.dev x with output := some p, part := none }) x 0) y
  rw [hk, dev_setDev]
  split
  · right; rfl
  · left; rfl

/-- `_finish_cycle` of a processor takes the part out of the input or leaves it there; no device
gets a part. -/
theorem finishCycle_part (w : World) (x y : Nat) (hk : (w.dev x).kind = .processor) :
    ((w.finishCycle x).dev y).part = (w.dev y).part ∨ ((w.finishCycle x).dev y).part = none := by
  have h : keep Dev.part (w.finishCycle x) = keep Dev.part (w.finishCycleHandler x) := by
    unfold finishCycle
    simp only [hk]
    repeat' split
    all_goals repeat keepP_peel
  rw [keep_dev _ h y]
  exact finishCycleHandler_part w x y

end World

/-! ### Part 3: sums -/

section sums
variable {β γ : Type}

theorem isum_map_zero (l : List β) : isum (l.map fun _ => (0 : Int)) = 0 := by
  induction l with
  | nil => rfl
  | cons a l ih => simp [ih]

theorem isum_map_add (l : List β) (f g : β → Int) :
    isum (l.map fun a => f a + g a) = isum (l.map f) + isum (l.map g) := by
  induction l with
  | nil => rfl
  | cons a l ih => simp only [List.map_cons, isum_cons, ih]; omega

theorem isum_map_congr (l : List β) (f g : β → Int) (h : ∀ a ∈ l, f a = g a) :
    isum (l.map f) = isum (l.map g) := by
  rw [List.map_congr_left h]

theorem isum_swap (l₁ : List β) (l₂ : List γ) (f : β → γ → Int) :
    isum (l₁.map fun a => isum (l₂.map fun b => f a b)) =
      isum (l₂.map fun b => isum (l₁.map fun a => f a b)) := by
  induction l₁ with
  | nil => simp [isum_map_zero]
  | cons a l ih =>
    simp only [List.map_cons, isum_cons, ih]
    rw [← isum_map_add]

theorem isum_map_ite_const (l : List β) (P : β → Bool) (c : Int) :
    isum (l.map fun a => if P a then c else 0) = c * (l.countP P : Nat) := by
  induction l with
  | nil => simp
  | cons a l ih =>
    simp only [List.map_cons, isum_cons, ih, List.countP_cons]
    by_cases h : P a = true
    · simp only [h, if_true]; rw [Int.natCast_add, Int.mul_add]; simp; omega
    · simp only [h]; simp

/-- Summing `F` over the entries with key `id` of an association list with distinct keys picks the
entry `alookup` finds. -/
theorem isum_alookup (l : List (Nat × β)) (hn : (l.map (·.1)).Nodup) (id : Nat) (F : β → Int) :
    isum (l.map fun p => if p.1 = id then F p.2 else 0) =
      match alookup l id with
      | some v => F v
      | none => 0 := by
  induction l with
  | nil => rfl
  | cons q l ih =>
    obtain ⟨k, v⟩ := q
    simp only [List.map_cons, List.nodup_cons] at hn
    simp only [List.map_cons, isum_cons, alookup_cons]
    by_cases hk : k = id
    · subst hk
      simp only [if_true]
      have hz : isum (l.map fun p => if p.1 = k then F p.2 else 0) = 0 := by
        rw [isum_map_congr l _ (fun _ => 0), isum_map_zero]
        intro a ha
        have : a.1 ≠ k := fun h => hn.1 (h ▸ List.mem_map.2 ⟨a, ha, rfl⟩)
        simp [this]
      rw [hz]; simp
    · have hb : (k == id) = false := by simpa using hk
      simp only [hk, if_false]
      rw [ih hn.2]; simp

end sums

/-! ### Part 4: who references which reservation (on lists) -/

/-- `rs` = the `reserved` fields of the devices, `resv` = the reservations of the manager: every
reference is to an existing reservation, and every non-empty reservation is referenced by exactly
one device. -/
def Owned (resv : List (Nat × Req)) (rs : List (Option Nat)) : Prop :=
  (∀ id, some id ∈ rs → id < resv.length) ∧ (∀ p ∈ resv, p.2 ≠ [] → rs.count (some p.1) = 1)

theorem Owned.acquire {resv : List (Nat × Req)} {rs : List (Option Nat)} (h : Owned resv rs)
    (hids : ∀ p ∈ resv, p.1 < resv.length) {x : Nat} (hx : x < rs.length) (hnone : rs[x] = none)
    (hd : Req) : Owned (resv ++ [(resv.length, hd)]) (rs.set x (some resv.length)) := by
  obtain ⟨hv, hu⟩ := h
  refine ⟨?_, ?_⟩
  · intro id hid
    rw [List.length_append, List.length_singleton]
    rcases List.mem_or_eq_of_mem_set hid with h | h
    · have := hv id h; omega
    · cases h; omega
  · intro p hp hne
    rw [List.count_set hx, hnone]
    rcases List.mem_append.1 hp with hp | hp
    · have hlt := hids p hp
      have h1 : (some resv.length == some p.1) = false := by simp; omega
      simp [h1, hu p hp hne]
    · simp only [List.mem_singleton] at hp
      subst hp
      have h0 : rs.count (some resv.length) = 0 := by
        rw [List.count_eq_zero]
        intro hm
        have := hv _ hm
        omega
      simp [h0]

theorem Owned.release {resv : List (Nat × Req)} {rs : List (Option Nat)} (h : Owned resv rs)
    {x id : Nat} (hx : x < rs.length) (hsome : rs[x] = some id) :
    Owned (aupd resv id []) (rs.set x none) := by
  obtain ⟨hv, hu⟩ := h
  refine ⟨?_, ?_⟩
  · intro id' hid
    rw [length_aupd]
    rcases List.mem_or_eq_of_mem_set hid with h | h
    · exact hv id' h
    · cases h
  · intro p hp hne
    rcases mem_aupd _ _ _ _ hp with h | ⟨hm, hk⟩
    · subst h; exact absurd rfl hne
    · rw [List.count_set hx, hsome]
      have h1 : (some id == some p.1) = false := by simp; exact fun h => hk h.symm
      simp [h1, hu p hm hne]

/-- Dropping a reference to an id that names no reservation. -/
theorem Owned.drop_dangling {resv : List (Nat × Req)} {rs : List (Option Nat)} (h : Owned resv rs)
    {x id : Nat} (hx : x < rs.length) (hsome : rs[x] = some id) (hno : id ∉ resv.map (·.1)) :
    Owned resv (rs.set x none) := by
  obtain ⟨hv, hu⟩ := h
  refine ⟨?_, ?_⟩
  · intro id' hid
    rcases List.mem_or_eq_of_mem_set hid with h | h
    · exact hv id' h
    · cases h
  · intro p hp hne
    rw [List.count_set hx, hsome]
    have hk : p.1 ≠ id := fun h => hno (h ▸ List.mem_map.2 ⟨p, hp, rfl⟩)
    have h1 : (some id == some p.1) = false := by simp; exact fun h => hk h.symm
    simp [h1, hu p hp hne]

namespace World

/-- The `reserved` fields of the devices. -/
def rsv (w : World) : List (Option Nat) := w.devs.map (·.reserved)

theorem rsv_length (w : World) : w.rsv.length = w.devs.length := by simp [rsv]

theorem rsv_getElem (w : World) (x : Nat) (hx : x < w.rsv.length) :
    w.rsv[x] = (w.dev x).reserved := by
  have hx' : x < w.devs.length := by rw [← rsv_length]; exact hx
  simp [rsv, dev, List.getD_eq_getElem?_getD, hx']

theorem rsv_modDev (w : World) (x : Nat) (f : Dev → Dev) :
    (w.modDev x f).rsv = w.rsv.set x (f (w.dev x)).reserved := by
  simp [rsv, modDev, setDev, List.map_set]

theorem rsv_of_devs_eq {w w' : World} (h : w'.devs = w.devs) : w'.rsv = w.rsv := by
  unfold rsv; rw [h]

theorem rsv_of_keep {α : Type} (g : Dev → α) (f : α → Option Nat)
    (hf : ∀ d, f (g d) = d.reserved) {w w' : World} (h : keep g w' = keep g w) : w'.rsv = w.rsv := by
  have h2 : w'.devs.map g = w.devs.map g := congrArg Prod.snd h
  have h3 := congrArg (List.map f) h2
  simp only [List.map_map] at h3
  have he : (f ∘ g) = (fun d : Dev => d.reserved) := funext hf
  rw [he] at h3
  exact h3

theorem set_self_of_getElem {α} (l : List α) (x : Nat) (a : α) (h : ∀ hx : x < l.length, l[x] = a) :
    l.set x a = l := by
  apply List.ext_getElem?
  intro j
  rw [List.getElem?_set]
  split
  · next hij =>
    subst hij
    split
    · next hlt => rw [List.getElem?_eq_getElem hlt, h hlt]
    · next hge => rw [List.getElem?_eq_none (Nat.not_lt.1 hge)]
  · rfl

/-- What `releaseReserved` does to reservations and references. -/
theorem releaseReserved_shape (w : World) (x : Nat) :
    (w.releaseReserved x).rsv = w.rsv.set x none ∧
    (w.releaseReserved x).rm.resv =
      match (w.dev x).reserved with
      | none => w.rm.resv
      | some id =>
        match w.rm.held id with
        | none => w.rm.resv
        | some _ => aupd w.rm.resv id [] := by
  constructor
  · rw [rsv_of_devs_eq (releaseReserved_devs w x), rsv_modDev]
  · rw [releaseReserved_rm]
    cases hr : (w.dev x).reserved with
    | none => rfl
    | some id =>
      cases hh : w.rm.held id with
      | none => simp only; unfold RM.release; simp only [hh]
      | some h =>
        simp only
        rw [RM.release_all_eq w.rm id h hh]
        simp only [RM.setHeld_resv, RM.credit_resv, hh]

/-- What `procAcquire` does to reservations and references: nothing, or a new reservation with
the next id, referenced by `x` (which referenced nothing before). -/
theorem procAcquire_shape (w : World) (x : Nat) :
    ((w.procAcquire x).1.rsv = w.rsv ∧ (w.procAcquire x).1.rm.resv = w.rm.resv) ∨
    (∃ hd, (w.dev x).reserved = none ∧ x < w.devs.length ∧
      (w.procAcquire x).1.rsv = w.rsv.set x (some w.rm.resv.length) ∧
      (w.procAcquire x).1.rm.resv = w.rm.resv ++ [(w.rm.resv.length, hd)]) := by
  by_cases hb : (w.procAcquire x).2 = false
  · left
    obtain ⟨_, h2, h3⟩ := procAcquire_false w x hb
    refine ⟨?_, h2⟩
    obtain ⟨r, wr, hd⟩ := procAcquire_devs w x
    rw [rsv_of_devs_eq hd, rsv_modDev]
    apply set_self_of_getElem
    intro hx
    rw [rsv_getElem w x hx, ← h3 x]
    have hx' : x < w.devs.length := by rw [← rsv_length]; exact hx
    rw [dev_congr hd, dev_modDev_same hx']
  · have hb : (w.procAcquire x).2 = true := by simpa using hb
    cases hreq : (w.dev x).resReq with
    | none => left; rw [procAcquire_noop w x (Or.inl hreq)]; exact ⟨rfl, rfl⟩
    | some req =>
      cases hres : (w.dev x).reserved with
      | some id => left; rw [procAcquire_noop w x (Or.inr (by rw [hres]; rfl))]; exact ⟨rfl, rfl⟩
      | none =>
        right
        have hx := valid_of_resReq hreq
        have hsome : ∃ id, (w.rm.reserve req).2.2.1 = some id := by
          cases hs : (w.rm.reserve req).2.2.1 with
          | some id => exact ⟨id, rfl⟩
          | none =>
            exfalso
            unfold procAcquire at hb
            simp only [hreq, hres, Option.isSome_none, Bool.false_eq_true, if_false] at hb
            rcases hR : w.rm.reserve req with ⟨rm', res, oid, recs⟩
            rw [hR] at hs hb
            simp only at hs
            subst hs
            cases res <;> simp only at hb <;> (try split at hb) <;> simp at hb
        obtain ⟨id, hid⟩ := hsome
        obtain ⟨_, _, hlen, heq⟩ := RM.reserve_some w.rm req id hid
        subst hlen
        have hpa : w.procAcquire x =
            ((({ w with rm := (w.rm.reserve req).1 } : World).rmEffects (w.rm.reserve req).2.2.2
              false).modDev x (fun d => { d with reserved := some w.rm.resv.length }), true) := by
          unfold procAcquire
          simp only [hreq, hres, Option.isSome_none, Bool.false_eq_true, if_false]
          rcases hR : w.rm.reserve req with ⟨rm', res, oid, recs⟩
          rw [hR] at hid
          simp only at hid
          subst hid
          rfl
        refine ⟨req.filter (fun p => p.2 > 0), rfl, hx, ?_, ?_⟩
        · rw [hpa]
          simp only
          rw [rsv_modDev]
          exact congrArg (fun l => List.set l x _) (rsv_of_devs_eq (rmEffects_devs _ _ _))
        · rw [hpa]
          simp only [modDev_rm, rmEffects_rm]
          rw [heq]

end World
end SimProc
