/-
C06W (closed-world timer invariant), part 6: scripted operations, the actions of events, `step`,
`runLoop`, `simulateInit`.
-/
import SimProc.Proofs.C06WPass
import SimProc.Proofs.StaticWorld
import SimProc.Proofs.WorldWalk
namespace SimProc
namespace C06W
open World FloorCoreL
open C02V (Reach st GiveOK Static SR HasBad badAct OpStatic ScriptsStatic TopoOK)

/-! ### the static conditions -/

/-- maintenance targets that are devices are processors -/
def TargetsProc (w : World) : Prop :=
  ∀ t ∈ w.targets, ∀ d, t.dev = some d → (w.dev d).kind = .processor

/-- scripts do not pause, resume or cancel the events of a device directly -/
def OpNoPause (w : World) : Op → Prop
  | .pause a => ∀ x, x < w.devs.length → (w.dev x).aid ≠ a
  | .unpause a => ∀ x, x < w.devs.length → (w.dev x).aid ≠ a
  | .cancel a => ∀ x, x < w.devs.length → (w.dev x).aid ≠ a
  | _ => True

def ScriptsNoPause (w : World) : Prop := ∀ l ∈ w.scripts, ∀ op ∈ l, OpNoPause w op

/-- the devices that are not processors -/
def np (w : World) : Nat → Prop := fun d => (w.dev d).kind ≠ .processor

/-- no failure of a device that is not a processor is pending or paused -/
def NoBadFail (w : World) : Prop := ¬ HasBad (badAct (np w)) w

/-- The closed-world invariant. -/
structure WI (w : World) : Prop where
  fi : FI w
  st : Static w
  tp : TargetsProc w
  nps : ScriptsNoPause w
  nf : NoBadFail w

/-- What a function of `Model/World.lean` does, as far as the invariant is concerned. -/
structure WS (w w' : World) : Prop where
  good : Good w w'
  sr : SR (fun d => (w.dev d).kind = .sink) w w'
  nf : HasBad (badAct (np w)) w' = HasBad (badAct (np w)) w

theorem np_of_ka {w w' : World} (hka : ∀ y, (w'.dev y).kind = (w.dev y).kind ∧ (w'.dev y).aid = (w.dev y).aid) :
    np w' = np w := by
  funext d; unfold np; rw [(hka d).1]

theorem sinks_of_ka {w w' : World}
    (hka : ∀ y, (w'.dev y).kind = (w.dev y).kind ∧ (w'.dev y).aid = (w.dev y).aid) :
    (fun d => (w'.dev d).kind = .sink) = (fun d => (w.dev d).kind = .sink) := by
  funext d; rw [(hka d).1]

theorem WS.refl {w : World} (h : FI w) : WS w w := ⟨Good.refl h, SR.refl _ w, rfl⟩

theorem WS.trans {a b c : World} (h1 : WS a b) (h2 : WS b c) : WS a c := by
  refine ⟨h1.good.trans h2.good, h1.sr.trans ?_, ?_⟩
  · have := h2.sr; rw [sinks_of_ka h1.good.2.ka] at this; exact this
  · have := h2.nf; rw [np_of_ka h1.good.2.ka] at this; exact this.trans h1.nf

theorem opNoPause_of_ka {w w' : World} (hl : w'.devs.length = w.devs.length)
    (hka : ∀ y, (w'.dev y).kind = (w.dev y).kind ∧ (w'.dev y).aid = (w.dev y).aid) (op : Op)
    (h : OpNoPause w op) : OpNoPause w' op := by
  cases op <;> simp only [OpNoPause] at h ⊢
  all_goals (intro x hx; rw [(hka x).2]; exact h x (hl ▸ hx))

/-- the static part of the invariant is carried along any `WS` step -/
theorem wi_of_ws {w w' : World} (hst : Static w) (htp : TargetsProc w) (hnps : ScriptsNoPause w)
    (hnf : NoBadFail w) (s : WS w w') : WI w' := by
  have hk := s.good.2
  refine ⟨s.good.1, hst.of_sr s.sr, ?_, ?_, ?_⟩
  · intro t ht d hd
    rw [(hk.ka d).1]
    have : t.dev ∈ w'.targets.map (·.dev) := List.mem_map.mpr ⟨t, ht, rfl⟩
    rw [hk.tg] at this
    obtain ⟨t0, ht0, e0⟩ := List.mem_map.mp this
    exact htp t0 ht0 d (e0.trans hd)
  · intro l hl op hop
    rw [s.sr.2.1] at hl
    exact opNoPause_of_ka hk.len hk.ka op (hnps l hl op hop)
  · unfold NoBadFail
    rw [np_of_ka hk.ka, s.nf]; exact hnf

theorem WI.of_ws {w w' : World} (h : WI w) (s : WS w w') : WI w' :=
  wi_of_ws h.st h.tp h.nps h.nf s

theorem WI.stat {w : World} (h : WI w) : C02V.Stat (fun d => (w.dev d).kind = .sink) w :=
  ⟨fun _ => Iff.rfl, h.st.1⟩

/-- A full frame at the world level (given the two projections that `Fr` does not see). -/
theorem WS.of_fr {w w' : World} (h : FI w) (f : Fr None_ w w')
    (sr : SR (fun d => (w.dev d).kind = .sink) w w')
    (nf : HasBad (badAct (np w)) w' = HasBad (badAct (np w)) w) : WS w w' := ⟨f.good h, sr, nf⟩

/-! ### scripted operations -/

/-- Pausing, resuming or cancelling the events of an asset that is not a device. -/
theorem fr_envop_other {w : World} (h : FI w) (a : Int)
    (ha : ∀ x, x < w.devs.length → (w.dev x).aid ≠ a) (op : EnvOp)
    (hop : op = .pause a ∨ op = .unpause a ∨ op = .cancel a) : Fr None_ w (w.envOp op) := by
  have hoa : ∀ y, (w.dev y).kind ≠ .source → ∀ e ∈ finE w.env y ++ finP w.env y, e.asset ≠ a := by
    intro y hk
    have ht := h.timer y hk
    by_cases hyl : y < w.devs.length
    · intro e he
      rw [ht.asset e he]
      exact ha y hyl
    · have hd : w.dev y = default := dev_of_length_le (Nat.le_of_not_lt hyl)
      have := ht.idle (by rw [hd]; rfl)
      rw [this.1, this.2]
      intro e he; cases he
  refine ⟨?_, ?_, rfl, fun _ => ⟨rfl, rfl⟩, fun _ _ => rfl, ?_, rfl, fun hei => hei.apply op, id⟩
  · rcases hop with rfl | rfl | rfl <;> rfl
  · rcases hop with rfl | rfl | rfl <;> exact Nat.le_refl _
  · intro y hk
    rcases hop with rfl | rfl | rfl
    · exact fin_pause_other (hoa y hk)
    · exact fin_unpause_other _ (hoa y hk)
    · exact fin_cancel_other (hoa y hk)

theorem fr_modMaint {X : Nat → Prop} (w : World) (m : Nat) (f : Maint → Maint) : Fr X w (w.modMaint m f) :=
  fr_of_fields rfl rfl rfl rfl

theorem fr_startOrders {X : Nat → Prop} (w : World) (m : Nat) (l : List Order) :
    Fr X w (w.startOrders m l) :=
  Fr.foldl _ _ _ fun w _ => fr_schedLib w _ _ _ _ fun _ e => nomatch e

theorem fr_schedUpdate {X : Nat → Prop} (w : World) (s : Nat) (b : Bool) : Fr X w (w.schedUpdate s b) := by
  unfold World.schedUpdate
  dsimp only
  split
  · exact fr_of_fields rfl rfl rfl rfl
  · refine Fr.trans ?_ (fr_schedLib _ _ _ _ _ fun _ e => nomatch e)
    refine Fr.trans ?_ (Fr.foldl _ _ _ fun _ _ => fr_addRes _ _)
    refine Fr.trans ?_ (fr_addRec _ _)
    exact fr_of_fields rfl rfl rfl rfl

theorem fr_periodicSense {X : Nat → Prop} (w : World) (s : Nat) : Fr X w (w.periodicSense s) := by
  unfold World.periodicSense
  dsimp only
  refine Fr.trans ?_ (fr_schedLib _ _ _ _ _ fun _ e => nomatch e)
  refine Fr.trans ?_ (Fr.foldl _ _ _ fun _ _ => fr_addRes _ _)
  exact fr_of_fields rfl rfl rfl rfl

theorem fr_plain {X : Nat → Prop} : PlainClosed (Fr X) where
  refl := Fr.refl X
  trans := Fr.trans
  tables := fun _ _ _ _ _ _ _ _ => fr_of_fields rfl rfl rfl rfl
  rmEffects := fr_rmEffects
  schedScript := fun w t a _ p => fr_sched w t a _ p fun _ e => nomatch e
  orderRec := fun w _ _ _ _ => fr_addRec w _
  startOrders := fr_startOrders
  setBlock := fr_setBlock
  setCycle := fun w d _ => fr_modDev_same w d _ rfl
  addOffset := fun w d _ => fr_modDev_same w d _ rfl
  setParams := fun _ _ _ => fr_of_fields rfl rfl rfl (map_set_of_eq (d := default) _ _ _ _ rfl)

theorem fr_applyOp_plain {X : Nat → Prop} (w : World) (op : Op) (hp : plainOp op = true) :
    Fr X w (w.applyOp op).1 :=
  fr_plain.applyOp w op hp (fun t _ _ => fr_sched w t _ _ _ fun _ e => nomatch e)
    fun d n _ => fr_adjustParts w d n

theorem good_applyOp {w : World} (h : WI w) (op : Op) (h1 : OpStatic w op) (h2 : OpNoPause w op) :
    Good w (w.applyOp op).1 := by
  cases op
  case rewire d ups => exact absurd h1 id
  case create s => exact absurd h1 id
  case pause a => exact (fr_envop_other h.fi a h2 _ (Or.inl rfl)).good h.fi
  case unpause a => exact (fr_envop_other h.fi a h2 _ (Or.inr (Or.inl rfl))).good h.fi
  case cancel a => exact (fr_envop_other h.fi a h2 _ (Or.inr (Or.inr rfl))).good h.fi
  case shutdown d =>
    simp only [World.applyOp]
    split
    · exact Good.refl h.fi
    · rename_i hk
      exact (loc_shutdown h.fi (by simpa using hk)).good h.fi
  case restore d =>
    simp only [World.applyOp]
    split
    · exact Good.refl h.fi
    · rename_i hk
      exact (loc_restoreDev h.fi (by simpa using hk)).good h.fi
  all_goals exact (fr_applyOp_plain w _ rfl).good h.fi

theorem hb_applyOp_np (w : World) (op : Op) (h : OpStatic w op) :
    HasBad (badAct (np w)) (w.applyOp op).1 = HasBad (badAct (np w)) w :=
  C02V.hb_applyOp _ w op h fun _ hk hd => hd hk

theorem ws_applyOp {w : World} (h : WI w) (op : Op) (h1 : OpStatic w op) (h2 : OpNoPause w op) :
    WS w (w.applyOp op).1 :=
  ⟨good_applyOp h op h1 h2, C02V.sr_applyOp _ w op h.stat.1 h1, hb_applyOp_np w op h1⟩

theorem ws_addRes {w : World} (h : FI w) (r : Res) : WS w (w.addRes r) :=
  ⟨(fr_addRes (X := None_) w r).good h, ⟨rfl, rfl, rfl⟩, rfl⟩

theorem WS.of_floor {w w' : World} (g : Good w w') (h1 : st w' = st w) (h2 : w'.scripts = w.scripts)
    (h3 : ∀ sk, HasBad (badAct sk) w' = HasBad (badAct sk) w) : WS w w' :=
  ⟨g, SR.of_st h1 h2 (h3 _), h3 _⟩

theorem ws_erase {w : World} (h : FI w) (i : Nat) : WS w (scanOps.erase w i) :=
  ⟨(fr_of_fields (X := None_) (w := w) (w' := scanOps.erase w i) rfl rfl rfl rfl).good h,
    ⟨rfl, rfl, rfl⟩, rfl⟩

theorem targets_dev_proc {w : World} (h : WI w) {tgt d : Nat}
    (ht : (w.targets.getD tgt default).dev = some d) : (w.dev d).kind = .processor := by
  by_cases hl : tgt < w.targets.length
  · have : w.targets.getD tgt default = w.targets[tgt] := by simp [List.getD_eq_getElem?_getD, hl]
    rw [this] at ht
    exact h.tp _ (List.getElem_mem hl) d ht
  · have : w.targets.getD tgt default = default := by
      simp [List.getD_eq_getElem?_getD, Nat.le_of_not_lt hl]
    rw [this] at ht; cases ht

theorem ws_schedLib {w : World} (h : FI w) (t a : Int) (act : Action) (p : Int)
    (hnf : ∀ d, act ≠ .fail d) (hnfin : ∀ y, act ≠ .finishCycle y) : WS w (w.schedLib t a act p) :=
  WS.of_floor ((fr_schedLib (X := None_) w t a act p (fun y e => absurd e (hnfin y))).good h)
    (C02V.st_schedLib ..) (C02V.scr_schedLib ..)
    (fun sk => C02V.hb_schedLib _ _ _ _ _ _ (C02V.not_bad_of_not_fail sk _ hnf))

theorem ws_setErr {w : World} (h : FI w) (m : String) (hm : allowedErrs.contains m = true) :
    WS w (w.setErr m) :=
  WS.of_floor ((fr_setErr (X := None_) w m hm).good h) (C02V.st_setErr ..) (C02V.scr_setErr ..)
    (fun _ => C02V.hb_setErr ..)

theorem ws_plain {w w' : World} (h : FI w) (hd : w'.devs = w.devs) (he : w'.env = w.env)
    (herr : w'.error = w.error) (htg : w'.targets = w.targets) (hs : w'.scripts = w.scripts)
    (hg : w'.groups = w.groups) : WS w w' := by
  refine ⟨(fr_of_fields (X := None_) hd he herr (by rw [htg])).good h, ⟨?_, hs, ?_⟩, ?_⟩
  · unfold C02V.tv C02V.st; rw [hd, hg]
  · unfold HasBad; rw [he]
  · unfold HasBad; rw [he]

theorem ws_startOrders {w : World} (h : FI w) (m : Nat) (l : List Order) : WS w (w.startOrders m l) :=
  WS.of_floor ((fr_startOrders (X := None_) w m l).good h) (C02V.st_startOrders ..)
    (C02V.scr_startOrders ..) (fun sk => C02V.hb_startOrders sk ..)

/-- Under `WI`, `WS` contains the operations of the scripts and the updates around them: scripts,
the call-backs of the resource manager and work orders are `World.ScriptClosed` theorems. -/
theorem ws_closed : ScriptClosed WI WS where
  refl := fun _ h => WS.refl h.fi
  trans := WS.trans
  inv := WI.of_ws
  applyOp := fun _ op h ⟨l, hl, hop⟩ => ws_applyOp h op (h.st.1 l hl op hop) (h.nps l hl op hop)
  addRes := fun _ r h _ => ws_addRes h.fi r
  erase := fun _ i h => ws_erase h.fi i
  procResourceCb := fun w _ _ d h _ _ =>
    WS.of_floor ((fr_procResourceCb (X := None_) w d).good h.fi) (C02V.st_procResourceCb w d)
      (C02V.scr_floor.procResourceCb w d) (fun sk => (C02V.hb_floor sk).procResourceCb w d)
  modMaint := fun _ _ _ h => ws_plain h.fi rfl rfl rfl rfl rfl rfl
  addRec := fun _ _ _ _ _ _ h _ => ws_plain h.fi rfl rfl rfl rfl rfl rfl
  schedLib := fun _ t a act p h e =>
    ws_schedLib h.fi t a act p e.ne.1 e.ne.2
  shutdownDev := fun _ _ _ h hd =>
    WS.of_floor ((loc_shutdown h.fi (targets_dev_proc h hd)).good h.fi) (C02V.st_shutdownDev ..)
      (C02V.scr_floor.shutdownDev ..) (fun sk => (C02V.hb_floor sk).shutdownDev ..)
  restoreDev := fun _ _ _ h hd =>
    WS.of_floor ((loc_restoreDev h.fi (targets_dev_proc h hd)).good h.fi) (C02V.st_restoreDev ..)
      (C02V.scr_floor.restoreDev ..) (fun sk => (C02V.hb_floor sk).restoreDev ..)
  setErr := fun _ m h hm => ws_setErr h.fi m (by rcases hm with rfl | rfl <;> decide)

/-! ### the actions of events -/

/-- Every action except the finish event of a device (which needs the popped event, see
`step`). -/
theorem ws_exec {w : World} (h : WI w) (a : Action) (hfin : ∀ d, a ≠ .finishCycle d)
    (hfail : ∀ d, a = .fail d → (w.dev d).kind = .processor) : WS w (w.exec a) := by
  cases a with
  | terminate => exact WS.refl h.fi
  | script k => exact ws_closed.runScript w k h
  | finishCycle d => exact absurd rfl (hfin d)
  | passPart d =>
    exact ⟨good_passPart w d h.fi (h.st.2.1 d),
      ⟨C02V.tv_floor.passPart w d, C02V.scr_floor.passPart w d, (C02V.hb_floor _).passPart w d⟩, (C02V.hb_floor _).passPart w d⟩
  | fail d =>
    exact WS.of_floor ((loc_failDev h.fi (hfail d rfl)).good h.fi) (C02V.st_failDev w d)
      (C02V.scr_floor.failDev w d) (fun sk => (C02V.hb_floor sk).failDev w d)
  | releaseIfIdle d =>
    exact WS.of_floor ((fr_releaseIfIdle (X := None_) w d).good h.fi) (C02V.st_releaseIfIdle w d)
      (C02V.scr_floor.releaseIfIdle w d) (fun sk => (C02V.hb_floor sk).releaseIfIdle w d)
  | rmCheck => exact ws_closed.rmCheck w h
  | startWork m o => exact ws_closed.startWork w m o h
  | finishWork m o => exact ws_closed.finishWork w m o h
  | schedUpdate s =>
    exact WS.of_floor ((fr_schedUpdate (X := None_) w s true).good h.fi) (C02V.st_schedUpdate w s true)
      (C02V.scr_schedUpdate w s true) (fun sk => C02V.hb_schedUpdate sk w s true)
  | periodicSense s =>
    exact WS.of_floor ((fr_periodicSense (X := None_) w s).good h.fi) (C02V.st_periodicSense w s)
      (C02V.scr_periodicSense w s) (fun sk => C02V.hb_periodicSense sk w s)
  | unknown n => exact ws_setErr h.fi _ (by decide)

/-! ### `step` -/

theorem isFin_true {x : Nat} {e : Event} : isFin x e = true ↔ e.live = true ∧ e.act = finAct x := by
  simp [isFin]

/-- What popping the next event does: either it is the live finish event of a timing device `x`,
which is then in the `Mid` state, or the invariant still holds. -/
theorem pop_cases {w : World} (h : WI w) {e : Event} {env' : Env} (henv : w.env.step = some (e, env')) :
    (∃ x, e.live = true ∧ e.act = finAct x ∧ Mid ({ w with env := env' } : World) x) ∨
    (FI ({ w with env := env' } : World) ∧
      ∀ x, e.live = true → e.act = finAct x → (w.dev x).kind = .source) := by
  have hei : EI env' := h.fi.ei.step henv
  by_cases hc : ∃ x, (w.dev x).kind ≠ .source ∧ isFin x e = true
  · left
    obtain ⟨x, hk, hf⟩ := hc
    obtain ⟨hl, ha⟩ := isFin_true.mp hf
    refine ⟨x, hl, ha, ?_⟩
    have ht := h.fi.timer x hk
    obtain ⟨hE, hP, _, _⟩ := fin_step henv x
    rw [hf] at hE
    simp only [if_true] at hE
    -- the device is busy and operational
    cases hp : (tdm (w.dev x)).part with
    | none =>
      have := (ht.idle hp).1
      rw [hE] at this; cases this
    | some p =>
      obtain ⟨ho, hb⟩ := ht.busy p hp
      have hop : opT (tdm (w.dev x)) = true := by
        cases hop : opT (tdm (w.dev x)) with
        | true => rfl
        | false =>
          rw [hop] at hb
          have := hb.1
          rw [hE] at this; cases this
      rw [hop] at hb
      simp only [if_true] at hb
      have hE' : finE env' x = [] := by
        have := hb.1
        rw [hE] at this
        simpa using this
      have hT : isT (w.dev x).kind = true := by
        cases hT : isT (w.dev x).kind with
        | true => rfl
        | false => simp [tdm, hT] at hp
      have hpart : (w.dev x).part = some p := by rw [← tdm_part hT]; exact hp
      have hout : (w.dev x).output = none := by rw [← tdm_output hT]; exact ho
      have hopw : w.operational x = true := by rw [operational_eq]; exact hop
      refine ⟨?_, h.fi.aids, hei, h.fi.err, C02V.lt_of_part hpart, hT,
        (show (w.dev x).part.isSome = true by rw [hpart]; rfl), hout, hopw,
        ⟨hE', hP.trans hb.2⟩, ?_⟩
      · intro y hy hky
        have hty := h.fi.timer y hky
        obtain ⟨hEy, hPy, _, _⟩ := fin_step henv y
        have hfy : isFin y e = false := by
          cases hfy : isFin y e with
          | false => rfl
          | true =>
            have := (isFin_true.mp hfy).2
            rw [ha] at this
            exact absurd (finAct_inj this).symm hy
        rw [hfy] at hEy
        simp only [Bool.false_eq_true, if_false] at hEy
        exact hty.congr rfl hEy.symm hPy
      · intro hkp
        have hup := (ht.up hkp).1
        rw [opT_proc (show (tdm (w.dev x)).kind = .processor from hkp)] at hop
        exact hup.mpr (by simpa using hop)
  · right
    have hno : ∀ y, (w.dev y).kind ≠ .source → isFin y e = false := by
      intro y hk
      cases hfy : isFin y e with
      | false => rfl
      | true => exact absurd ⟨y, hk, hfy⟩ hc
    refine ⟨⟨?_, h.fi.aids, hei, h.fi.err⟩, ?_⟩
    · intro y hk
      obtain ⟨hEy, hPy, _, _⟩ := fin_step henv y
      rw [hno y hk] at hEy
      simp only [Bool.false_eq_true, if_false] at hEy
      exact (h.fi.timer y hk).congr rfl hEy.symm hPy
    · intro x hl ha
      cases hk : (w.dev x).kind
      case source => rfl
      all_goals
        have := hno x (by rw [hk]; decide)
        rw [isFin_true.mpr ⟨hl, ha⟩] at this
        cases this

theorem mem_events_of_step {s s' : Env} {e : Event} (h : s.step = some (e, s')) : e ∈ s.events := by
  obtain ⟨es, he, _⟩ := Env.step_some.mp h
  rw [he]; exact List.mem_cons_self ..

theorem si_pop {w : World} (h : WI w) {e : Event} {env' : Env} (henv : w.env.step = some (e, env')) :
    Static ({ w with env := env' } : World) ∧ TargetsProc ({ w with env := env' } : World) ∧
    ScriptsNoPause ({ w with env := env' } : World) ∧ NoBadFail ({ w with env := env' } : World) := by
  refine ⟨C02V.static_pop w e env' h.st henv, h.tp, h.nps, ?_⟩
  intro hb
  apply h.nf
  obtain ⟨n, hn, hbad⟩ := hb
  refine ⟨n, ?_, hbad⟩
  obtain ⟨es, he, rfl⟩ := Env.step_some.mp henv
  rw [C02V.mem_acts] at hn ⊢
  obtain ⟨x, hx, rfl⟩ := hn
  refine ⟨x, ?_, rfl⟩
  rw [he]
  rcases hx with hx | hx
  · exact Or.inl (List.mem_cons_of_mem _ hx)
  · exact Or.inr hx

/-- One step of the event loop: the invariant is preserved; and the action of the popped event
relates the world after the pop to the world after the step by `Keep`. -/
theorem step_spec {w w' : World} {e : Event} (h : WI w) (hst : w.step = some (e, w')) :
    ∃ env', w.env.step = some (e, env') ∧ WI w' ∧ Keep ({ w with env := env' } : World) w' := by
  unfold World.step at hst
  split at hst
  · cases hst
  · rename_i e' env' henv
    simp only [Option.some.injEq, Prod.mk.injEq] at hst
    obtain ⟨rfl, rfl⟩ := hst
    refine ⟨env', henv, ?_⟩
    obtain ⟨s1, s2, s3, s4⟩ := si_pop h henv
    rcases pop_cases h henv with ⟨x, hl, ha, hm⟩ | ⟨hfi, hsrc⟩
    · -- the finish event of a timing device
      rw [if_pos hl, ha, ofNat_finAct]
      have loc := loc_finishCycle hm
      have ws : WS ({ w with env := env' } : World) (({ w with env := env' } : World).finishCycle x) :=
        WS.of_floor ⟨loc.fi_of_mid hm, loc.keep⟩ (C02V.st_finishCycle _ x) (C02V.scr_floor.finishCycle _ x)
          (fun sk => (C02V.hb_floor sk).finishCycle _ x)
      exact ⟨wi_of_ws s1 s2 s3 s4 ws, loc.keep⟩
    · have h1 : WI ({ w with env := env' } : World) := ⟨hfi, s1, s2, s3, s4⟩
      split
      · rename_i hl
        have ws : WS ({ w with env := env' } : World)
            (({ w with env := env' } : World).exec (Action.ofNat e'.act)) := by
          by_cases hc : ∃ d, Action.ofNat e'.act = .finishCycle d
          · obtain ⟨d, hd⟩ := hc
            rw [hd]
            have hk : (w.dev d).kind = .source := hsrc d hl (ofNat_finish hd)
            exact WS.of_floor ((fr_finishCycle_source (X := None_) ({ w with env := env' } : World) d hk).good hfi)
              (C02V.st_finishCycle _ d) (C02V.scr_floor.finishCycle _ d) (fun sk => (C02V.hb_floor sk).finishCycle _ d)
          · refine ws_exec h1 _ (fun d hd => hc ⟨d, hd⟩) ?_
            intro d hd
            cases hk : (w.dev d).kind
            case processor => exact hk
            all_goals
              exfalso
              apply h.nf
              refine ⟨e'.act, ?_, d, hd, ?_⟩
              · rw [C02V.mem_acts]; exact ⟨e', Or.inl (mem_events_of_step henv), rfl⟩
              · show (w.dev d).kind ≠ .processor
                rw [hk]; decide
        exact ⟨h1.of_ws ws, ws.good.2⟩
      · exact ⟨h1, Keep.refl _⟩

theorem wi_step {w w' : World} {e : Event} (h : WI w) (hst : w.step = some (e, w')) : WI w' := by
  obtain ⟨_, _, h', _⟩ := step_spec h hst
  exact h'

theorem wi_runLoop (n : Nat) : ∀ (w : World), WI w → WI (runLoop n w) := by
  induction n with
  | zero => intro w h; exact h.of_ws (ws_setErr h.fi "fuel" (by decide))
  | succ n ih =>
    intro w h
    unfold runLoop
    split
    · split
      · exact h
      · rename_i e w' hst
        exact ih w' (wi_step h hst)
    · exact h

/-! ### initialisation -/

/-- all processors are operational with an open uptime interval (as constructed) -/
def ProcsUp (w : World) : Prop :=
  ∀ x, (w.dev x).kind = .processor → (w.dev x).lastRestore.isSome = true

theorem ProcsUp.of_fr {w w' : World} (h : ProcsUp w) (f : Fr None_ w w') : ProcsUp w' := by
  intro x hk
  have := congrArg TD.lr (f.tdm_eq x)
  exact this.trans (h x (by rw [← f.kind]; exact hk))

theorem fr_initDev {w : World} (x : Nat) (hp : ProcsUp w) : Fr None_ w (w.initDev x) := by
  have f0 : Fr None_ w (w.modDev x (fun d => { d with inited := true, val := d.val.reset })) :=
    fr_modDev_same _ _ _ rfl
  have hp0 := hp.of_fr f0
  unfold World.initDev
  simp only []
  split
  · exact f0
  · exact f0
  · exact f0
  · exact f0
  · -- processor
    rename_i hk
    have f1 := f0.trans (fr_setWaiting (X := None_) _ x true true)
    refine f1.trans (fr_modDev_same _ _ _ ?_)
    have hl := hp.of_fr f1 x (by rw [f1.kind, ← f0.kind]; exact hk)
    simp only [tdm]
    rw [hl]; rfl
  · rename_i hk
    have f1 := f0.trans (fr_setWaiting (X := None_) _ x true true)
    exact f1.trans (fr_scheduleFinish_source _ x (by rw [f1.kind, ← f0.kind]; exact hk))
  · exact f0.trans (fr_setWaiting _ x true true)

theorem fr_initAsset {w : World} (a : AssetRef) (hp : ProcsUp w) : Fr None_ w (w.initAsset a) := by
  cases a with
  | dev d => exact fr_initDev d hp
  | maint m => exact fr_of_fields rfl rfl rfl rfl
  | sched s => exact fr_schedUpdate w s false
  | sensor s =>
    unfold World.initAsset
    dsimp only
    split
    · refine Fr.trans ?_ (fr_schedLib _ _ _ _ _ (by intro y e; cases e))
      exact fr_of_fields rfl rfl rfl rfl
    · split
      · refine Fr.trans ?_ (fr_modDev_same _ _ _ rfl)
        exact fr_of_fields rfl rfl rfl rfl
      · exact fr_of_fields rfl rfl rfl rfl
  | cms c => exact Fr.refl _ _

theorem fr_simulateInit {w : World} (hp : ProcsUp w) : Fr None_ w w.simulateInit := by
  have key : ∀ (l : List AssetRef) (w0 : World), ProcsUp w0 →
      Fr None_ w0 (l.foldl (fun w a => w.initAsset a) w0) := by
    intro l
    induction l with
    | nil => intro w0 _; exact Fr.refl _ _
    | cons a l ih =>
      intro w0 h0
      have f1 := fr_initAsset a h0
      exact f1.trans (ih _ (h0.of_fr f1))
  unfold World.simulateInit
  split
  · exact Fr.refl _ _
  · simp only []
    have f0 : Fr None_ w (({ w with rm := w.rm.init.1 } : World).rmEffects w.rm.init.2.1 w.rm.init.2.2) :=
      (fr_of_fields (X := None_) (w := w) (w' := { w with rm := w.rm.init.1 }) rfl rfl rfl rfl).trans
        (fr_rmEffects _ _ _)
    generalize (({ w with rm := w.rm.init.1 } : World).rmEffects w.rm.init.2.1 w.rm.init.2.2) = w0 at f0 ⊢
    refine Fr.trans (b := List.foldl (fun w a => w.initAsset a) w0 w0.assets) ?_
      (fr_of_fields rfl rfl rfl rfl)
    exact f0.trans (key _ _ (hp.of_fr f0))

theorem wi_simulateInit {w : World} (h : WI w) (hp : ProcsUp w) : WI w.simulateInit :=
  h.of_ws ⟨(fr_simulateInit hp).good h.fi, C02V.sr_simulateInit _ w, (C02V.sr_simulateInit _ w).2.2⟩

end C06W
end SimProc
