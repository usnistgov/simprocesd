/-
C12W, part 3: `Fr` contains the atoms of the floor (`World.FloorClosed.Ops Fr`), hence `Fr w (f w)`
for every function `f` of `Model/Floor.lean` (`Proofs/FloorWalk.lean`): none of them concerns the
maintainers.
-/
import SimProc.Proofs.C12WBase
import SimProc.Proofs.FloorWalk

namespace SimProc
namespace C12W
open World FloorCoreL

/-- The floor schedules no maintainer event. -/
theorem Fr_floorEvent (w : World) (t a : Int) (act : Action) (p : Int) (h : w.FloorEvent a act p) :
    Fr w (w.schedLib t a act p) := by
  cases h <;> exact Fr_schedLib _ _ _ _ _ rfl

/-- A machine pauses, resumes and cancels under its own asset id, which no maintainer carries. -/
theorem Fr_floorEnvOp (w : World) (op : EnvOp) (h : w.FloorEnvOp op) : Fr w (w.envOp op) :=
  Fr.with_S fun g => by
    cases h <;> exact Fr_envOp _ _ (g.dev_aid _)

theorem Fr.floor : FloorClosed.Ops Fr where
  toFloorClosed := .ofAtoms Fr.refl Fr.trans Fr_setErr
    (fun w r h => Fr_addRec w r (by cases r <;> first | rfl | cases h))
    (fun w r h => Fr_addRes w r (by cases r <;> first | rfl | cases h))
    (fun w x d h => Fr_setDev w x d (congrArg Dev.aid h :)) Fr_modPart
    Fr_floorEvent Fr_floorEnvOp (fun _ _ => Fr.of_FK rfl rfl) (fun _ _ => Fr.of_FK rfl rfl)
    (fun _ _ => Fr.of_FK rfl rfl) (fun _ _ => Fr.of_FK rfl rfl) (fun _ _ => Fr.of_FK rfl rfl)
    (fun _ _ => Fr.of_FK rfl rfl)
  setBlockInput := fun w x _ => Fr_setDev w x _ rfl
  setMaxParts := fun w x _ => Fr_setDev w x _ rfl
  setWiring := fun w x _ _ => Fr_setDev w x _ rfl
  setInited := fun w x _ => Fr_setDev w x _ rfl
  clearWaitingRes := fun w x => Fr_setDev w x _ rfl

macro_rules | `(tactic| fr_step) => `(tactic|
  ((with_reducible apply Fr.trans (h2 := Fr.floor.foldl _ ?hs _ _)); case hs => (intro _ _; fr_auto; done)))
macro_rules | `(tactic| fr_step) => `(tactic| with_reducible apply Fr.trans (h2 := Fr.floor.rmEffects _ _ _))
macro_rules | `(tactic| fr_step) => `(tactic| with_reducible apply Fr.trans (h2 := Fr.floor.shutdownDev _ _ _ _))
macro_rules | `(tactic| fr_step) => `(tactic| with_reducible apply Fr.trans (h2 := Fr.floor.restoreDev _ _))
macro_rules | `(tactic| fr_step) => `(tactic| with_reducible apply Fr.trans (h2 := Fr.floor.setBlock _ _ _))
macro_rules | `(tactic| fr_step) => `(tactic| with_reducible apply Fr.trans (h2 := Fr.floor.adjustParts _ _ _))
macro_rules | `(tactic| fr_step) => `(tactic| with_reducible apply Fr.trans (h2 := Fr.floor.rewire _ _ _))

end C12W
end SimProc
