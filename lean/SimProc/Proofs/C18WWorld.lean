/-
C18W / C19W — machinery, part 3: `Fr w (f w)` for the functions of `Model/World.lean` other than the
transitions of schedulers and periodic sensors themselves (`schedUpdate`, `periodicSense`,
`initAsset`) and the constructors: scripted operations of the static class (`opOK`); scripts, the
resource check and the maintainer events through `World.ScriptClosed` (`Fr.scripts`); `exec` of
every untracked action.
-/
import SimProc.Proofs.C18WFloor
import SimProc.Proofs.WorldWalk

namespace SimProc
namespace C18W
open World FloorCoreL

/-! ### small state updates -/

@[simp] theorem view_modMaint (w : World) (m : Nat) (f : Maint → Maint) :
    view (w.modMaint m f) = view w := rfl
@[simp] theorem view_setVar (w : World) (h : Nat) (v : Option Nat) : view (w.setVar h v) = view w := rfl

macro_rules | `(tactic| fr_step) => `(tactic| with_reducible apply Fr.trans_view (h := view_modMaint _ _ _))
macro_rules | `(tactic| fr_step) => `(tactic| with_reducible apply Fr.trans_view (h := view_setVar _ _ _))

theorem Fr_startOrders (w : World) (m : Nat) (st : List Order) : Fr w (w.startOrders m st) := by
  unfold startOrders
  fr_auto

macro_rules | `(tactic| fr_step) => `(tactic| with_reducible apply Fr.trans (h2 := Fr_startOrders _ _ _))

/-! ### scripted operations -/

theorem not_mem_of_contains {ta : List Int} {a : Int} (h : (!ta.contains a) = true) : a ∉ ta := by
  simpa using h

theorem Fr_applyOp (w : World) (op : Op) (h : opOK (tk w).ta op = true) : Fr w (w.applyOp op).1 := by
  unfold applyOp
  split <;> (try dsimp only)
  · exact Fr_sched _ _ _ _ _ rfl
  · exact Fr_sched _ _ _ _ _ rfl
  · exact Fr_envOp _ _ (not_mem_of_contains h)
  · exact Fr_envOp _ _ (not_mem_of_contains h)
  · exact Fr_envOp _ _ (not_mem_of_contains h)
  case h_22 s obj ovr =>
    exact Fr.of_cstep rfl (CStep.reg (tk w) s obj ovr)
  case h_23 s obj =>
    exact Fr.of_cstep rfl (CStep.unreg (tk w) s obj)
  case h_24 k v => exact Fr.of_view rfl
  case h_25 c s =>
    split
    · exact Fr.refl _
    · exact Fr.of_cstep rfl (CStep.addCb (tk w) s (1000 + c))
  case h_26 spec => simp [opOK] at h
  all_goals try (fr_auto; done)
  all_goals repeat' first
      | fr_step
      | exact Fr_sched _ _ _ _ _ rfl
      | split
      | dsimp only

/-- What scripts, the resource manager and work orders log is never an `.act` / `.sense` entry. -/
theorem untracked_of_plain {r : Res} (h : (r.plain || r matches .cb .. | .hook ..) = true) :
    trackedRes r = false := by
  cases r <;> first | rfl | cases h

theorem applyOp_res (w : World) (op : Op) : trackedRes (w.applyOp op).2 = false :=
  untracked_of_plain (by rw [plain_applyOp]; rfl)

theorem Fr_applyOps (w : World) (ops : List Op) (h : ∀ op ∈ ops, opOK (tk w).ta op = true) :
    Fr w (w.applyOps ops) := by
  unfold applyOps
  induction ops generalizing w with
  | nil => exact Fr.refl _
  | cons op ops ih =>
    rw [List.foldl_cons]
    refine Fr.with_stat fun g => ?_
    have h1 : Fr w ((w.applyOp op).1.addRes (w.applyOp op).2) := by
      refine (Fr_applyOp w op (h op List.mem_cons_self)).trans_view ?_
      exact view_addRes _ _ (applyOp_res w op)
    refine h1.trans (ih _ ?_)
    intro o ho
    rw [ta_of_cstat (h1 g).2.cstat]
    exact h o (List.mem_cons_of_mem _ ho)

/-! ### scripts, the resource check, the maintainer events -/

/-- `Fr`, under the static conditions (which say that the scripts are of the static class), contains
what scripts, call-backs of the resource manager and work orders do. -/
theorem Fr.scripts : ScriptClosed Stat Fr where
  refl w _ := Fr.refl w
  trans := Fr.trans
  inv g r := g.fr r
  applyOp := fun w op g ⟨l, hl, hop⟩ => Fr_applyOp w op (g.c.scr l hl op hop)
  addRes w r _ h := Fr.of_view (view_addRes w r (untracked_of_plain h))
  erase _ _ _ := Fr.of_view rfl
  procResourceCb w _ _ d _ _ _ := Fr.floor.procResourceCb w d
  modMaint _ _ _ _ := Fr.of_view rfl
  addRec _ _ _ _ _ _ _ _ := Fr.of_view (view_addRec _ _ rfl)
  schedLib w t _ _ _ _ he := by cases he <;> exact Fr_schedLib w t _ _ _ rfl
  shutdownDev w _ d _ _ := Fr.floor.shutdownDev w d _ _
  restoreDev w _ d _ _ := Fr.floor.restoreDev w d
  setErr w m _ _ := Fr.of_view (view_setErr w m)

/-! ### events -/

/-- The action of every event other than a scheduler transition / a periodic measurement. -/
theorem Fr_exec (w : World) (a : Action) (h : isTrackedAct a = false) : Fr w (w.exec a) := by
  unfold exec
  split
  · exact Fr.refl _
  · exact Fr.with_stat (Fr.scripts.runScript _ _)
  · exact Fr.floor.finishCycle _ _
  · exact Fr.floor.passPart _ _
  · exact Fr.floor.failDev _ _
  · exact Fr.floor.releaseIfIdle _ _
  · exact Fr.with_stat (Fr.scripts.rmCheck _)
  · exact Fr.with_stat (Fr.scripts.startWork _ _ _)
  · exact Fr.with_stat (Fr.scripts.finishWork _ _ _)
  · cases h
  · cases h
  · exact Fr.of_view (view_setErr _ _)

end C18W
end SimProc
