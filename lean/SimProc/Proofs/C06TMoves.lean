/-
C06T (exact cycle times over whole runs), part 1: the action of an event as a sequence of ATOMIC
MOVES between states satisfying the floor invariant `C06W.FI` — frames (nothing a timer sees
changes), a timing device accepts a part, an output slot is emptied, a processor is shut down for
maintenance / restored / fails — and what each atomic move does to the timers (`C06W.rem`) and to
the input slots.
-/
import SimProc.Proofs.C06WRate
import SimProc.Props.C06
namespace SimProc
namespace C06T
open World FloorCoreL C06W

/-! ### atomic moves -/

/-- One atomic move.  `F` is the set of devices that are allowed to fail. -/
inductive Atom (F : Nat → Prop) : World → World → Prop
  | frame {w w' : World} (f : Fr None_ w w') : Atom F w w'
  | accept {w : World} (x p : Nat) (hx : x < w.devs.length) (hT : isT (w.dev x).kind = true)
      (hc : w.canAcceptBasic x p = true) : Atom F w (w.acceptPart x p)
  | clear {w : World} (x : Nat) : Atom F w (w.modDev x (fun d => { d with output := none }))
  | shutdown {w : World} (x : Nat) (hk : (w.dev x).kind = .processor) :
      Atom F w (w.shutdownDev x false none)
  | restore {w : World} (x : Nat) (hk : (w.dev x).kind = .processor) : Atom F w (w.restoreDev x)
  | fail {w : World} (x : Nat) (hk : (w.dev x).kind = .processor) (hF : F x) : Atom F w (w.failDev x)

/-- Emptying the output slot of a device. -/
theorem loc_clear {w : World} (h : FI w) (x : Nat) :
    Loc w (w.modDev x (fun d => { d with output := none })) x := by
  refine ⟨(fr_at x _).toL (fun _ h => h), fun hk => ?_, fun _ => Or.inl rfl⟩
  have ht := h.timer x hk
  show TimerAt w.env x _
  by_cases hx : x < w.devs.length
  · rw [dev_modDev_same hx]
    have e : tdm ({ w.dev x with output := none } : Dev) = { tdm (w.dev x) with output := none } := by
      simp [tdm]
    rw [e]
    exact ⟨ht.asset, ht.idle, fun p hp => ⟨rfl, (ht.busy p hp).2⟩, ht.up⟩
  · rw [modDev_out_of_range (Nat.le_of_not_lt hx)]; exact ht

/-- Every atomic move is either a frame or a change local to one device. -/
theorem Atom.cases_loc {F : Nat → Prop} {w w' : World} (h : FI w) (a : Atom F w w') :
    Fr None_ w w' ∨ ∃ x, Loc w w' x := by
  cases a with
  | frame f => exact Or.inl f
  | accept x p hx hT hc =>
    obtain ⟨h1, h2, h3⟩ := canAccept_T hT hc
    exact Or.inr ⟨x, loc_acceptPart h p hx hT h1 h2 h3⟩
  | clear x => exact Or.inr ⟨x, loc_clear h x⟩
  | shutdown x hk => exact Or.inr ⟨x, loc_shutdown h hk⟩
  | restore x hk => exact Or.inr ⟨x, loc_restoreDev h hk⟩
  | fail x hk _ => exact Or.inr ⟨x, loc_failDev h hk⟩

theorem Atom.good {F : Nat → Prop} {w w' : World} (h : FI w) (a : Atom F w w') : Good w w' := by
  rcases a.cases_loc h with f | ⟨x, l⟩
  · exact f.good h
  · exact l.good h

/-- A sequence of atomic moves, each starting in a state that satisfies the floor invariant. -/
inductive Moves (F : Nat → Prop) : World → World → Prop
  | refl (w : World) : Moves F w w
  | cons {w w' w'' : World} (h : FI w) (a : Atom F w w') (m : Moves F w' w'') : Moves F w w''

theorem Moves.one {F : Nat → Prop} {w w' : World} (h : FI w) (a : Atom F w w') : Moves F w w' :=
  .cons h a (.refl _)

theorem Moves.trans {F : Nat → Prop} {a b c : World} (h1 : Moves F a b) (h2 : Moves F b c) :
    Moves F a c := by
  induction h1 with
  | refl => exact h2
  | cons h a _ ih => exact .cons h a (ih h2)

theorem Moves.good {F : Nat → Prop} {w w' : World} (m : Moves F w w') (h : FI w) : Good w w' := by
  induction m with
  | refl => exact ⟨h, Keep.refl _⟩
  | cons h0 a _ ih =>
    have g := a.good h0
    exact g.trans (ih g.1)

theorem Moves.mono {F G : Nat → Prop} {w w' : World} (m : Moves F w w') (hFG : ∀ x, F x → G x) :
    Moves G w w' := by
  induction m with
  | refl => exact .refl _
  | cons h a _ ih =>
    refine .cons h ?_ ih
    cases a with
    | frame f => exact .frame f
    | accept x p hx hT hc => exact .accept x p hx hT hc
    | clear x => exact .clear x
    | shutdown x hk => exact .shutdown x hk
    | restore x hk => exact .restore x hk
    | fail x hk hF => exact .fail x hk (hFG x hF)

/-- The invariant afterwards, the two-state relation `Keep`, and the moves. -/
structure GM (F : Nat → Prop) (w w' : World) : Prop where
  fi : FI w'
  keep : Keep w w'
  mv : Moves F w w'

theorem GM.good {F : Nat → Prop} {w w' : World} (g : GM F w w') : Good w w' := ⟨g.fi, g.keep⟩

theorem GM.refl {F : Nat → Prop} {w : World} (h : FI w) : GM F w w := ⟨h, Keep.refl _, .refl _⟩

theorem GM.trans {F : Nat → Prop} {a b c : World} (h1 : GM F a b) (h2 : GM F b c) : GM F a c :=
  ⟨h2.fi, h1.keep.trans h2.keep, h1.mv.trans h2.mv⟩

theorem GM.of_atom {F : Nat → Prop} {w w' : World} (h : FI w) (a : Atom F w w') : GM F w w' :=
  ⟨(a.good h).1, (a.good h).2, .one h a⟩

theorem GM.of_fr {F : Nat → Prop} {w w' : World} (h : FI w) (f : Fr None_ w w') : GM F w w' :=
  .of_atom h (.frame f)

theorem GM.fr {F : Nat → Prop} {w w' w'' : World} (h : GM F w w') (f : Fr None_ w' w'') :
    GM F w w'' := h.trans (.of_fr h.fi f)

/-! ### what an atomic move does to the timer and the input slot of a device -/

/-- same timers (uid, remaining work), same part in process -/
def Same (w w' : World) (y : Nat) : Prop :=
  rem w'.env y = rem w.env y ∧ (tdm (w'.dev y)).part = (tdm (w.dev y)).part

theorem Same.refl (w : World) (y : Nat) : Same w w y := ⟨rfl, rfl⟩

theorem Same.trans {a b c : World} {y : Nat} (h1 : Same a b y) (h2 : Same b c y) : Same a c y :=
  ⟨h2.1.trans h1.1, h2.2.trans h1.2⟩

theorem same_of_fr {w w' : World} (f : Fr None_ w w') {y : Nat} (hk : (w.dev y).kind ≠ .source) :
    Same w w' y :=
  ⟨rem_congr f.now (f.fin y hk).1 (f.fin y hk).2, by rw [f.td y id]⟩

theorem same_of_loc_ne {w w' : World} {x y : Nat} (l : Loc w w' x) (hy : y ≠ x)
    (hk : (w.dev y).kind ≠ .source) : Same w w' y :=
  ⟨rem_congr l.fr.now (l.fr.fin y hy hk).1 (l.fr.fin y hy hk).2, by rw [l.fr.td y hy]⟩

theorem timerAt_rem_le_one {s : Env} {x : Nat} {t : TD} (ht : TimerAt s x t) :
    (rem s x).length ≤ 1 := by
  unfold rem
  cases hp : t.part with
  | none => rw [(ht.idle hp).1, (ht.idle hp).2]; simp
  | some p =>
    have hb := (ht.busy p hp).2
    split at hb
    · rw [hb.2]; simp [hb.1]
    · rw [hb.1]; simp [hb.2]

theorem timerAt_rem_nil {s : Env} {x : Nat} {t : TD} (ht : TimerAt s x t) (hp : t.part = none) :
    rem s x = [] := rem_nil (ht.idle hp).1 (ht.idle hp).2

theorem timerAt_rem_ne_nil {s : Env} {x : Nat} {t : TD} (ht : TimerAt s x t) {p : Nat}
    (hp : t.part = some p) : rem s x ≠ [] := by
  have hb := (ht.busy p hp).2
  unfold rem
  split at hb
  · obtain ⟨e, he⟩ := length_le_one_cases _ hb.1
    rw [he]; simp
  · obtain ⟨e, he⟩ := length_le_one_cases _ hb.2
    rw [he]; simp

/-- A local change at `x` that keeps the part in process and every timer keeps all timers. -/
theorem same_of_loc {w w' : World} {x : Nat} (h : FI w) (l : Loc w w' x)
    (hk : (w.dev x).kind ≠ .source)
    (hpart : (tdm (w'.dev x)).part = (tdm (w.dev x)).part)
    (hfw : ∀ u r, (u, r) ∈ rem w.env x → (u, r) ∈ rem w'.env x) : Same w w' x := by
  refine ⟨?_, hpart⟩
  have ht := h.timer x hk
  have ht' := l.at_ hk
  cases hp : (tdm (w.dev x)).part with
  | none =>
    rw [timerAt_rem_nil ht hp, timerAt_rem_nil ht' (hpart.trans hp)]
  | some p =>
    have h1 := timerAt_rem_le_one ht
    have h2 := timerAt_rem_le_one ht'
    have h3 := timerAt_rem_ne_nil ht hp
    match hr : rem w.env x, h1, h3 with
    | [a], _, _ =>
      have hm := hfw a.1 a.2 (by rw [hr]; exact List.mem_singleton.mpr rfl)
      match hr' : rem w'.env x, h2, hm with
      | [b], _, hm =>
        have : a = b := List.mem_singleton.mp hm
        rw [this]
      | [], _, hm => cases hm
    | [], _, h3 => exact absurd rfl h3

/-- Emptying the output slot: timers and input slots are untouched. -/
theorem same_clear (w : World) (x y : Nat) :
    Same w (w.modDev x (fun d => { d with output := none })) y := by
  refine ⟨rfl, ?_⟩
  by_cases hxy : x = y
  · subst hxy
    by_cases hx : x < w.devs.length
    · rw [dev_modDev_same hx]; simp [tdm]
    · rw [modDev_out_of_range (Nat.le_of_not_lt hx)]
  · rw [dev_modDev_ne hxy]

/-- A maintenance shutdown keeps the timer of the processor (now paused, same remaining work) and
its part in process. -/
theorem same_shutdown {w : World} {x : Nat} (h : FI w) (hk : (w.dev x).kind = .processor) :
    Same w (w.shutdownDev x false none) x := by
  have hx := lt_of_processor hk
  have hT : isT (w.dev x).kind = true := by rw [hk]; rfl
  have ht := h.timer x (isT_ne_source hT)
  cases hs : (w.dev x).shutDown
  · rw [shutdownDev_eq_up w false none hx hs]
    simp only [Bool.false_eq_true, if_false]
    have hasset : ∀ e ∈ finE w.env x, e.asset = (w.dev x).aid :=
      fun e he => ht.asset e (List.mem_append.mpr (Or.inl he))
    obtain ⟨hE, hP⟩ := fin_pause_self hasset
    have hd : World.dev { w with
        devs := w.devs.set x (shutDev w.now (w.dev x)), env := w.env.pause (w.dev x).aid,
        results := w.results ++ shutLog x (w.dev x).nShutCbs false none } x =
        shutDev w.now (w.dev x) := getD_set_same _ _ _ _ hx
    have hop : opT (tdm (w.dev x)) = true := by
      rw [opT_proc (show (tdm (w.dev x)).kind = .processor from hk)]
      show (!(w.dev x).shutDown) = true
      rw [hs]; rfl
    refine ⟨?_, ?_⟩
    · show rem (w.env.pause (w.dev x).aid) x = rem w.env x
      unfold rem
      rw [hE, hP]
      simp only [List.map_nil, List.nil_append, List.map_append, List.map_map]
      have hnow : (w.env.pause (w.dev x).aid).now = w.env.now := rfl
      rw [hnow]
      cases hp : (w.dev x).part with
      | none =>
        have hi := ht.idle (by rw [tdm_part hT]; exact hp)
        rw [hi.1, hi.2]; rfl
      | some p =>
        obtain ⟨ho, hb⟩ := ht.busy p (by rw [tdm_part hT]; exact hp)
        rw [hop] at hb
        simp only [if_true] at hb
        rw [hb.2]
        simp [Function.comp_def]
    · rw [hd, tdm_shutDev]
  · rw [shutdownDev_eq_down w x false none hs]
    simp only [Bool.false_and, Bool.false_eq_true, if_false]
    exact Same.refl w x

/-- The restoration of a processor keeps its timer (pending again, same remaining work) and its
part in process. -/
theorem same_restore {w : World} {x : Nat} (h : FI w) (hk : (w.dev x).kind = .processor) :
    Same w (w.restoreDev x) x := by
  have hx := lt_of_processor hk
  have hT : isT (w.dev x).kind = true := by rw [hk]; rfl
  have hns := isT_ne_source hT
  have ht := h.timer x hns
  cases hs : (w.dev x).shutDown
  · rw [restoreDev_eq_up w x hs]; exact Same.refl w x
  · have l := loc_restoreDev h hk
    have hq := restoreDev_quiet w x hs
    have hkk : ((w.restoreDev x).dev x).kind = (w.dev x).kind := (l.fr.ka x).1
    have hT' : isT ((w.restoreDev x).dev x).kind = true := by rw [hkk]; exact hT
    refine same_of_loc h l hns ?_ ?_
    · rw [tdm_part hT', tdm_part hT]
      have := core_eq_dev_part (core_of_quiet_eq hq) x
      rw [this]
      show ((w.setDev x (restDev w.now (w.dev x))).dev x).part = _
      rw [dev_setDev_same hx]
      rfl
    · intro u r hm
      have hop : opT (tdm (w.dev x)) = false := by
        rw [opT_proc (show (tdm (w.dev x)).kind = .processor from hk)]
        show (!(w.dev x).shutDown) = false
        rw [hs]; rfl
      rcases mem_rem.mp hm with ⟨e, he, _, _⟩ | ⟨e, he, hu, hr⟩
      · have := op_of_pending ht he
        rw [hop] at this; cases this
      · obtain ⟨h1, h2, h3⟩ := mem_finP.mp he
        have ha := ht.asset e (List.mem_append.mpr (Or.inr he))
        obtain ⟨q, hq1, e', he', g1, g2, _, _, g5, g6⟩ :=
          C06.restore_preserves_remaining_delay w x hs h.ei.2 e h1 ha
        refine mem_rem.mpr (Or.inl ⟨e', mem_finE.mpr ⟨he', by rw [g5]; exact h2, by rw [g2]; exact h3⟩,
          by rw [g1]; exact hu, ?_⟩)
        have hn : (w.restoreDev x).env.now = w.now := l.fr.now
        rw [hr, hq1, hn]
        simp only [Option.getD_some]
        omega

/-- What a sequence of moves does to a device that does not fail: if it had a timer, it still has
exactly that timer and the same part in process. -/
def Trk (F : Nat → Prop) (w w' : World) : Prop :=
  ∀ x, (w.dev x).kind ≠ .source → ¬ F x → rem w.env x = [] ∨ Same w w' x

theorem Atom.trk {F : Nat → Prop} {w w' : World} (h : FI w) (a : Atom F w w') : Trk F w w' := by
  intro y hk hF
  cases a with
  | frame f => exact Or.inr (same_of_fr f hk)
  | accept x p hx hT hc =>
    obtain ⟨h1, h2, h3⟩ := canAccept_T hT hc
    by_cases hy : y = x
    · subst hy
      exact Or.inl (timerAt_rem_nil (h.timer y hk) (by rw [tdm_part hT]; exact h1))
    · exact Or.inr (same_of_loc_ne (loc_acceptPart h p hx hT h1 h2 h3) hy hk)
  | clear x => exact Or.inr (same_clear w x y)
  | shutdown x hkx =>
    by_cases hy : y = x
    · subst hy; exact Or.inr (same_shutdown h hkx)
    · exact Or.inr (same_of_loc_ne (loc_shutdown h hkx) hy hk)
  | restore x hkx =>
    by_cases hy : y = x
    · subst hy; exact Or.inr (same_restore h hkx)
    · exact Or.inr (same_of_loc_ne (loc_restoreDev h hkx) hy hk)
  | fail x hkx hFx =>
    by_cases hy : y = x
    · subst hy; exact absurd hFx hF
    · exact Or.inr (same_of_loc_ne (loc_failDev h hkx) hy hk)

theorem Moves.trk {F : Nat → Prop} {w w' : World} (m : Moves F w w') : Trk F w w' := by
  induction m with
  | refl w => exact fun x _ _ => Or.inr (Same.refl w x)
  | cons h a _ ih =>
    intro x hk hF
    rcases a.trk h x hk hF with h0 | h1
    · exact Or.inl h0
    · have hk' := hk
      rw [← ((a.good h).2.ka x).1] at hk'
      rcases ih x hk' hF with h2 | h2
      · left; rw [← h1.1]; exact h2
      · exact Or.inr (h1.trans h2)

end C06T
end SimProc
