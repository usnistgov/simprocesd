/-
C03W with re-wiring — the static data WITHOUT the wiring (`swr w`: static part of every device
except `up` / `down`, which device a maintenance target shuts down, the group table) and the
scripts are never changed by a world whose scripts contain no `create`.
-/
import SimProc.Proofs.C03YSwr

namespace SimProc
namespace C03W
open World C02V

/-- no script creates an asset -/
def NC (w : World) : Prop := ∀ l ∈ w.scripts, ∀ op ∈ l, ∀ sp, op ≠ .create sp

/-- static devices (the wiring aside) / targets and scripts are unchanged -/
def SWR (w w' : World) : Prop := swr w' = swr w ∧ w'.scripts = w.scripts


theorem NC.of_swr {w w' : World} (h : NC w) (r : SWR w w') : NC w' := by
  intro l hl op hop
  rw [r.2] at hl
  exact h l hl op hop

theorem SWR.blind : Blind SWR := swr_blind.and blind_scripts

/-- The events of a world whose scripts do not create. -/
theorem SWR.events : RunClosed NC SWR :=
  SWR.blind.events NC.of_swr fun w op h ⟨l, hl, hop⟩ =>
    SWR.blind.applyOp w op (h l hl op hop) fun d ups _ => ⟨swr_rewire w d ups, scripts_rewire w d ups⟩

theorem swrw_runScript (w : World) (k : Nat) (h : NC w) : SWR w (w.runScript k) :=
  SWR.events.runScript w k h

theorem swrw_step (w w' : World) (e : Event) (h : NC w) (hst : w.step = some (e, w')) : SWR w w' :=
  SWR.events.step h hst

theorem swrw_runLoop (n : Nat) : ∀ (w : World), NC w → SWR w (runLoop n w) := SWR.events.runLoop n

theorem swrw_runBegin (w : World) (d : Int) : SWR w (w.runBegin d).1 := SWR.blind.runBegin w d

theorem swrw_simulateInit (w : World) : SWR w w.simulateInit := SWR.blind.simulateInit w

end C03W
end SimProc
