/-
C14W, pass 2 (continued) — the functions of `Model/World.lean`; the action of an event.
-/
import SimProc.Proofs.C14WParFloor2

namespace SimProc
namespace C14W
open World C01W

macro_rules | `(tactic| pp_step) => `(tactic| with_reducible apply PP.of_EK (EK_modMaint _ _ _) rfl rfl)
macro_rules | `(tactic| pp_step) => `(tactic| with_reducible apply PP.of_EK (EK_setVar _ _ _) rfl rfl)

section
variable {Q : Env → Env → Prop} {s1 m1 s2 m2 : Nat}
local notation "PP'" => PP Q s1 m1 s2 m2

theorem pp_startOrders (hQ : Cong Q s1 m1 s2 m2) {w : World} {t : Twin} (h : PP' w t)
    (m : Nat) (st : List Order) :
    PP' (w.startOrders m st) (NX (fun v => v.startOrders m st) w t) := by
  pp_go h [startOrders]

theorem pp_schedUpdate (hQ : Cong Q s1 m1 s2 m2) {w : World} {t : Twin} (h : PP' w t)
    (s : Nat) (adv : Bool) :
    PP' (w.schedUpdate s adv) (NX (fun v => v.schedUpdate s adv) w t) := by
  have h' : ∀ (st : Int) (w : World) (t : Twin) (a : Nat × Option Nat),
      (match a with | (o, ovr) => (sw w t).addRes (.act s o (sw w t).now st ovr)) =
        sw (match a with | (o, ovr) => w.addRes (.act s o w.now st ovr)) t := by
    intro st w t a; rfl
  pp_go h [schedUpdate, h']

end

macro_rules | `(tactic| pp_step) => `(tactic| with_reducible apply pp_startOrders ‹Cong _ _ _ _ _›)
macro_rules | `(tactic| pp_step) => `(tactic| with_reducible apply pp_schedUpdate ‹Cong _ _ _ _ _›)

section
variable {Q : Env → Env → Prop} {s1 m1 s2 m2 : Nat}
local notation "PP'" => PP Q s1 m1 s2 m2

theorem pp_initAsset (hQ : Cong Q s1 m1 s2 m2) {w : World} {t : Twin} (h : PP' w t)
    (a : AssetRef) : PP' (w.initAsset a) (NX (fun v => v.initAsset a) w t) := by
  pp_go h [initAsset]

/-- The registration step of `addDev`: the new device gets asset id `registration index + 1 ≥ 1`. -/
theorem pp_addDev_reg {w : World} {t : Twin} (h : PP' w t) (d : Dev) (a : AssetRef) :
    PP' { w with devs := w.devs ++ [{ d with aid := w.assets.length + 1, up := [] }],
                 assets := w.assets ++ [a] } t := by
  refine ⟨⟨?_, h.good.scr⟩, h.seed, h.wmod, h.tseed, h.twmod, h.q⟩
  intro x hx
  simp only [List.map_append, List.map_cons, List.map_nil, List.mem_append, List.mem_singleton] at hx
  rcases hx with hx | hx
  · exact h.good.aid x hx
  · subst hx; omega

end

macro_rules | `(tactic| pp_step) => `(tactic| with_reducible apply pp_initAsset ‹Cong _ _ _ _ _›)
macro_rules | `(tactic| pp_step) => `(tactic| with_reducible apply pp_addDev_reg)

section
variable {Q : Env → Env → Prop} {s1 m1 s2 m2 : Nat}
local notation "PP'" => PP Q s1 m1 s2 m2

theorem pp_addDev (hQ : Cong Q s1 m1 s2 m2) {w : World} {t : Twin} (h : PP' w t)
    (d : Dev) : PP' (w.addDev d) (NX (fun v => v.addDev d) w t) := by
  pp_go h [addDev]

end

macro_rules | `(tactic| pp_step) => `(tactic| with_reducible apply pp_addDev ‹Cong _ _ _ _ _›)

section
variable {Q : Env → Env → Prop} {s1 m1 s2 m2 : Nat}
local notation "PP'" => PP Q s1 m1 s2 m2

theorem pp_addAsset (hQ : Cong Q s1 m1 s2 m2) {w : World} {t : Twin} (h : PP' w t)
    (spec : AssetSpec) : PP' (w.addAsset spec) (NX (fun v => v.addAsset spec) w t) := by
  pp_go h [addAsset]

end

macro_rules | `(tactic| pp_step) => `(tactic| with_reducible apply pp_addAsset ‹Cong _ _ _ _ _›)

end C14W
end SimProc
