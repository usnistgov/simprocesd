/-
C09W — the pool invariant of the resource manager (`C09.Inv`) at world level, for a class that
allows operations issued from outside and scripted operations on the manager.

Base machinery: the static clause `ReqWF` (requests of scripted `reserve` / partial `release`
operations and of declared or constructed processors are dictionaries: distinct keys), the
closed-world invariant `Q` (`C09.Inv w.rm` and `ReqWF w`), the conditional relation
`R w w' := Q w → Q w'`, a decidable form `InvD` of `C09.Inv`, and a peeling tactic
(`r_step` / `r_auto`) in the style of `C10WCBase`.
-/
import SimProc.Proofs.C10WInv
import SimProc.Props.C09

namespace SimProc
namespace C09W
open World FloorCoreL

/-! ### a decidable form of `C09.Inv` -/

instance (q : Req) : Decidable (C09.NodupKeys q) := by unfold C09.NodupKeys; infer_instance

/-- `C09.Inv` with every quantifier bounded (decidable). -/
structure InvD (rm : RM) : Prop where
  poolKeys : (rm.pools.map (·.1)).Nodup
  resvIds : ∀ i : Fin rm.resv.length, (rm.resv[i]).1 = i.val
  heldKeys : ∀ p ∈ rm.resv, C09.NodupKeys p.2
  heldPos : ∀ p ∈ rm.resv, ∀ e ∈ p.2, 0 < e.2
  heldKnown : ∀ p ∈ rm.resv, ∀ e ∈ p.2, (rm.lookup e.1).isSome
  usageEq : ∀ p ∈ rm.pools, rm.usage p.1 = C09.heldSum rm p.1
  capNonneg : ∀ p ∈ rm.pools, 0 ≤ p.2.2

instance (rm : RM) : Decidable (InvD rm) :=
  decidable_of_iff
    ((rm.pools.map (·.1)).Nodup ∧ (∀ i : Fin rm.resv.length, (rm.resv[i]).1 = i.val) ∧
      (∀ p ∈ rm.resv, C09.NodupKeys p.2) ∧ (∀ p ∈ rm.resv, ∀ e ∈ p.2, 0 < e.2) ∧
      (∀ p ∈ rm.resv, ∀ e ∈ p.2, (rm.lookup e.1).isSome) ∧
      (∀ p ∈ rm.pools, rm.usage p.1 = C09.heldSum rm p.1) ∧ (∀ p ∈ rm.pools, 0 ≤ p.2.2))
    ⟨fun ⟨a, b, c, d, e, f, g⟩ => ⟨a, b, c, d, e, f, g⟩,
     fun h => ⟨h.poolKeys, h.resvIds, h.heldKeys, h.heldPos, h.heldKnown, h.usageEq, h.capNonneg⟩⟩

theorem isum_zero (l : List Int) (h : ∀ x ∈ l, x = 0) : isum l = 0 := by
  induction l with
  | nil => rfl
  | cons a l ih =>
    rw [isum_cons, ih (fun x hx => h x (List.mem_cons_of_mem _ hx)), h a List.mem_cons_self]
    rfl

theorem invD_iff (rm : RM) : InvD rm ↔ C09.Inv rm := by
  constructor
  · intro h
    refine ⟨h.poolKeys, fun i hi => h.resvIds ⟨i, hi⟩, h.heldKeys, h.heldPos, h.heldKnown, ?_,
      h.capNonneg⟩
    intro r
    cases hl : rm.lookup r with
    | some v =>
      have hm : (r, v) ∈ rm.pools := mem_of_alookup _ _ _ hl
      exact h.usageEq _ hm
    | none =>
      have hu : rm.usage r = 0 := by simp [RM.usage, hl]
      rw [hu, C09.heldSum_eq]
      symm
      apply isum_zero
      intro x hx
      obtain ⟨p, hp, rfl⟩ := List.mem_map.1 hx
      apply RM.amtOf_of_not_mem
      intro hm
      obtain ⟨e, he, he1⟩ := List.mem_map.1 hm
      have := h.heldKnown p hp e he
      rw [he1, hl] at this
      cases this
  · intro h
    exact ⟨h.poolKeys, fun i => h.resvIds i.val i.isLt, h.heldKeys, h.heldPos, h.heldKnown,
      fun p _ => h.usageEq p.1, h.capNonneg⟩

instance (rm : RM) : Decidable (C09.Inv rm) := decidable_of_iff _ (invD_iff rm)

/-- The pool invariant only reads the pools and the reservations. -/
theorem inv_congr {rm rm' : RM} (h : C09.Inv rm) (hp : rm'.pools = rm.pools)
    (hr : rm'.resv = rm.resv) : C09.Inv rm' := by
  obtain ⟨p, r, wt, ini⟩ := rm
  obtain ⟨p', r', wt', ini'⟩ := rm'
  simp only at hp hr
  subst hp hr
  exact ⟨h.poolKeys, h.resvIds, h.heldKeys, h.heldPos, h.heldKnown, h.usageEq, h.capNonneg⟩

/-! ### the static clause -/

/-- A declared request is a dictionary. -/
def reqOK (o : Option Req) : Prop := ∀ q, o = some q → C09.NodupKeys q

instance (o : Option Req) : Decidable (reqOK o) :=
  match o with
  | none => isTrue (fun _ h => by cases h)
  | some q => decidable_of_iff (C09.NodupKeys q)
      ⟨fun h _ e => by cases e; exact h, fun h => h q rfl⟩

/-- A constructor call declares a dictionary. -/
def specWF : AssetSpec → Prop
  | .dev d => reqOK d.resReq
  | _ => True

instance (s : AssetSpec) : Decidable (specWF s) := by
  cases s <;> unfold specWF <;> infer_instance

/-- **Well-formed operations**: the request of a `reserve`, the part named by a partial
`release` and the request declared by a constructed processor have distinct keys (they are Python
`dict`s).  Nothing is asked of the AMOUNTS (zero, negative, unknown resources are allowed), nothing
of `register` (the request of a waiting script is only tested for feasibility), `merge`,
`addRes`. -/
def opWF : Op → Prop
  | .reserve _ req => C09.NodupKeys req
  | .release _ (some rel) => C09.NodupKeys rel
  | .create s => specWF s
  | _ => True

instance (o : Op) : Decidable (opWF o) := by
  cases o with
  | release h part => cases part <;> unfold opWF <;> infer_instance
  | _ => unfold opWF <;> infer_instance

def ScriptsWF (w : World) : Prop := ∀ l ∈ w.scripts, ∀ op ∈ l, opWF op
def DevsWF (w : World) : Prop := ∀ d ∈ w.devs, reqOK d.resReq

instance (w : World) : Decidable (ScriptsWF w) := by unfold ScriptsWF; infer_instance
instance (w : World) : Decidable (DevsWF w) := by unfold DevsWF; infer_instance

/-- **The static clause `ReqWF`**: every scripted operation is well-formed (`opWF`) and every
declared processor request is a dictionary. -/
def ReqWF (w : World) : Prop := ScriptsWF w ∧ DevsWF w

instance (w : World) : Decidable (ReqWF w) := by unfold ReqWF; infer_instance

/-! ### the invariant and the relation -/

/-- **The closed-world invariant of C09W.** -/
structure Q (w : World) : Prop where
  inv : C09.Inv w.rm
  scr : ScriptsWF w
  dev : DevsWF w

/-- **The conditional relation.** -/
def R (w w' : World) : Prop := Q w → Q w'

theorem R.refl (w : World) : R w w := id
theorem R.trans {a b c : World} (h1 : R a b) (h2 : R b c) : R a c := fun h => h2 (h1 h)
theorem R.with_Q {w w' : World} (h : Q w → R w w') : R w w' := fun hq => h hq hq

/-- What `R` observes of a world. -/
def KR (w : World) : RM × List (List Op) × List (Option Req) :=
  (w.rm, w.scripts, w.devs.map (·.resReq))

theorem KR_rm {w w' : World} (h : KR w' = KR w) : w'.rm = w.rm := congrArg Prod.fst h
theorem KR_scr {w w' : World} (h : KR w' = KR w) : w'.scripts = w.scripts :=
  congrArg (fun q => q.2.1) h
theorem KR_devs {w w' : World} (h : KR w' = KR w) :
    w'.devs.map (·.resReq) = w.devs.map (·.resReq) := congrArg (fun q => q.2.2) h

theorem devsWF_iff (w : World) : DevsWF w ↔ ∀ o ∈ w.devs.map (·.resReq), reqOK o := by
  unfold DevsWF
  simp only [List.mem_map, forall_exists_index, and_imp, forall_apply_eq_imp_iff₂]

theorem DevsWF.of_map {w w' : World} (h : DevsWF w)
    (hd : w'.devs.map (·.resReq) = w.devs.map (·.resReq)) : DevsWF w' := by
  rw [devsWF_iff] at h ⊢
  rw [hd]; exact h

theorem Q.of_KR {w w' : World} (h : Q w) (hk : KR w' = KR w) : Q w' := by
  refine ⟨by rw [KR_rm hk]; exact h.inv, ?_, h.dev.of_map (KR_devs hk)⟩
  unfold ScriptsWF; rw [KR_scr hk]; exact h.scr

theorem R.of_KR {w w' : World} (h : KR w' = KR w) : R w w' := fun hq => hq.of_KR h

theorem R.trans_KR {a b c : World} (h1 : R a b) (h : KR c = KR b) : R a c :=
  h1.trans (R.of_KR h)

theorem R.foldl {α} (g : World → α → World) (l : List α) (w : World)
    (h : ∀ w a, R w (g w a)) : R w (l.foldl g w) := by
  induction l generalizing w with
  | nil => exact R.refl w
  | cons a l ih => exact (h w a).trans (ih _)

theorem KR_foldl {α} (g : World → α → World) (l : List α) (w : World)
    (h : ∀ w a, KR (g w a) = KR w) : KR (l.foldl g w) = KR w :=
  foldl_preserve KR g l w h

/-- The declared request of a device of a well-formed world is a dictionary. -/
theorem DevsWF.dev {w : World} (h : DevsWF w) {x : Nat} {req : Req}
    (hreq : (w.dev x).resReq = some req) : C09.NodupKeys req := by
  have hx : x < w.devs.length := C10W.lt_of_resReq hreq
  exact h _ (C11W.mem_devs_of_lt hx) req hreq

/-! ### primitives -/

@[simp] theorem KR_setErr (w : World) (m : String) : KR (w.setErr m) = KR w := by
  unfold setErr; split <;> rfl
@[simp] theorem KR_addRes (w : World) (r : Res) : KR (w.addRes r) = KR w := rfl
@[simp] theorem KR_addRec (w : World) (r : Rec) : KR (w.addRec r) = KR w := rfl
@[simp] theorem KR_modPart (w : World) (p : Nat) (f : PartRec → PartRec) :
    KR (w.modPart p f) = KR w := rfl
@[simp] theorem KR_newPart (w : World) (r : PartRec) : KR (w.newPart r).1 = KR w := rfl
@[simp] theorem KR_envOp (w : World) (op : EnvOp) : KR (w.envOp op) = KR w := rfl

theorem KR_setDev (w : World) (x : Nat) (d : Dev) (h : d.resReq = (w.dev x).resReq) :
    KR (w.setDev x d) = KR w := by
  unfold KR World.setDev
  simp only
  rw [map_set_of_eq (·.resReq) w.devs x d default h]

theorem KR_modDev (w : World) (x : Nat) (f : Dev → Dev)
    (h : (f (w.dev x)).resReq = (w.dev x).resReq) : KR (w.modDev x f) = KR w :=
  KR_setDev w x _ h

theorem R_setDev (w : World) (x : Nat) (d : Dev) (h : d.resReq = (w.dev x).resReq) :
    R w (w.setDev x d) := R.of_KR (KR_setDev w x d h)

theorem R_modDev (w : World) (x : Nat) (f : Dev → Dev)
    (h : (f (w.dev x)).resReq = (w.dev x).resReq) : R w (w.modDev x f) :=
  R.of_KR (KR_modDev w x f h)

theorem KR_sched (w : World) (t a : Int) (act : Action) (p : Int) :
    KR (w.sched t a act p).1 = KR w := by
  unfold World.sched
  simp only [Env.apply]
  cases w.env.schedule t a act.toNat p (weightOf w.seed w.wmod t a act.toNat p) <;> rfl

theorem KR_schedLib (w : World) (t a : Int) (act : Action) (p : Int) :
    KR (w.schedLib t a act p) = KR w := by
  unfold schedLib
  have h := KR_sched w t a act p
  generalize w.sched t a act p = s at h ⊢
  obtain ⟨w', r⟩ := s
  cases r <;> simp only [] <;> first | exact h | (rw [KR_setErr]; exact h)

theorem KR_rmEffects (w : World) (recs : List ResRec) (chk : Bool) :
    KR (w.rmEffects recs chk) = KR w := by
  unfold rmEffects
  dsimp only
  have h : KR (recs.foldl (fun w r => w.addRec (.resUpdate r.res w.now r.inUse r.cap)) w) = KR w :=
    KR_foldl _ _ _ (fun _ _ => rfl)
  split
  · rw [KR_schedLib, h]
  · exact h

/-! ### operations of the manager -/

/-- One operation of the manager that keeps the pool invariant, together with its effects. -/
theorem R_rmStep (w : World) (rm' : RM) (recs : List ResRec) (chk : Bool)
    (h : C09.Inv w.rm → C09.Inv rm') : R w (({ w with rm := rm' } : World).rmEffects recs chk) := by
  intro hq
  have hk := KR_rmEffects ({ w with rm := rm' } : World) recs chk
  refine ⟨?_, ?_, ?_⟩
  · rw [KR_rm hk]; exact h hq.inv
  · unfold ScriptsWF; rw [KR_scr hk]; exact hq.scr
  · exact hq.dev.of_map (KR_devs (w := ({ w with rm := rm' } : World)) hk)

theorem R_rmSet (w : World) (rm' : RM) (h : C09.Inv w.rm → C09.Inv rm') :
    R w ({ w with rm := rm' } : World) :=
  fun hq => ⟨h hq.inv, hq.scr, hq.dev⟩

/-! ### the peeling tactic -/

syntax "r_step" : tactic

macro "r_auto" : tactic => `(tactic| repeat' first | r_step | split | dsimp only)

macro_rules | `(tactic| r_step) => `(tactic| peel_struct R.trans_KR)
macro_rules | `(tactic| r_step) => `(tactic|
  ((with_reducible apply R.trans (h2 := R.foldl _ _ _ ?hs)); case hs => (intro _ _; r_auto; done)))
macro_rules | `(tactic| r_step) => `(tactic| with_reducible apply R.trans_KR (h := KR_rmEffects _ _ _))
macro_rules | `(tactic| r_step) => `(tactic| with_reducible apply R.trans_KR (h := KR_envOp _ _))
macro_rules | `(tactic| r_step) => `(tactic| with_reducible apply R.trans_KR (h := KR_schedLib _ _ _ _ _))
macro_rules | `(tactic| r_step) => `(tactic| with_reducible apply R.trans_KR (h := KR_sched _ _ _ _ _))
macro_rules | `(tactic| r_step) => `(tactic| with_reducible apply R.trans_KR (h := KR_setErr _ _))
macro_rules | `(tactic| r_step) => `(tactic| with_reducible apply R.trans_KR (h := KR_addRes _ _))
macro_rules | `(tactic| r_step) => `(tactic| with_reducible apply R.trans_KR (h := KR_addRec _ _))
macro_rules | `(tactic| r_step) => `(tactic|
  ((with_reducible apply R.trans (h2 := R_modDev _ _ _ ?hp)); case hp => exact rfl))
macro_rules | `(tactic| r_step) => `(tactic|
  ((with_reducible apply R.trans (h2 := R_setDev _ _ _ ?hp)); case hp => exact rfl))
macro_rules | `(tactic| r_step) => `(tactic| with_reducible exact R.refl _)

end C09W
end SimProc
