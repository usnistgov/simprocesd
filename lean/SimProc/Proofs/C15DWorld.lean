/-
C15D / C16D — machinery, part 2: the functions of `Model/World.lean` — constructor calls included —
are `DStep`s / `DRun`s on keys.

Generic in the condition on created devices: `Ctx P R S` says that a constructor call `S spec`
issued in a world whose key satisfies `R` creates devices that satisfy `P`, and that `R` survives
everything that hands no part over (`Phase.still`).  (`R = True` for the general theorems; `R` =
"no `received_part` record of a device that does not exist" for the per-sink theorems.)
-/
import SimProc.Proofs.C15DKey
import SimProc.Proofs.C15DStarted

namespace SimProc
namespace C15D
open World FloorCoreL C15 C15W RM

variable {P : WKey → DKey → Prop} {ph : Phase}

/-- `w'` is a `DStep` away from `w`. -/
def DS (P : WKey → DKey → Prop) (ph : Phase) (w w' : World) : Prop := DStep P ph (key w) (key w')

theorem DS.refl (w : World) : DS P ph w w := DStep.refl _
theorem DS.trans {a b c : World} (h1 : DS P ph a b) (h2 : DS P ph b c) : DS P ph a c := DStep.trans h1 h2
theorem DS.of_KS {w w' : World} (h : KS ph w w') : DS P ph w w' := DStep.ks h
theorem DS.of_key {w w' : World} (h : key w' = key w) : DS P ph w w' := DS.of_KS (KS.of_key h)
theorem DS.trans_KS {a b c : World} (h1 : DS P ph a b) (h2 : KS ph b c) : DS P ph a c :=
  h1.trans (DS.of_KS h2)

/-- everything but hand-overs -/
def _root_.SimProc.C15W.Phase.still : Phase := ⟨false, true, true, true⟩

/-- The operations whose constructor payloads satisfy `S`. -/
def OpS (S : AssetSpec → Prop) (op : Op) : Prop := ∀ s, op = .create s → S s

/-- All constructor payloads of the scripts satisfy `S`. -/
def ScriptsS (S : AssetSpec → Prop) (w : World) : Prop := ∀ l ∈ w.scripts, ∀ op ∈ l, OpS S op

theorem ScriptsS.of_scripts {S : AssetSpec → Prop} {w w' : World} (h : ScriptsS S w)
    (e : w'.scripts = w.scripts) : ScriptsS S w' := by
  unfold ScriptsS; rw [e]; exact h

/-- The context of the generic lemmas. -/
structure Ctx (P : WKey → DKey → Prop) (R : WKey → Prop) (S : AssetSpec → Prop) (U : Prop) : Prop where
  /-- an admissible device constructor call on a started system creates an admissible device (the
  value bookkeeping is reset by the initialisation that follows at once) -/
  dev : ∀ k (d : Dev), R k → S (.dev d) → P k { dkey d with val := d.val.reset }
  /-- the same on a system that has not started, if such systems are considered at all (`U`) -/
  dev0 : U → ∀ k (d : Dev), R k → S (.dev d) → P k (dkey d)
  /-- the controllers of a group are admissible -/
  ctl : ∀ k (kd : Kind) (g : Nat), R k → P k (dkey ({ kind := kd, group := g } : Dev))
  /-- `R` survives everything that hands no part over -/
  still : ∀ {k k'}, DStep P Phase.still k k' → R k → R k'
  /-- `R` does not look at the event queue -/
  env : ∀ k (e : Env), R k → R { k with env := e }

variable {R : WKey → Prop} {S : AssetSpec → Prop} {U : Prop}

theorem Ctx.keep (ctx : Ctx P R S U) {w w' : World} (h : DS P Phase.still w w') (hR : R (key w)) :
    R (key w') := ctx.still h hR

/-! ### a device constructor (on a started system)

`System.add_asset` initialises the new device at once; `initialize` resets its value bookkeeping, so
whatever `val` the constructor payload carries, the device that appears is `{ d with val := reset }`
(`KStep.resetAt`: the wiring in between does not look at it). -/

theorem KS_initDev_rest (w : World) (x : Nat) : KS ph (C02V.initFlag w x) (w.initDev x) := by
  rw [C02V.initDev_eq]
  split <;> ks_auto

theorem key_addDev1 (w : World) (d : Dev) :
    key (C02V.addDev1 w d) = { key w with devs := (key w).devs ++ [dkey d] } := by
  simp [key, C02V.addDev1, dkey]

theorem key_regPath (w : World) (d : Dev) (i : Nat) : key (C02V.regPath w d i) = key w := by
  unfold C02V.regPath; split <;> rfl

theorem key_initFlag (w : World) (x : Nat) : key (C02V.initFlag w x) = resetAt x (key w) := by
  unfold C02V.initFlag World.modDev
  rw [key_setDev_eq]
  unfold resetAt WKey.setDev
  rw [key_dev]
  rfl

/-- What a device constructor call does to the key, as a chain of sites. -/
theorem addDev_chain (w : World) (d : Dev) (hst : w.started = true) :
    KStep ph { key w with devs := (key w).devs ++ [{ dkey d with val := d.val.reset }] } (key (w.addDev d)) := by
  rw [C02V.addDev_eq]
  have s2 : KS Phase.quiet (C02V.addDev1 w d)
      (C02V.regPath ((C02V.addDev1 w d).rewire w.devs.length d.up) d w.devs.length) :=
    (KS_rewire _ _ _).trans (KS.of_key (key_regPath _ _ _))
  have hst3 : (C02V.regPath ((C02V.addDev1 w d).rewire w.devs.length d.up) d w.devs.length).started = true := by
    rw [(C20W.Same_regPath _ _ _).started, (C20W.Same_rewire _ _ _).started]
    exact hst
  rw [if_pos hst3]
  have s2' := ((KStep.resetAt w.devs.length s2 rfl rfl rfl).mono (Phase.quiet_le ph))
  rw [key_addDev1, ← key_initFlag] at s2'
  have e1 : resetAt w.devs.length { key w with devs := (key w).devs ++ [dkey d] } =
      { key w with devs := (key w).devs ++ [{ dkey d with val := d.val.reset }] } := by
    have := resetAt_newDev (key w) (dkey d)
    rw [key_devs_length] at this
    exact this
  rw [e1] at s2'
  exact s2'.trans (KS_initDev_rest _ _)

/-- The same on a system that has not started: the device is registered and wired up only. -/
theorem addDev_chain0 (w : World) (d : Dev) (hst : w.started = false) :
    KStep ph { key w with devs := (key w).devs ++ [dkey d] } (key (w.addDev d)) := by
  rw [C02V.addDev_eq]
  have s2 : KS ph (C02V.addDev1 w d)
      (C02V.regPath ((C02V.addDev1 w d).rewire w.devs.length d.up) d w.devs.length) :=
    (KS_rewire _ _ _).trans (KS.of_key (key_regPath _ _ _))
  have hst3 : (C02V.regPath ((C02V.addDev1 w d).rewire w.devs.length d.up) d w.devs.length).started = false := by
    rw [(C20W.Same_regPath _ _ _).started, (C20W.Same_rewire _ _ _).started]
    exact hst
  rw [if_neg (by simp [hst3])]
  unfold KS at s2
  rw [key_addDev1] at s2
  exact s2

theorem DS_addDev (w : World) (d : Dev) (hP : P (key w) { dkey d with val := d.val.reset })
    (hP0 : w.started = false → P (key w) (dkey d)) : DS P ph w (w.addDev d) := by
  cases hst : w.started with
  | true => exact (DStep.newDev (key w) _ hP).trans (DStep.ks (addDev_chain w d hst))
  | false => exact (DStep.newDev (key w) _ (hP0 hst)).trans (DStep.ks (addDev_chain0 w d hst))

theorem started_of_or {w : World} (hst : w.started = true ∨ U) (h0 : w.started = false) : U :=
  hst.resolve_left (by simp [h0])

/-- The key after a device constructor call: one device key appended (its value bookkeeping reset
by the initialisation), nothing else changed in the list. -/
theorem key_devs_addDev (w : World) (d : Dev) (hst : w.started = true) :
    (key (w.addDev d)).devs = (key w).devs ++ [{ dkey d with val := d.val.reset }] :=
  (KStep.frame_quiet (addDev_chain (ph := .quiet) w d hst) rfl rfl rfl).1

/-! ### the other constructors -/

theorem key_initMaint_fresh (w : World) (m : Nat) (h : VFresh (w.maint m).val) :
    key (w.initAsset (.maint m)) = key w := by
  unfold key initAsset
  simp only
  rw [map_set_of_eq (fun mw : MaintW => mw.m.val) w.maints m _ default]
  show (w.maint m).val.reset = (w.maint m).val
  exact h.reset

theorem KS_initSensor (w : World) (s : Nat) : KS ph w (w.initAsset (.sensor s)) := by
  unfold initAsset
  dsimp only
  ks_auto

theorem started_foldl_rewire (l : List Nat) (n : Nat) (w : World) :
    (l.foldl (fun v d => v.rewire d [n]) w).started = w.started := by
  induction l generalizing w with
  | nil => rfl
  | cons a l ih => rw [List.foldl_cons, ih]; exact (C20W.Same_rewire _ _ _).started

theorem DS_groupShape (ctx : Ctx P R S U) (w w0 : World) (gid n m : Nat) (l1 l2 : List Nat)
    (hR : R (key w)) (hk : key w0 = key w) :
    DS P ph w (((l1.foldl (fun v d => v.rewire d [n]) (w0.addDev { kind := .ginput, group := gid })).addDev
      { kind := .goutput, group := gid }).rewire m l2) := by
  have hc : ∀ (v : World) (kd : Kind), R (key v) →
      ∀ ph', DS P ph' v (v.addDev { kind := kd, group := gid }) :=
    fun v kd hv ph' => DS_addDev v _ (ctx.ctl _ kd gid hv) (fun _ => ctx.ctl _ kd gid hv)
  have d2 : ∀ ph', DS P ph' w0
      (l1.foldl (fun v d => v.rewire d [n]) (w0.addDev { kind := .ginput, group := gid })) :=
    fun ph' => (hc w0 .ginput (by rw [hk]; exact hR) ph').trans_KS (KS.foldl _ _ _ (fun v d => KS_rewire v d [n]))
  have hR0 : R (key w0) := by rw [hk]; exact hR
  have hR2 := ctx.keep (d2 _) hR0
  exact (DS.of_key hk).trans (((d2 ph).trans (hc _ .goutput hR2 ph)).trans_KS (KS_rewire _ _ _))

theorem key_addMaint (w : World) (mw : MaintW) (as : List AssetRef) :
    key ({ w with maints := w.maints ++ [mw], assets := as } : World) =
      { key w with mvals := (key w).mvals ++ [mw.m.val] } := by
  simp [key]

theorem maint_append (w : World) (mw : MaintW) (as : List AssetRef) :
    ({ w with maints := w.maints ++ [mw], assets := as } : World).maint w.maints.length = mw.m := by
  unfold World.maint
  show ((w.maints ++ [mw]).getD w.maints.length default).m = mw.m
  rw [getD_append_singleton]

theorem DS_addAsset (ctx : Ctx P R S U) (w : World) (spec : AssetSpec) (hS : S spec) (hR : R (key w))
    (hst : w.started = true ∨ U) : DS P ph w (w.addAsset spec) := by
  cases spec with
  | dev d => exact DS_addDev w d (ctx.dev _ d hR hS) (fun h0 => ctx.dev0 (started_of_or hst h0) _ d hR hS)
  | group gid devs ins outs =>
    unfold addAsset
    dsimp only
    exact DS_groupShape ctx w _ gid _ _ _ _ hR (by exact rfl)
  | maint cap v =>
    unfold addAsset
    dsimp only
    have s1 : DS P ph w ({ w with
        maints := w.maints ++ [({ m := { cap := cap, val := { init := v, value := v } }, aid := w.assets.length + 1 } : MaintW)],
        assets := w.assets ++ [AssetRef.maint w.maints.length] } : World) := by
      unfold DS
      rw [key_addMaint]
      exact DStep.newMaint (key w) _ ⟨rfl, rfl⟩
    split
    · refine s1.trans (DS.of_key (key_initMaint_fresh _ _ ?_))
      rw [maint_append]
      exact ⟨rfl, rfl⟩
    · exact s1
  | sched tt cyc =>
    unfold addAsset
    dsimp only
    split
    · exact DS.of_KS ((KS.of_key (by exact rfl)).trans (KS_schedUpdate _ _ false))
    · exact DS.of_key rfl
  | sensor sw =>
    unfold addAsset
    dsimp only
    split
    · exact DS.of_KS ((KS.of_key (by exact rfl)).trans (KS_initSensor _ _))
    · exact DS.of_key rfl
  | cms => exact DS.of_key rfl

/-! ### scripted operations -/

theorem DS_applyOp (ctx : Ctx P R S U) (w : World) (op : Op) (hop : OpS S op) (hR : R (key w))
    (hst : w.started = true ∨ U) : DS P ph w (w.applyOp op).1 := by
  by_cases hc : Op.isCreate op = true
  · cases op with
    | create s => exact DS_addAsset ctx w s (hop s rfl) hR hst
    | _ => cases hc
  · exact DS.of_KS (KS_applyOp w op (by simpa using hc))

theorem DS_applyOps (ctx : Ctx P R S U) (ops : List Op) (w : World) (h : ∀ op ∈ ops, OpS S op)
    (hR : R (key w)) (hst : w.started = true ∨ U) : DS P ph w (w.applyOps ops) := by
  induction ops generalizing w with
  | nil => exact DS.refl _
  | cons op ops ih =>
    unfold applyOps
    rw [List.foldl_cons]
    have h1 : ∀ ph', DS P ph' w ((w.applyOp op).1.addRes (w.applyOp op).2) := fun ph' =>
      (DS_applyOp ctx w op (h op (List.mem_cons_self ..)) hR hst).trans_KS (KS_addRes _ _)
    exact (h1 ph).trans (ih _ (fun o ho => h o (List.mem_cons_of_mem _ ho)) (ctx.keep (h1 _) hR)
      (hst.imp (fun h => (started_applyOp w op).trans h) id))

theorem ScriptsS.getD {w : World} (h : ScriptsS S w) (k : Nat) : ∀ op ∈ w.scripts.getD k [], OpS S op := by
  intro op hop
  by_cases hk : k < w.scripts.length
  · have : w.scripts.getD k [] = w.scripts[k] := by simp [List.getD_eq_getElem?_getD, hk]
    rw [this] at hop
    exact h _ (List.getElem_mem hk) op hop
  · have : w.scripts.getD k [] = [] := by simp [List.getD_eq_getElem?_getD, Nat.le_of_not_lt hk]
    rw [this] at hop; cases hop

theorem DS_runScript (ctx : Ctx P R S U) (w : World) (k : Nat) (h : ScriptsS S w) (hR : R (key w))
    (hst : w.started = true ∨ U) : DS P ph w (w.runScript k) := DS_applyOps ctx _ w (h.getD k) hR hst

/-! ### the availability check, the maintainer's events -/

theorem DS_scanWaiting (ctx : Ctx P R S U) (n : Nat) (w : World) (i : Nat) (h : ScriptsS S w)
    (hR : R (key w)) (hst : w.started = true ∨ U) : DS P ph w (scanWaiting scanOps n w i) := by
  induction n generalizing w i with
  | zero => exact DS.refl _
  | succ n ih =>
    rw [scanWaiting]
    split
    · exact DS.refl _
    · split
      · rename_i req cb _ _
        have h1 : (∀ ph', DS P ph' w (scanOps.call w cb req)) ∧ (scanOps.call w cb req).scripts = w.scripts ∧
            ((scanOps.call w cb req).started = true ∨ U) := by
          cases cb with
          | script k =>
            exact ⟨fun ph' => (DS.of_KS (KS_addRes w _)).trans (DS_runScript ctx _ k (h.of_scripts rfl) hR hst),
              (C02V.scr_runScript _ k).trans rfl, hst.imp (fun h => (started_runScript _ k).trans h) id⟩
          | proc d => exact ⟨fun ph' => DS.of_KS (KS_procResourceCb w d), C02V.scr_floor.procResourceCb w d,
              hst.imp (fun h => (C20W.Same_procResourceCb w d).started.trans h) id⟩
        have h2 : ∀ ph', DS P ph' w (scanOps.erase (scanOps.call w cb req) i) := fun ph' =>
          (h1.1 ph').trans_KS (KS_rmStep _ _ [] false (RMok.of_pools rfl rfl))
        exact (h2 ph).trans (ih _ _ (h.of_scripts h1.2.1) (ctx.keep (h2 _) hR) h1.2.2)
      · exact ih _ _ h hR hst

theorem DS_rmCheck (ctx : Ctx P R S U) (w : World) (h : ScriptsS S w) (hR : R (key w))
    (hst : w.started = true ∨ U) : DS P ph w w.rmCheck := DS_scanWaiting ctx _ _ _ h hR hst

theorem DS_hookStart (ctx : Ctx P R S U) (w : World) (tgt : Nat) (tag : Int) (h : ScriptsS S w)
    (hR : R (key w)) (hst : w.started = true ∨ U) : DS P ph w (w.hookStart tgt tag) := by
  unfold hookStart
  dsimp only
  split
  · exact DS.of_KS ((KS_addRes w _).trans (KS_shutdownDev _ _ _ _))
  · split
    · exact (DS.of_KS (KS_addRes w _)).trans (DS_runScript ctx _ _ (h.of_scripts rfl) hR hst)
    · exact DS.of_KS (KS_addRes w _)

theorem DS_hookEnd (ctx : Ctx P R S U) (w : World) (tgt : Nat) (tag : Int) (h : ScriptsS S w)
    (hR : R (key w)) (hst : w.started = true ∨ U) : DS P ph w (w.hookEnd tgt tag) := by
  unfold hookEnd
  dsimp only
  split
  · exact DS.of_KS ((KS_addRes w _).trans (KS_restoreDev _ _))
  · split
    · exact (DS.of_KS (KS_addRes w _)).trans (DS_runScript ctx _ _ (h.of_scripts rfl) hR hst)
    · exact DS.of_KS (KS_addRes w _)

theorem DS_startWork (ctx : Ctx P R S U) (hph : ph.cst = true) (w : World) (m seq : Nat)
    (h : ScriptsS S w) (hR : R (key w)) (hst : w.started = true ∨ U) : DS P ph w (w.startWork m seq) := by
  unfold startWork
  split
  · exact DS.of_KS (KS_setErr _ _)
  · rename_i o _
    dsimp only
    refine DS.trans_KS ?_ (KS_schedLib _ _ _ _ _)
    have h1 : ∀ ph', ph'.cst = true → KS ph' w ((w.addRec (.workOrder 1 m w.now o.target o.tag o.info)).modMaint m
        (fun mm => mm.startCost (w.addRec (.workOrder 1 m w.now o.target o.tag o.info)).now
          ((w.addRec (.workOrder 1 m w.now o.target o.tag o.info)).targetParams o.target o.tag).2.2)) :=
      fun ph' hp => (KS_addRec w _ rfl rfl).trans (KS_startCostSite hp _ m _)
    refine (DS.of_KS (h1 ph hph)).trans (DS_hookStart ctx _ _ _ (h.of_scripts rfl) ?_ hst)
    exact ctx.keep (DS.of_KS (h1 Phase.still rfl)) hR

theorem DS_finishWork (ctx : Ctx P R S U) (w : World) (m seq : Nat) (h : ScriptsS S w) (hR : R (key w))
    (hst : w.started = true ∨ U) : DS P ph w (w.finishWork m seq) := by
  unfold finishWork
  split
  · exact DS.of_KS (KS_setErr _ _)
  · rename_i o _
    dsimp only
    refine DS.trans_KS ?_ (KS_startOrders _ _ _)
    refine DS.trans_KS ?_ (KS_modMaint _ _ _ ?_)
    · refine DS.trans_KS ?_ (KS_addRec _ _ rfl rfl)
      exact (DS_hookEnd ctx w _ _ h hR hst).trans_KS (KS_modMaint _ _ _ rfl)
    · exact tryWork_val _

/-! ### events -/

theorem DS_exec (ctx : Ctx P R S U) (w : World) (a : Action) (h : ScriptsS S w) (hR : R (key w))
    (hst : w.started = true ∨ U)
    (hp : ∀ d, a = .passPart d → ph.moves ∧ ((w.dev d).kind = .source → ph.sup = true))
    (hc : ∀ m o, a = .startWork m o → ph.cst = true) : DS P ph w (w.exec a) := by
  cases a with
  | terminate => exact DS.refl _
  | script k => exact DS_runScript ctx w k h hR hst
  | finishCycle d => exact DS.of_KS (KS_finishCycle w d)
  | passPart d => exact DS.of_KS (KS_passPart (hp d rfl).1 w d (hp d rfl).2)
  | fail d => exact DS.of_KS (KS_failDev w d)
  | releaseIfIdle d => exact DS.of_KS (KS_releaseIfIdle w d)
  | rmCheck => exact DS_rmCheck ctx w h hR hst
  | startWork m o => exact DS_startWork ctx (hc m o rfl) w m o h hR hst
  | finishWork m o => exact DS_finishWork ctx w m o h hR hst
  | schedUpdate s => exact DS.of_KS (KS_schedUpdate w s true)
  | periodicSense s => exact DS.of_KS (KS_periodicSense w s)
  | unknown n => exact DS.of_KS (KS_setErr _ _)

/-- `R` survives every event that is not a `pass_part` event. -/
theorem R_exec (ctx : Ctx P R S U) (w : World) (a : Action) (h : ScriptsS S w) (hR : R (key w))
    (hst : w.started = true ∨ U) (ha : ∀ d, a ≠ .passPart d) : R (key (w.exec a)) :=
  ctx.keep (DS_exec ctx w a h hR hst (fun d e => absurd e (ha d)) (fun _ _ _ => rfl)) hR

/-! ### the event loop -/

theorem DRun_pop_world (w : World) (e : Event) (env' : Env) (h : w.env.step = some (e, env')) :
    DRun P (key w) (key ({ w with env := env' } : World)) := by
  have := DRun.pop (P := P) (key w)
  have e1 : ((key w).env.apply Arith.exact .step).1 = env' := by
    show (w.env.apply Arith.exact .step).1 = env'
    simp only [Env.apply, h]
  rw [e1] at this
  exact this

/-- One step of the event loop.  `hpass`: `R` survives the `pass_part` events of this world (trivial
for `R = True`; for the per-sink theorems this is where closed wiring is used). -/
theorem DRun_step (ctx : Ctx P R S U) {w w' : World} {e : Event} (hn : ScriptsS S w) (hR : R (key w))
    (hst : w.started = true ∨ U)
    (hpass : ∀ env' d, R (key ({ w with env := env' } : World)) →
      R (key (({ w with env := env' } : World).passPart d)))
    (h : w.step = some (e, w')) :
    DRun P (key w) (key w') ∧ ScriptsS S w' ∧ R (key w') := by
  obtain ⟨env', henv, rfl⟩ := step_cases h
  have h1 := DRun_pop_world (P := P) w e env' henv
  have hn1 : ScriptsS S ({ w with env := env' } : World) := hn.of_scripts rfl
  have hR1 : R (key ({ w with env := env' } : World)) := ctx.env _ env' hR
  split
  · refine ⟨h1.trans (DRun.act (DS_exec (ph := .run) ctx _ _ hn1 hR1 hst (fun _ _ => ⟨rfl, fun _ => rfl⟩)
      (fun _ _ _ => rfl))), hn1.of_scripts (C02V.scr_exec _ _), ?_⟩
    by_cases ha : ∃ d, Action.ofNat e.act = .passPart d
    · obtain ⟨d, hd⟩ := ha
      rw [hd]
      exact hpass env' d hR1
    · exact R_exec ctx _ _ hn1 hR1 hst (fun d hd => ha ⟨d, hd⟩)
  · exact ⟨h1, hn1, hR1⟩

/-- Whole runs; `C` is a class of worlds preserved by steps in which `R` survives `pass_part`. -/
theorem DRun_runLoop (ctx : Ctx P R S U) (C : World → Prop)
    (hC : ∀ {w w' : World} {e : Event}, C w → w.step = some (e, w') → C w')
    (hCe : ∀ (w : World) (m : String), C w → C (w.setErr m))
    (hpass : ∀ (w : World), C w → ∀ env' d, R (key ({ w with env := env' } : World)) →
      R (key (({ w with env := env' } : World).passPart d)))
    (n : Nat) (w : World) (hn : ScriptsS S w) (hR : R (key w)) (hst : w.started = true ∨ U) (hc : C w) :
    DRun P (key w) (key (runLoop n w)) ∧ ScriptsS S (runLoop n w) ∧ R (key (runLoop n w)) ∧
      C (runLoop n w) := by
  induction n generalizing w with
  | zero =>
    unfold runLoop
    refine ⟨DRun.act (DS.of_KS (KS_setErr (ph := .run) w _)), hn.of_scripts (C02V.scr_setErr ..), ?_, hCe _ _ hc⟩
    rw [key_setErr]; exact hR
  | succ n ih =>
    unfold runLoop
    split
    · split
      · exact ⟨DRun.refl _, hn, hR, hc⟩
      · rename_i e w' hstep
        have h1 := DRun_step ctx hn hR hst (hpass w hc) hstep
        have h2 := ih w' h1.2.1 h1.2.2 (hst.imp (fun h => (started_step hstep).trans h) id) (hC hc hstep)
        exact ⟨h1.1.trans h2.1, h2.2⟩
    · exact ⟨DRun.refl _, hn, hR, hc⟩

end C15D
end SimProc
