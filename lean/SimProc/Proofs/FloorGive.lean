/-
`tryMove`, `onReceived`, `acceptPart` as moves of the receiving device; the specification of `give`.
-/
import SimProc.Proofs.FloorBatcher
import SimProc.Proofs.Topo
namespace SimProc
namespace C02V
open World

theorem part_of_sv {w w' : World} (h : sv w' = sv w) (x : Nat) : (w'.dev x).part = (w.dev x).part := by
  have := congrArg (fun a => (a.dev x).part) h
  simp only [sv_dev] at this; exact this

theorem output_of_sv {w w' : World} (h : sv w' = sv w) (x : Nat) : (w'.dev x).output = (w.dev x).output := by
  have := congrArg (fun a => (a.dev x).output) h
  simp only [sv_dev] at this; exact this

theorem sdev_of_sv {w w' : World} (h : sv w' = sv w) (x : Nat) : sdev (w'.dev x) = sdev (w.dev x) := by
  have := congrArg (fun a => a.dev x) h
  simp only [sv_dev] at this; exact this

theorem parts_len_of_sv {w w' : World} (h : sv w' = sv w) : w'.parts.length = w.parts.length := by
  have := congrArg (fun a => a.kids.length) h
  simpa [sv] using this

theorem devs_len_of_sv {w w' : World} (h : sv w' = sv w) : w'.devs.length = w.devs.length := by
  have := congrArg (fun a => a.devs.length) h
  simpa [sv] using this

theorem perm_aux (p : Nat) (O B I : List Nat) : (p :: (O ++ (B ++ I))).Perm (O ++ (B ++ p :: I)) := by
  rw [← List.append_assoc, ← List.append_assoc]; exact List.perm_middle.symm

/-! ### `tryMove` -/

theorem sv_tryMove_buffer (w : World) (x p : Nat) (hk : (w.dev x).kind = .buffer)
    (hp : (w.dev x).part = some p) :
    sv (w.tryMove x) = sv (w.setDev x { w.dev x with buf := (w.dev x).buf ++ [(w.now, p)], part := none }) := by
  simp only [World.tryMove, hk, hp]
  split
  · rw [sv_schedulePass, sv_notify]
  · rw [sv_notify]

theorem steps_tryMove_buffer (w : World) (x : Nat) (hk : (w.dev x).kind = .buffer) :
    Steps x (sv w) (sv (w.tryMove x)) := by
  cases hp : (w.dev x).part with
  | none =>
    have : w.tryMove x = w := by simp only [World.tryMove, hk, hp]
    rw [this]; exact Steps.refl _
  | some p =>
    have e : sv (w.tryMove x) =
        sv (w.setDev x { w.dev x with buf := (w.dev x).buf ++ [(w.now, p)], part := none }) := by
      simp only [World.tryMove, hk, hp]
      split
      · rw [sv_schedulePass, sv_notify]
      · rw [sv_notify]
    rw [e]
    refine steps_setDev_rearr w x _ [] rfl ?_ (Or.inr (by simp)) (fun b h => h)
    simp only [SDev.held, sdev, hp, Option.toList_some, Option.toList_none, List.nil_append,
      List.map_append, List.map_cons, List.map_nil, List.append_assoc, List.singleton_append]
    exact perm_aux ..


theorem steps_tryMove_batcher (w : World) (x : Nat) (hk : (w.dev x).kind = .batcher)
    (hv : ∀ p, (w.dev x).part = some p → p < w.parts.length) :
    Steps x (sv w) (sv (w.tryMove x)) := by
  by_cases hc : (!w.operational x || (w.dev x).part.isNone || (w.dev x).output.isSome) = true
  · have : w.tryMove x = w := by simp only [World.tryMove, hk, hc, if_true]
    rw [this]; exact Steps.refl _
  cases hp : (w.dev x).part with
  | none =>
    have : w.tryMove x = w := by simp only [World.tryMove, hk, hp]; split <;> rfl
    rw [this]; exact Steps.refl _
  | some p =>
    have hloop : (w.part p).kids ≠ some [] →
        Steps x (sv w) (sv (batcherLoop (w.leafCount p + 2) w x)) := by
      intro hne
      refine steps_batcherLoop (w.leafCount p + 2) w x (by rw [hk]; decide) ?_
      intro q hq
      rw [hp] at hq; cases hq
      exact ⟨hv p hp, hne⟩
    have hfin : sv (if ((batcherLoop (w.leafCount p + 2) w x).dev x).output.isSome = true then
        (batcherLoop (w.leafCount p + 2) w x).schedulePass x 0 else batcherLoop (w.leafCount p + 2) w x) =
        sv (batcherLoop (w.leafCount p + 2) w x) := by
      split
      · rw [sv_schedulePass]
      · rfl
    cases hkids : (w.part p).kids with
    | none =>
      have e : sv (w.tryMove x) = sv (batcherLoop (w.leafCount p + 2) w x) := by
        unfold World.tryMove
        simp only [hk]
        rw [if_neg hc]
        simp only [hp, hkids, Bool.false_eq_true, if_false]
        exact hfin
      rw [e]; exact hloop (by rw [hkids]; simp)
    | some l =>
      by_cases hl : l.isEmpty = true
      · have e : w.tryMove x = w.setDev x { w.dev x with part := none } := by
          unfold World.tryMove
          simp only [hk]
          rw [if_neg hc]
          simp only [hp, hkids, hl, if_true]
        rw [e]
        refine steps_setDev_rearr w x _ [p] rfl ?_ (Or.inr ?_) (fun b h => h)
        · simp [SDev.held, sdev, hp]
        · intro q hq
          simp only [List.mem_singleton] at hq; subst hq
          unfold World.leavesOf
          simp only [hkids]
          simpa using hl
      · have e : sv (w.tryMove x) = sv (batcherLoop (w.leafCount p + 2) w x) := by
          unfold World.tryMove
          simp only [hk]
          rw [if_neg hc]
          simp only [hp, hkids, hl, Bool.false_eq_true, if_false]
          exact hfin
        rw [e]; exact hloop (by rw [hkids]; intro h; cases h; exact hl rfl)

theorem steps_tryMove_other (w : World) (x : Nat) (hk1 : (w.dev x).kind ≠ .buffer)
    (hk2 : (w.dev x).kind ≠ .batcher) : Steps x (sv w) (sv (w.tryMove x)) := by
  by_cases hc : (w.operational x && (w.dev x).part.isSome && (w.dev x).output.isNone) = true
  · by_cases hp : (w.dev x).kind = .processor
    · have e : w.tryMove x = (w.setDev x { w.dev x with lastUseStart := some w.now }).scheduleFinish x := by
        simp only [World.tryMove, hp, hc, if_true]
      rw [e]
      have := steps_scheduleFinish (w.setDev x { w.dev x with lastUseStart := some w.now }) x
      rw [sv_setDev_same _ _ _ (by rfl)] at this
      exact this
    · have e : w.tryMove x = w.scheduleFinish x := by
        unfold World.tryMove
        simp only []
        split <;> simp_all
      rw [e]; exact steps_scheduleFinish w x
  · have e : w.tryMove x = w := by
      unfold World.tryMove
      simp only []
      split <;> simp_all
    rw [e]; exact Steps.refl _

theorem steps_tryMove (w : World) (x : Nat) (hv : ∀ p, (w.dev x).part = some p → p < w.parts.length) :
    Steps x (sv w) (sv (w.tryMove x)) := by
  by_cases h1 : (w.dev x).kind = .buffer
  · exact steps_tryMove_buffer w x h1
  · by_cases h2 : (w.dev x).kind = .batcher
    · exact steps_tryMove_batcher w x h2 hv
    · exact steps_tryMove_other w x h1 h2


/-! ### `onReceived`, `acceptPart` -/

theorem steps_onReceived (w : World) (x p : Nat) (hv : ∀ q, (w.dev x).part = some q → q < w.parts.length) :
    Steps x (sv w) (sv (w.onReceived x p)) := by
  rw [onReceived_eq]
  have hs := sv_recvBook w x p
  split
  · have := steps_tryMove (recvBook w x p) x (by
      intro q hq
      rw [part_of_sv hs] at hq
      rw [parts_len_of_sv hs]; exact hv q hq)
    rw [hs] at this; exact this
  · exact steps_of_sv hs

/-- the state in which `acceptPart` calls `onReceived` -/
def acceptPre (w : World) (x p : Nat) : World :=
  let w := if (w.dev x).kind == .sink then { w with delivered := w.delivered ++ w.leavesOf p } else w
  let w := w.modDev x (fun d => { d with part := some p })
  let w := w.addHist p x
  w.setWaiting x false false

theorem acceptPart_eq (w : World) (x p : Nat) : w.acceptPart x p = (acceptPre w x p).onReceived x p := rfl

theorem sv_del_setPart (w : World) (x p : Nat) (D : List Nat) :
    sv (({ w with delivered := D } : World).modDev x (fun d => { d with part := some p })) =
      { devs := (sv w).devs.set x { sdev (w.dev x) with part := some p }, kids := (sv w).kids,
        gen := (sv w).gen, del := D, lost := (sv w).lost } := by
  unfold World.modDev
  rw [sv_setDev]
  rfl

theorem sv_acceptPre (w : World) (x p : Nat) :
    sv (acceptPre w x p) = accept (sv w) x p (sdev (w.dev x)) := by
  unfold acceptPre
  simp only []
  rw [sv_setWaiting, sv_addHist]
  unfold accept
  by_cases hk : (w.dev x).kind = .sink
  · have h1 : ((w.dev x).kind == Kind.sink) = true := by rw [hk]; rfl
    have h2 : (sdev (w.dev x)).kind = Kind.sink := hk
    simp only [h1, if_true]
    rw [if_pos h2, sv_del_setPart, leaves_eq]; rfl
  · have h1 : ((w.dev x).kind == Kind.sink) = false := by
      cases h : (w.dev x).kind <;> simp_all
    have h2 : ¬ (sdev (w.dev x)).kind = Kind.sink := hk
    simp only [h1, if_false, Bool.false_eq_true]
    rw [if_neg h2]
    exact sv_del_setPart w x p w.delivered

theorem steps_acceptPart (w : World) (x p : Nat) (hx : x < w.devs.length) (hp : p < w.parts.length) :
    Steps x (accept (sv w) x p (sdev (w.dev x))) (sv (w.acceptPart x p)) := by
  rw [acceptPart_eq, ← sv_acceptPre]
  apply steps_onReceived
  intro q hq
  have h1 : (acceptPre w x p).parts.length = w.parts.length := by
    have := congrArg (fun a => a.kids.length) (sv_acceptPre w x p)
    simpa [sv, accept] using this
  have h2 : sdev ((acceptPre w x p).dev x) = { sdev (w.dev x) with part := some p } := by
    have := congrArg (fun a => a.dev x) (sv_acceptPre w x p)
    simp only [sv_dev] at this
    rw [this]
    simp [accept, SV.dev, sv, hx]
  have h3 : ((acceptPre w x p).dev x).part = some p := (congrArg SDev.part h2 :)
  rw [h3] at hq; cases hq
  rw [h1]; exact hp


/-- A buffer that accepts a part just appends it to its content. -/
theorem sv_acceptPart_buffer (w : World) (x p : Nat) (hx : x < w.devs.length)
    (hk : (w.dev x).kind = .buffer) (hpn : (w.dev x).part = none) (ho : (w.dev x).output = none) :
    sv (w.acceptPart x p) =
      (sv w).setDev x { sdev (w.dev x) with buf := (sdev (w.dev x)).buf ++ [p] } := by
  rw [acceptPart_eq, onReceived_eq]
  have hs : sv (recvBook (acceptPre w x p) x p) = accept (sv w) x p (sdev (w.dev x)) := by
    rw [sv_recvBook, sv_acceptPre]
  have hd : sdev ((recvBook (acceptPre w x p) x p).dev x) = { sdev (w.dev x) with part := some p } := by
    have := congrArg (fun a => a.dev x) hs
    simp only [sv_dev] at this
    rw [this]
    simp [accept, SV.dev, sv, hx]
  -- read off for a variable device: the projections of the concrete one are slow to compare
  have key : ∀ d : Dev, sdev d = { sdev (w.dev x) with part := some p } →
      d.output = (w.dev x).output ∧ d.part = some p ∧ d.kind = (w.dev x).kind :=
    fun _ h => ⟨congrArg SDev.output h, congrArg SDev.part h, congrArg SDev.kind h⟩
  obtain ⟨hout, hpart, hkind⟩ := key _ hd
  rw [ho] at hout
  rw [hk] at hkind
  rw [hout]
  simp only [Option.isNone_none, if_true]
  rw [sv_tryMove_buffer _ x p hkind hpart, sv_setDev, hs]
  have e : sdev { ((recvBook (acceptPre w x p) x p).dev x) with
      buf := ((recvBook (acceptPre w x p) x p).dev x).buf ++ [((recvBook (acceptPre w x p) x p).now, p)],
      part := none } = { sdev (w.dev x) with buf := (sdev (w.dev x)).buf ++ [p] } := by
    have h1 : ∀ d : Dev, ∀ t : Int, sdev { d with buf := d.buf ++ [(t, p)], part := none } =
        { sdev d with buf := (sdev d).buf ++ [p], part := none } := by
      intro d t; simp [sdev]
    rw [h1, hd]
    simp [sdev, hpn]
  rw [e]
  have hks : ¬ (sdev (w.dev x)).kind = Kind.sink := by
    show ¬ (w.dev x).kind = Kind.sink; rw [hk]; decide
  simp only [accept, SV.setDev, if_neg hks, List.set_set]

/-! ### `give` -/

/-- `give` succeeded: exactly one reachable handler-like device `z` took the part into its empty
slots (and then made its own moves). -/
def Accepted (a : SV) (t : ST) (a' : SV) (y p : Nat) : Prop :=
  ∃ z, Reach t y z ∧ ∀ d, a.devs[z]? = some d → d.part = none ∧ d.output = none ∧
    Steps z (accept a z p d) a' ∧
    (d.kind = .buffer → a' = a.setDev z { d with buf := d.buf ++ [p] })

def GiveSpec (w : World) (r : World × Bool) (y p : Nat) : Prop :=
  (r.2 = false → sv r.1 = sv w) ∧ (r.2 = true → Accepted (sv w) (st w) (sv r.1) y p)

theorem GiveSpec.fail {w w' : World} {y p : Nat} (h : sv w' = sv w) : GiveSpec w (w', false) y p :=
  ⟨fun _ => h, fun h => by cases h⟩

theorem GiveSpec.ok {w w' : World} {y p : Nat} (h : Accepted (sv w) (st w) (sv w') y p) :
    GiveSpec w (w', true) y p :=
  ⟨fun h' => (by cases h'), fun _ => h⟩

theorem GiveSpec.pre {w w1 : World} {r : World × Bool} {y p : Nat} (h1 : sv w1 = sv w) (h2 : st w1 = st w)
    (h : GiveSpec w1 r y p) : GiveSpec w r y p := by
  unfold GiveSpec at *; rw [← h1, ← h2]; exact h

theorem canAccept_slots {w : World} {x p : Nat} (hk : isHandlerLike (w.dev x).kind = true)
    (h : w.canAcceptBasic x p = true) : (w.dev x).part = none ∧ (w.dev x).output = none := by
  unfold World.canAcceptBasic at h
  cases hkind : (w.dev x).kind <;> simp_all [isHandlerLike, Option.isNone_iff_eq_none]

theorem accepted_self (w w1 : World) (x p : Nat) (hk : isHandlerLike (w.dev x).kind = true)
    (hc : w.canAcceptBasic x p = true) (h1 : sv w1 = sv w) (hp : p < w.parts.length) :
    Accepted (sv w) (st w) (sv (w1.acceptPart x p)) x p := by
  refine ⟨x, Reach.self x (by rw [st_kind]; exact hk), ?_⟩
  intro d hd
  have hx : x < w.devs.length := by
    have := (List.getElem?_eq_some_iff.mp hd).1
    simpa [sv] using this
  rw [sv_get w x hx] at hd
  cases hd
  have hs := canAccept_slots hk hc
  refine ⟨hs.1, hs.2, ?_, ?_⟩
  · have := steps_acceptPart w1 x p (by rw [devs_len_of_sv h1]; exact hx) (by rw [parts_len_of_sv h1]; exact hp)
    rw [h1, sdev_of_sv h1] at this
    exact this
  · intro hkb
    have := sv_acceptPart_buffer w1 x p (by rw [devs_len_of_sv h1]; exact hx)
      (by have := congrArg SDev.kind (sdev_of_sv h1 x); exact this.trans hkb)
      (by rw [part_of_sv h1]; exact hs.1) (by rw [output_of_sv h1]; exact hs.2)
    rw [h1, sdev_of_sv h1] at this
    exact this

theorem tryList_spec (g : World → Nat → Nat → World × Bool)
    (hg : ∀ w y p, p < w.parts.length → GiveSpec w (g w y p) y p)
    (hst : ∀ w y p, st (g w y p).1 = st w) (l : List Nat) :
    ∀ (w : World) (p : Nat), p < w.parts.length →
      ((tryList g w l p).2 = false → sv (tryList g w l p).1 = sv w) ∧
      ((tryList g w l p).2 = true → ∃ y ∈ l, Accepted (sv w) (st w) (sv (tryList g w l p).1) y p) := by
  induction l with
  | nil => intro w p _; exact ⟨fun _ => rfl, fun h => by cases h⟩
  | cons y ys ih =>
    intro w p hp
    unfold tryList
    have h1 := hg w y p hp
    have h2 := hst w y p
    cases hgy : g w y p with
    | mk w' b =>
      rw [hgy] at h1 h2
      cases b with
      | true =>
        simp only []
        exact ⟨fun h => (by cases h), fun _ => ⟨y, List.mem_cons_self .., h1.2 rfl⟩⟩
      | false =>
        simp only []
        have hs : sv w' = sv w := h1.1 rfl
        have := ih w' p (by rw [parts_len_of_sv hs]; exact hp)
        simp only [] at h2
        rw [hs, h2] at this
        exact ⟨this.1, fun h => by
          obtain ⟨z, hz, ha⟩ := this.2 h
          exact ⟨z, List.mem_cons_of_mem _ hz, ha⟩⟩


theorem give_spec (f : Nat) : ∀ (w : World) (y p : Nat), p < w.parts.length →
    GiveSpec w (give f w y p) y p := by
  induction f with
  | zero => intro w y p _; exact GiveSpec.fail (sv_setErr ..)
  | succ f ih =>
    intro w y p hp
    have hl := tryList_spec (give f) ih (st_give f)
    unfold give
    simp only []
    split
    iterate 5
      rename_i hk
      split
      · rename_i hc
        exact GiveSpec.ok (accepted_self w w y p (by rw [hk]; rfl) hc rfl hp)
      · exact GiveSpec.fail rfl
    · -- processor
      rename_i hk
      split
      · rename_i hc
        split
        · rename_i w1 h
          have hs : sv w1 = sv w := by have := sv_procAcquire w y; rw [h] at this; exact this
          exact GiveSpec.ok (accepted_self w w1 y p (by rw [hk]; rfl) hc hs hp)
        · rename_i w1 h
          have hs : sv w1 = sv w := by have := sv_procAcquire w y; rw [h] at this; exact this
          exact GiveSpec.fail hs
      · exact GiveSpec.fail rfl
    · -- gate
      rename_i hk
      split
      · exact GiveSpec.fail rfl
      · split
        · exact GiveSpec.fail rfl
        · have hs1 : sv (w.addHist p y) = sv w := sv_addHist ..
          have ht1 : st (w.addHist p y) = st w := st_addHist ..
          have := hl ((w.addHist p y).sortedDown y) (w.addHist p y) p (by rw [parts_len_of_sv hs1]; exact hp)
          split
          · rename_i w2 h; rw [h] at this
            refine GiveSpec.pre hs1 ht1 (GiveSpec.ok ?_)
            obtain ⟨z, hz, u, hr, hu⟩ := this.2 rfl
            refine ⟨u, Reach.gate y z u (Or.inl ?_) ?_ hr, hu⟩
            · rw [st_kind, kind_of_st ht1]; exact hk
            · rw [st_down]; exact (mem_sortedDown ..).1 hz
          · rename_i w2 h; rw [h] at this
            exact GiveSpec.fail (by rw [sv_dropHist]; exact (this.1 rfl).trans hs1)
    · -- ginput
      rename_i hk
      split
      · exact GiveSpec.fail rfl
      · have := hl (w.sortedDown y) w p hp
        refine ⟨this.1, fun h => ?_⟩
        obtain ⟨z, hz, u, hr, hu⟩ := this.2 h
        refine ⟨u, Reach.gate y z u (Or.inr ?_) ?_ hr, hu⟩
        · rw [st_kind]; exact hk
        · rw [st_down]; exact (mem_sortedDown ..).1 hz
    · -- gpath
      rename_i hk
      split
      · exact GiveSpec.fail rfl
      · have hs1 : sv ((w.modPart p (fun r => { r with stack := r.stack ++ [y] })).addHist p y) = sv w := by
          rw [sv_addHist]; exact sv_modPart_same _ _ _ (fun _ => rfl)
        have ht1 : st ((w.modPart p (fun r => { r with stack := r.stack ++ [y] })).addHist p y) = st w := by
          rw [st_addHist]; rfl
        have := ih ((w.modPart p (fun r => { r with stack := r.stack ++ [y] })).addHist p y)
          ((((w.modPart p (fun r => { r with stack := r.stack ++ [y] })).addHist p y).groups.getD
            (w.dev y).group default).input) p (by rw [parts_len_of_sv hs1]; exact hp)
        split
        · rename_i w2 h
          rw [h] at this
          refine GiveSpec.pre hs1 ht1 (GiveSpec.ok ?_)
          obtain ⟨u, hr, hu⟩ := this.2 rfl
          refine ⟨u, Reach.gpath y u ?_ ?_, hu⟩
          · rw [st_kind, kind_of_st ht1]; exact hk
          · rw [st_gin, st_group]
            have : ((((w.modPart p (fun r => { r with stack := r.stack ++ [y] })).addHist p y).dev y).group) =
                (w.dev y).group := by
              have := congrArg (fun t => t.group y) ht1
              simpa [st_group] using this
            rw [this]; exact hr
        · rename_i w2 h
          rw [h] at this
          refine GiveSpec.fail ?_
          rw [sv_dropHist, sv_modPart_same]
          · exact (this.1 rfl).trans hs1
          · intro _; rfl
    · -- goutput
      rename_i hk
      split
      · exact GiveSpec.fail (sv_setErr ..)
      · rename_i g hg
        have hs1 : sv (w.modPart p (fun r => { r with stack := r.stack.dropLast })) = sv w :=
          sv_modPart_same _ _ _ (fun _ => rfl)
        have ht1 : st (w.modPart p (fun r => { r with stack := r.stack.dropLast })) = st w := rfl
        have := hl ((w.modPart p (fun r => { r with stack := r.stack.dropLast })).sortedDown g)
          (w.modPart p (fun r => { r with stack := r.stack.dropLast })) p
          (by rw [parts_len_of_sv hs1]; exact hp)
        split
        · rename_i w2 h; rw [h] at this
          refine GiveSpec.pre hs1 ht1 (GiveSpec.ok ?_)
          obtain ⟨z, hz, u, hr, hu⟩ := this.2 rfl
          refine ⟨u, Reach.goutput y g z u ?_ ?_ hr, hu⟩
          · rw [ht1, st_kind]; exact hk
          · rw [st_down]; exact (mem_sortedDown ..).1 hz
        · rename_i w2 h; rw [h] at this
          refine GiveSpec.fail ?_
          rw [sv_modPart_same]
          · exact (this.1 rfl).trans hs1
          · intro _; rfl

theorem tryGive_spec (w : World) (l : List Nat) (p : Nat) (hp : p < w.parts.length) :
    ((tryList givePart w l p).2 = false → sv (tryList givePart w l p).1 = sv w) ∧
    ((tryList givePart w l p).2 = true →
      ∃ y ∈ l, Accepted (sv w) (st w) (sv (tryList givePart w l p).1) y p) :=
  tryList_spec givePart (fun w y p hp => give_spec w.fuel w y p hp) st_givePart l w p hp

theorem kind_recvBook (w : World) (x p y : Nat) : ((recvBook w x p).dev y).kind = (w.dev y).kind :=
  congrArg SDev.kind (sdev_of_sv (sv_recvBook w x p) y)

theorem st_acceptPre (w : World) (x p : Nat) : st (acceptPre w x p) = st w := by
  unfold acceptPre
  dsimp only
  rw [st_setWaiting, st_addHist, st_modDev_same]
  · split <;> rfl
  · exact fun _ => rfl

end C02V
end SimProc
