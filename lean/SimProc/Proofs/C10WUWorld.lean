/-
C10W — `U w (f w)` for every function of `Model/World.lean` except the availability check
(unconditionally): scripted operations, constructors, maintainer / scheduler / sensor events,
`exec` of every action other than `rmCheck`, `simulateInit`, `runBegin`.
-/
import SimProc.Proofs.C10WUFloor

namespace SimProc
namespace C10W
open World FloorCoreL

@[simp] theorem KU_modMaint (w : World) (m : Nat) (f : Maint → Maint) :
    KU (w.modMaint m f) = KU w := rfl
@[simp] theorem KU_setVar (w : World) (h : Nat) (v : Option Nat) : KU (w.setVar h v) = KU w := rfl

macro_rules | `(tactic| u_step) => `(tactic| with_reducible apply U.trans_KU (h := KU_modMaint _ _ _))
macro_rules | `(tactic| u_step) => `(tactic| with_reducible apply U.trans_KU (h := KU_setVar _ _ _))

theorem U_startOrders (w : World) (m : Nat) (st : List Order) : U w (w.startOrders m st) := by
  unfold startOrders
  u_auto

macro_rules | `(tactic| u_step) => `(tactic| with_reducible apply U.trans (h2 := U_startOrders _ _ _))

theorem U_schedUpdate (w : World) (s : Nat) (advance : Bool) :
    U w (w.schedUpdate s advance) := by
  unfold schedUpdate
  dsimp only
  u_auto

macro_rules | `(tactic| u_step) => `(tactic| with_reducible apply U.trans (h2 := U_schedUpdate _ _ _))

theorem U_initAsset (w : World) (a : AssetRef) : U w (w.initAsset a) := by
  unfold initAsset
  split <;> (try dsimp only) <;> u_auto

macro_rules | `(tactic| u_step) => `(tactic| with_reducible apply U.trans (h2 := U_initAsset _ _))

/-! ### constructors -/

theorem U_addDev (w : World) (d : Dev) : U w (w.addDev d) := by
  unfold addDev
  dsimp only
  u_auto

macro_rules | `(tactic| u_step) => `(tactic| with_reducible apply U.trans (h2 := U_addDev _ _))

theorem U_addAsset (w : World) (spec : AssetSpec) : U w (w.addAsset spec) := by
  unfold addAsset
  split <;> (try dsimp only)
  all_goals u_auto

macro_rules | `(tactic| u_step) => `(tactic| with_reducible apply U.trans (h2 := U_addAsset _ _))

/-! ### scripted operations -/

theorem notCb_sched (w : World) (t a : Int) (act : Action) (p : Int) :
    notCb (w.sched t a act p).2 = true := by
  unfold World.sched
  dsimp only
  split <;> rfl

theorem notCb_add (rm : RM) (r : Nat) (amt : Int) : notCb (rm.add r amt).2.1 = true := by
  unfold RM.add
  repeat' split
  all_goals rfl

theorem notCb_validate (h rel : Req) : notCb (RM.validateRelease h rel) = true := by
  induction rel with
  | nil => rfl
  | cons p t ih =>
    obtain ⟨r, a⟩ := p
    unfold RM.validateRelease
    repeat' split
    all_goals first | rfl | exact ih

theorem notCb_release (rm : RM) (id : Nat) (part : Option Req) :
    notCb (rm.release id part).2.1 = true := by
  unfold RM.release
  cases rm.held id with
  | none => rfl
  | some h =>
    cases part with
    | none => rfl
    | some rel =>
      have := notCb_validate h rel
      dsimp only
      split
      · rfl
      · exact this

theorem notCb_merge (rm : RM) (a b : Nat) : notCb (rm.merge a b).2 = true := by
  unfold RM.merge
  repeat' split
  all_goals rfl

theorem notCb_reserve (rm : RM) (req : Req) : notCb (rm.reserve req).2.1 = true := by
  unfold RM.reserve
  split
  · rfl
  · dsimp only
    split <;> rfl

/-- The result of a scripted operation is never a callback record. -/
theorem notCb_applyOp (w : World) (op : Op) : notCb (w.applyOp op).2 = true := by
  cases op with
  | sched t a k p => exact notCb_sched _ _ _ _ _
  | schedRel dt a k p => exact notCb_sched _ _ _ _ _
  | pause a => rfl
  | unpause a => rfl
  | cancel a => rfl
  | addRes r amt => exact notCb_add _ _ _
  | reserve hd req =>
    have h := notCb_reserve w.rm req
    simp only [applyOp]
    rcases hr : w.rm.reserve req with ⟨rm, res, id, recs⟩
    rw [hr] at h
    dsimp only at h ⊢
    split
    · rfl
    · exact h
  | release hd part =>
    simp only [applyOp]
    split
    · rfl
    · exact notCb_release _ _ _
  | merge h1 h2 =>
    simp only [applyOp]
    split
    · rfl
    · split
      · rfl
      · exact notCb_merge _ _ _
  | register k req => rfl
  | schedFail d t =>
    simp only [applyOp]
    split
    · rfl
    · exact notCb_sched _ _ _ _ _
  | schedFailRel d dt =>
    simp only [applyOp]
    split
    · rfl
    · exact notCb_sched _ _ _ _ _
  | shutdown d => simp only [applyOp]; split <;> rfl
  | restore d => simp only [applyOp]; split <;> rfl
  | block d b => rfl
  | adjust d n => rfl
  | setCycle d c => simp only [applyOp]; split <;> rfl
  | offsetNext d o => rfl
  | rewire d ups => rfl
  | workOrder m tgt tag info => rfl
  | setParams tgt tag dur need cost => rfl
  | regObj s obj ovr => rfl
  | unregObj s obj => rfl
  | setVar k v => rfl
  | addSensor c s => simp only [applyOp]; split <;> rfl
  | create spec => rfl

theorem U_applyOp (w : World) (op : Op) (hreg : ∀ k req, op = .register k req → RegBy w k) :
    U w (w.applyOp op).1 := by
  cases op with
  | sched t a k p => exact U.of_KU (KU_sched _ _ _ _ _)
  | schedRel dt a k p => exact U.of_KU (KU_sched _ _ _ _ _)
  | pause a => exact U.of_KU rfl
  | unpause a => exact U.of_KU rfl
  | cancel a => exact U.of_KU rfl
  | addRes r amt =>
    have h := RmU.add w.rm r amt
    simp only [applyOp]
    rcases hr : w.rm.add r amt with ⟨rm, res, recs, chk⟩
    rw [hr] at h
    dsimp only
    u_step
    exact U_rmSet w rm h
  | reserve hd req =>
    have h := RmU.reserve w.rm req
    simp only [applyOp]
    rcases hr : w.rm.reserve req with ⟨rm, res, id, recs⟩
    rw [hr] at h
    dsimp only
    split
    · exact U.refl _
    · u_step
      u_step
      exact U_rmSet w rm h
  | release hd part =>
    simp only [applyOp]
    cases w.getVar hd with
    | none => exact U.refl _
    | some id =>
      dsimp only
      u_step
      exact U_rmSet w _ (RmU.release w.rm id part)
  | merge h1 h2 =>
    simp only [applyOp]
    cases w.getVar h1 with
    | none => exact U.refl _
    | some a =>
      cases w.getVar h2 with
      | none => exact U.refl _
      | some b =>
        dsimp only
        exact U_rmSet w _ (RmU.merge w.rm a b)
  | register k req =>
    simp only [applyOp]
    u_step
    exact U_rmRegister w k req (hreg k req rfl)
  | schedFail d t => simp only [applyOp]; u_auto
  | schedFailRel d dt => simp only [applyOp]; u_auto
  | shutdown d => simp only [applyOp]; u_auto
  | restore d => simp only [applyOp]; u_auto
  | block d b => simp only [applyOp]; u_auto
  | adjust d n => simp only [applyOp]; u_auto
  | setCycle d c => simp only [applyOp]; u_auto
  | offsetNext d o => simp only [applyOp]; u_auto
  | rewire d ups => simp only [applyOp]; u_auto
  | workOrder m tgt tag info => simp only [applyOp]; u_auto
  | setParams tgt tag dur need cost => simp only [applyOp]; u_auto
  | regObj s obj ovr => simp only [applyOp]; u_auto
  | unregObj s obj => simp only [applyOp]; u_auto
  | setVar k v => simp only [applyOp]; u_auto
  | addSensor c s => simp only [applyOp]; u_auto
  | create spec => simp only [applyOp]; u_auto

theorem U_applyOps (w : World) (ops : List Op)
    (hreg : ∀ op ∈ ops, ∀ k req, op = .register k req → RegBy w k) : U w (w.applyOps ops) := by
  unfold applyOps
  induction ops generalizing w with
  | nil => exact U.refl _
  | cons op ops ih =>
    rw [List.foldl_cons]
    have h1 : U w ((w.applyOp op).1.addRes (w.applyOp op).2) :=
      (U_applyOp w op (hreg op List.mem_cons_self)).trans (U_addRes _ _ (notCb_applyOp w op))
    refine U.trans h1 (ih _ ?_)
    intro o ho k req hk
    have := hreg o (List.mem_cons_of_mem _ ho) k req hk
    unfold RegBy at this ⊢
    rw [h1.scr]; exact this

theorem U_runScript (w : World) (k : Nat) : U w (w.runScript k) := by
  unfold runScript
  refine U_applyOps _ _ ?_
  intro op hop k' req hk
  obtain ⟨s, hs, hm⟩ := mem_getD_nil hop
  exact ⟨s, hs, req, hk ▸ hm⟩

/-- An operation issued from outside (it may register any callback): the weak form. -/
theorem U0_applyOp (w : World) (op : Op) : U0 w (w.applyOp op).1 := by
  by_cases h : ∃ k req, op = .register k req
  · obtain ⟨k, req, rfl⟩ := h
    simp only [applyOp]
    have hk := KU_rmEffects ({ w with rm := (w.rm.register req (.script k)).1 } : World) []
      (w.rm.register req (.script k)).2
    refine ⟨⟨[(req, .script k)], ?_⟩, fun hi => ?_, ⟨[], ?_, by simp⟩, ?_⟩
    · rw [KU_rm hk]; rfl
    · rw [KU_rm hk]; exact hi
    · rw [KU_results hk]; simp
    · rw [KU_scr hk]
  · exact (U_applyOp w op (fun k req hk => absurd ⟨k, req, hk⟩ h)).toU0

macro_rules | `(tactic| u_step) => `(tactic| with_reducible apply U.trans (h2 := U_runScript _ _))

/-! ### maintainer events -/

theorem U_hookStart (w : World) (tgt : Nat) (tag : Int) : U w (w.hookStart tgt tag) := by
  unfold hookStart
  dsimp only
  u_auto

theorem U_hookEnd (w : World) (tgt : Nat) (tag : Int) : U w (w.hookEnd tgt tag) := by
  unfold hookEnd
  dsimp only
  u_auto

macro_rules | `(tactic| u_step) => `(tactic| with_reducible apply U.trans (h2 := U_hookStart _ _ _))
macro_rules | `(tactic| u_step) => `(tactic| with_reducible apply U.trans (h2 := U_hookEnd _ _ _))

theorem U_startWork (w : World) (m seq : Nat) : U w (w.startWork m seq) := by
  unfold startWork
  dsimp only
  u_auto

theorem U_finishWork (w : World) (m seq : Nat) : U w (w.finishWork m seq) := by
  unfold finishWork
  dsimp only
  u_auto

theorem U_periodicSense (w : World) (s : Nat) : U w (w.periodicSense s) := by
  unfold periodicSense
  dsimp only
  u_auto

/-! ### events -/

/-- Every action other than the availability check. -/
theorem U_exec (w : World) (a : Action) (ha : a ≠ .rmCheck) : U w (w.exec a) := by
  unfold exec
  split
  · exact U.refl _
  · exact U_runScript _ _
  · exact U.floor.finishCycle _ _
  · exact U.floor.passPart _ _
  · exact U.floor.failDev _ _
  · exact U.floor.releaseIfIdle _ _
  · exact absurd rfl ha
  · exact U_startWork _ _ _
  · exact U_finishWork _ _ _
  · exact U_schedUpdate _ _ _
  · exact U_periodicSense _ _
  · exact U.of_KU (KU_setErr _ _)

theorem U_simulateInit (w : World) : U w w.simulateInit := by
  unfold simulateInit
  split
  · exact U.refl _
  · have h := RmU.init w.rm
    rcases hr : w.rm.init with ⟨rm, recs, chk⟩
    rw [hr] at h
    dsimp only
    u_step
    u_step
    u_step
    exact U_rmSet w rm h

theorem KU_runBegin (w : World) (d : Int) : KU (w.runBegin d).1 = KU w := by
  unfold World.runBegin
  dsimp only
  split <;> rfl

theorem U_runBegin (w : World) (d : Int) : U w (w.runBegin d).1 := U.of_KU (KU_runBegin w d)

end C10W
end SimProc
