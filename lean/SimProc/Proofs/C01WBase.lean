/-
C01W — the closed world touches its event queue only through the environment's API.

Base machinery: operation lists compose, "library operations" (`LibOp`), the refinement relation
`Refines` on environments, the closed-world invariant `Good` (asset ids of devices are ≥ 1, scripts
issue only user operations), the relation `Via w w'` ("`w'.env` is `w.env` after a list of library
operations, and `Good` is kept"), the primitives of `WorldDef`, and a small peeling tactic
(`via_step` / `via_auto`, like `walk` of `Proofs/FloorWalk.lean`) for the functions of `Model/World.lean`.
-/
import SimProc.Model.World
import SimProc.Proofs.FloorCore2
import SimProc.Proofs.FloorWalk
import SimProc.Props.C01
import SimProc.Props.C07
import Lean

namespace SimProc
namespace C01W
open World FloorCoreL
open Lean Elab Tactic Meta

/-! ### operation lists compose -/

theorem applyAll_append (ar : Arith) (s : Env) (l1 l2 : List EnvOp) :
    s.applyAll ar (l1 ++ l2) =
      (((s.applyAll ar l1).1.applyAll ar l2).1,
        (s.applyAll ar l1).2 ++ ((s.applyAll ar l1).1.applyAll ar l2).2) := by
  induction l1 generalizing s with
  | nil => simp [Env.applyAll]
  | cons op l1 ih => simp only [List.cons_append, Env.applyAll, ih, List.cons_append]

theorem applyAll_append_fst (ar : Arith) (s : Env) (l1 l2 : List EnvOp) :
    (s.applyAll ar (l1 ++ l2)).1 = ((s.applyAll ar l1).1.applyAll ar l2).1 := by
  rw [applyAll_append]

theorem applyAll_append_snd (ar : Arith) (s : Env) (l1 l2 : List EnvOp) :
    (s.applyAll ar (l1 ++ l2)).2 =
      (s.applyAll ar l1).2 ++ ((s.applyAll ar l1).1.applyAll ar l2).2 := by
  rw [applyAll_append]

theorem applyAll_cons_fst (ar : Arith) (s : Env) (op : EnvOp) (l : List EnvOp) :
    (s.applyAll ar (op :: l)).1 = ((s.apply ar op).1.applyAll ar l).1 := rfl

theorem applyAll_cons_snd (ar : Arith) (s : Env) (op : EnvOp) (l : List EnvOp) :
    (s.applyAll ar (op :: l)).2 = (s.apply ar op).2 :: ((s.apply ar op).1.applyAll ar l).2 := rfl

theorem applyAll_one (ar : Arith) (s : Env) (op : EnvOp) :
    (s.applyAll ar [op]).1 = (s.apply ar op).1 := rfl

/-! ### library operations -/

/-- The operations the library (and well-behaved scripts) issue from inside an event action or a
scripted operation: scheduling anything but the environment's private terminate action with a
priority above `TERMINATE`; pausing / resuming / cancelling an asset other than the environment's
internal id −1.  Never `step`, never `runBegin`. -/
def LibOp : EnvOp → Prop
  | .sched _ _ act p _ => act ≠ terminateAct ∧ prioTerminate < p
  | .pause a => a ≠ -1
  | .unpause a => a ≠ -1
  | .cancel a => a ≠ -1
  | .step => False
  | .runBegin _ _ => False

instance : DecidablePred LibOp := fun op => by
  cases op <;> unfold LibOp <;> infer_instance

theorem LibOp.userOp {op : EnvOp} (h : LibOp op) : C01.UserOp op := by
  cases op <;> first | exact h | exact False.elim h

theorem LibOp.ne_step {op : EnvOp} (h : LibOp op) : op ≠ .step := by
  intro e; subst e; exact h

theorem libOp_iff (op : EnvOp) : LibOp op ↔ C01.UserOp op ∧ op ≠ .step := by
  constructor
  · exact fun h => ⟨h.userOp, h.ne_step⟩
  · rintro ⟨h, hne⟩
    cases op <;> first | exact h | exact absurd rfl hne

/-- `s'` is `s` after a list of operations that all satisfy `P` (`Refines`: `P := LibOp`;
`C18W.ERef ta`: `P := C18W.HOp ta`). -/
def RefinesBy (P : EnvOp → Prop) (s s' : Env) : Prop :=
  ∃ ops : List EnvOp, (∀ op ∈ ops, P op) ∧ s' = (s.applyAll Arith.exact ops).1

theorem RefinesBy.refl (P : EnvOp → Prop) (s : Env) : RefinesBy P s s := ⟨[], by simp, rfl⟩

theorem RefinesBy.trans {P : EnvOp → Prop} {a b c : Env} (h1 : RefinesBy P a b)
    (h2 : RefinesBy P b c) : RefinesBy P a c := by
  obtain ⟨l1, g1, rfl⟩ := h1
  obtain ⟨l2, g2, rfl⟩ := h2
  refine ⟨l1 ++ l2, ?_, (applyAll_append_fst _ _ _ _).symm⟩
  intro op hop
  rcases List.mem_append.1 hop with h | h
  · exact g1 op h
  · exact g2 op h

theorem RefinesBy.one {P : EnvOp → Prop} (s : Env) {op : EnvOp} (h : P op) :
    RefinesBy P s (s.apply Arith.exact op).1 :=
  ⟨[op], by simpa using h, rfl⟩

theorem RefinesBy.of_eq {P : EnvOp → Prop} {s s' : Env} (h : s' = s) : RefinesBy P s s' :=
  h ▸ RefinesBy.refl P s

theorem RefinesBy.now {P : EnvOp → Prop} (hP : ∀ op, P op → op ≠ .step) {s s' : Env}
    (h : RefinesBy P s s') : s'.now = s.now := by
  obtain ⟨l, hl, rfl⟩ := h
  induction l generalizing s with
  | nil => rfl
  | cons op l ih =>
    rw [applyAll_cons_fst, ih (fun o ho => hl o (List.mem_cons_of_mem _ ho)),
      C01.now_apply_ne_step _ _ _ (hP op (hl op List.mem_cons_self))]

theorem RefinesBy.inv {P : EnvOp → Prop} {s s' : Env} (h : RefinesBy P s s') (hi : C01.Inv s) :
    C01.Inv s' := by
  obtain ⟨l, _, rfl⟩ := h
  exact C01.inv_applyAll _ _ hi

/-- `s'` is `s` after a list of library operations. -/
def Refines (s s' : Env) : Prop :=
  ∃ ops : List EnvOp, (∀ op ∈ ops, LibOp op) ∧ s' = (s.applyAll Arith.exact ops).1

theorem Refines.refl (s : Env) : Refines s s := RefinesBy.refl LibOp s

theorem Refines.trans {a b c : Env} (h1 : Refines a b) (h2 : Refines b c) : Refines a c :=
  RefinesBy.trans (P := LibOp) h1 h2

theorem Refines.one (s : Env) {op : EnvOp} (h : LibOp op) :
    Refines s (s.apply Arith.exact op).1 :=
  RefinesBy.one (P := LibOp) s h

theorem Refines.of_eq {s s' : Env} (h : s' = s) : Refines s s' := RefinesBy.of_eq (P := LibOp) h

/-! ### the closed-world invariant -/

/-- A scripted operation that is a user operation on the environment: a scripted `sched` has a
priority above `TERMINATE`; scripted pause / unpause / cancel do not name the internal id −1. -/
def opUser : Op → Bool
  | .sched _ _ _ p => decide (pTerminate < p)
  | .schedRel _ _ _ p => decide (pTerminate < p)
  | .pause a => decide (a ≠ -1)
  | .unpause a => decide (a ≠ -1)
  | .cancel a => decide (a ≠ -1)
  | _ => true

/-- Every scripted operation is a user operation. -/
def ScriptsUser (w : World) : Prop := ∀ l ∈ w.scripts, ∀ op ∈ l, opUser op = true

/-- Device asset ids are ≥ 1 (`addDev` assigns registration index + 1). -/
def AidOK (w : World) : Prop := ∀ a ∈ w.devs.map (·.aid), (1 : Int) ≤ a

structure Good (w : World) : Prop where
  aid : AidOK w
  scr : ScriptsUser w

instance (w : World) : Decidable (ScriptsUser w) := by unfold ScriptsUser; infer_instance
instance (w : World) : Decidable (AidOK w) := by unfold AidOK; infer_instance
instance (w : World) : Decidable (Good w) :=
  decidable_of_iff (AidOK w ∧ ScriptsUser w) ⟨fun h => ⟨h.1, h.2⟩, fun h => ⟨h.1, h.2⟩⟩

/-- No device (existing or not: the default device has id 0) carries the internal id −1. -/
theorem AidOK.ne (h : AidOK w) (x : Nat) : (w.dev x).aid ≠ -1 := by
  unfold World.dev
  rw [List.getD_eq_getElem?_getD]
  cases hx : w.devs[x]? with
  | none => simp only [Option.getD_none]; decide
  | some d =>
    simp only [Option.getD_some]
    have := h d.aid (List.mem_map.2 ⟨d, List.mem_of_getElem? hx, rfl⟩)
    omega

theorem Good.ne (h : Good w) (x : Nat) : (w.dev x).aid ≠ -1 := h.aid.ne x

/-- What the closed-world argument observes of a world: the environment, the devices' asset ids and
the scripts. -/
def EK (w : World) : Env × List Int × List (List Op) := (w.env, w.devs.map (·.aid), w.scripts)

theorem EK_env {w w' : World} (h : EK w' = EK w) : w'.env = w.env := congrArg Prod.fst h
theorem EK_aids {w w' : World} (h : EK w' = EK w) : w'.devs.map (·.aid) = w.devs.map (·.aid) :=
  congrArg (fun q => q.2.1) h
theorem EK_scr {w w' : World} (h : EK w' = EK w) : w'.scripts = w.scripts :=
  congrArg (fun q => q.2.2) h

theorem Good.of_EK {w w' : World} (h : EK w' = EK w) (g : Good w) : Good w' := by
  refine ⟨?_, ?_⟩
  · unfold AidOK; rw [EK_aids h]; exact g.aid
  · unfold ScriptsUser; rw [EK_scr h]; exact g.scr

/-- **The relation.**  Under the invariant `Good w`: `w'` satisfies the invariant again and its
environment is the environment of `w` after a list of library operations. -/
def Via (w w' : World) : Prop := Good w → Good w' ∧ Refines w.env w'.env

theorem Via.refl (w : World) : Via w w := fun g => ⟨g, Refines.refl _⟩

theorem Via.trans {a b c : World} (h1 : Via a b) (h2 : Via b c) : Via a c := fun g =>
  have g1 := h1 g
  have g2 := h2 g1.1
  ⟨g2.1, g1.2.trans g2.2⟩

theorem Via.of_EK {w w' : World} (h : EK w' = EK w) : Via w w' := fun g =>
  ⟨g.of_EK h, Refines.of_eq (EK_env h)⟩

theorem Via.of_EK_trans {a b c : World} (h : EK b = EK a) (h2 : Via b c) : Via a c :=
  (Via.of_EK h).trans h2

theorem Via.trans_EK {a b c : World} (h1 : Via a b) (h : EK c = EK b) : Via a c :=
  h1.trans (Via.of_EK h)

/-- Use the invariant of the start state while proving `Via`. -/
theorem Via.with_good {w w' : World} (h : Good w → Via w w') : Via w w' := fun g => h g g

theorem Via.foldl {α} (g : World → α → World) (l : List α) (w : World)
    (h : ∀ w a, Via w (g w a)) : Via w (l.foldl g w) := by
  induction l generalizing w with
  | nil => exact Via.refl w
  | cons a l ih => exact (h w a).trans (ih _)

theorem EK_foldl {α} (g : World → α → World) (l : List α) (w : World)
    (h : ∀ w a, EK (g w a) = EK w) : EK (l.foldl g w) = EK w :=
  foldl_preserve EK g l w h

theorem Via.of_fst_eq {α} {w w' : World} {e : World × α} {b : α} (he : Via w e.1)
    (h : e = (w', b)) : Via w w' := by
  subst h; exact he

/-! ### primitives of `WorldDef` -/

@[simp] theorem EK_setErr (w : World) (m : String) : EK (w.setErr m) = EK w := by
  unfold setErr; split <;> rfl

@[simp] theorem EK_addRes (w : World) (r : Res) : EK (w.addRes r) = EK w := rfl
@[simp] theorem EK_addRec (w : World) (r : Rec) : EK (w.addRec r) = EK w := rfl
@[simp] theorem EK_modPart (w : World) (p : Nat) (f : PartRec → PartRec) :
    EK (w.modPart p f) = EK w := rfl
@[simp] theorem EK_newPart (w : World) (r : PartRec) : EK (w.newPart r).1 = EK w := rfl

theorem EK_setDev (w : World) (x : Nat) (d : Dev) (h : d.aid = (w.dev x).aid) :
    EK (w.setDev x d) = EK w := by
  unfold EK World.setDev
  simp only
  rw [map_set_of_eq Dev.aid w.devs x d default h]

theorem EK_modDev (w : World) (x : Nat) (f : Dev → Dev) (h : (f (w.dev x)).aid = (w.dev x).aid) :
    EK (w.modDev x f) = EK w := EK_setDev w x _ h

theorem Via_setDev (w : World) (x : Nat) (d : Dev) (h : d.aid = (w.dev x).aid) :
    Via w (w.setDev x d) := Via.of_EK (EK_setDev w x d h)

theorem Via_modDev (w : World) (x : Nat) (f : Dev → Dev)
    (h : (f (w.dev x)).aid = (w.dev x).aid) : Via w (w.modDev x f) :=
  Via.of_EK (EK_modDev w x f h)

/-- `World.sched` is exactly one `.sched` operation of the environment (accepted or rejected). -/
theorem sched_env (w : World) (t a : Int) (act : Action) (p : Int) :
    (w.sched t a act p).1.env =
      (w.env.apply Arith.exact
        (.sched t a act.toNat p (weightOf w.seed w.wmod t a act.toNat p))).1 := by
  unfold World.sched
  simp only [Env.apply]
  cases w.env.schedule t a act.toNat p (weightOf w.seed w.wmod t a act.toNat p) <;> rfl

theorem sched_devs (w : World) (t a : Int) (act : Action) (p : Int) :
    (w.sched t a act p).1.devs = w.devs := by
  unfold World.sched
  simp only [Env.apply]
  cases w.env.schedule t a act.toNat p (weightOf w.seed w.wmod t a act.toNat p) <;> rfl

theorem sched_scripts (w : World) (t a : Int) (act : Action) (p : Int) :
    (w.sched t a act p).1.scripts = w.scripts := by
  unfold World.sched
  simp only [Env.apply]
  cases w.env.schedule t a act.toNat p (weightOf w.seed w.wmod t a act.toNat p) <;> rfl

theorem toNat_ne_terminate {act : Action} (h : act ≠ .terminate) : act.toNat ≠ terminateAct := by
  cases act <;> simp [Action.toNat, terminateAct] at h ⊢ <;> omega

theorem Via_sched (w : World) (t a : Int) (act : Action) (p : Int)
    (ha : act ≠ .terminate) (hp : prioTerminate < p) : Via w (w.sched t a act p).1 := by
  intro g
  refine ⟨⟨?_, ?_⟩, ?_⟩
  · unfold AidOK; rw [sched_devs]; exact g.aid
  · unfold ScriptsUser; rw [sched_scripts]; exact g.scr
  · rw [sched_env]
    exact Refines.one _ ⟨toNat_ne_terminate ha, hp⟩

theorem schedLib_EK (w : World) (t a : Int) (act : Action) (p : Int) :
    EK (w.schedLib t a act p) = EK (w.sched t a act p).1 := by
  unfold schedLib
  generalize w.sched t a act p = s
  obtain ⟨w', r⟩ := s
  cases r <;> simp

theorem Via_schedLib (w : World) (t a : Int) (act : Action) (p : Int)
    (ha : act ≠ .terminate) (hp : prioTerminate < p) : Via w (w.schedLib t a act p) :=
  (Via_sched w t a act p ha hp).trans_EK (schedLib_EK w t a act p)

theorem schedLib_env (w : World) (t a : Int) (act : Action) (p : Int) :
    (w.schedLib t a act p).env =
      (w.env.apply Arith.exact
        (.sched t a act.toNat p (weightOf w.seed w.wmod t a act.toNat p))).1 := by
  rw [EK_env (schedLib_EK w t a act p), sched_env]

theorem Via_envOp (w : World) (op : EnvOp) (h : LibOp op) : Via w (w.envOp op) := fun g =>
  ⟨⟨g.aid, g.scr⟩, Refines.one _ h⟩

theorem Via_rmEffects (w : World) (recs : List ResRec) (chk : Bool) :
    Via w (w.rmEffects recs chk) := by
  unfold rmEffects
  dsimp only
  have h : EK (recs.foldl (fun w r => w.addRec (.resUpdate r.res w.now r.inUse r.cap)) w) = EK w :=
    EK_foldl _ _ _ (fun _ _ => rfl)
  split
  · exact Via.of_EK_trans h (Via_schedLib _ _ _ _ _ (by intro h; cases h) (by decide))
  · exact Via.of_EK h

/-! ### the peeling tactic -/

/-- Peel a structure update `{ w with f := v, … }` that leaves `env`, `devs` and `scripts` alone. -/
elab "via_struct" : tactic => do
  let g ← getMainGoal
  g.withContext do
    let t ← instantiateMVars (← g.getType)
    let_expr Via a b := t.consumeMData | throwError "via_struct: not a Via goal"
    let b := b.consumeMData
    unless b.isAppOfArity ``World.mk 23 do throwError "via_struct: not a structure instance"
    let r := b.getArg! 0
    let w0 ← match r with
      | .proj _ _ w0 => pure w0
      | _ =>
        if r.isAppOfArity ``World.env 1 then pure (r.getArg! 0)
        else throwError "via_struct: the environment is changed"
    let newGoal ← mkFreshExprSyntheticOpaqueMVar (← mkAppM ``Via #[a, w0])
    let eq ← mkEq (← mkAppM ``EK #[b]) (← mkAppM ``EK #[w0])
    let pf ← mkFreshExprMVar eq
    pf.mvarId!.refl
    g.assign (mkApp5 (mkConst ``Via.trans_EK) a w0 b newGoal pf)
    replaceMainGoal [newGoal.mvarId!]

/-- One step: close the goal, or peel the outermost function application. -/
syntax "via_step" : tactic

/-- Peel / split until nothing is left. -/
macro "via_auto" : tactic => `(tactic| repeat' first | via_step | split)

/-- Side goals of the peeling steps. -/
macro "via_side" : tactic =>
  `(tactic| first
    | exact rfl
    | assumption
    | decide
    | (intro h; cases h))

macro_rules | `(tactic| via_step) => `(tactic| via_struct)
macro_rules | `(tactic| via_step) => `(tactic|
  ((with_reducible apply Via.trans (h2 := Via.foldl _ _ _ ?hs)); case hs => (intro _ _; via_auto; done)))
macro_rules | `(tactic| via_step) => `(tactic| with_reducible apply Via.trans (h2 := Via_rmEffects _ _ _))
macro_rules | `(tactic| via_step) => `(tactic|
  ((with_reducible apply Via.trans (h2 := Via_envOp _ _ ?hop)); case hop => via_side))
macro_rules | `(tactic| via_step) => `(tactic|
  ((with_reducible apply Via.trans (h2 := Via_schedLib _ _ _ _ _ ?ha ?hp));
   case ha => via_side
   case hp => via_side))
macro_rules | `(tactic| via_step) => `(tactic| with_reducible apply Via.trans_EK (h := EK_setErr _ _))
macro_rules | `(tactic| via_step) => `(tactic| with_reducible apply Via.trans_EK (h := EK_addRes _ _))
macro_rules | `(tactic| via_step) => `(tactic| with_reducible apply Via.trans_EK (h := EK_addRec _ _))
macro_rules | `(tactic| via_step) => `(tactic| with_reducible apply Via.trans_EK (h := EK_modPart _ _ _))
macro_rules | `(tactic| via_step) => `(tactic| with_reducible apply Via.trans_EK (h := EK_newPart _ _))
macro_rules | `(tactic| via_step) => `(tactic|
  ((with_reducible apply Via.trans (h2 := Via_modDev _ _ _ ?hp)); case hp => exact rfl))
macro_rules | `(tactic| via_step) => `(tactic|
  ((with_reducible apply Via.trans (h2 := Via_setDev _ _ _ ?hp)); case hp => exact rfl))
macro_rules | `(tactic| via_step) => `(tactic| with_reducible exact Via.refl _)

/-- After a `split` on a pair-valued call: use the fact `t` about the call. -/
macro "via_heq " t:term : tactic =>
  `(tactic| (rename_i heq; with_reducible apply Via.trans (h2 := Via.of_fst_eq $t heq)))

end C01W
end SimProc
