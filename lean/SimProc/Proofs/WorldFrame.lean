/-
`Model/World.lean`: the functions that change neither the slot view nor the scripts.
-/
import SimProc.Proofs.FloorSt
namespace SimProc
namespace C02V
open World

-- the floor functions that `applyOp` and `initAsset` call, for the scripts
frame_lemmas scr_floor.shutdownDev scr_floor.restoreDev scr_floor.setBlock
frame_lemmas scr_floor.adjustParts scr_floor.rewire scr_floor.initDev

section
variable (w : World)

theorem sv_modMaint (m : Nat) (f : Maint → Maint) : sv (w.modMaint m f) = sv w := rfl
theorem scr_modMaint (m : Nat) (f : Maint → Maint) : (w.modMaint m f).scripts = w.scripts := rfl
frame_lemmas2 sv_modMaint scr_modMaint

theorem sv_startOrders (m : Nat) (l : List Order) : sv (w.startOrders m l) = sv w := by
  unfold World.startOrders; frame
theorem scr_startOrders (m : Nat) (l : List Order) : (w.startOrders m l).scripts = w.scripts := by
  unfold World.startOrders; frame
frame_lemmas2 sv_startOrders scr_startOrders

theorem sv_schedUpdate (s : Nat) (b : Bool) : sv (w.schedUpdate s b) = sv w := by
  unfold World.schedUpdate; frame
theorem scr_schedUpdate (s : Nat) (b : Bool) : (w.schedUpdate s b).scripts = w.scripts := by
  unfold World.schedUpdate; frame
frame_lemmas2 sv_schedUpdate scr_schedUpdate

theorem sv_setVar (h : Nat) (v : Option Nat) : sv (w.setVar h v) = sv w := rfl
theorem scr_setVar (h : Nat) (v : Option Nat) : (w.setVar h v).scripts = w.scripts := rfl
frame_lemmas2 sv_setVar scr_setVar

theorem sv_periodicSense (s : Nat) : sv (w.periodicSense s) = sv w := by
  unfold World.periodicSense; frame
theorem scr_periodicSense (s : Nat) : (w.periodicSense s).scripts = w.scripts := by
  unfold World.periodicSense; frame
frame_lemmas2 sv_periodicSense scr_periodicSense

theorem scr_initAsset (a : AssetRef) : (w.initAsset a).scripts = w.scripts := by
  unfold World.initAsset; frame

theorem sv_initAsset_nondev (a : AssetRef) (h : ∀ d, a ≠ .dev d) : sv (w.initAsset a) = sv w := by
  unfold World.initAsset
  split
  · rename_i d; exact absurd rfl (h d)
  all_goals frame

end
end C02V
end SimProc
