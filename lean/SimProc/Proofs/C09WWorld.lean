/-
C09W — `R w (f w)` for every function of `Model/World.lean`: well-formed scripted operations,
constructors, maintainer / scheduler / sensor events, `exec` of every action (the availability
check through `scan_induct`), `simulateInit`, `step`, `runBegin`, `runLoop`.
-/
import SimProc.Proofs.C09WFloor

namespace SimProc
namespace C09W
open World FloorCoreL

@[simp] theorem KR_modMaint (w : World) (m : Nat) (f : Maint → Maint) :
    KR (w.modMaint m f) = KR w := rfl
@[simp] theorem KR_setVar (w : World) (h : Nat) (v : Option Nat) : KR (w.setVar h v) = KR w := rfl

macro_rules | `(tactic| r_step) => `(tactic| with_reducible apply R.trans_KR (h := KR_modMaint _ _ _))
macro_rules | `(tactic| r_step) => `(tactic| with_reducible apply R.trans_KR (h := KR_setVar _ _ _))

theorem R_startOrders (w : World) (m : Nat) (st : List Order) : R w (w.startOrders m st) := by
  unfold startOrders
  r_auto

macro_rules | `(tactic| r_step) => `(tactic| with_reducible apply R.trans (h2 := R_startOrders _ _ _))

theorem R_schedUpdate (w : World) (s : Nat) (advance : Bool) :
    R w (w.schedUpdate s advance) := by
  unfold schedUpdate
  dsimp only
  r_auto

macro_rules | `(tactic| r_step) => `(tactic| with_reducible apply R.trans (h2 := R_schedUpdate _ _ _))

theorem R_initAsset (w : World) (a : AssetRef) : R w (w.initAsset a) := by
  unfold initAsset
  split <;> (try dsimp only) <;> r_auto

macro_rules | `(tactic| r_step) => `(tactic| with_reducible apply R.trans (h2 := R_initAsset _ _))

/-! ### constructors -/

/-- Registering a new device whose declared request is a dictionary. -/
theorem R_appendDev (w : World) (d : Dev) (as : List AssetRef) (hd : reqOK d.resReq) :
    R w ({ w with devs := w.devs ++ [d], assets := as } : World) := by
  intro hq
  refine ⟨hq.inv, hq.scr, ?_⟩
  intro x hx
  have : x ∈ w.devs ++ [d] := hx
  rcases List.mem_append.1 this with h | h
  · exact hq.dev x h
  · have : x = d := by simpa using h
    subst this; exact hd

theorem R_addDev (w : World) (d : Dev) (hd : reqOK d.resReq) : R w (w.addDev d) := by
  unfold addDev
  extract_lets i d' ups w1 w2 gr w3
  have h1 : R w w1 := R_appendDev w _ _ hd
  have h2 : R w1 w2 := R.floor.rewire _ _ _
  have h3 : R w2 w3 := by
    show R w2 (if _ then _ else _)
    split
    · exact R.of_KR rfl
    · exact R.refl _
  have h4 : R w3 (if w3.started = true then w3.initAsset (AssetRef.dev i) else w3) := by
    split
    · exact R_initAsset _ _
    · exact R.refl _
  exact (h1.trans h2).trans (h3.trans h4)

macro_rules | `(tactic| r_step) => `(tactic|
  ((with_reducible apply R.trans (h2 := R_addDev _ _ ?hd)); case hd => first | (intro _ h; cases h) | assumption))

theorem R_addAsset (w : World) (spec : AssetSpec) (h : specWF spec) :
    R w (w.addAsset spec) := by
  cases spec with
  | dev d => exact R_addDev w d h
  | group gid devs ins outs =>
    simp only [addAsset]
    r_auto
  | maint cap v =>
    simp only [addAsset]
    r_auto
  | sched tt cyc =>
    simp only [addAsset]
    r_auto
  | sensor sw =>
    simp only [addAsset]
    r_auto
  | cms =>
    simp only [addAsset]
    r_auto

/-! ### scripted operations -/

/-- **Every well-formed operation keeps the invariant** (no condition on the event-queue side:
`opC` is not needed here). -/
theorem R_applyOp (w : World) (op : Op) (hop : opWF op) : R w (w.applyOp op).1 := by
  cases op with
  | sched t a k p => exact R.of_KR (KR_sched _ _ _ _ _)
  | schedRel dt a k p => exact R.of_KR (KR_sched _ _ _ _ _)
  | pause a => exact R.of_KR rfl
  | unpause a => exact R.of_KR rfl
  | cancel a => exact R.of_KR rfl
  | addRes r amt =>
    have h : C09.Inv w.rm → C09.Inv (w.rm.add r amt).1 := fun hi => C09.inv_add hi r amt
    simp only [applyOp]
    rcases hr : w.rm.add r amt with ⟨rm, res, recs, chk⟩
    rw [hr] at h
    dsimp only at h ⊢
    exact R_rmStep w rm recs chk h
  | reserve hd req =>
    have h : C09.Inv w.rm → C09.Inv (w.rm.reserve req).1 := fun hi => C09.inv_reserve hi req hop
    simp only [applyOp]
    rcases hr : w.rm.reserve req with ⟨rm, res, id, recs⟩
    rw [hr] at h
    dsimp only at h ⊢
    split
    · exact R.refl _
    · r_step
      exact R_rmStep w rm recs false h
  | release hd part =>
    simp only [applyOp]
    cases w.getVar hd with
    | none => exact R.refl _
    | some id =>
      dsimp only
      refine R_rmStep w _ _ _ (fun hi => C09.inv_release hi id part ?_)
      intro rel hp; subst hp; exact hop
  | merge h1 h2 =>
    simp only [applyOp]
    cases w.getVar h1 with
    | none => exact R.refl _
    | some a =>
      cases w.getVar h2 with
      | none => exact R.refl _
      | some b =>
        dsimp only
        exact R_rmSet w _ (fun hi => C09.inv_merge hi a b)
  | register k req =>
    simp only [applyOp]
    exact R_rmStep w _ _ _ (fun hi => inv_congr hi rfl rfl)
  | schedFail d t =>
    simp only [applyOp]
    split
    · exact R.refl _
    · exact R.of_KR (KR_sched _ _ _ _ _)
  | schedFailRel d dt =>
    simp only [applyOp]
    split
    · exact R.refl _
    · exact R.of_KR (KR_sched _ _ _ _ _)
  | shutdown d => simp only [applyOp]; r_auto
  | restore d => simp only [applyOp]; r_auto
  | block d b => simp only [applyOp]; r_auto
  | adjust d n => simp only [applyOp]; r_auto
  | setCycle d c => simp only [applyOp]; r_auto
  | offsetNext d o => simp only [applyOp]; r_auto
  | rewire d ups => simp only [applyOp]; r_auto
  | workOrder m tgt tag info =>
    simp only [applyOp]
    r_auto
  | setParams tgt tag dur need cost => simp only [applyOp]; r_auto
  | regObj s obj ovr => simp only [applyOp]; r_auto
  | unregObj s obj => simp only [applyOp]; r_auto
  | setVar k v => simp only [applyOp]; r_auto
  | addSensor c s => simp only [applyOp]; r_auto
  | create spec =>
    simp only [applyOp]
    exact R_addAsset w spec hop

theorem R_applyOps (w : World) (ops : List Op) (h : ∀ op ∈ ops, opWF op) :
    R w (w.applyOps ops) := by
  unfold applyOps
  induction ops generalizing w with
  | nil => exact R.refl _
  | cons op ops ih =>
    rw [List.foldl_cons]
    refine R.trans ?_ (ih _ (fun o ho => h o (List.mem_cons_of_mem _ ho)))
    exact (R_applyOp w op (h op List.mem_cons_self)).trans_KR (KR_addRes _ _)

theorem R_runScript (w : World) (k : Nat) : R w (w.runScript k) := by
  refine R.with_Q fun hp => ?_
  unfold runScript
  refine R_applyOps _ _ ?_
  intro op hop
  obtain ⟨s, hs, hm⟩ := mem_getD_nil hop
  exact hp.scr s hs op hm

macro_rules | `(tactic| r_step) => `(tactic| with_reducible apply R.trans (h2 := R_runScript _ _))

/-! ### maintainer events -/

theorem R_hookStart (w : World) (tgt : Nat) (tag : Int) : R w (w.hookStart tgt tag) := by
  unfold hookStart
  dsimp only
  r_auto

theorem R_hookEnd (w : World) (tgt : Nat) (tag : Int) : R w (w.hookEnd tgt tag) := by
  unfold hookEnd
  dsimp only
  r_auto

macro_rules | `(tactic| r_step) => `(tactic| with_reducible apply R.trans (h2 := R_hookStart _ _ _))
macro_rules | `(tactic| r_step) => `(tactic| with_reducible apply R.trans (h2 := R_hookEnd _ _ _))

theorem R_startWork (w : World) (m seq : Nat) : R w (w.startWork m seq) := by
  unfold startWork
  dsimp only
  r_auto

theorem R_finishWork (w : World) (m seq : Nat) : R w (w.finishWork m seq) := by
  unfold finishWork
  dsimp only
  r_auto

theorem R_periodicSense (w : World) (s : Nat) : R w (w.periodicSense s) := by
  unfold periodicSense
  dsimp only
  r_auto

/-! ### events -/

/-- Every action other than the availability check. -/
theorem R_exec (w : World) (a : Action) (ha : a ≠ .rmCheck) : R w (w.exec a) := by
  unfold exec
  split
  · exact R.refl _
  · exact R_runScript _ _
  · exact R.floor.finishCycle _ _
  · exact R.floor.passPart _ _
  · exact R.floor.failDev _ _
  · exact R.floor.releaseIfIdle _ _
  · exact absurd rfl ha
  · exact R_startWork _ _ _
  · exact R_finishWork _ _ _
  · exact R_schedUpdate _ _ _
  · exact R_periodicSense _ _
  · exact R.of_KR (KR_setErr _ _)

theorem R_simulateInit (w : World) : R w w.simulateInit := by
  unfold simulateInit
  split
  · exact R.refl _
  · rcases hr : w.rm.init with ⟨rm, recs, chk⟩
    have h' : C09.Inv w.rm → C09.Inv rm := by
      intro hi
      have : rm = w.rm.init.1 := by rw [hr]
      rw [this]
      exact inv_congr hi rfl rfl
    dsimp only
    r_step
    r_step
    exact R_rmStep w rm recs chk h'

/-! ### the availability check, events, the event loop -/

theorem Q_addRes {w : World} (hq : Q w) (r : Res) : Q (w.addRes r) := hq.of_KR rfl

/-- Removing a waiting entry. -/
theorem Q_erase {w : World} (hq : Q w) (i : Nat) : Q (scanOps.erase w i) :=
  ⟨inv_congr hq.inv rfl rfl, hq.scr, hq.dev⟩

/-- A callback run by the check — a processor's resource callback or a script (which may reserve,
release, merge, add capacity, register …) — keeps the invariant. -/
theorem Q_call {w : World} (hq : Q w) (cb : Cb) (req : Req) : Q (scanOps.call w cb req) := by
  cases cb with
  | script k => exact R_runScript _ k (Q_addRes hq _)
  | proc d => exact R.floor.procResourceCb w d hq

/-- **The check keeps the invariant** (with any fuel, from any index). -/
theorem Q_scan (f : Nat) (w : World) (i : Nat) (hq : Q w) : Q (scanWaiting scanOps f w i) :=
  C10W.scan_induct scanOps Q (fun _ i req cb h _ _ => Q_erase (Q_call h cb req) i) f w i hq

theorem Q.exec {w : World} (h : Q w) (a : Action) : Q (w.exec a) := by
  by_cases ha : a = .rmCheck
  · subst ha; exact Q_scan 10000 w 0 h
  · exact R_exec w a ha h

theorem Q.step {w w' : World} {e : Event} (h : Q w) (hst : w.step = some (e, w')) : Q w' := by
  obtain ⟨env1, _, _, hdead, hlive⟩ := C01W.step_via hst
  have h1 : Q ({ w with env := env1 } : World) := h.of_KR rfl
  cases hl : e.live with
  | true => rw [hlive hl]; exact h1.exec _
  | false => rw [hdead hl]; exact h1

theorem KR_runBegin (w : World) (d : Int) : KR (w.runBegin d).1 = KR w := by
  unfold World.runBegin
  dsimp only
  split <;> rfl

theorem Q.runBegin {w : World} (h : Q w) (d : Int) : Q (w.runBegin d).1 := h.of_KR (KR_runBegin w d)

theorem Q.runLoop (n : Nat) : ∀ {w : World}, Q w → Q (World.runLoop n w) := by
  induction n with
  | zero => intro w h; exact h.of_KR (KR_setErr _ _)
  | succ n ih =>
    intro w h
    unfold World.runLoop
    split
    · split
      · exact h
      · rename_i e w' hst
        exact ih (h.step hst)
    · exact h

end C09W
end SimProc
