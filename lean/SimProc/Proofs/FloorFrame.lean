/-
Frame lemmas for `Model/Floor.lean`.  No function of the floor writes to the scripts: that
relation contains the atoms of the floor (`scr_floor`).  The slot view `sv` and the static view
`st` read device fields that hand-overs write, so they are not closed under the atom `setDev`;
here are the functions that move no part.  They write only device fields that neither view reads,
so each is walked once for the pair of views (`SvSt`), as the chain of its primitive updates.
-/
import SimProc.Proofs.Views
import SimProc.Proofs.FloorWalk
namespace SimProc
namespace C02V
open World

/-- declare three frame lemmas as rewrite steps of `frame` -/
macro "frame_lemmas" a:ident b:ident c:ident : command =>
  `(macro_rules | `(tactic| fr_step) => `(tactic| first | rw [$a:ident] | rw [$b:ident] | rw [$c:ident]))

/-- declare two frame lemmas as rewrite steps of `frame` -/
macro "frame_lemmas2" a:ident b:ident : command =>
  `(macro_rules | `(tactic| fr_step) => `(tactic| first | rw [$a:ident] | rw [$b:ident]))

/-- declare a frame lemma as a rewrite step of `frame` -/
macro "frame_lemma1" a:ident : command =>
  `(macro_rules | `(tactic| fr_step) => `(tactic| rw [$a:ident]))

theorem scr_floor : FloorClosed.Ops (fun w w' => w'.scripts = w.scripts) where
  toFloorClosed := .ofAtoms (fun _ => rfl) (fun h1 h2 => h2.trans h1) scr_setErr
    (fun _ _ _ => rfl) (fun _ _ _ => rfl) (fun _ _ _ _ => rfl) (fun _ _ _ => rfl)
    (fun w t a act p _ => scr_schedLib w t a act p) (fun _ _ _ => rfl) (fun _ _ => rfl)
    (fun _ _ => rfl) (fun _ _ => rfl) (fun _ _ => rfl) (fun _ _ => rfl) (fun _ _ => rfl)
  setBlockInput := fun _ _ _ => rfl
  setMaxParts := fun _ _ _ => rfl
  setWiring := fun _ _ _ _ => rfl
  setInited := fun _ _ _ => rfl
  clearWaitingRes := fun _ _ => rfl

theorem scr_senseOutput (w : World) (s p : Nat) : (w.senseOutput s p).scripts = w.scripts :=
  World.senseOutput_walk (R := fun w w' => w'.scripts = w.scripts) (fun _ => rfl)
    (fun h1 h2 => h2.trans h1) (fun _ _ => rfl) (fun _ _ _ => rfl) w s p

/-- `w'` shows the same slots and the same static data as `w`. -/
def SvSt (w w' : World) : Prop := sv w' = sv w ∧ st w' = st w

namespace SvSt

theorem refl (w : World) : SvSt w w := ⟨rfl, rfl⟩
theorem trans {a b c : World} (h1 : SvSt a b) (h2 : SvSt b c) : SvSt a c :=
  ⟨h2.1.trans h1.1, h2.2.trans h1.2⟩

theorem ite {w a b : World} {c : Prop} [Decidable c] (ha : SvSt w a) (hb : SvSt w b) :
    SvSt w (if c then a else b) := by
  split
  · exact ha
  · exact hb

theorem foldl {α : Type} (g : World → α → World) (hg : ∀ w a, SvSt w (g w a)) (l : List α)
    (w : World) : SvSt w (l.foldl g w) :=
  foldl_inv (SvSt w) g l w (refl w) fun _ a h => h.trans (hg _ a)

section
variable (w : World)

theorem setErr (m : String) : SvSt w (w.setErr m) := ⟨sv_setErr .., st_setErr ..⟩
theorem addRec (r : Rec) : SvSt w (w.addRec r) := ⟨rfl, rfl⟩
theorem addRes (r : Res) : SvSt w (w.addRes r) := ⟨rfl, rfl⟩
theorem envOp (op : EnvOp) : SvSt w (w.envOp op) := ⟨rfl, rfl⟩
theorem setRm (rm : RM) : SvSt w { w with rm := rm } := ⟨rfl, rfl⟩
theorem schedLib (t a : Int) (act : Action) (p : Int) : SvSt w (w.schedLib t a act p) :=
  ⟨sv_schedLib .., st_schedLib ..⟩
theorem rmEffects (recs : List ResRec) (c : Bool) : SvSt w (w.rmEffects recs c) :=
  ⟨sv_rmEffects .., st_rmEffects ..⟩
/-- The side conditions are by default `rfl`: the written device differs from the old one in
fields that neither view reads. -/
theorem setDev (x : Nat) (d : Dev) (h1 : sdev d = sdev (w.dev x) := by rfl)
    (h2 : tdev d = tdev (w.dev x) := by rfl) : SvSt w (w.setDev x d) :=
  ⟨sv_setDev_same w x d h1, st_setDev_same w x d h2⟩
theorem modDev (x : Nat) (f : Dev → Dev) (h1 : ∀ d, sdev (f d) = sdev d := by intro _; rfl)
    (h2 : ∀ d, tdev (f d) = tdev d := by intro _; rfl) : SvSt w (w.modDev x f) :=
  setDev w x _ (h1 _) (h2 _)
theorem modPart (p : Nat) (f : PartRec → PartRec) (h : ∀ r, (f r).kids = r.kids := by intro _; rfl) :
    SvSt w (w.modPart p f) := ⟨sv_modPart_same w p f h, rfl⟩

theorem setWaiting (x : Nat) (a b : Bool) : SvSt w (w.setWaiting x a b) := by
  unfold World.setWaiting
  exact ite (setDev _ _ _) (ite (refl _) (ite (setDev _ _ _) (refl _)))

theorem schedulePass (x : Nat) (o : Int) : SvSt w (w.schedulePass x o) := by
  unfold World.schedulePass
  dsimp only
  split
  · exact refl _
  · exact (setDev _ _ _).trans (schedLib ..)

theorem notifyUp_spaceAvail (n : Nat) (x : Nat) :
    SvSt w (World.notifyUp n w x) ∧ SvSt w (World.spaceAvail n w x) :=
  World.notify_walk refl trans (setErr · _) (fun w x _ => setWaiting w x _ _)
    (fun w x _ _ => schedulePass w x _) n w x

theorem notify (x : Nat) : SvSt w (w.notify x) := (notifyUp_spaceAvail w _ x).1
theorem spaceAvailable (x : Nat) : SvSt w (w.spaceAvailable x) := (notifyUp_spaceAvail w _ x).2

theorem releaseReserved (x : Nat) : SvSt w (w.releaseReserved x) := by
  unfold World.releaseReserved
  split
  · exact refl _
  · exact ((setRm ..).trans (rmEffects ..)).trans (modDev _ _ _)

theorem procAcquire (x : Nat) : SvSt w (w.procAcquire x).1 := by
  have reg : ∀ rm recs chk (f : Dev → Dev), (∀ d, sdev (f d) = sdev d) → (∀ d, tdev (f d) = tdev d) →
      SvSt w ((({ w with rm := rm } : World).rmEffects recs chk).modDev x f) := fun _ _ _ _ h1 h2 =>
    ((setRm ..).trans (rmEffects ..)).trans (modDev _ _ _ h1 h2)
  unfold World.procAcquire
  dsimp only
  split
  · exact refl _
  · split
    · exact refl _
    · split
      · exact reg _ _ _ _ (fun _ => rfl) (fun _ => rfl)
      · exact setErr ..
      · split
        · exact refl _
        · exact reg _ _ _ _ (fun _ => rfl) (fun _ => rfl)

theorem applyPartCb (x p : Nat) (c : PartCb) : SvSt w (w.applyPartCb x p c) := by
  have hC : ∀ w : World, SvSt w (match c.setCycle with
      | some v => w.modDev x (fun d => { d with cycle := v })
      | none => w) := fun w => by
    split
    · exact modDev _ _ _
    · exact refl _
  have hV : ∀ w : World, SvSt w (if c.addValue == 0 then w else
      w.modPart p (fun r => { r with value := r.value + c.addValue })) := fun w =>
    ite (refl _) (modPart _ _ _)
  have hQ : ∀ w : World, SvSt w (match c.setQuality with
      | some q => w.modPart p (fun r => { r with quality := q })
      | none => w) := fun w => by
    split
    · exact modPart _ _ _
    · exact refl _
  exact ((hC w).trans (modDev _ _ _)).trans (ite (refl _) ((hV _).trans (hQ _)))

theorem setSensors (l : List SensorW) : SvSt w { w with sensors := l } := ⟨rfl, rfl⟩

theorem senseOutput (s p : Nat) : SvSt w (w.senseOutput s p) := by
  unfold World.senseOutput
  dsimp only
  exact ite (((setSensors ..).trans (setSensors ..)).trans (foldl _ (fun _ _ => addRes ..) _ _))
    (setSensors ..)

theorem addHist (p d : Nat) : SvSt w (w.addHist p d) := by
  unfold World.addHist
  dsimp only
  split
  · exact (modPart _ _ _).trans (foldl _ (fun _ _ => modPart _ _ _) _ _)
  · exact modPart _ _ _

theorem dropHist (p : Nat) : SvSt w (w.dropHist p) := by
  unfold World.dropHist
  dsimp only
  split
  · exact (modPart _ _ _).trans (foldl _ (fun _ _ => modPart _ _ _) _ _)
  · exact modPart _ _ _

theorem shutdownDev (x : Nat) (f : Bool) (l : Option Nat) : SvSt w (w.shutdownDev x f l) := by
  have cbs : ∀ (w : World) n b, SvSt w ((List.range n).foldl (fun w k => w.addRes (.shut x k b l)) w) :=
    fun w _ _ => foldl _ (fun _ _ => addRes ..) _ w
  unfold World.shutdownDev
  dsimp only
  refine ite (ite ((envOp ..).trans (cbs ..)) (refl _))
    (((((setDev _ _ _).trans (ite (envOp ..) (envOp ..))).trans (setDev _ _ _ ?_ ?_)).trans
      (setWaiting ..)).trans (cbs ..))
  · split <;> rfl
  · split <;> rfl

theorem restoreDev (x : Nat) : SvSt w (w.restoreDev x) := by
  unfold World.restoreDev
  dsimp only
  exact ite (refl _) (((((setDev _ _ _).trans (envOp ..)).trans
    (ite (schedulePass ..) (ite (notify ..) (refl _)))).trans (ite (modDev _ _ _) (refl _))).trans
    (foldl _ (fun _ _ => addRes ..) _ _))

theorem releaseIfIdle (x : Nat) : SvSt w (w.releaseIfIdle x) := by
  unfold World.releaseIfIdle
  exact ite (releaseReserved ..) (refl _)

theorem procResourceCb (x : Nat) : SvSt w (w.procResourceCb x) :=
  (modDev _ _ _).trans (notify ..)

theorem setBlock (x : Nat) (b : Bool) : SvSt w (w.setBlock x b) := by
  unfold World.setBlock
  exact ite (refl _) ((modDev _ _ _).trans (ite (notify ..) (refl _)))

end
end SvSt

/-- The notifications keep every projection that `setWaiting`, `schedulePass` and `setErr` keep. -/
theorem notify_proj {γ : Type} (π : World → γ)
    (hSW : ∀ w x a b, π (setWaiting w x a b) = π w) (hSP : ∀ w x o, π (schedulePass w x o) = π w)
    (hE : ∀ w m, π (setErr w m) = π w) (f : Nat) :
    ∀ (w : World) (x : Nat), π (notifyUp f w x) = π w ∧ π (spaceAvail f w x) = π w :=
  World.notify_walk (R := fun w w' => π w' = π w) (fun _ => rfl) (fun h1 h2 => h2.trans h1)
    (hE · _) (fun w x _ => hSW w x _ _) (fun w x _ _ => hSP w x _) f

section
variable (w : World)

theorem sv_setWaiting (x : Nat) (a b : Bool) : sv (w.setWaiting x a b) = sv w := (SvSt.setWaiting ..).1
theorem st_setWaiting (x : Nat) (a b : Bool) : st (w.setWaiting x a b) = st w := (SvSt.setWaiting ..).2
theorem sv_schedulePass (x : Nat) (o : Int) : sv (w.schedulePass x o) = sv w := (SvSt.schedulePass ..).1
theorem st_schedulePass (x : Nat) (o : Int) : st (w.schedulePass x o) = st w := (SvSt.schedulePass ..).2
theorem sv_notify (x : Nat) : sv (w.notify x) = sv w := (SvSt.notify ..).1
theorem st_notify (x : Nat) : st (w.notify x) = st w := (SvSt.notify ..).2
theorem sv_spaceAvailable (x : Nat) : sv (w.spaceAvailable x) = sv w := (SvSt.spaceAvailable ..).1
theorem st_spaceAvailable (x : Nat) : st (w.spaceAvailable x) = st w := (SvSt.spaceAvailable ..).2
theorem sv_releaseReserved (x : Nat) : sv (w.releaseReserved x) = sv w := (SvSt.releaseReserved ..).1
theorem st_releaseReserved (x : Nat) : st (w.releaseReserved x) = st w := (SvSt.releaseReserved ..).2
theorem sv_procAcquire (x : Nat) : sv (w.procAcquire x).1 = sv w := (SvSt.procAcquire ..).1
theorem st_procAcquire (x : Nat) : st (w.procAcquire x).1 = st w := (SvSt.procAcquire ..).2
theorem sv_applyPartCb (x p : Nat) (c : PartCb) : sv (w.applyPartCb x p c) = sv w :=
  (SvSt.applyPartCb ..).1
theorem st_applyPartCb (x p : Nat) (c : PartCb) : st (w.applyPartCb x p c) = st w :=
  (SvSt.applyPartCb ..).2
theorem sv_senseOutput (s p : Nat) : sv (w.senseOutput s p) = sv w := (SvSt.senseOutput ..).1
theorem st_senseOutput (s p : Nat) : st (w.senseOutput s p) = st w := (SvSt.senseOutput ..).2
theorem sv_addHist (p d : Nat) : sv (w.addHist p d) = sv w := (SvSt.addHist ..).1
theorem st_addHist (p d : Nat) : st (w.addHist p d) = st w := (SvSt.addHist ..).2
theorem sv_dropHist (p : Nat) : sv (w.dropHist p) = sv w := (SvSt.dropHist ..).1
theorem st_dropHist (p : Nat) : st (w.dropHist p) = st w := (SvSt.dropHist ..).2
theorem sv_shutdownDev (x : Nat) (f : Bool) (l : Option Nat) : sv (w.shutdownDev x f l) = sv w :=
  (SvSt.shutdownDev ..).1
theorem st_shutdownDev (x : Nat) (f : Bool) (l : Option Nat) : st (w.shutdownDev x f l) = st w :=
  (SvSt.shutdownDev ..).2
theorem sv_restoreDev (x : Nat) : sv (w.restoreDev x) = sv w := (SvSt.restoreDev ..).1
theorem st_restoreDev (x : Nat) : st (w.restoreDev x) = st w := (SvSt.restoreDev ..).2
theorem sv_releaseIfIdle (x : Nat) : sv (w.releaseIfIdle x) = sv w := (SvSt.releaseIfIdle ..).1
theorem st_releaseIfIdle (x : Nat) : st (w.releaseIfIdle x) = st w := (SvSt.releaseIfIdle ..).2
theorem sv_procResourceCb (x : Nat) : sv (w.procResourceCb x) = sv w := (SvSt.procResourceCb ..).1
theorem st_procResourceCb (x : Nat) : st (w.procResourceCb x) = st w := (SvSt.procResourceCb ..).2
theorem sv_setBlock (x : Nat) (b : Bool) : sv (w.setBlock x b) = sv w := (SvSt.setBlock ..).1
theorem st_setBlock (x : Nat) (b : Bool) : st (w.setBlock x b) = st w := (SvSt.setBlock ..).2

/-! `adjustParts` and `rewire` write fields that `st` reads; they keep the slot view. -/

theorem sv_adjustParts (x : Nat) (v : Int) : sv (w.adjustParts x v) = sv w := by
  unfold World.adjustParts
  dsimp only
  split
  · rfl
  · split
    · rw [sv_schedulePass]; exact sv_setDev_same _ _ _ rfl
    · exact sv_setDev_same _ _ _ rfl

theorem sv_rewire (x : Nat) (ups : List Nat) : sv (w.rewire x ups) = sv w := by
  unfold World.rewire
  dsimp only
  rw [foldl_proj sv, sv_modDev_same, foldl_proj sv]
  · split
    · exact sv_setWaiting ..
    · rfl
  · exact fun _ _ => sv_modDev_same _ _ _ fun _ => rfl
  · exact fun _ => rfl
  · intro w u
    split
    · rfl
    · split
      · rw [sv_spaceAvailable]; exact sv_modDev_same _ _ _ fun _ => rfl
      · exact sv_modDev_same _ _ _ fun _ => rfl

end

frame_lemmas2 sv_setWaiting st_setWaiting
frame_lemmas2 sv_schedulePass st_schedulePass
frame_lemmas2 sv_notify st_notify
frame_lemmas2 sv_spaceAvailable st_spaceAvailable
macro_rules | `(tactic| fr_step) => `(tactic| first
  | rw [foldl_proj sv] | rw [foldl_proj st] | rw [foldl_proj World.scripts] | intro _ | simp only [])
frame_lemmas2 sv_releaseReserved st_releaseReserved
frame_lemmas2 sv_procAcquire st_procAcquire
frame_lemmas2 sv_applyPartCb st_applyPartCb
frame_lemmas2 sv_senseOutput st_senseOutput
frame_lemmas2 sv_addHist st_addHist
frame_lemmas2 sv_dropHist st_dropHist
frame_lemmas2 sv_shutdownDev st_shutdownDev
frame_lemmas2 sv_restoreDev st_restoreDev
frame_lemmas2 sv_releaseIfIdle st_releaseIfIdle
frame_lemmas2 sv_procResourceCb st_procResourceCb
frame_lemmas2 sv_setBlock st_setBlock
frame_lemmas2 sv_rewire sv_adjustParts

/-- like `frame`, but also splits inside fold bodies -/
macro "frame'" : tactic => `(tactic| ((try simp only []); repeat' (first | fr_step | split)))

end C02V
end SimProc
