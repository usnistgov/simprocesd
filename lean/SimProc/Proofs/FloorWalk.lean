/-
Walking a relation through the factory floor.

Every function of `Model/Floor.lean` is a composition of a few atomic updates of the world (an
error flag, a record, a result, the state of one device, one part, an event of a device, …).  A
reflexive, transitive relation that contains those atoms (`FloorClosed`) therefore contains
`w ↦ f w` for every function `f` of the floor; this is proved here once, function by function.  A projection `π` that the atoms leave unchanged is the special
case `R w w' := π w' = π w`.
-/
import SimProc.Model.World

namespace SimProc

theorem mem_getD_nil {α} {l : List (List α)} {k : Nat} {a : α} (h : a ∈ l.getD k []) :
    ∃ s ∈ l, a ∈ s := by
  rw [List.getD_eq_getElem?_getD] at h
  cases hk : l[k]? with
  | none => rw [hk] at h; cases h
  | some s => rw [hk] at h; exact ⟨s, List.mem_of_getElem? hk, h⟩

/-- A device with its state blanked.  What remains is written by no hand-over, cycle, failure or
notification: kind, asset id, wiring, input block, initialisation flag, callbacks and sensors,
part budget, generator parameters, delay, capacity, batch size, predicate, group (only `setBlock`,
`adjustParts`, `rewire` and `initDev` write to these), and the resource requirement with the
reservation and the waiting flag (only `releaseReserved`, `procAcquire`, `procResourceCb`). -/
def Dev.cfg (d : Dev) : Dev :=
  { d with val := {}, cycle := 0, offset := 0, part := none, output := none, waitingDS := false,
           since := none, shutDown := false, uptime := 0, lastRestore := none, timeInUse := 0,
           lastUseStart := none, produced := 0, costProduced := 0, collected := [],
           recvCount := 0, recvValue := 0, buf := [], level := 0, inprog := none }

/-- The records written by the floor, apart from the `produced` record of a finished part, which
belongs to `World.produce`. -/
def Rec.byFloor : Rec → Bool
  | .workOrder .. | .schedUpdate .. | .produced .. => false
  | _ => true

/-- The results logged by a machine that is shut down or restored (one per callback). -/
def Res.byMachine : Res → Bool
  | .shut .. | .restored .. => true
  | _ => false

namespace World

/-- What a processor does with the part `p` it has finished, after its own callbacks: the attached
output sensors sense the part, then the `produced` record is written (the end of
`PartProcessor._finish_cycle`).  One step, because an observer of sensors and records — the sampling
theorems of C19 — sees the samples and the record of one part together. -/
def produce (w : World) (x p : Nat) : World :=
  let w := (w.dev x).finSensors.foldl (fun w s => w.senseOutput s p) w
  w.addRec (.produced x w.now p (w.part p).quality (w.partValue p))

/-- The events the floor schedules: hand-over, end of cycle and release of resources of a device
(under the device's asset id, with the library's priority), and the resource manager's check of
its pending requests. -/
inductive FloorEvent (w : World) : Int → Action → Int → Prop
  | pass (x : Nat) : FloorEvent w (w.dev x).aid (.passPart x) pPassPart
  | finish (x : Nat) : FloorEvent w (w.dev x).aid (.finishCycle x) pFinish
  | release (x : Nat) : FloorEvent w (w.dev x).aid (.releaseIfIdle x) pRelease
  | rmCheck : FloorEvent w (-1) .rmCheck pOtherHigh

/-- The queue operations of a machine that is shut down, fails or is restored. -/
inductive FloorEnvOp (w : World) : EnvOp → Prop
  | pause (x : Nat) : FloorEnvOp w (.pause (w.dev x).aid)
  | unpause (x : Nat) : FloorEnvOp w (.unpause (w.dev x).aid)
  | cancel (x : Nat) : FloorEnvOp w (.cancel (w.dev x).aid)

/-- What `setDev` keeps of the written device, it keeps of every device. -/
theorem dev_setDev_proj {α} (g : Dev → α) (w : World) (x : Nat) (d : Dev) (h : g d = g (w.dev x))
    (y : Nat) : g ((w.setDev x d).dev y) = g (w.dev y) := by
  simp only [dev, setDev, List.getD_eq_getElem?_getD, List.getElem?_set] at h ⊢
  split
  · next hxy => subst hxy; split <;> simp_all
  · rfl

/-- Writing a device with the same `cfg` moves no asset id. -/
theorem aid_setDev (w : World) (x : Nat) (d : Dev) (h : d.cfg = (w.dev x).cfg) (y : Nat) :
    ((w.setDev x d).dev y).aid = (w.dev y).aid :=
  dev_setDev_proj Dev.aid w x d (congrArg Dev.aid h :) y

theorem FloorEvent.of_setDev {w : World} {x : Nat} {d : Dev} (h : d.cfg = (w.dev x).cfg)
    {a : Int} {act : Action} {p : Int} (he : FloorEvent w a act p) :
    FloorEvent (w.setDev x d) a act p := by
  cases he with
  | pass y => rw [← aid_setDev w x d h y]; exact .pass y
  | finish y => rw [← aid_setDev w x d h y]; exact .finish y
  | release y => rw [← aid_setDev w x d h y]; exact .release y
  | rmCheck => exact .rmCheck

theorem FloorEnvOp.of_setDev {w : World} {x : Nat} {d : Dev} (h : d.cfg = (w.dev x).cfg)
    {op : EnvOp} (he : FloorEnvOp w op) : FloorEnvOp (w.setDev x d) op := by
  cases he with
  | pause y => rw [← aid_setDev w x d h y]; exact .pause y
  | unpause y => rw [← aid_setDev w x d h y]; exact .unpause y
  | cancel y => rw [← aid_setDev w x d h y]; exact .cancel y

/-- A fold of steps that are in a reflexive, transitive relation is in it. -/
theorem foldl_walk {R : World → World → Prop} (refl : ∀ w, R w w)
    (trans : ∀ {a b c}, R a b → R b c → R a c) {α} (g : World → α → World)
    (hg : ∀ w a, R w (g w a)) (l : List α) (w : World) : R w (l.foldl g w) := by
  induction l generalizing w with
  | nil => exact refl w
  | cons a l ih => exact trans (hg w a) (ih _)

/-- A relation on worlds that contains the atomic updates of the floor.  The resource manager, the
sensors and the part table are written by four functions only (`releaseReserved`, `procAcquire`,
`produce`, `genPart`); they are atoms here, so that a relation which looks into those components
can say what it needs of them.  `FloorClosed.ofAtoms` derives them for a relation that does not.
`produce` is asked only of a device that exists: a processor that finishes a part holds it in its
output, and the default device holds none. -/
structure FloorClosed (R : World → World → Prop) : Prop where
  refl : ∀ w, R w w
  trans : ∀ {a b c}, (h1 : R a b) → (h2 : R b c) → R a c
  setErr : ∀ w m, R w (w.setErr m)
  addRec : ∀ w r, r.byFloor = true → R w (w.addRec r)
  addRes : ∀ w r, r.byMachine = true → R w (w.addRes r)
  setDev : ∀ w x d, d.cfg = (w.dev x).cfg → R w (w.setDev x d)
  modPart : ∀ w p f, R w (w.modPart p f)
  newPart : ∀ w r, R w (w.newPart r).1
  schedLib : ∀ w t a act p, w.FloorEvent a act p → R w (w.schedLib t a act p)
  envOp : ∀ w op, w.FloorEnvOp op → R w (w.envOp op)
  setDelivered : ∀ w l, R w { w with delivered := l }
  setLost : ∀ w l, R w { w with lost := l }
  releaseReserved : ∀ w x, R w (w.releaseReserved x)
  procAcquire : ∀ w x, R w (w.procAcquire x).1
  produce : ∀ w x p, x < w.devs.length → R w (w.produce x p)
  genPart : ∀ w x, R w (w.genPart x).1

/-- On top of the floor's atoms: the device fields written by the scripted operations `setBlock`,
`adjustParts`, `rewire`, by `initDev`, and by the resource manager's call-back `procResourceCb`. -/
structure FloorClosed.Ops (R : World → World → Prop) : Prop extends FloorClosed R where
  setBlockInput : ∀ w x b, R w (w.setDev x { w.dev x with blockInput := b })
  setMaxParts : ∀ w x m, R w (w.setDev x { w.dev x with maxParts := m })
  setWiring : ∀ w x u d, R w (w.setDev x { w.dev x with up := u, down := d })
  setInited : ∀ w x v, R w (w.setDev x { w.dev x with inited := true, val := v })
  clearWaitingRes : ∀ w x, R w (w.setDev x { w.dev x with waitingRes := false })

namespace FloorClosed
variable {R : World → World → Prop}

theorem foldl (h : FloorClosed R) {α} (g : World → α → World) (hg : ∀ w a, R w (g w a))
    (l : List α) (w : World) : R w (l.foldl g w) :=
  foldl_walk h.refl h.trans g hg l w

/-- Transport along the equation a `split` leaves for a pair-valued call. -/
theorem of_fst_eq {α} {w w' : World} {e : World × α} {b : α} (he : R w e.1) (heq : e = (w', b)) :
    R w w' := by
  subst heq; exact he

theorem modDev (h : FloorClosed R) (w : World) (x : Nat) (f : Dev → Dev)
    (hf : (f (w.dev x)).cfg = (w.dev x).cfg) : R w (w.modDev x f) := h.setDev w x _ hf

theorem rmEffects (h : FloorClosed R) (w : World) (recs : List ResRec) (chk : Bool) :
    R w (w.rmEffects recs chk) := by
  unfold World.rmEffects
  have h1 := h.foldl (fun w (r : ResRec) => w.addRec (.resUpdate r.res w.now r.inUse r.cap))
    (fun w r => h.addRec w _ rfl) recs w
  split
  · exact h.trans h1 (h.schedLib _ _ _ _ _ .rmCheck)
  · exact h1

/-! `senseOutput`, `genPart` and `produce` as compositions of the updates named in the hypotheses,
for a relation that is not a `FloorClosed` or has to build the three atoms. -/

theorem _root_.SimProc.World.senseOutput_walk (refl : ∀ w, R w w)
    (trans : ∀ {a b c}, R a b → R b c → R a c) (setSensors : ∀ w s, R w { w with sensors := s })
    (addRes : ∀ w r, (r matches .sense ..) = true → R w (w.addRes r)) (w : World) (s p : Nat) :
    R w (w.senseOutput s p) := by
  have foldl := @foldl_walk R refl trans Nat
  unfold World.senseOutput
  dsimp only
  split
  · exact trans (trans (setSensors w _) (setSensors _ _)) (foldl _ (fun w c => addRes w _ rfl) _ _)
  · exact setSensors w _

theorem _root_.SimProc.World.genPart_walk (refl : ∀ w, R w w)
    (trans : ∀ {a b c}, R a b → R b c → R a c) (newPart : ∀ w r, R w (w.newPart r).1)
    (setGenerated : ∀ w l, R w { w with generated := l }) (w : World) (x : Nat) :
    R w (w.genPart x).1 := by
  unfold World.genPart
  dsimp only
  split
  · exact trans (newPart w _) (setGenerated _ _)
  · have hf : ∀ (l : List Nat) (acc : World × List Nat), R acc.1 (l.foldl
        (fun (acc : World × List Nat) _ =>
          let (w', k) := acc.1.newPart
            { quality := (w.dev x).genQuality, value := (w.dev x).genValue }
          (w', acc.2 ++ [k])) acc).1 := by
      intro l
      induction l with
      | nil => exact fun acc => refl _
      | cons a l ih => exact fun acc => trans (newPart acc.1 _) (ih (_, _))
    exact trans (trans (hf _ (w, [])) (setGenerated _ _)) (newPart _ _)

/-- `produce` from its two halves, for a relation that contains a single sensing and a single
`produced` record. -/
theorem _root_.SimProc.World.produce_walk (refl : ∀ w, R w w)
    (trans : ∀ {a b c}, R a b → R b c → R a c)
    (senseOutput : ∀ w s p, R w (w.senseOutput s p))
    (produced : ∀ w x t p q v, R w (w.addRec (.produced x t p q v))) (w : World) (x p : Nat) :
    R w (w.produce x p) := by
  exact trans (foldl_walk refl trans _ (fun w s => senseOutput w s p) _ w) (produced _ _ _ _ _ _)

/-- A relation that does not look at the resource manager, the sensors, the part table or the
ghost log of generated parts contains the four functions that write them. -/
theorem ofAtoms (refl : ∀ w, R w w) (trans : ∀ {a b c}, R a b → R b c → R a c)
    (setErr : ∀ w m, R w (w.setErr m))
    (addRec : ∀ w r, (r.byFloor || r matches .produced ..) = true → R w (w.addRec r))
    (addRes : ∀ w r, (r.byMachine || r matches .sense ..) = true → R w (w.addRes r))
    (setDev : ∀ w x d, { d.cfg with reserved := none, waitingRes := false } =
      { (w.dev x).cfg with reserved := none, waitingRes := false } → R w (w.setDev x d))
    (modPart : ∀ w p f, R w (w.modPart p f))
    (schedLib : ∀ w t a act p, w.FloorEvent a act p → R w (w.schedLib t a act p))
    (envOp : ∀ w op, w.FloorEnvOp op → R w (w.envOp op))
    (setRm : ∀ w rm, R w { w with rm := rm })
    (setSensors : ∀ w s, R w { w with sensors := s })
    (setParts : ∀ w l, R w { w with parts := l })
    (setGenerated : ∀ w l, R w { w with generated := l })
    (setDelivered : ∀ w l, R w { w with delivered := l })
    (setLost : ∀ w l, R w { w with lost := l }) : FloorClosed R := by
  have foldl := @foldl_walk R refl trans
  have rmEff : ∀ w recs chk, R w (World.rmEffects w recs chk) := by
    intro w recs chk
    unfold World.rmEffects
    have h1 := foldl (fun w (r : ResRec) => w.addRec (.resUpdate r.res w.now r.inUse r.cap))
      (fun w r => addRec w _ rfl) recs w
    split
    · exact trans h1 (schedLib _ _ _ _ _ .rmCheck)
    · exact h1
  have newPart : ∀ w r, R w (World.newPart w r).1 := fun w r => setParts w _
  refine { refl, trans, setErr, modPart, newPart, schedLib, envOp, setDelivered, setLost,
           addRec := fun w r hr => addRec w r (by rw [hr]; rfl),
           addRes := fun w r hr => addRes w r (by rw [hr]; rfl),
           setDev := fun w x d hd => setDev w x d (by rw [hd]),
           releaseReserved := ?_, procAcquire := ?_, produce := ?_, genPart := ?_ }
  · -- releaseReserved
    intro w x
    unfold World.releaseReserved
    split
    · exact refl w
    · exact trans (trans (setRm w _) (rmEff _ _ _)) (setDev _ _ _ rfl)
  · -- procAcquire
    intro w x
    unfold World.procAcquire
    dsimp only
    split
    · exact refl w
    · split
      · exact refl w
      · split
        · exact trans (trans (setRm w _) (rmEff _ _ _)) (setDev _ _ _ rfl)
        · exact setErr w _
        · split
          · exact refl w
          · exact trans (trans (setRm w _) (rmEff _ _ _)) (setDev _ _ _ rfl)
  · exact fun w x p _ => World.produce_walk refl trans
      (World.senseOutput_walk refl trans setSensors fun w r hr => addRes w r (by rw [hr]; simp))
      (fun w _ _ _ _ _ => addRec w _ rfl) w x p
  · exact World.genPart_walk refl trans newPart setGenerated

theorem _root_.SimProc.World.schedLib_devs (w : World) (t a : Int) (act : Action) (p : Int) :
    (w.schedLib t a act p).devs = w.devs := by
  have h : (w.sched t a act p).1.devs = w.devs := by
    unfold World.sched
    dsimp only
    split <;> rfl
  unfold World.schedLib
  split <;> rename_i heq <;> rw [heq] at h
  · exact h
  · unfold World.setErr
    split <;> exact h

/-- No atom of the floor moves the sensors attached to a device, or adds a device. -/
theorem finSensorsKept :
    FloorClosed fun w w' => w'.devs.length = w.devs.length ∧
      ∀ y, (w'.dev y).finSensors = (w.dev y).finSensors :=
  .ofAtoms (fun _ => ⟨rfl, fun _ => rfl⟩)
    (fun h1 h2 => ⟨h2.1.trans h1.1, fun y => (h2.2 y).trans (h1.2 y)⟩)
    (fun w m => by unfold World.setErr; split <;> exact ⟨rfl, fun _ => rfl⟩)
    (fun _ _ _ => ⟨rfl, fun _ => rfl⟩) (fun _ _ _ => ⟨rfl, fun _ => rfl⟩)
    (fun w x d h => ⟨List.length_set,
      dev_setDev_proj Dev.finSensors w x d (congrArg Dev.finSensors h :)⟩)
    (fun _ _ _ => ⟨rfl, fun _ => rfl⟩)
    (fun w t a act p _ => by unfold World.dev; rw [World.schedLib_devs]; exact ⟨rfl, fun _ => rfl⟩)
    (fun _ _ _ => ⟨rfl, fun _ => rfl⟩) (fun _ _ => ⟨rfl, fun _ => rfl⟩)
    (fun _ _ => ⟨rfl, fun _ => rfl⟩) (fun _ _ => ⟨rfl, fun _ => rfl⟩)
    (fun _ _ => ⟨rfl, fun _ => rfl⟩) (fun _ _ => ⟨rfl, fun _ => rfl⟩)
    (fun _ _ => ⟨rfl, fun _ => rfl⟩)

/-- A device that holds a part exists: the default device holds none. -/
theorem lt_of_output_some {w : World} {x p : Nat} (h : (w.dev x).output = some p) :
    x < w.devs.length := by
  refine Nat.lt_of_not_le fun hle => ?_
  unfold World.dev at h
  rw [List.getD_eq_getElem?_getD, List.getElem?_eq_none hle] at h
  cases h

/-! ### walking a function

A function is walked by one term that names its updates in order: `trans` for `;`, `ite` for `if`,
`split` for `match`.  The atoms whose side condition speaks of the world reached so far (`dev`, `mod`,
`ev`, `op`) take it as a last argument that is filled in after unification (`by exact rfl`), when
that world is known.  A goal `R w (a, b).1` left by a `split` is reduced (`dsimp only`) before a lemma
is applied to it: unifying `f _ _ =?= (f w x, b).1` would unfold `f`. -/

theorem ite (_ : FloorClosed R) {w a b : World} {c : Prop} [Decidable c] (ha : R w a) (hb : R w b) :
    R w (if c then a else b) := by split <;> assumption

/-- An event or queue operation of device `x`, issued right away or after a `setDev`. -/
macro "walk_dev" : tactic => `(tactic| first
  | exact .pass _ | exact .finish _ | exact .release _
  | exact .pause _ | exact .unpause _ | exact .cancel _
  | exact .of_setDev (by exact rfl) (.pass _) | exact .of_setDev (by exact rfl) (.finish _)
  | exact .of_setDev (by exact rfl) (.release _) | exact .of_setDev (by exact rfl) (.pause _)
  | exact .of_setDev (by exact rfl) (.unpause _) | exact .of_setDev (by exact rfl) (.cancel _))

theorem dev (h : FloorClosed R) (w : World) (x : Nat) (d : Dev)
    (hd : d.cfg = (w.dev x).cfg := by exact rfl) : R w (w.setDev x d) := h.setDev w x d hd
theorem mod (h : FloorClosed R) (w : World) (x : Nat) (f : Dev → Dev)
    (hf : (f (w.dev x)).cfg = (w.dev x).cfg := by exact rfl) : R w (w.modDev x f) := h.modDev w x f hf
theorem ev (h : FloorClosed R) (w : World) (t a : Int) (act : Action) (p : Int)
    (he : w.FloorEvent a act p := by walk_dev) : R w (w.schedLib t a act p) := h.schedLib w t a act p he
theorem op (h : FloorClosed R) (w : World) (o : EnvOp)
    (he : w.FloorEnvOp o := by walk_dev) : R w (w.envOp o) := h.envOp w o he
theorem log (h : FloorClosed R) (w : World) (r : Rec) (hr : r.byFloor = true := by exact rfl) :
    R w (w.addRec r) := h.addRec w r hr

/-- The results a machine logs for its callbacks. -/
theorem cbs (h : FloorClosed R) (g : Nat → Res) (hg : ∀ k, (g k).byMachine = true) (n : Nat)
    (w : World) : R w ((List.range n).foldl (fun w k => w.addRes (g k)) w) :=
  h.foldl _ (fun w k => h.addRes w _ (hg k)) _ w

/-- A pair-valued call whose world is in `R`, then a continuation: for the `match` on the pair that
`split` leaves as `heq : e = (w', b)`. -/
theorem of_pair {α} (h : FloorClosed R) {w w' w'' : World} {e : World × α} {b : α} (he : R w e.1)
    (heq : e = (w', b)) (hk : R w' w'') : R w w'' := by
  subst heq; exact h.trans he hk

/-! ### notifications -/

theorem setWaiting (h : FloorClosed R) (w : World) (x : Nat) (a b : Bool) :
    R w (w.setWaiting x a b) := by
  unfold World.setWaiting
  exact h.ite (h.dev ..) (h.ite (h.refl _) (h.ite (h.dev ..) (h.refl _)))

theorem schedulePass (h : FloorClosed R) (w : World) (x : Nat) (o : Int) :
    R w (w.schedulePass x o) := by
  unfold World.schedulePass
  dsimp only
  split
  · exact h.refl w
  · exact h.trans (h.dev ..) (h.ev ..)

/-- The two notification functions, simultaneously by induction on the fuel, for a relation that
contains what they do and no more: the idle clock of a device is started when a buffer has room or
both slots of another device are free, and a hand-over attempt is queued, at once, for an operational
device that waits for room downstream. -/
theorem _root_.SimProc.World.notify_walk (refl : ∀ w, R w w)
    (trans : ∀ {a b c}, R a b → R b c → R a c) (fuel : ∀ w, R w (w.setErr "fuel"))
    (idle : ∀ w x, (w.dev x).kind = .buffer ∨ ((w.dev x).part.isNone && (w.dev x).output.isNone) = true →
      R w (w.setWaiting x true false))
    (attempt : ∀ w x, w.operational x = true → (w.dev x).waitingDS = true → R w (w.schedulePass x 0))
    (n : Nat) : ∀ w x, R w (World.notifyUp n w x) ∧ R w (World.spaceAvail n w x) := by
  have foldl := @foldl_walk R refl trans Nat
  induction n with
  | zero => exact fun w x => ⟨by rw [World.notifyUp]; exact fuel _, by rw [World.spaceAvail]; exact fuel _⟩
  | succ n ih =>
    intro w x
    have hN := fun l w => foldl (fun w x => World.notifyUp n w x) (fun w x => (ih w x).1) l w
    have hS := fun l w => foldl (fun w x => World.spaceAvail n w x) (fun w x => (ih w x).2) l w
    have hA : R w (if w.operational x && (w.dev x).waitingDS then w.schedulePass x 0 else w) := by
      split
      · rename_i h; rw [Bool.and_eq_true] at h; exact attempt w x h.1 h.2
      · exact refl w
    have hI : R w (if (w.dev x).part.isNone && (w.dev x).output.isNone then
        w.setWaiting x true false else w) := by
      split
      · rename_i h; exact idle w x (.inr h)
      · exact refl w
    constructor
    · rw [World.notifyUp]
      dsimp only
      split
      · rename_i hk
        have ite : ∀ {c : Prop} [Decidable c] {a : World}, R w a → R w (if c then a else w) := by
          intro c _ a ha; split <;> first | exact ha | exact refl w
        exact ite (trans (idle w x (.inl hk)) (hS _ _))
      iterate 5 exact trans hI (hS _ _)  -- source, handler, processor, batcher, sink
      · exact hN _ _
      iterate 3 exact hS _ _  -- gate, group path, group output
    · rw [World.spaceAvail]
      split
      · exact (ih _ _).1
      iterate 6 exact hA  -- source, handler, processor, buffer, batcher, sink
      iterate 2 exact (ih _ _).1  -- group input, group output
      · exact (ih _ _).2

theorem notifyUp_spaceAvail (h : FloorClosed R) (n : Nat) :
    ∀ w x, R w (World.notifyUp n w x) ∧ R w (World.spaceAvail n w x) :=
  World.notify_walk h.refl h.trans (h.setErr · _) (fun w x _ => h.setWaiting w x _ _)
    (fun w x _ _ => h.schedulePass w x _) n

theorem notifyUp (h : FloorClosed R) (n : Nat) (w : World) (x : Nat) : R w (notifyUp n w x) :=
  (h.notifyUp_spaceAvail n w x).1
theorem spaceAvail (h : FloorClosed R) (n : Nat) (w : World) (x : Nat) : R w (spaceAvail n w x) :=
  (h.notifyUp_spaceAvail n w x).2
theorem notify (h : FloorClosed R) (w : World) (x : Nat) : R w (w.notify x) := h.notifyUp _ _ _
theorem spaceAvailable (h : FloorClosed R) (w : World) (x : Nat) : R w (w.spaceAvailable x) :=
  h.spaceAvail _ _ _

/-! ### parts, callbacks -/

/-- Both history functions: the part's record, then the records of its kids. -/
theorem histOp (h : FloorClosed R) (f : PartRec → PartRec) (w : World) (p : Nat) :
    R w (match ((w.modPart p f).part p).kids with
      | some l => l.foldl (fun w k => w.modPart k f) (w.modPart p f)
      | none => w.modPart p f) := by
  split
  · exact h.trans (h.modPart ..) (h.foldl _ (fun _ _ => h.modPart ..) _ _)
  · exact h.modPart ..

theorem addHist (h : FloorClosed R) (w : World) (p d : Nat) : R w (w.addHist p d) := h.histOp _ w p
theorem dropHist (h : FloorClosed R) (w : World) (p : Nat) : R w (w.dropHist p) := h.histOp _ w p

theorem applyPartCb (h : FloorClosed R) (w : World) (x p : Nat) (c : PartCb) :
    R w (w.applyPartCb x p c) := by
  have hC : ∀ w : World, R w (match c.setCycle with
      | some v => w.modDev x (fun d => { d with cycle := v })
      | none => w) := fun w => by
    split
    · exact h.mod ..
    · exact h.refl _
  have hQ : ∀ w : World, R w (match c.setQuality with
      | some q => w.modPart p (fun r => { r with quality := q })
      | none => w) := fun w => by
    split
    · exact h.modPart ..
    · exact h.refl _
  exact h.trans (h.trans (hC w) (h.mod ..))
    (h.ite (h.refl _) (h.trans (h.ite (h.refl _) (h.modPart ..)) (hQ _)))

theorem finishCycleHandler (h : FloorClosed R) (w : World) (x : Nat) :
    R w (w.finishCycleHandler x) := by
  unfold World.finishCycleHandler
  dsimp only
  refine h.ite (h.setErr ..) ?_
  split
  · exact h.setErr ..
  · exact h.ite (h.setErr ..) (h.trans (h.dev ..) (h.schedulePass ..))

theorem batcherLoop (h : FloorClosed R) (n : Nat) (w : World) (x : Nat) :
    R w (batcherLoop n w x) := by
  induction n generalizing w with
  | zero => exact h.refl _
  | succ n ih =>
    rw [World.batcherLoop]
    split
    · -- take a part from the input (`w1`), then add it to the output or to the batch (`w2`)
      split
      rename_i w1 t heq
      refine h.trans ?_ (ih _)
      have h1 : R w (w1, t).1 := by
        rw [← heq]
        split <;> dsimp only
        · exact h.trans (h.modPart ..) (h.ite (h.mod ..) (h.refl _))
        · exact h.mod ..
      refine h.trans h1 ?_
      split
      · exact h.mod ..
      · split
        rename_i w2 b heq2
        have h2 : R w1 (w2, b).1 := by
          rw [← heq2]
          split
          · exact h.refl _
          · dsimp only
            exact h.trans (h.newPart ..) (h.mod ..)
        refine h.trans h2 ?_
        dsimp only
        exact h.trans (h.modPart ..) (h.ite (h.mod ..) (h.refl _))
    · exact h.refl _

/-! ### finishing a cycle -/

/-- The end of a processor's cycle, from a world `w3` already reached: the finish callbacks, then
`produce` with the sensors attached in `w3` (the callbacks do not move them). -/
theorem finishTail (h : FloorClosed R) {w w3 : World} (h3 : R w w3) (x p : Nat)
    (hx : x < w3.devs.length) (cbs : List PartCb) (l : List Nat)
    (hl : l = (w3.dev x).finSensors) :
    R w (let w4 := cbs.foldl (fun w c => w.applyPartCb x p c) w3
         let w5 := l.foldl (fun w s => w.senseOutput s p) w4
         w5.addRec (.produced x w5.now p (w5.part p).quality (w5.partValue p))) := by
  have hk := finSensorsKept.foldl _ (fun w c => finSensorsKept.applyPartCb w x p c) cbs w3
  subst hl
  dsimp only
  rw [← hk.2 x]
  exact h.trans (h.trans h3 (h.foldl _ (fun w c => h.applyPartCb w x p c) _ _))
    (h.produce _ x p (hk.1 ▸ hx))

/-- A processor's bookkeeping at the end of a cycle: utilisation, and the event that releases its
resources. -/
theorem procBook (h : FloorClosed R) (w1 : World) (x : Nat) (d : Dev) (hd : d.cfg = (w1.dev x).cfg)
    (t : Int) (c : Prop) [Decidable c] :
    R w1 (if c then (w1.setDev x d).schedLib t (w1.dev x).aid (.releaseIfIdle x) pRelease
      else w1.setDev x d) :=
  h.ite (h.trans (h.setDev _ _ _ hd) (h.schedLib _ _ _ _ _ (.of_setDev hd (.release x))))
    (h.setDev _ _ _ hd)

theorem finishCycle (h : FloorClosed R) (w : World) (x : Nat) : R w (w.finishCycle x) := by
  have hH := h.finishCycleHandler w x
  unfold World.finishCycle
  dsimp only
  split
  · -- source; the goal speaks of the pair `w.genPart x` through a `match`: name the pair first
    refine h.trans (h.ite ?_ (h.refl _)) (h.schedulePass ..)
    have := h.genPart w x
    revert this
    generalize w.genPart x = q
    exact fun hq => h.trans (h.trans hq (h.mod ..)) (h.addHist ..)
  · exact h.trans (h.trans hH (h.mod ..)) (h.notify ..)
  · -- processor: `finishCycleHandler`, the bookkeeping, then callbacks, sensors and record
    split
    · exact h.trans hH (h.procBook _ x _ (by exact rfl) _ _)
    · rename_i hp
      refine h.finishTail ?_ x _ (lt_of_output_some hp) _ _ (Eq.symm ?_)
      · exact h.trans hH (h.procBook _ x _ (by exact rfl) _ _)
      · exact (finSensorsKept.procBook _ x _ (by exact rfl) _ _).2 x
  · exact hH

theorem scheduleFinish (h : FloorClosed R) (w : World) (x : Nat) : R w (w.scheduleFinish x) := by
  unfold World.scheduleFinish
  dsimp only
  exact h.trans (h.dev ..) (h.ite (h.finishCycle ..) (h.ev ..))

theorem tryMove (h : FloorClosed R) (w : World) (x : Nat) : R w (w.tryMove x) := by
  unfold World.tryMove
  dsimp only
  split
  · split
    · exact h.refl _
    · exact h.trans (h.trans (h.dev ..) (h.notify ..)) (h.ite (h.schedulePass ..) (h.refl _))
  · refine h.ite (h.refl _) ?_
    split
    · exact h.refl _
    · exact h.ite (h.dev ..) (h.trans (h.batcherLoop ..) (h.ite (h.schedulePass ..) (h.refl _)))
  · exact h.ite (h.trans (h.dev ..) (h.scheduleFinish ..)) (h.refl _)
  · exact h.ite (h.scheduleFinish ..) (h.refl _)

theorem onReceived (h : FloorClosed R) (w : World) (x p : Nat) : R w (w.onReceived x p) := by
  unfold World.onReceived
  dsimp only
  refine h.trans (h.trans (h.trans ?_ (h.log ..))
    (h.foldl _ (fun _ _ => h.applyPartCb ..) _ _)) (h.ite (h.tryMove ..) (h.refl _))
  split
  · exact h.dev ..
  · exact h.trans (h.dev ..) (h.log ..)
  · exact h.refl _

theorem acceptPart (h : FloorClosed R) (w : World) (x p : Nat) : R w (w.acceptPart x p) := by
  unfold World.acceptPart
  dsimp only
  exact h.trans (h.trans (h.trans (h.trans (h.ite (h.setDelivered ..) (h.refl _)) (h.mod ..))
    (h.addHist ..)) (h.setWaiting ..)) (h.onReceived ..)

/-! ### handing parts over -/

theorem tryList (h : FloorClosed R) (g : World → Nat → Nat → World × Bool)
    (hg : ∀ w y p, R w (g w y p).1) (w : World) (l : List Nat) (p : Nat) :
    R w (tryList g w l p).1 := by
  induction l generalizing w with
  | nil => exact h.refl w
  | cons y ys ih =>
    rw [World.tryList]
    have hy := hg w y p
    split
    · rename_i heq; rw [heq] at hy; exact hy
    · rename_i heq; rw [heq] at hy; exact h.trans hy (ih _)

theorem give (h : FloorClosed R) (n : Nat) : ∀ (w : World) (x p : Nat), R w (World.give n w x p).1 := by
  induction n with
  | zero => exact fun w x p => h.setErr _ _
  | succ n ih =>
    intro w x p
    have hT : ∀ w l p, R w (World.tryList (World.give n) w l p).1 := h.tryList _ ih
    rw [World.give]
    dsimp only
    have hA : R w (if w.canAcceptBasic x p then (w.acceptPart x p, true) else (w, false)).1 := by
      split <;> dsimp only
      · exact h.acceptPart ..
      · exact h.refl _
    split
    iterate 5 exact hA  -- source, handler, buffer, batcher, sink
    · -- processor
      split
      · split <;> rename_i heq <;> dsimp only
        · exact h.of_pair (h.procAcquire w x) heq (h.acceptPart ..)
        · exact h.of_pair (h.procAcquire w x) heq (h.refl _)
      · exact h.refl _
    · -- gate
      split
      · exact h.refl _
      · split
        · exact h.refl _
        · split <;> rename_i heq <;> dsimp only
          · exact h.trans (h.addHist ..) (h.of_pair (hT ..) heq (h.refl _))
          · exact h.trans (h.addHist ..) (h.of_pair (hT ..) heq (h.dropHist ..))
    · -- group input
      split
      · exact h.refl _
      · exact hT ..
    · -- group path
      split
      · exact h.refl _
      · split <;> rename_i heq <;> dsimp only
        · exact h.trans (h.trans (h.modPart ..) (h.addHist ..)) (h.of_pair (ih ..) heq (h.refl _))
        · exact h.trans (h.trans (h.modPart ..) (h.addHist ..))
            (h.of_pair (ih ..) heq (h.trans (h.modPart ..) (h.dropHist ..)))
    · -- group output
      split
      · exact h.setErr ..
      · split <;> rename_i heq <;> dsimp only
        · exact h.trans (h.modPart ..) (h.of_pair (hT ..) heq (h.refl _))
        · exact h.trans (h.modPart ..) (h.of_pair (hT ..) heq (h.modPart ..))

theorem givePart (h : FloorClosed R) (w : World) (x p : Nat) : R w (w.givePart x p).1 :=
  h.give _ _ _ _

theorem tryList_givePart (h : FloorClosed R) (w : World) (l : List Nat) (p : Nat) :
    R w (World.tryList World.givePart w l p).1 := h.tryList _ h.givePart _ _ _

theorem passHandler (h : FloorClosed R) (w : World) (x : Nat) : R w (w.passHandler x) := by
  unfold World.passHandler
  dsimp only
  refine h.ite (h.refl _) ?_
  split
  · exact h.refl _
  · split <;> rename_i heq
    · exact h.of_pair (h.tryList_givePart ..) heq (h.trans (h.mod ..) (h.notify ..))
    · exact h.of_pair (h.tryList_givePart ..) heq (h.mod ..)

theorem bufferLoop (h : FloorClosed R) (n : Nat) (w : World) (x : Nat) :
    R w (bufferLoop n w x) := by
  induction n generalizing w with
  | zero => exact h.refl _
  | succ n ih =>
    rw [World.bufferLoop]
    dsimp only
    split
    · exact h.refl _
    · refine h.ite (h.refl _) ?_
      split <;> rename_i heq
      · exact h.of_pair (h.tryList_givePart ..) heq (h.trans (h.trans (h.mod ..) (h.log ..)) (ih _))
      · exact h.of_pair (h.tryList_givePart ..) heq (h.refl _)

theorem passPart (h : FloorClosed R) (w : World) (x : Nat) : R w (w.passPart x) := by
  unfold World.passPart
  dsimp only
  split
  · -- source
    refine h.ite (h.refl _) ?_
    split
    · exact h.refl _
    · exact h.trans (h.passHandler ..)
        (h.ite (h.trans (h.trans (h.mod ..) (h.log ..)) (h.scheduleFinish ..)) (h.refl _))
  · -- buffer
    refine h.trans (h.trans (h.bufferLoop ((w.dev x).buf.length + 1) w x) ?_) (h.notify ..)
    split
    · exact h.refl _
    · exact h.ite (h.schedulePass ..) (h.dev ..)
  · exact h.trans (h.passHandler ..) (h.ite (h.tryMove ..) (h.refl _))
  · exact h.refl _
  · exact h.passHandler ..

/-! ### processors: failure, shutdown, restore -/

theorem shutdownDev (h : FloorClosed R) (w : World) (x : Nat) (f : Bool) (lost : Option Nat) :
    R w (w.shutdownDev x f lost) := by
  unfold World.shutdownDev
  dsimp only
  refine h.ite (h.ite (h.trans (h.op ..) (h.cbs _ (fun _ => rfl) _ _)) (h.refl _))
    (h.trans (h.trans (h.trans (h.trans (h.dev ..) (h.ite (h.op ..) (h.op ..)))
      (h.dev _ _ _ ?_)) (h.setWaiting ..)) (h.cbs _ (fun _ => rfl) _ _))
  split <;> rfl

theorem restoreDev (h : FloorClosed R) (w : World) (x : Nat) : R w (w.restoreDev x) := by
  unfold World.restoreDev
  dsimp only
  exact h.ite (h.refl _) (h.trans (h.trans (h.trans (h.trans (h.dev ..) (h.op ..))
    (h.ite (h.schedulePass ..) (h.ite (h.notify ..) (h.refl _))))
    (h.ite (h.mod ..) (h.refl _))) (h.cbs _ (fun _ => rfl) _ _))

theorem failDev (h : FloorClosed R) (w : World) (x : Nat) : R w (w.failDev x) := by
  unfold World.failDev
  dsimp only
  refine h.trans (h.trans (h.trans (h.trans ?_ (h.mod ..)) (h.releaseReserved ..)) (h.log ..))
    (h.shutdownDev ..)
  split
  · exact h.setLost ..
  · exact h.refl _

theorem releaseIfIdle (h : FloorClosed R) (w : World) (x : Nat) : R w (w.releaseIfIdle x) := by
  unfold World.releaseIfIdle
  exact h.ite (h.releaseReserved ..) (h.refl _)

end FloorClosed

/-! ### scripted operations on devices, initialisation

Each of these writes one more device field, named in the hypothesis; `FloorClosed.Ops` bundles the
five for a relation that contains them all. -/

namespace FloorClosed
variable {R : World → World → Prop}

theorem procResourceCb_of (h : FloorClosed R)
    (clearWaitingRes : ∀ w x, R w (w.setDev x { w.dev x with waitingRes := false }))
    (w : World) (x : Nat) : R w (w.procResourceCb x) :=
  h.trans (clearWaitingRes w x) (h.notify _ _)

theorem setBlock_of (h : FloorClosed R)
    (setBlockInput : ∀ w x b, R w (w.setDev x { w.dev x with blockInput := b }))
    (w : World) (x : Nat) (b : Bool) : R w (w.setBlock x b) := by
  unfold World.setBlock
  split
  · exact h.refl w
  · dsimp only
    split
    · exact h.trans (setBlockInput w x b) (h.notify _ _)
    · exact setBlockInput w x b

theorem adjustParts_of (h : FloorClosed R)
    (setMaxParts : ∀ w x m, R w (w.setDev x { w.dev x with maxParts := m }))
    (w : World) (x : Nat) (v : Int) : R w (w.adjustParts x v) := by
  unfold World.adjustParts
  dsimp only
  split
  · exact h.refl w
  · split
    · exact h.trans (setMaxParts w x _) (h.schedulePass _ _ _)
    · exact setMaxParts w x _

theorem rewire_of (h : FloorClosed R)
    (setWiring : ∀ w x u d, R w (w.setDev x { w.dev x with up := u, down := d }))
    (w : World) (x : Nat) (ups : List Nat) : R w (w.rewire x ups) := by
  have hw : ∀ w y (f : Dev → Dev), (∀ d, f d = { d with up := (f d).up, down := (f d).down }) →
      R w (w.modDev y f) := by
    intro w y f hf
    have := setWiring w y (f (w.dev y)).up (f (w.dev y)).down
    rwa [← hf] at this
  unfold World.rewire
  dsimp only
  refine h.trans (h.trans (h.trans (?_ : R w (if _ then _ else _)) (h.foldl _ ?_ _ _))
    (hw _ _ _ fun _ => rfl)) (h.foldl _ ?_ _ _)
  · split
    · exact h.setWaiting _ _ _ _
    · exact h.refl w
  · exact fun w u => hw _ _ _ fun _ => rfl
  · intro w u
    split
    · exact h.refl w
    · split
      · exact h.trans (hw _ _ _ fun _ => rfl) (h.spaceAvailable _ _)
      · exact hw _ _ _ fun _ => rfl

theorem initDev_of (h : FloorClosed R)
    (setInited : ∀ w x v, R w (w.setDev x { w.dev x with inited := true, val := v }))
    (w : World) (x : Nat) : R w (w.initDev x) := by
  unfold World.initDev
  dsimp only
  have h0 : R w (w.modDev x fun d => { d with inited := true, val := d.val.reset }) :=
    setInited w x _
  revert h0
  generalize (w.modDev x fun d => { d with inited := true, val := d.val.reset }) = w1
  intro h0
  refine h.trans h0 ?_
  split
  iterate 4 exact h.refl _  -- gate, group path, group input, group output
  · exact h.trans (h.setWaiting ..) (h.mod ..)
  · exact h.trans (h.setWaiting ..) (h.scheduleFinish ..)
  · exact h.setWaiting ..

end FloorClosed

namespace FloorClosed.Ops
variable {R : World → World → Prop}

theorem procResourceCb (h : Ops R) (w : World) (x : Nat) : R w (w.procResourceCb x) :=
  h.procResourceCb_of h.clearWaitingRes w x
theorem setBlock (h : Ops R) (w : World) (x : Nat) (b : Bool) : R w (w.setBlock x b) :=
  h.setBlock_of h.setBlockInput w x b
theorem adjustParts (h : Ops R) (w : World) (x : Nat) (v : Int) : R w (w.adjustParts x v) :=
  h.adjustParts_of h.setMaxParts w x v
theorem rewire (h : Ops R) (w : World) (x : Nat) (ups : List Nat) : R w (w.rewire x ups) :=
  h.rewire_of h.setWiring w x ups
theorem initDev (h : Ops R) (w : World) (x : Nat) : R w (w.initDev x) :=
  h.initDev_of h.setInited w x

end FloorClosed.Ops
end World
end SimProc
