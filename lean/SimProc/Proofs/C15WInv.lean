/-
C15W / C16W — machinery, part 3: the invariants of keys, by induction on `KStep`.
-/
import SimProc.Proofs.C15WWorld

namespace SimProc
namespace C15W
open World FloorCoreL C15 RM
variable {ph : Phase}
set_option linter.unusedSimpArgs false

/-! ### list-of-records helpers -/

def countSup (recs : List Rec) (x : Nat) : Nat := (recs.filter (isSupplied x)).length

theorem countSup_append (l₁ l₂ : List Rec) (x : Nat) :
    countSup (l₁ ++ l₂) x = countSup l₁ x + countSup l₂ x := by
  simp [countSup, List.filter_append]

theorem countSup_of_nosup (l : List Rec) (x : Nat) (h : ∀ r ∈ l, isSup r = false) : countSup l x = 0 := by
  unfold countSup; rw [filter_isSupplied_nosup x l h]; rfl

theorem isSup_stamp (t : Int) (recs : List ResRec) : ∀ r ∈ stamp t recs, isSup r = false := by
  intro r hr
  obtain ⟨a, _, rfl⟩ := List.mem_map.1 hr
  rfl

theorem isSup_of_plain {r : Rec} (h : isPlain r = true) : isSup r = false := by
  cases r <;> simp_all [isPlain, isSup]

/-- A field of the devices after one device was overwritten with a device that agrees on it. -/
theorem dev_set_same {α} (f : DKey → α) (l : List DKey) (x y : Nat) (d : DKey)
    (h : f d = f (l.getD x default)) : f ((l.set x d).getD y default) = f (l.getD y default) := by
  rw [getD_set]
  split
  · rename_i hc; rw [h, hc.1]
  · rfl

/-! ### 1. the counter of a source = the number of its `supplied_new_part` records -/

def SupInv (k : WKey) : Prop := ∀ x, (k.dev x).produced = countSup k.recs x

theorem countSup_stamp (t : Int) (recs : List ResRec) (x : Nat) : countSup (stamp t recs) x = 0 :=
  countSup_of_nosup _ x (isSup_stamp _ _)

theorem countSup_plain {r : Rec} (h : isPlain r = true) (x : Nat) : countSup [r] x = 0 :=
  countSup_of_nosup _ x (by simpa using isSup_of_plain h)

theorem SupInv.step {k k' : WKey} (h : KStep ph k k') (hi : SupInv k) : SupInv k' := by
  induction h with
  | refl k => exact hi
  | trans _ _ ih1 ih2 => exact ih2 (ih1 hi)
  | supply k x p v hph hx hk =>
    intro y
    have := hi y
    simp only [WKey.dev, getD_set, countSup_append] at this ⊢
    by_cases hxy : x = y
    · subst hxy
      have e : countSup [Rec.supplied x k.now p] x = 1 := by simp [countSup, isSupplied]
      rw [if_pos ⟨rfl, hx⟩, e]
      show (k.devs.getD x default).produced + 1 = _
      omega
    · have e : countSup [Rec.supplied x k.now p] y = 0 := by simp [countSup, isSupplied, hxy]
      rw [if_neg (fun h => hxy h.1), e]
      omega
  | plain k r hp ht =>
    intro y
    have := hi y
    simp only [WKey.dev, WKey.addRecs, countSup_append, countSup_plain hp] at this ⊢
    simpa using this
  | _ =>
    intro y
    have := hi y
    simp only [WKey.dev, WKey.addRecs, getD_set, countSup_append, countSup_stamp] at this ⊢
    try split
    all_goals first | exact this | simp_all [countSup, isSupplied]

/-- Lifting an invariant of keys from steps to runs of the event loop. -/
theorem KRun.preserve {I : WKey → Prop} (hs : ∀ {k k'}, KStep .run k k' → I k → I k')
    (he : ∀ (k : WKey) (e : Env), I k → I { k with env := e }) {k k' : WKey} (h : KRun k k')
    (hi : I k) : I k' := by
  induction h with
  | refl k => exact hi
  | trans _ _ ih1 ih2 => exact ih2 (ih1 hi)
  | act h => exact hs h hi
  | pop k => exact he k _ hi

/-! ### 3. the last `level` record of a device is its level -/

def LevelInvK (k : WKey) : Prop := ∀ y, (lastLevel k.recs y).getD 0 = (k.dev y).level

theorem lastLevel_stamp (t : Int) (recs : List ResRec) (y : Nat) : lastLevel (stamp t recs) y = none :=
  lastLevel_of_noLevel _ (by
    intro r hr
    obtain ⟨a, _, rfl⟩ := List.mem_map.1 hr
    rfl) y

theorem lastLevel_plain {r : Rec} (h : isPlain r = true) (y : Nat) : lastLevel [r] y = none :=
  lastLevel_of_noLevel _ (by
    intro r' hr
    simp only [List.mem_singleton] at hr
    subst hr
    cases r' <;> simp_all [isPlain, isLevel]) y

theorem LevelInvK.step {k k' : WKey} (h : KStep ph k k') (hi : LevelInvK k) : LevelInvK k' := by
  induction h with
  | refl k => exact hi
  | trans _ _ ih1 ih2 => exact ih2 (ih1 hi)
  | plain k r hp ht =>
    intro y
    have := hi y
    simp only [WKey.dev, WKey.addRecs, lastLevel_append, lastLevel_plain hp] at this ⊢
    simpa using this
  | _ =>
    intro y
    have := hi y
    simp only [WKey.dev, WKey.addRecs, getD_set, lastLevel_append, lastLevel_stamp] at this ⊢
    try split
    all_goals first | exact this | simp_all [lastLevel]

/-! ### 6. every value bookkeeping satisfies `C16.VInv` -/

def ValInv (k : WKey) : Prop := (∀ y, C16.VInv (k.dev y).val) ∧ ∀ m, C16.VInv (k.mval m)

theorem vinv_addValue (a : AssetVal) (l : Nat) (t v : Int) (h : C16.VInv a) : C16.VInv (a.addValue l t v) :=
  C16.vinv_apply a (.addValue l t v) h

theorem vinv_addCost (a : AssetVal) (l : Nat) (t v : Int) (h : C16.VInv a) : C16.VInv (a.addCost l t v) :=
  C16.vinv_apply a (.addCost l t v) h

theorem vinv_reset (a : AssetVal) (h : C16.VInv a) : C16.VInv a.reset := C16.vinv_apply a .reset h

theorem ValInv.step {k k' : WKey} (h : KStep ph k k') (hi : ValInv k) : ValInv k' := by
  induction h with
  | refl k => exact hi
  | trans _ _ ih1 ih2 => exact ih2 (ih1 hi)
  | _ =>
    refine ⟨fun y => ?_, fun m' => ?_⟩
    · have := hi.1 y
      simp only [WKey.dev, WKey.addRecs, WKey.mval, getD_set] at this ⊢
      try split
      all_goals first
        | exact this
        | exact hi.1 _
        | exact vinv_addValue _ _ _ _ (hi.1 _)
        | exact vinv_addCost _ _ _ _ (hi.1 _)
        | exact vinv_reset _ (hi.1 _)
    · have := hi.2 m'
      simp only [WKey.dev, WKey.addRecs, WKey.mval, getD_set] at this ⊢
      try split
      all_goals first
        | exact this
        | exact vinv_addCost _ _ _ _ (hi.2 _)
        | exact vinv_reset _ (hi.2 _)

/-! ### 7. the value of a source / a sink / a maintainer -/

theorem addValue_value (a : AssetVal) (l : Nat) (t v : Int) : (a.addValue l t v).value = a.value + v := by
  unfold AssetVal.addValue
  split
  · rename_i h; simp at h; subst h; simp
  · rfl

theorem addCost_value (a : AssetVal) (l : Nat) (t v : Int) : (a.addCost l t v).value = a.value - v := by
  unfold AssetVal.addCost; rw [addValue_value]; omega

theorem addCost_init (a : AssetVal) (l : Nat) (t v : Int) : (a.addCost l t v).init = a.init :=
  addValue_init _ _ _ _

/-- Before the first event: nothing supplied, nothing collected, every value at its start. -/
def ZeroInv (k : WKey) : Prop :=
  ∀ y, (k.dev y).costProduced = 0 ∧ (k.dev y).recvValue = 0 ∧ (k.dev y).val.value = (k.dev y).val.init

theorem ZeroInv.step {k k' : WKey} (h : KStep .init k k') (hi : ZeroInv k) : ZeroInv k' := by
  induction h with
  | refl k => exact hi
  | trans _ _ ih1 ih2 => exact ih2 (ih1 hi)
  | recvSink k x p q v lv hph => cases hph
  | recvBuf k x p n q v hph => cases hph
  | release k x n hph => cases hph
  | supply k x p v hph => cases hph
  | _ =>
    intro y
    have := hi y
    simp only [WKey.dev, WKey.addRecs, getD_set] at this ⊢
    try split
    all_goals first
      | exact this
      | exact ⟨(hi _).1, (hi _).2.1, rfl⟩

/-- The value of every device is its starting value minus the cost of what it supplied plus the
value of what it collected; only sources supply, only sinks collect. -/
def ValueInv (k : WKey) : Prop :=
  ∀ y, (k.dev y).val.value = (k.dev y).val.init - (k.dev y).costProduced + (k.dev y).recvValue ∧
    ((k.dev y).kind ≠ .source → (k.dev y).costProduced = 0) ∧
    ((k.dev y).kind ≠ .sink → (k.dev y).recvValue = 0)

theorem ZeroInv.valueInv {k : WKey} (h : ZeroInv k) : ValueInv k := by
  intro y
  obtain ⟨h1, h2, h3⟩ := h y
  exact ⟨by omega, fun _ => h1, fun _ => h2⟩

theorem ValueInv.step {k k' : WKey} (h : KStep .run k k') (hi : ValueInv k) : ValueInv k' := by
  induction h with
  | refl k => exact hi
  | trans _ _ ih1 ih2 => exact ih2 (ih1 hi)
  | rmInit k hph => cases hph
  | devReset k x hph => cases hph
  | maintReset k m hph => cases hph
  | recvSink k x p q v lv hph hx hk =>
    intro y
    have := hi y
    simp only [WKey.dev, getD_set] at this hk ⊢
    split
    · rename_i hc
      have hx' := hi x
      simp only [WKey.dev] at hx'
      refine ⟨?_, ?_, ?_⟩
      · rw [addValue_value, addValue_init]; have := hx'.1; dsimp only; omega
      · exact hx'.2.1
      · intro hn; exact absurd hk hn
    · exact this
  | supply k x p v hph hx hk =>
    intro y
    have := hi y
    simp only [WKey.dev, getD_set] at this hk ⊢
    split
    · rename_i hc
      have hx' := hi x
      simp only [WKey.dev] at hx'
      refine ⟨?_, ?_, ?_⟩
      · rw [addCost_value, addCost_init]; have := hx'.1; dsimp only; omega
      · intro hn; exact absurd hk hn
      · exact hx'.2.2
    · exact this
  | _ =>
    intro y
    have := hi y
    simp only [WKey.dev, WKey.addRecs, getD_set] at this ⊢
    try split
    all_goals first
      | exact this
      | exact hi _

/-! ### the labels of the value histories -/

theorem mem_addValue_hist {a : AssetVal} {l : Nat} {t v : Int} {e : VEntry}
    (h : e ∈ (a.addValue l t v).hist) : e ∈ a.hist ∨ (e.label = l ∧ e.time = t ∧ e.delta = v) := by
  unfold AssetVal.addValue at h
  split at h
  · exact Or.inl h
  · rcases List.mem_append.1 h with h | h
    · exact Or.inl h
    · simp only [List.mem_singleton] at h
      subst h
      exact Or.inr ⟨rfl, rfl, rfl⟩

theorem mem_addCost_hist {a : AssetVal} {l : Nat} {t v : Int} {e : VEntry}
    (h : e ∈ (a.addCost l t v).hist) : e ∈ a.hist ∨ (e.label = l ∧ e.time = t ∧ e.delta = -v) :=
  mem_addValue_hist h

/-- Every entry of a value history was written by the site that belongs to the asset: a source's
by a supply, a sink's by a receipt, a maintainer's by the start of a work order. -/
def LabelInv (k : WKey) : Prop :=
  (∀ y, ∀ e ∈ (k.dev y).val.hist,
    ((k.dev y).kind = .source ∧ e.label = lblSupplied) ∨ ((k.dev y).kind = .sink ∧ e.label = lblCollected)) ∧
  ∀ m, ∀ e ∈ (k.mval m).hist, e.label = lblWorkOrder

theorem LabelInv.step {k k' : WKey} (h : KStep ph k k') (hi : LabelInv k) : LabelInv k' := by
  induction h with
  | refl k => exact hi
  | trans _ _ ih1 ih2 => exact ih2 (ih1 hi)
  | recvSink k x p q v lv hph hx hk =>
    refine ⟨fun y => ?_, hi.2⟩
    have := hi.1 y
    simp only [WKey.dev, getD_set] at this hk ⊢
    split
    · intro e he
      rcases mem_addValue_hist he with h | h
      · exact hi.1 x e h
      · exact Or.inr ⟨hk, h.1⟩
    · exact this
  | supply k x p v hph hx hk =>
    refine ⟨fun y => ?_, hi.2⟩
    have := hi.1 y
    simp only [WKey.dev, getD_set] at this hk ⊢
    split
    · intro e he
      rcases mem_addCost_hist he with h | h
      · exact hi.1 x e h
      · exact Or.inl ⟨hk, h.1⟩
    · exact this
  | maintCost k m c hph =>
    refine ⟨hi.1, fun m' => ?_⟩
    have := hi.2 m'
    simp only [WKey.mval, getD_set] at this ⊢
    split
    · intro e he
      rcases mem_addCost_hist he with h | h
      · exact hi.2 m e h
      · exact h.1
    · exact this
  | maintReset k m hph =>
    refine ⟨hi.1, fun m' => ?_⟩
    have := hi.2 m'
    simp only [WKey.mval, getD_set] at this ⊢
    split
    · intro e he; cases he
    · exact this
  | devReset k x hph =>
    refine ⟨fun y => ?_, hi.2⟩
    have := hi.1 y
    simp only [WKey.dev, getD_set] at this ⊢
    split
    · intro e he; cases he
    · exact this
  | _ =>
    refine ⟨fun y => ?_, hi.2⟩
    have := hi.1 y
    simp only [WKey.dev, WKey.addRecs, getD_set] at this ⊢
    try split
    all_goals first
      | exact this
      | exact hi.1 _

/-! ### 2. the counters of the sinks add up to the delivered parts -/

theorem sum_map_set (f : DKey → Int) (l : List DKey) (x : Nat) (d : DKey) (hx : x < l.length) :
    ((l.set x d).map f).sum = (l.map f).sum - f (l.getD x default) + f d := by
  induction l generalizing x with
  | nil => cases hx
  | cons a l ih =>
    cases x with
    | zero => simp [List.getD_eq_getElem?_getD]; omega
    | succ x =>
      have := ih x (by simpa using hx)
      simp only [List.set_cons_succ, List.map_cons, List.sum_cons, this]
      simp [List.getD_eq_getElem?_getD]; omega

def recvTotal (k : WKey) : Int := (k.devs.map (·.recvCount)).sum

def DelivInv (k : WKey) : Prop :=
  recvTotal k = k.delivered.length ∧ ∀ y, (k.dev y).kind ≠ .sink → (k.dev y).recvCount = 0

theorem DelivInv.step {k k' : WKey} (h : KStep ph k k') (hi : DelivInv k) : DelivInv k' := by
  induction h with
  | refl k => exact hi
  | trans _ _ ih1 ih2 => exact ih2 (ih1 hi)
  | recvSink k x p q v lv hph hx hk =>
    refine ⟨?_, fun y => ?_⟩
    · have := hi.1
      simp only [recvTotal] at this ⊢
      rw [sum_map_set _ _ _ _ hx]
      simp only [WKey.dev, List.length_append] at this ⊢
      omega
    · have := hi.2 y
      simp only [WKey.dev, getD_set] at this hk ⊢
      split
      · intro hn; exact absurd hk hn
      · exact this
  | _ =>
    refine ⟨?_, fun y => ?_⟩
    · have := hi.1
      simp only [recvTotal, WKey.addRecs] at this ⊢
      first
        | exact this
        | (refine (congrArg List.sum (map_set_of_eq (fun x : DKey => x.recvCount) _ _ _ default ?_)).trans this; rfl)
    · have := hi.2 y
      simp only [WKey.dev, WKey.addRecs, getD_set] at this ⊢
      try split
      all_goals first
        | exact this
        | exact hi.2 _

/-! the value collected by a sink is the sum of the values in its `received_part` records -/

def recvSum (recs : List Rec) (x : Nat) : Int :=
  (recs.filterMap (fun r => match r with
    | .received d _ _ _ v => if d = x then some v else none
    | _ => none)).sum

theorem recvSum_append (l₁ l₂ : List Rec) (x : Nat) :
    recvSum (l₁ ++ l₂) x = recvSum l₁ x + recvSum l₂ x := by
  simp [recvSum, List.filterMap_append, List.sum_append]

theorem recvSum_stamp (t : Int) (recs : List ResRec) (x : Nat) : recvSum (stamp t recs) x = 0 := by
  unfold recvSum stamp
  induction recs with
  | nil => rfl
  | cons a l ih => simpa using ih

theorem recvSum_plain {r : Rec} (h : isPlain r = true) (x : Nat) : recvSum [r] x = 0 := by
  cases r <;> simp_all [isPlain, recvSum]

def RecvValInv (k : WKey) : Prop :=
  ∀ y, (k.dev y).kind = .sink → (k.dev y).recvValue = recvSum k.recs y

/-- From the moment a sink exists, its collected value and the sum of its records move in step: the
difference `c` is constant (0 for the sinks of the fresh world). -/
theorem recvValue_step {y : Nat} {c : Int} {k k' : WKey} (h : KStep ph k k')
    (hi : (k.dev y).kind = .sink → (k.dev y).recvValue = recvSum k.recs y + c) :
    (k'.dev y).kind = .sink → (k'.dev y).recvValue = recvSum k'.recs y + c := by
  induction h with
  | refl k => exact hi
  | trans _ _ ih1 ih2 => exact ih2 (ih1 hi)
  | plain k r hp ht =>
    have := hi
    simp only [WKey.dev, WKey.addRecs, recvSum_append, recvSum_plain hp] at this ⊢
    simpa using this
  | recvSink k x p q v lv hph hx hk =>
    have := hi
    simp only [WKey.dev, getD_set, recvSum_append] at this hk ⊢
    by_cases hxy : x = y
    · subst hxy
      rw [if_pos ⟨rfl, hx⟩]
      intro _
      have e : recvSum [Rec.received x k.now p q v] x = v := by simp [recvSum]
      rw [e]
      have := this hk
      dsimp only
      omega
    · rw [if_neg (fun h => hxy h.1)]
      have e : recvSum [Rec.received x k.now p q v] y = 0 := by simp [recvSum, hxy]
      rw [e]
      intro hs
      have := this hs
      omega
  | recvBuf k x p n q v hph hx hk =>
    have := hi
    simp only [WKey.dev, getD_set, recvSum_append] at this hk ⊢
    by_cases hxy : x = y
    · subst hxy
      rw [if_pos ⟨rfl, hx⟩]
      intro hs
      rw [hk] at hs; cases hs
    · rw [if_neg (fun h => hxy h.1)]
      have e : recvSum [Rec.level x k.now ((k.devs.getD x default).level + n), Rec.received x k.now p q v] y = 0 := by
        simp [recvSum, hxy]
      rw [e]
      intro hs
      have := this hs
      omega
  | recvOther k x p q v hph hk1 hk2 =>
    have := hi
    simp only [WKey.dev, WKey.addRecs, recvSum_append] at this hk1 ⊢
    intro hs
    have hxy : x ≠ y := by intro e; subst e; exact hk1 hs
    have e : recvSum [Rec.received x k.now p q v] y = 0 := by simp [recvSum, hxy]
    rw [e]
    have := this hs
    omega
  | _ =>
    have := hi
    simp only [WKey.dev, WKey.addRecs, getD_set, recvSum_append, recvSum_stamp] at this ⊢
    try split
    all_goals first | exact this | simp_all [recvSum]

theorem RecvValInv.step {k k' : WKey} (h : KStep ph k k') (hi : RecvValInv k) : RecvValInv k' := by
  intro y hs
  have := recvValue_step (c := 0) h (fun hk => by rw [hi y hk, Int.add_zero]) hs
  rwa [Int.add_zero] at this

/-! ### 4. the last `resource_update` record of a resource is its pool -/

def rmOf (k : WKey) : RM := { pools := k.pools, inited := k.rmInited }

theorem usage_congr {a b : RM} (h : a.pools = b.pools) (r : Nat) :
    a.usage r = b.usage r ∧ a.capacity r = b.capacity r := by
  unfold RM.usage RM.capacity RM.lookup; rw [h]; exact ⟨rfl, rfl⟩

theorem lastResUpdate_append (l₁ l₂ : List Rec) (r : Nat) :
    lastResUpdate (l₁ ++ l₂) r = (lastResUpdate l₂ r).or (lastResUpdate l₁ r) := by
  unfold lastResUpdate
  rw [List.filterMap_append, List.getLast?_append]

theorem lastResUpdate_plain {x : Rec} (h : isPlain x = true) (r : Nat) : lastResUpdate [x] r = none := by
  cases x <;> simp_all [isPlain, lastResUpdate]

/-- With distinct keys, the records of `initialize` show every pool. -/
theorem lastFor_pools (pools : List (Nat × Int × Int)) (hn : (pools.map (·.1)).Nodup) (r : Nat) :
    (lastFor (pools.map (fun p => (⟨p.1, p.2.1, p.2.2⟩ : ResRec))) r).map (fun x => (x.inUse, x.cap)) =
      (pools.find? (fun p => p.1 == r)).map (·.2) := by
  induction pools with
  | nil => rfl
  | cons a l ih =>
    obtain ⟨r', u, c⟩ := a
    simp only [List.map_cons, List.nodup_cons] at hn
    have ih' := ih hn.2
    by_cases hr : r' = r
    · subst hr
      have hnone : (l.map (fun p => (⟨p.1, p.2.1, p.2.2⟩ : ResRec))).filter (fun x => x.res == r') = [] := by
        rw [List.filter_eq_nil_iff]
        intro x hx
        obtain ⟨p, hp, rfl⟩ := List.mem_map.1 hx
        simp only [beq_iff_eq]
        intro he
        exact hn.1 (List.mem_map.2 ⟨p, hp, he⟩)
      simp [lastFor, hnone]
    · have h1 : (r' == r) = false := by simpa using hr
      simp only [lastFor, List.map_cons, List.filter_cons, h1, List.find?_cons] at ih' ⊢
      exact ih'

def ResInv (k : WKey) : Prop :=
  (k.pools.map (·.1)).Nodup ∧
  (k.rmInited = true →
    ∀ r, (lastResUpdate k.recs r).getD (0, 0) = ((rmOf k).usage r, (rmOf k).capacity r)) ∧
  (k.rmInited = false → ∀ r, lastResUpdate k.recs r = none)

theorem ResInv.step {k k' : WKey} (h : KStep ph k k') (hi : ResInv k) : ResInv k' := by
  induction h with
  | refl k => exact hi
  | trans _ _ ih1 ih2 => exact ih2 (ih1 hi)
  | rm k a b recs ha hia h =>
    refine ⟨h.nodup (ha ▸ hi.1), fun hin r => ?_, fun hin r => ?_⟩
    · have h2 := hi.2.1 hin
      have hf := h.faithful (hia.trans hin)
      have hb := usage_congr (a := rmOf { k with pools := b.pools, recs := k.recs ++ stamp k.now recs })
        (b := b) rfl r
      have hak := usage_congr (a := a) (b := rmOf k) ha r
      rw [hb.1, hb.2]
      show (lastResUpdate (k.recs ++ stamp k.now recs) r).getD (0, 0) = _
      rw [lastResUpdate_append, lastResUpdate_stamp]
      have hfr := hf r
      cases e : lastFor recs r with
      | none =>
        rw [e] at hfr
        simp only [Option.map_none, Option.none_or]
        rw [h2 r, ← hak.1, ← hak.2]
        exact hfr.symm
      | some x =>
        rw [e] at hfr
        simp only at hfr
        subst hfr
        rfl
    · have hs := h.silent (hia.trans hin)
      subst hs
      show lastResUpdate (k.recs ++ stamp k.now []) r = none
      simpa [stamp] using hi.2.2 hin r
  | rmInit k hph hin =>
    refine ⟨hi.1, fun _ r => ?_, fun h => by cases h⟩
    show (lastResUpdate (k.recs ++ stamp k.now _) r).getD (0, 0) = _
    rw [lastResUpdate_append, lastResUpdate_stamp, hi.2.2 hin r, Option.or_none, lastFor_pools _ hi.1 r]
    show _ = ((((k.pools.find? (fun p => p.1 == r)).map (·.2)).map (·.1)).getD 0,
      (((k.pools.find? (fun p => p.1 == r)).map (·.2)).map (·.2)).getD 0)
    cases (k.pools.find? (fun p => p.1 == r)) <;> rfl
  | plain k r hp ht =>
    refine ⟨hi.1, fun hin r' => ?_, fun hin r' => ?_⟩
    · show (lastResUpdate (k.recs ++ [r]) r').getD (0, 0) = _
      rw [lastResUpdate_append, lastResUpdate_plain hp, Option.none_or]
      exact hi.2.1 hin r'
    · show lastResUpdate (k.recs ++ [r]) r' = none
      rw [lastResUpdate_append, lastResUpdate_plain hp, Option.none_or]
      exact hi.2.2 hin r'
  | _ =>
    refine ⟨hi.1, fun hin r' => ?_, fun hin r' => ?_⟩
    · have := hi.2.1 hin r'
      simp only [WKey.addRecs, lastResUpdate_append] at this ⊢
      first
        | exact this
        | simpa [lastResUpdate] using this
    · have := hi.2.2 hin r'
      simp only [WKey.addRecs, lastResUpdate_append] at this ⊢
      first
        | exact this
        | simpa [lastResUpdate] using this

/-- Once the manager is initialised, every resource that has a pool has a record. -/
def HasRecInv (k : WKey) : Prop :=
  (k.pools.map (·.1)).Nodup ∧
  (k.rmInited = true → ∀ r, ((rmOf k).lookup r).isSome → (lastResUpdate k.recs r).isSome)

theorem HasRecInv.step {k k' : WKey} (h : KStep ph k k') (hi : HasRecInv k) : HasRecInv k' := by
  induction h with
  | refl k => exact hi
  | trans _ _ ih1 ih2 => exact ih2 (ih1 hi)
  | rm k a b recs ha hia h =>
    refine ⟨h.nodup (ha ▸ hi.1), fun hin r hr => ?_⟩
    have hr' : (b.lookup r).isSome := hr
    show (lastResUpdate (k.recs ++ stamp k.now recs) r).isSome
    rw [lastResUpdate_append, lastResUpdate_stamp]
    rcases h.covers (hia.trans hin) r hr' with h1 | h1
    · have : ((rmOf k).lookup r).isSome := by
        rw [lookup_congr (a := a) (b := rmOf k) ha.symm]; exact h1
      have := hi.2 hin r this
      cases lastFor recs r with
      | none => simpa using this
      | some x => simp
    · cases e : lastFor recs r with
      | none => rw [e] at h1; cases h1
      | some x => simp
  | rmInit k hph hin =>
    refine ⟨hi.1, fun _ r hr => ?_⟩
    show (lastResUpdate (k.recs ++ stamp k.now _) r).isSome
    rw [lastResUpdate_append, lastResUpdate_stamp]
    have := lastFor_pools k.pools hi.1 r
    have hr' : ((k.pools.find? (fun p => p.1 == r)).map (·.2)).isSome := hr
    rw [← this] at hr'
    cases e : lastFor (k.pools.map (fun p => (⟨p.1, p.2.1, p.2.2⟩ : ResRec))) r with
    | none => rw [e] at hr'; cases hr'
    | some x => simp
  | plain k r hp ht =>
    refine ⟨hi.1, fun hin r' hr => ?_⟩
    show (lastResUpdate (k.recs ++ [r]) r').isSome
    rw [lastResUpdate_append, lastResUpdate_plain hp, Option.none_or]
    exact hi.2 hin r' hr
  | _ =>
    refine ⟨hi.1, fun hin r' hr => ?_⟩
    have := hi.2 hin r' hr
    simp only [WKey.addRecs, lastResUpdate_append] at this ⊢
    first
      | exact this
      | simpa [lastResUpdate] using this

/-! ### 5. records are stamped with the clock; the log is sorted by time -/

/-- Same clock; the log is extended by records stamped with it. -/
def Stamped (k k' : WKey) : Prop :=
  k'.now = k.now ∧ ∃ l, k'.recs = k.recs ++ l ∧ ∀ r ∈ l, Rec.time r = k.now

theorem Stamped.refl (k : WKey) : Stamped k k := ⟨rfl, [], by simp, by simp⟩

theorem Stamped.trans {a b c : WKey} (h1 : Stamped a b) (h2 : Stamped b c) : Stamped a c := by
  obtain ⟨n1, l1, e1, t1⟩ := h1
  obtain ⟨n2, l2, e2, t2⟩ := h2
  refine ⟨n2.trans n1, l1 ++ l2, by rw [e2, e1, List.append_assoc], ?_⟩
  intro r hr
  rcases List.mem_append.1 hr with h | h
  · exact t1 r h
  · rw [← n1]; exact t2 r h

theorem time_stamp (t : Int) (recs : List ResRec) : ∀ r ∈ stamp t recs, Rec.time r = t := by
  intro r hr
  obtain ⟨a, _, rfl⟩ := List.mem_map.1 hr
  rfl

theorem KStep.stamped {k k' : WKey} (h : KStep ph k k') : Stamped k k' := by
  induction h with
  | refl k => exact Stamped.refl k
  | trans _ _ ih1 ih2 => exact ih1.trans ih2
  | env k op h =>
    exact ⟨C01.now_apply_ne_step Arith.exact k.env op h, [], by simp, by simp⟩
  | plain k r hp ht => exact ⟨rfl, [r], rfl, by simpa using ht⟩
  | rm k a b recs ha hi h => exact ⟨rfl, _, rfl, time_stamp _ _⟩
  | rmInit k hph hi => exact ⟨rfl, _, rfl, time_stamp _ _⟩
  | recvOther k x p q v hph hk1 hk2 => exact ⟨rfl, [_], rfl, by simp [Rec.time]⟩
  | maintCost k m c hph => exact ⟨rfl, [], by simp, by simp⟩
  | maintReset k m hph => exact ⟨rfl, [], by simp, by simp⟩
  | devReset k x hph => exact ⟨rfl, [], by simp, by simp⟩
  | plSet k b h => exact ⟨rfl, [], by simp, by simp⟩
  | _ => exact ⟨rfl, _, rfl, by simp [Rec.time]⟩

/-- The queue invariant of C01 holds for the environment. -/
theorem envInv_step {k k' : WKey} (h : KStep ph k k') (hi : C01.Inv k.env) : C01.Inv k'.env := by
  induction h with
  | trans _ _ ih1 ih2 => exact ih2 (ih1 hi)
  | env k op h => exact C01.inv_apply Arith.exact op hi
  | _ => exact hi

def Sorted (l : List Rec) : Prop := l.Pairwise (fun a b => Rec.time a ≤ Rec.time b)

/-- The queue invariant, every record is stamped with a time that has passed, the log is sorted. -/
def TimeInv (k : WKey) : Prop :=
  C01.Inv k.env ∧ (∀ r ∈ k.recs, Rec.time r ≤ k.now) ∧ Sorted k.recs

theorem sorted_const (l : List Rec) (t : Int) (h : ∀ r ∈ l, Rec.time r = t) : Sorted l := by
  induction l with
  | nil => exact List.Pairwise.nil
  | cons a l ih =>
    refine List.Pairwise.cons ?_ (ih (fun r hr => h r (List.mem_cons_of_mem _ hr)))
    intro b hb
    rw [h a (List.mem_cons_self ..), h b (List.mem_cons_of_mem _ hb)]
    exact Int.le_refl _

theorem TimeInv.step {k k' : WKey} (h : KStep ph k k') (hi : TimeInv k) : TimeInv k' := by
  obtain ⟨hn, l, e, ht⟩ := h.stamped
  refine ⟨envInv_step h hi.1, ?_, ?_⟩
  · intro r hr
    rw [e] at hr
    rw [hn]
    rcases List.mem_append.1 hr with h1 | h1
    · exact hi.2.1 r h1
    · rw [ht r h1]; exact Int.le_refl _
  · unfold Sorted
    rw [e, List.pairwise_append]
    refine ⟨hi.2.2, sorted_const l _ ht, ?_⟩
    intro a ha b hb
    rw [ht b hb]
    exact hi.2.1 a ha

theorem TimeInv.pop (k : WKey) (hi : TimeInv k) :
    TimeInv { k with env := (k.env.apply Arith.exact .step).1 } := by
  refine ⟨C01.inv_apply Arith.exact .step hi.1, ?_, hi.2.2⟩
  intro r hr
  exact Int.le_trans (hi.2.1 r hr) (C01.clock_mono_apply Arith.exact .step hi.1)

theorem TimeInv.run {k k' : WKey} (h : KRun k k') (hi : TimeInv k) : TimeInv k' := by
  induction h with
  | refl k => exact hi
  | trans _ _ ih1 ih2 => exact ih2 (ih1 hi)
  | act h => exact TimeInv.step h hi
  | pop k => exact TimeInv.pop k hi

end C15W
end SimProc
