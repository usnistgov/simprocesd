/-
C15W / C16W — machinery, part 2: every function of the model is a `KStep` on keys.
-/
import SimProc.Proofs.C15WKey

namespace SimProc
namespace C15W
open World FloorCoreL C15 RM
open Lean Elab Tactic Meta

variable {ph : Phase}

/-! ### automation: peel the outermost function off a `KS` goal -/

/-- Peel a structure update `{ w with f := v, … }` that does not change the key. -/
elab "ks_struct" : tactic => do
  let g ← getMainGoal
  g.withContext do
    let t ← instantiateMVars (← g.getType)
    let_expr KS ph a b := t.consumeMData | throwError "ks_struct: not a KS goal"
    let b := b.consumeMData
    unless b.isAppOfArity ``World.mk 23 do throwError "ks_struct: not a structure instance"
    let r := b.getArg! 6
    let w0 ← match r with
      | .proj _ _ w0 => pure w0
      | _ =>
        if r.isAppOfArity ``World.recs 1 then pure (r.getArg! 0)
        else throwError "ks_struct: the log is changed"
    let newGoal ← mkFreshExprSyntheticOpaqueMVar (mkApp3 (mkConst ``KS) ph a w0)
    let eq ← mkEq (← mkAppM ``key #[b]) (← mkAppM ``key #[w0])
    let pf ← mkFreshExprMVar eq
    pf.mvarId!.refl
    g.assign (mkApp6 (mkConst ``KS.trans_key) ph a w0 b newGoal pf)
    replaceMainGoal [newGoal.mvarId!]

syntax "ks_step" : tactic
macro "ks_auto" : tactic => `(tactic| repeat' first | ks_step | split)

theorem KS_envOp_pause (w : World) (a : Int) : KS ph w (w.envOp (.pause a)) :=
  KS_envOp w _ (by intro h; cases h)
theorem KS_envOp_unpause (w : World) (a : Int) : KS ph w (w.envOp (.unpause a)) :=
  KS_envOp w _ (by intro h; cases h)
theorem KS_envOp_cancel (w : World) (a : Int) : KS ph w (w.envOp (.cancel a)) :=
  KS_envOp w _ (by intro h; cases h)

macro_rules | `(tactic| ks_step) => `(tactic| ks_struct)
macro_rules | `(tactic| ks_step) => `(tactic|
  ((with_reducible apply KS.trans (h2 := KS.foldl _ _ _ ?hs)); case hs => (intro _ _; ks_auto; done)))
macro_rules | `(tactic| ks_step) => `(tactic| with_reducible apply KS.trans (h2 := KS_envOp_cancel _ _))
macro_rules | `(tactic| ks_step) => `(tactic| with_reducible apply KS.trans (h2 := KS_envOp_unpause _ _))
macro_rules | `(tactic| ks_step) => `(tactic| with_reducible apply KS.trans (h2 := KS_envOp_pause _ _))
macro_rules | `(tactic| ks_step) => `(tactic| with_reducible apply KS.trans (h2 := KS_schedLib _ _ _ _ _))
macro_rules | `(tactic| ks_step) => `(tactic| with_reducible apply KS.trans (h2 := KS_sched _ _ _ _ _))
macro_rules | `(tactic| ks_step) => `(tactic| with_reducible apply KS.trans (h2 := KS_setErr _ _))
macro_rules | `(tactic| ks_step) => `(tactic| with_reducible apply KS.trans (h2 := KS_addRes _ _))
macro_rules | `(tactic| ks_step) => `(tactic|
  ((with_reducible apply KS.trans (h2 := KS_modPart _ _ _ ?hp)); case hp => exact rfl))
macro_rules | `(tactic| ks_step) => `(tactic|
  ((with_reducible apply KS.trans (h2 := KS_newPart _ _ ?hp)); case hp => exact rfl))
macro_rules | `(tactic| ks_step) => `(tactic|
  ((with_reducible apply KS.trans (h2 := KS_addRec _ _ ?hp ?ht)); (case hp => exact rfl); (case ht => exact rfl)))
macro_rules | `(tactic| ks_step) => `(tactic|
  ((with_reducible apply KS.trans (h2 := KS_modDev _ _ _ ?hp)); case hp => exact rfl))
macro_rules | `(tactic| ks_step) => `(tactic|
  ((with_reducible apply KS.trans (h2 := KS_setDev _ _ _ ?hp)); case hp => exact rfl))
macro_rules | `(tactic| ks_step) => `(tactic| with_reducible exact KS.refl _)

/-! ### the floor: flow control -/

theorem key_setWaiting (w : World) (x : Nat) (a b : Bool) : key (w.setWaiting x a b) = key w := by
  unfold setWaiting
  dsimp only
  repeat' split
  all_goals first | rfl | exact key_setDev _ _ _ rfl

theorem KS_setWaiting (w : World) (x : Nat) (a b : Bool) : KS ph w (w.setWaiting x a b) :=
  KS.of_key (key_setWaiting w x a b)

macro_rules | `(tactic| ks_step) => `(tactic| with_reducible apply KS.trans (h2 := KS_setWaiting _ _ _ _))

theorem KS_schedulePass (w : World) (x : Nat) (o : Int) : KS ph w (w.schedulePass x o) := by
  unfold schedulePass
  dsimp only
  split
  · exact KS.refl w
  · refine KS.trans (KS_setDev w x _ ?_) (KS_schedLib _ _ _ _ _)
    rfl

macro_rules | `(tactic| ks_step) => `(tactic| with_reducible apply KS.trans (h2 := KS_schedulePass _ _ _))

/-- The notifications write the idle clock and queue hand-over attempts, nothing else. -/
theorem KS_notifyUp_spaceAvail (n : Nat) :
    ∀ w x, KS ph w (notifyUp n w x) ∧ KS ph w (spaceAvail n w x) :=
  World.notify_walk (R := KS ph) KS.refl KS.trans (KS_setErr · _)
    (fun w x _ => KS_setWaiting w x _ _) (fun w x _ _ => KS_schedulePass w x _) n

theorem KS_notify (w : World) (x : Nat) : KS ph w (w.notify x) := (KS_notifyUp_spaceAvail _ _ _).1
theorem KS_spaceAvailable (w : World) (x : Nat) : KS ph w (w.spaceAvailable x) :=
  (KS_notifyUp_spaceAvail _ _ _).2

macro_rules | `(tactic| ks_step) => `(tactic| with_reducible apply KS.trans (h2 := KS_notify _ _))
macro_rules | `(tactic| ks_step) => `(tactic| with_reducible apply KS.trans (h2 := KS_spaceAvailable _ _))

/-! ### parts -/

theorem key_foldl_modPart (l : List Nat) (f : PartRec → PartRec)
    (hf : ∀ r, (f r).kids.isNone = r.kids.isNone) (w : World) :
    key (l.foldl (fun w k => w.modPart k f) w) = key w := by
  induction l generalizing w with
  | nil => rfl
  | cons a l ih => rw [List.foldl_cons, ih]; exact key_modPart _ _ _ (hf _)

theorem key_addHist (w : World) (p d : Nat) : key (w.addHist p d) = key w := by
  unfold addHist
  dsimp only
  have h1 : key (w.modPart p (fun r => { r with hist := r.hist ++ [d] })) = key w :=
    key_modPart _ _ _ rfl
  split
  · exact (key_foldl_modPart _ (fun r => { r with hist := r.hist ++ [d] }) (fun _ => rfl) _).trans h1
  · exact h1

theorem key_dropHist (w : World) (p : Nat) : key (w.dropHist p) = key w := by
  unfold dropHist
  dsimp only
  have h1 : key (w.modPart p (fun r => { r with hist := r.hist.dropLast })) = key w :=
    key_modPart _ _ _ rfl
  split
  · exact (key_foldl_modPart _ (fun r => { r with hist := r.hist.dropLast }) (fun _ => rfl) _).trans h1
  · exact h1

theorem KS_addHist (w : World) (p d : Nat) : KS ph w (w.addHist p d) := KS.of_key (key_addHist w p d)

theorem KS_dropHist (w : World) (p : Nat) : KS ph w (w.dropHist p) := KS.of_key (key_dropHist w p)

macro_rules | `(tactic| ks_step) => `(tactic| with_reducible apply KS.trans (h2 := KS_dropHist _ _))
macro_rules | `(tactic| ks_step) => `(tactic| with_reducible apply KS.trans (h2 := KS_addHist _ _ _))

theorem KS_applyPartCb (w : World) (x p : Nat) (c : PartCb) : KS ph w (w.applyPartCb x p c) := by
  have hv : ∀ v : World, KS ph v (if (c.addValue == 0) = true then v
      else v.modPart p fun r => { r with value := r.value + c.addValue }) :=
    fun v => KS.ite (KS.refl v) (KS_modPart v p _ rfl)
  -- cycle time and offset of `x`, then value and quality of a part that is not a batch
  have hq : ∀ v : World, KS ph w v → KS ph w (if v.isBatch p = true then v else
      match c.setQuality with
      | some q => (if (c.addValue == 0) = true then v
          else v.modPart p fun r => { r with value := r.value + c.addValue }).modPart p
            fun r => { r with quality := q }
      | none => if (c.addValue == 0) = true then v
          else v.modPart p fun r => { r with value := r.value + c.addValue }) := by
    intro v h
    refine h.trans (KS.ite (KS.refl v) ?_)
    split
    · exact (hv v).trans (KS_modPart _ p _ rfl)
    · exact hv v
  unfold applyPartCb
  cases c.setCycle with
  | none => exact hq _ (KS_modDev w x _ rfl)
  | some t => exact hq _ ((KS_modDev w x _ rfl).trans (KS_modDev _ x _ rfl))

theorem KS_senseOutput (w : World) (s p : Nat) : KS ph w (w.senseOutput s p) := by
  unfold senseOutput
  dsimp only
  refine KS.ite (KS.trans ?_ (KS.foldl _ _ _ fun w c => KS_addRes w _)) (KS.of_key rfl)
  exact KS.of_key rfl

theorem KS_finishCycleHandler (w : World) (x : Nat) : KS ph w (w.finishCycleHandler x) := by
  unfold finishCycleHandler
  dsimp only
  refine KS.ite (KS_setErr _ _) ?_
  split
  · exact KS_setErr _ _
  · refine KS.ite (KS_setErr _ _) (KS.trans (KS_setDev w x _ ?_) (KS_schedulePass _ _ _))
    rfl

macro_rules | `(tactic| ks_step) => `(tactic| with_reducible apply KS.trans (h2 := KS_applyPartCb _ _ _ _))
macro_rules | `(tactic| ks_step) => `(tactic| with_reducible apply KS.trans (h2 := KS_senseOutput _ _ _))
macro_rules | `(tactic| ks_step) => `(tactic| with_reducible apply KS.trans (h2 := KS_finishCycleHandler _ _))

theorem keyNP_newPart (w : World) (r : PartRec) : keyNP (w.newPart r).1 = keyNP w := rfl

theorem keyNP_genPart (w : World) (x : Nat) : keyNP (w.genPart x).1 = keyNP w := by
  unfold genPart
  dsimp only
  split
  · rfl
  · have : ∀ (l : List Nat) (acc : World × List Nat),
        keyNP (l.foldl (fun (acc : World × List Nat) _ =>
          let (w', k) := acc.1.newPart { quality := (w.dev x).genQuality, value := (w.dev x).genValue }
          (w', acc.2 ++ [k])) acc).1 = keyNP acc.1 := by
      intro l
      induction l with
      | nil => intro acc; rfl
      | cons a l ih => intro acc; rw [List.foldl_cons, ih]; rfl
    exact this _ _

theorem KS_genPart (w : World) (x : Nat) : KS ph w (w.genPart x).1 := by
  apply KS_of_NP (keyNP_genPart w x)
  intro hb
  have h0 : (w.dev x).genBatch = 0 := by
    have := (hb x).1
    rw [key_dev] at this
    exact this
  unfold genPart
  simp only [h0, beq_self_eq_true, if_true]
  show (key (w.newPart _).1).pl = _
  rw [key_newPart _ _ rfl]

theorem keyNP_modDev (w : World) (x : Nat) (f : Dev → Dev) (h : dkey (f (w.dev x)) = dkey (w.dev x)) :
    keyNP (w.modDev x f) = keyNP w := keyNP_of_key (key_setDev w x _ h)

/-- Everything but `pl` is unchanged, and some device is set up to build batches. -/
theorem KS_anyPl {w w' : World} (h1 : keyNP w' = keyNP w) (hb : ∃ x n, (w.dev x).bsize = some n) :
    KS ph w w' := by
  apply KS_of_NP h1
  intro hn
  obtain ⟨x, n, hx⟩ := hb
  have := (hn x).2
  rw [key_dev] at this
  rw [show (dkey (w.dev x)).bsize = (w.dev x).bsize from rfl, hx] at this
  cases this

theorem KS_batcherLoop (n : Nat) (w : World) (x : Nat) : KS ph w (batcherLoop n w x) := by
  induction n generalizing w with
  | zero => exact KS.refl _
  | succ n ih =>
    rw [batcherLoop]
    split
    · split
      rename_i w1 t heq
      refine KS.trans ?_ (ih _)
      have h1 : KS ph w (w1, t).1 := by
        rw [← heq]
        split
        · rename_i k rest hk
          dsimp only
          have hm : KS ph w (w.modPart _ (fun r => { r with kids := some rest })) :=
            KS_modPart _ _ _ (by rw [hk]; rfl)
          split
          · exact hm.trans (KS_modDev _ _ _ rfl)
          · exact hm
        · exact KS_modDev _ _ _ rfl
      refine KS.trans h1 ?_
      split
      · ks_auto
      · rename_i nb hbs
        apply KS_anyPl _ ⟨x, nb, hbs⟩
        split
        rename_i w2 b heq2
        have h2 : keyNP (w2, b).1 = keyNP w1 := by
          rw [← heq2]
          split
          · rfl
          · dsimp only
            exact (keyNP_modDev _ _ _ rfl).trans rfl
        dsimp only
        split
        · exact (keyNP_modDev _ _ _ rfl).trans (Eq.trans rfl h2)
        · exact Eq.trans rfl h2
    · exact KS.refl _

macro_rules | `(tactic| ks_step) => `(tactic| with_reducible apply KS.trans (h2 := KS_genPart _ _))
macro_rules | `(tactic| ks_step) => `(tactic| with_reducible apply KS.trans (h2 := KS_batcherLoop _ _ _))

/-! ### resources of a processor -/

theorem KS_releaseReserved (w : World) (x : Nat) : KS ph w (w.releaseReserved x) := by
  unfold releaseReserved
  split
  · exact KS.refl _
  · rename_i id _
    dsimp only
    exact (KS_rmStep w _ _ _ (RMok.release w.rm id none)).trans (KS_modDev _ _ _ rfl)

theorem KS_procAcquire (w : World) (x : Nat) : KS ph w (w.procAcquire x).1 := by
  unfold procAcquire
  dsimp only
  split
  · exact KS.refl _
  · rename_i req _
    split
    · exact KS.refl _
    · have hr := RMok.reserve w.rm req
      split
      · rename_i rm' r id recs heq
        have e1 : rm' = (w.rm.reserve req).1 := by rw [heq]
        have e2 : recs = (w.rm.reserve req).2.2.2 := by rw [heq]
        subst e1 e2
        exact (KS_rmStep w _ _ false hr).trans (KS_modDev _ _ _ rfl)
      · exact KS_setErr _ _
      · split
        · exact KS.refl _
        · dsimp only
          exact (KS_rmStep w _ [] _ (RMok.register w.rm req (.proc x))).trans (KS_modDev _ _ _ rfl)

macro_rules | `(tactic| ks_step) => `(tactic| with_reducible apply KS.trans (h2 := KS_releaseReserved _ _))

/-! ### cycles -/

theorem KS_procPre (w : World) (x : Nat) : KS ph w (procPre w x) := by
  unfold procPre
  dsimp only
  refine KS.trans (KS.trans (KS_finishCycleHandler w x) (KS_setDev _ x _ ?_))
    (KS.ite (KS_schedLib _ _ _ _ _) (KS.refl _))
  rfl

theorem KS_procCbs (w : World) (cbs : List PartCb) (sens : List Nat) (x p : Nat) :
    KS ph w (procCbs w cbs sens x p) :=
  (KS.foldl _ _ _ fun w c => KS_applyPartCb w x p c).trans
    (KS.foldl _ _ _ fun w s => KS_senseOutput w s p)

theorem KS_finishCycle (w : World) (x : Nat) : KS ph w (w.finishCycle x) := by
  by_cases h : (w.dev x).kind = .processor
  · rw [finishCycle_processor_eq w x h]
    split
    · exact KS_procPre w x
    · exact ((KS_procPre w x).trans (KS_procCbs _ _ _ _ _)).trans (KS_addRec _ _ rfl rfl)
  · unfold finishCycle
    dsimp only
    split
    · ks_step
      split
      · ks_step
        ks_step
        have := KS_genPart (ph := ph) w x
        revert this
        generalize w.genPart x = q
        intro this
        exact this
      · exact KS.refl _
    · ks_auto
    · contradiction
    · ks_auto

macro_rules | `(tactic| ks_step) => `(tactic| with_reducible apply KS.trans (h2 := KS_finishCycle _ _))

theorem KS_scheduleFinish (w : World) (x : Nat) : KS ph w (w.scheduleFinish x) := by
  unfold scheduleFinish
  dsimp only
  refine KS.trans (KS_setDev w x _ ?_) (KS.ite (KS_finishCycle _ _) (KS_schedLib _ _ _ _ _))
  rfl

macro_rules | `(tactic| ks_step) => `(tactic| with_reducible apply KS.trans (h2 := KS_scheduleFinish _ _))

theorem KS_tryMove (w : World) (x : Nat) : KS ph w (w.tryMove x) := by
  unfold tryMove
  dsimp only
  split
  · -- buffer: the part joins the queue
    split
    · exact KS.refl w
    · refine KS.trans (KS.trans (KS_setDev w x _ ?_) (KS_notify _ _))
        (KS.ite (KS_schedulePass _ _ _) (KS.refl _))
      rfl
  · -- batcher
    refine KS.ite (KS.refl w) ?_
    split
    · exact KS.refl w
    · refine KS.ite (KS_setDev w x _ ?_) (KS.trans (KS_batcherLoop _ w x)
        (KS.ite (KS_schedulePass _ _ _) (KS.refl _)))
      rfl
  · -- processor: the use clock starts
    refine KS.ite (KS.trans (KS_setDev w x _ ?_) (KS_scheduleFinish _ _)) (KS.refl w)
    rfl
  · exact KS.ite (KS_scheduleFinish _ _) (KS.refl w)

macro_rules | `(tactic| ks_step) => `(tactic| with_reducible apply KS.trans (h2 := KS_tryMove _ _))

theorem KS_recvTail (w : World) (x p : Nat) : KS ph w (recvTail w x p) := by
  unfold recvTail
  dsimp only
  exact (KS.foldl _ _ _ fun w c => KS_applyPartCb w x p c).trans
    (KS.ite (KS_tryMove _ _) (KS.refl _))

/-! ### the site: a device accepts a part -/

theorem key_setDev_eq (w : World) (x : Nat) (d : Dev) :
    key (w.setDev x d) = (key w).setDev x (dkey d) := by
  simp [key, World.setDev, WKey.setDev, List.map_set]

theorem key_modDev (w : World) (x : Nat) (f : Dev → Dev) (h : dkey (f (w.dev x)) = dkey (w.dev x)) :
    key (w.modDev x f) = key w := key_setDev w x _ h

theorem key_acceptHead (w : World) (x p : Nat) :
    key (acceptHead w x p) =
      if (w.dev x).kind = .sink then { key w with delivered := w.delivered ++ w.leavesOf p }
      else key w := by
  unfold acceptHead
  dsimp only
  rw [key_setWaiting, key_addHist]
  by_cases h : (w.dev x).kind = .sink
  · simp only [h, beq_self_eq_true, if_true]
    rw [key_modDev _ _ _ rfl]; rfl
  · have : ((w.dev x).kind == Kind.sink) = false := by simpa using h
    simp only [this, h, if_false, Bool.false_eq_true]
    rw [key_modDev _ _ _ rfl]

theorem part_kids_of_pl (w : World) (p : Nat) (h : (key w).pl = true) : (w.part p).kids = none := by
  have h' : w.parts.all (fun r => r.kids.isNone) = true := h
  rw [List.all_eq_true] at h'
  unfold World.part
  by_cases hp : p < w.parts.length
  · have : w.parts.getD p default = w.parts[p] := by simp [List.getD_eq_getElem?_getD, hp]
    rw [this]
    have := h' _ (List.getElem_mem hp)
    simpa using this
  · simp [List.getD_eq_getElem?_getD, Nat.le_of_not_lt hp]
    rfl

theorem leavesOf_length_of_pl (w : World) (p : Nat) (h : (key w).pl = true) :
    (w.leavesOf p).length = 1 := by
  unfold leavesOf
  rw [part_kids_of_pl w p h]
  rfl

theorem leavesOf_length (w : World) (p : Nat) : (w.leavesOf p).length = w.leafCount p := by
  unfold leavesOf leafCount
  split <;> rfl

theorem KS_acceptSite (hph : ph.moves) (w : World) (x p : Nat) :
    KS ph w ((recvHead (acceptHead w x p) x p).addRec
      (.received x (acceptHead w x p).now p ((acceptHead w x p).part p).quality
        ((acceptHead w x p).partValue p))) := by
  have hk := key_acceptHead w x p
  have hd : dkey ((acceptHead w x p).dev x) = dkey (w.dev x) := by
    rw [← key_dev, ← key_dev, hk]; split <;> rfl
  have hnow : (acceptHead w x p).now = w.now := RN_now (RN_acceptHead w x p)
  have hlc := acceptHead_leafCount w x p p
  generalize acceptHead w x p = w1 at *
  unfold KS
  by_cases hs : (w.dev x).kind = .sink
  · have hx := kind_sink_lt hs
    have hs1 : (w1.dev x).kind = .sink := (congrArg DKey.kind hd).trans hs
    rw [if_pos hs] at hk
    have hks : ((key w).dev x).kind = .sink := by rw [key_dev]; exact hs
    refine (KStep.recvSink (key w) x p (w1.part p).quality (w1.partValue p) (w.leavesOf p) hph
      (by simpa using hx) hks (leavesOf_length_of_pl w p)).cast ?_
    unfold recvHead
    simp only [hs1]
    show _ = ((key (w1.setDev x _)).addRecs _)
    rw [key_setDev_eq, hk]
    simp only [WKey.setDev, WKey.addRecs, key_now, hnow, leavesOf_length, ← hlc]
    congr 2
    · rw [key_dev, ← hd]; simp [dkey, hs1]
  · rw [if_neg hs] at hk
    have hs1 : (w1.dev x).kind ≠ .sink := fun h => hs ((congrArg DKey.kind hd).symm.trans h)
    by_cases hb : (w.dev x).kind = .buffer
    · have hx := kind_buffer_lt hb
      have hb1 : (w1.dev x).kind = .buffer := (congrArg DKey.kind hd).trans hb
      have hkb : ((key w).dev x).kind = .buffer := by rw [key_dev]; exact hb
      refine (KStep.recvBuf (key w) x p (w1.leafCount p) (w1.part p).quality (w1.partValue p) hph
        (by simpa using hx) hkb).cast ?_
      unfold recvHead
      simp only [hb1]
      have hx1 : x < w1.devs.length := kind_buffer_lt hb1
      show _ = ((key ((w1.setDev x _))).addRecs [_]).addRecs [_]
      rw [key_setDev_eq, hk, dev_setDev_same hx1]
      simp only [WKey.setDev, WKey.addRecs, key_now, hnow, List.append_assoc, List.cons_append, List.nil_append]
      have e : dkey (w1.dev x) = (key w).dev x := by rw [key_dev, hd]
      congr 2
      · have : ((key w).dev x).level = (w1.dev x).level := by rw [← e]; rfl
        rw [this, ← hnow]; rfl
      · rw [← e]; simp [dkey, hb1]
    · have hb1 : (w1.dev x).kind ≠ .buffer := fun h => hb ((congrArg DKey.kind hd).symm.trans h)
      refine (KStep.recvOther (key w) x p (w1.part p).quality (w1.partValue p) hph
        (by rw [key_dev]; exact hs) (by rw [key_dev]; exact hb)).cast ?_
      unfold recvHead
      dsimp only
      split
      · rename_i h; exact absurd h hs1
      · rename_i h; exact absurd h hb1
      · show _ = (key w1).addRecs [_]
        rw [hk, hnow]; rfl


theorem KS.devs_length {w w' : World} (h : KS ph w w') : w'.devs.length = w.devs.length := by
  have := (KStep.static h).1
  simpa using this

theorem KS.kind {w w' : World} (h : KS ph w w') (x : Nat) : (w'.dev x).kind = (w.dev x).kind := by
  have := ((KStep.static h).2.2.1 x).1
  rw [key_dev, key_dev] at this
  exact this

theorem KS_acceptPart (hph : ph.moves) (w : World) (x p : Nat) : KS ph w (w.acceptPart x p) := by
  rw [acceptPart_eq, onReceived_eq']
  have e1 := recvHead_now (acceptHead w x p) x p
  have e2 := recvHead_parts (acceptHead w x p) x p
  rw [e1, partValue_congr e2, part_congr e2]
  exact (KS_acceptSite hph w x p).trans (KS_recvTail _ _ _)

theorem KS_tryList (g : World → Nat → Nat → World × Bool)
    (hg : ∀ w y p, KS ph w (g w y p).1) (w : World) (l : List Nat) (p : Nat) :
    KS ph w (tryList g w l p).1 := by
  induction l generalizing w with
  | nil => exact KS.refl w
  | cons y ys ih =>
    rw [tryList]
    have h := hg w y p
    split
    · rename_i heq; rw [heq] at h; exact h
    · rename_i heq; rw [heq] at h; exact h.trans (ih _)

theorem KS_give (hph : ph.moves) (n : Nat) : ∀ (w : World) (x p : Nat), KS ph w (give n w x p).1 := by
  induction n with
  | zero => intro w x p; exact KS_setErr _ _
  | succ n ih =>
    intro w x p
    have hT : ∀ w l p, KS ph w (tryList (give n) w l p).1 := KS_tryList _ ih
    have hA : KS ph w (if w.canAcceptBasic x p = true then (w.acceptPart x p, true) else (w, false)).1 := by
      split
      · -- reducible: otherwise `acceptPart` is unfolded before `(_, true).1` is reduced
        with_reducible exact KS_acceptPart hph w x p
      · exact KS.refl w
    rw [give]
    dsimp only
    split
    · exact hA
    · exact hA
    · exact hA
    · exact hA
    · exact hA
    · -- processor: the resources first
      split
      · split
        · rename_i heq
          with_reducible exact (KS.of_fst_eq (KS_procAcquire w x) heq).trans (KS_acceptPart hph _ _ _)
        · rename_i heq
          with_reducible exact KS.of_fst_eq (KS_procAcquire w x) heq
      · exact KS.refl w
    · -- gate
      split
      · exact KS.refl w
      · split
        · exact KS.refl w
        · split
          · rename_i heq
            with_reducible exact (KS_addHist w p x).trans (KS.of_fst_eq (hT _ _ _) heq)
          · rename_i heq
            with_reducible exact ((KS_addHist w p x).trans (KS.of_fst_eq (hT _ _ _) heq)).trans (KS_dropHist _ _)
    · -- group input
      split
      · exact KS.refl w
      · exact hT _ _ _
    · -- group path: push the path, enter the group, pop on refusal
      split
      · exact KS.refl w
      · have h1 : KS ph w ((w.modPart p fun r => { r with stack := r.stack ++ [x] }).addHist p x) :=
          KS.trans (KS_modPart w p _ rfl) (KS_addHist _ _ _)
        split
        · rename_i heq
          exact h1.trans (KS.of_fst_eq (ih _ _ _) heq)
        · rename_i heq
          dsimp only
          refine ((h1.trans (KS.of_fst_eq (ih _ _ _) heq)).trans (KS_modPart _ _ _ ?_)).trans
            (KS_dropHist _ _)
          rfl
    · -- group output: leave the group, re-enter on refusal
      split
      · exact KS_setErr _ _
      · have h1 : KS ph w (w.modPart p fun r => { r with stack := r.stack.dropLast }) :=
          KS_modPart w p _ rfl
        split
        · rename_i heq
          exact h1.trans (KS.of_fst_eq (hT _ _ _) heq)
        · rename_i heq
          dsimp only
          refine (h1.trans (KS.of_fst_eq (hT _ _ _) heq)).trans (KS_modPart _ _ _ ?_)
          rfl

theorem KS_givePart (hph : ph.moves) (w : World) (x p : Nat) : KS ph w (w.givePart x p).1 :=
  KS_give hph _ _ _ _

theorem KS_tryList_givePart (hph : ph.moves) (w : World) (l : List Nat) (p : Nat) :
    KS ph w (tryList givePart w l p).1 := KS_tryList _ (KS_givePart hph) _ _ _

theorem KS_passHandler (hph : ph.moves) (w : World) (x : Nat) : KS ph w (w.passHandler x) := by
  unfold passHandler
  dsimp only
  refine KS.ite (KS.refl w) ?_
  split
  · exact KS.refl w
  · have hT := KS_tryList_givePart hph w (w.sortedDown x)
    split
    · rename_i heq
      refine KS.trans (KS.trans (KS.of_fst_eq (hT _) heq) (KS_modDev _ x _ ?_)) (KS_notify _ _)
      rfl
    · rename_i heq
      refine KS.trans (KS.of_fst_eq (hT _) heq) (KS_modDev _ x _ ?_)
      rfl

theorem KS_releaseStep (hph : ph.moves) (w : World) (x n : Nat) (hk : (w.dev x).kind = .buffer) :
    KS ph w (releaseStep w x n) := by
  have hx := kind_buffer_lt hk
  unfold KS
  refine (KStep.release (key w) x n hph (by simpa using hx) (by rw [key_dev]; exact hk)).cast ?_
  unfold releaseStep
  dsimp only
  show _ = (key (w.setDev x _)).addRecs [_]
  rw [key_setDev_eq, dev_modDev_same hx]
  simp only [WKey.setDev, WKey.addRecs, key_dev]
  rfl

theorem KS_bufferLoop (hph : ph.moves) (n : Nat) (w : World) (x : Nat) (hk : (w.dev x).kind = .buffer) :
    KS ph w (bufferLoop n w x) := by
  induction n generalizing w with
  | zero => exact KS.refl _
  | succ n ih =>
    rw [bufferLoop_succ]
    split
    · exact KS.refl _
    · rename_i t p rest hbuf
      split
      · exact KS.refl _
      · have hT := KS_tryList_givePart hph w (w.sortedDown x) p
        split
        · rename_i w1 heq
          rw [heq] at hT
          have hk1 : (w1.dev x).kind = .buffer := (hT.kind x).trans hk
          have h2 := KS_releaseStep hph w1 x (w.leafCount p) hk1
          exact (hT.trans h2).trans (ih _ ((h2.kind x).trans hk1))
        · rename_i w1 heq
          rw [heq] at hT
          exact hT

theorem KS_supplySite (hph : ph.sup = true) (w : World) (x p : Nat) (v : Int)
    (hk : (w.dev x).kind = .source) :
    KS ph w ((bump w x v).addRec (.supplied x w.now p)) := by
  have hx := kind_source_lt hk
  unfold KS
  refine (KStep.supply (key w) x p v hph (by simpa using hx) (by rw [key_dev]; exact hk)).cast ?_
  unfold bump
  show _ = (key (w.setDev x _)).addRecs [_]
  rw [key_setDev_eq]
  simp only [WKey.setDev, WKey.addRecs, key_dev]
  rfl

theorem KS_passPart (hm : ph.moves) (w : World) (x : Nat)
    (hs : (w.dev x).kind = .source → ph.sup = true) : KS ph w (w.passPart x) := by
  by_cases hk : (w.dev x).kind = .source
  · have hph := hs hk
    rw [passPart_source_eq w x hk]
    split
    · exact KS.refl _
    · split
      · exact KS.refl _
      · rename_i p _
        have h1 := KS_passHandler hm w x
        split
        · have hk1 : ((w.passHandler x).dev x).kind = .source := (h1.kind x).trans hk
          exact (h1.trans (KS_supplySite hph _ x p _ hk1)).trans (KS_scheduleFinish _ _)
        · exact h1
  · unfold passPart
    dsimp only
    split
    · contradiction
    · rename_i hb
      have hB := fun n => KS_bufferLoop hm n w x hb
      repeat' first
        | ks_step
        | with_reducible apply KS.trans (h2 := hB _)
        | split
    all_goals
      repeat' first
        | ks_step
        | with_reducible apply KS.trans (h2 := KS_passHandler hm _ _)
        | split

theorem KS_shutdownDev (w : World) (x : Nat) (f : Bool) (lost : Option Nat) :
    KS ph w (w.shutdownDev x f lost) := by
  unfold shutdownDev
  dsimp only
  split
  · split
    · exact (KS_envOp_cancel w _).trans (KS.foldl _ _ _ fun w k => KS_addRes w _)
    · exact KS.refl w
  · -- the flag, the queue, the clocks of `x`, the idle clock, the callbacks
    refine KS.trans (KS.trans (KS.trans (KS.trans (KS_setDev w x _ ?_)
      (KS.ite (KS_envOp_cancel _ _) (KS_envOp_pause _ _))) (KS_setDev _ x _ ?_))
      (KS_setWaiting _ _ _ _)) (KS.foldl _ _ _ fun w k => KS_addRes w _)
    · rfl
    · split <;> rfl

theorem KS_restoreDev (w : World) (x : Nat) : KS ph w (w.restoreDev x) := by
  unfold restoreDev
  dsimp only
  split
  · exact KS.refl w
  · -- the flag, the queue, a hand-over or a notification, the use clock, the callbacks
    refine KS.trans (KS.trans (KS.trans (KS.trans (KS_setDev w x _ ?_) (KS_envOp_unpause _ _))
      (KS.ite (KS_schedulePass _ _ _) (KS.ite (KS_notify _ _) (KS.refl _))))
      (KS.ite (KS_modDev _ _ _ ?_) (KS.refl _))) (KS.foldl _ _ _ fun w k => KS_addRes w _)
    · rfl
    · rfl

macro_rules | `(tactic| ks_step) => `(tactic| with_reducible apply KS.trans (h2 := KS_shutdownDev _ _ _ _))
macro_rules | `(tactic| ks_step) => `(tactic| with_reducible apply KS.trans (h2 := KS_restoreDev _ _))

theorem KS_failDev (w : World) (x : Nat) : KS ph w (w.failDev x) := by
  unfold failDev
  dsimp only
  -- the lost part, the slot of `x`, its resources, the record, the shutdown
  refine KS.trans (KS.trans (KS.trans (KS.trans (?_ : KS ph w (match (w.dev x).part with
      | some p => { w with lost := w.lost ++ w.leavesOf p }
      | none => w)) (KS_modDev _ x _ ?_)) (KS_releaseReserved _ _)) (KS_addRec _ _ rfl rfl))
    (KS_shutdownDev _ _ _ _)
  · split
    · exact KS.of_key rfl
    · exact KS.refl w
  · rfl

theorem KS_releaseIfIdle (w : World) (x : Nat) : KS ph w (w.releaseIfIdle x) := by
  unfold releaseIfIdle
  exact KS.ite (KS_releaseReserved _ _) (KS.refl _)

theorem KS_procResourceCb (w : World) (x : Nat) : KS ph w (w.procResourceCb x) := by
  unfold procResourceCb
  dsimp only
  exact KS.trans (KS_modDev w x _ rfl) (KS_notify _ _)

theorem KS_setBlock (w : World) (x : Nat) (b : Bool) : KS ph w (w.setBlock x b) := by
  unfold setBlock
  dsimp only
  exact KS.ite (KS.refl w) (KS.trans (KS_modDev w x _ rfl) (KS.ite (KS_notify _ _) (KS.refl _)))

theorem KS_adjustParts (w : World) (x : Nat) (v : Int) : KS ph w (w.adjustParts x v) := by
  unfold adjustParts
  dsimp only
  split
  · exact KS.refl w
  · refine KS.trans (KS_setDev w x _ ?_) (KS.ite (KS_schedulePass _ _ _) (KS.refl _))
    rfl

theorem KS_rewire (w : World) (x : Nat) (ups : List Nat) : KS ph w (w.rewire x ups) := by
  unfold rewire
  dsimp only
  -- the idle clock, `x` leaves its old suppliers, its new list, `x` joins the new suppliers
  refine KS.trans (KS.trans (KS.trans (KS.ite (KS_setWaiting _ _ _ _) (KS.refl _))
    (KS.foldl _ _ _ fun w u => KS_modDev w u _ rfl)) (KS_modDev _ x _ ?_))
    (KS.foldl _ _ _ fun w u => KS.ite (KS.refl w) ?_)
  · rfl
  · exact KS.trans (KS_modDev w u _ rfl) (KS.ite (KS_spaceAvailable _ _) (KS.refl _))


end C15W
end SimProc
