/-
C15D — machinery, part 4: with closed wiring (`C02W.Wired`: every downstream entry and every group
input names an existing device) no `received_part` record is ever written about a device that does
not exist (`InR`), so a sink created later starts with no record.

`RB w w'`: `w'` has the devices of `w` and its log extended by records whose `received_part`
records are about existing devices.  Everything that hands no part over is `RB` by the key method
(`KStep.quietRecs`); the hand-over itself (`give`) is walked through once more, with the wiring.
-/
import SimProc.Proofs.C15DReach
import SimProc.Proofs.C02WDyn

namespace SimProc
namespace C15D
open World FloorCoreL C15 C15W RM

/-! ### steps that hand nothing over write no `received_part` record -/

theorem isReceivedBy_plain {r : Rec} (h : isPlain r = true) (y : Nat) : isReceivedBy y r = false := by
  cases r <;> simp_all [isPlain, isReceivedBy]

theorem isReceivedBy_stamp (t : Int) (recs : List ResRec) : ∀ r ∈ stamp t recs, ∀ y, isReceivedBy y r = false := by
  intro r hr y
  obtain ⟨a, _, rfl⟩ := List.mem_map.1 hr
  rfl

theorem KStep.quietRecs {ph : Phase} {k k' : WKey} (h : KStep ph k k') (hm : ph.mv = false) :
    ∃ l, k'.recs = k.recs ++ l ∧ ∀ r ∈ l, ∀ y, isReceivedBy y r = false := by
  induction h with
  | refl k => exact ⟨[], by simp, by simp⟩
  | trans _ _ ih1 ih2 =>
    obtain ⟨l1, e1, h1⟩ := ih1
    obtain ⟨l2, e2, h2⟩ := ih2
    refine ⟨l1 ++ l2, by rw [e2, e1, List.append_assoc], fun r hr => ?_⟩
    rcases List.mem_append.1 hr with h | h
    · exact h1 r h
    · exact h2 r h
  | env k op h => exact ⟨[], by simp, by simp⟩
  | plain k r hp ht => exact ⟨[r], rfl, fun r' hr' y => by
      simp only [List.mem_singleton] at hr'; subst hr'; exact isReceivedBy_plain hp y⟩
  | rm k a b recs ha hi h => exact ⟨_, rfl, isReceivedBy_stamp _ _⟩
  | recvSink k x p q v lv hph => rw [Phase.moves, hm] at hph; cases hph
  | recvBuf k x p n q v hph => rw [Phase.moves, hm] at hph; cases hph
  | recvOther k x p q v hph => rw [Phase.moves, hm] at hph; cases hph
  | release k x n hph => rw [Phase.moves, hm] at hph; cases hph
  | supply k x p v hph hx hk => exact ⟨[_], rfl, fun r' hr' y => by
      simp only [List.mem_singleton] at hr'; subst hr'; rfl⟩
  | maintCost k m c hph => exact ⟨[], by simp, by simp⟩
  | plSet k b h => exact ⟨[], by simp, by simp⟩
  | rmInit k hph hi => exact ⟨_, rfl, isReceivedBy_stamp _ _⟩
  | devReset k x hph => exact ⟨[], by simp, by simp⟩
  | maintReset k m hph => exact ⟨[], by simp, by simp⟩

/-! ### the invariant -/

/-- No `received_part` record is about a device that does not exist. -/
def InRK (k : WKey) : Prop := ∀ y, k.devs.length ≤ y → ∀ r ∈ k.recs, isReceivedBy y r = false

def InR (w : World) : Prop := InRK (key w)

theorem inR_iff (w : World) :
    InR w ↔ ∀ y, w.devs.length ≤ y → ∀ r ∈ w.recs, isReceivedBy y r = false := by
  unfold InR InRK
  simp only [key_devs_length, key_recs]

theorem countRecv_zero {l : List Rec} {y : Nat} (h : ∀ r ∈ l, isReceivedBy y r = false) :
    countRecv l y = 0 := by
  unfold countRecv
  rw [List.filter_eq_nil_iff.2 (fun r hr => by rw [h r hr]; simp)]
  rfl

theorem recvSum_zero {l : List Rec} {y : Nat} (h : ∀ r ∈ l, isReceivedBy y r = false) :
    recvSum l y = 0 := by
  unfold recvSum
  rw [List.filterMap_eq_nil_iff.2]
  · rfl
  · intro r hr
    have hy := h r hr
    cases r with
    | received d t p q v => exact if_neg (ne_of_beq_false hy)
    | _ => rfl

/-- created devices: constructor-fresh, and no `received_part` record about the new index -/
def PW : WKey → DKey → Prop :=
  fun k d => DFresh d ∧ ∀ r ∈ k.recs, isReceivedBy k.devs.length r = false
/-- … and not set up for batches -/
def PWB : WKey → DKey → Prop :=
  fun k d => (DFresh d ∧ d.genBatch = 0 ∧ d.bsize = none) ∧ ∀ r ∈ k.recs, isReceivedBy k.devs.length r = false

theorem InRK.dstep {P : WKey → DKey → Prop} {ph : Phase} {k k' : WKey} (h : DStep P ph k k')
    (hm : ph.mv = false) (hi : InRK k) : InRK k' := by
  induction h with
  | refl k => exact hi
  | trans _ _ ih1 ih2 => exact ih2 (ih1 hi)
  | ks h =>
    obtain ⟨l, e, hl⟩ := KStep.quietRecs h hm
    intro y hy r hr
    rw [e] at hr
    rcases List.mem_append.1 hr with h1 | h1
    · exact hi y (by rw [← (KStep.static h).1]; exact hy) r h1
    · exact hl r h1 y
  | newDev k d h =>
    intro y hy r hr
    exact hi y (by simp at hy; omega) r hr
  | newMaint k v h => exact hi

theorem ctxW : Ctx PW InRK SNew False where
  dev0 := fun h => h.elim
  dev := fun _ _ hR h => ⟨dfresh_of_devNew h, hR _ (Nat.le_refl _)⟩
  ctl := fun _ _ _ hR => ⟨⟨rfl, rfl, rfl, rfl, rfl, rfl, rfl⟩, hR _ (Nat.le_refl _)⟩
  still := fun h hi => InRK.dstep h rfl hi
  env := fun _ _ h => h

theorem ctxWB : Ctx PWB InRK SNB False where
  dev0 := fun h => h.elim
  dev := fun _ d hR h => ⟨⟨dfresh_of_devNew h.1, (devNB_iff d).1 h.2⟩, hR _ (Nat.le_refl _)⟩
  ctl := fun _ _ _ hR => ⟨⟨⟨rfl, rfl, rfl, rfl, rfl, rfl, rfl⟩, rfl, rfl⟩, hR _ (Nat.le_refl _)⟩
  still := fun h hi => InRK.dstep h rfl hi
  env := fun _ _ h => h

/-! ### the per-sink invariants at the creation sites -/

theorem RecvValInv.dstep {P : WKey → DKey → Prop} {ph : Phase}
    (hP : ∀ k d, P k d → DFresh d ∧ ∀ r ∈ k.recs, isReceivedBy k.devs.length r = false)
    {k k' : WKey} (h : DStep P ph k k') (hi : RecvValInv k) : RecvValInv k' := by
  refine h.lift RecvValInv.step ?_ (fun _ _ _ hi => hi) hi
  intro k d hp hi y
  rw [dev_newDev]
  split
  · rename_i e
    subst e
    intro _
    rw [(hP _ _ hp).1.2.2.2.1]
    exact (recvSum_zero (hP _ _ hp).2).symm
  · exact hi y

theorem CountInv.dstep {P : WKey → DKey → Prop} {ph : Phase}
    (hP : ∀ k d, P k d → (DFresh d ∧ d.genBatch = 0 ∧ d.bsize = none) ∧
      ∀ r ∈ k.recs, isReceivedBy k.devs.length r = false)
    {k k' : WKey} (h : DStep P ph k k') (hi : CountInv k) : CountInv k' := by
  refine h.lift CountInv.step ?_ (fun _ _ _ hi => hi) hi
  intro k d hp hi
  refine ⟨⟨fun y => ?_, hi.1.2⟩, fun y => ?_⟩
  · rw [dev_newDev]
    split
    · exact (hP _ _ hp).1.2
    · exact hi.1.1 y
  · rw [dev_newDev]
    split
    · rename_i e
      subst e
      intro _
      rw [(hP _ _ hp).1.1.2.2.1]
      rw [countRecv_zero (hP _ _ hp).2]
      rfl
    · exact hi.2 y

/-! ### records bounded by the device count -/

/-- Same devices; the log is extended by records whose `received_part` records are about existing
devices. -/
def RB (w w' : World) : Prop :=
  w'.devs.length = w.devs.length ∧
    ∃ l, w'.recs = w.recs ++ l ∧ ∀ r ∈ l, ∀ y, isReceivedBy y r = true → y < w.devs.length

theorem RB.refl (w : World) : RB w w := ⟨rfl, [], by simp, by simp⟩

theorem RB.trans {a b c : World} (h1 : RB a b) (h2 : RB b c) : RB a c := by
  obtain ⟨n1, l1, e1, t1⟩ := h1
  obtain ⟨n2, l2, e2, t2⟩ := h2
  refine ⟨n2.trans n1, l1 ++ l2, by rw [e2, e1, List.append_assoc], fun r hr y hy => ?_⟩
  rcases List.mem_append.1 hr with h | h
  · exact t1 r h y hy
  · rw [← n1]; exact t2 r h y hy

theorem RB.of_KS {ph : Phase} {w w' : World} (h : KS ph w w') (hm : ph.mv = false) : RB w w' := by
  obtain ⟨l, e, hl⟩ := KStep.quietRecs h hm
  refine ⟨h.devs_length, l, e, fun r hr y hy => ?_⟩
  rw [hl r hr y] at hy; cases hy

theorem RB.of_fst_eq {α} {w w' : World} {e : World × α} {b : α} (he : RB w e.1) (h : e = (w', b)) :
    RB w w' := by subst h; exact he

theorem RB.inR {w w' : World} (h : RB w w') (hi : InR w) : InR w' := by
  rw [inR_iff] at hi ⊢
  obtain ⟨n, l, e, t⟩ := h
  intro y hy r hr
  rw [e] at hr
  rw [n] at hy
  rcases List.mem_append.1 hr with h1 | h1
  · exact hi y hy r h1
  · cases hb : isReceivedBy y r with
    | false => rfl
    | true => exact absurd (t r h1 y hb) (by omega)

open C02W C02V in
theorem wired_of_st {w w' : World} (h : Wired w) (e : st w' = st w) : Wired w' := by
  unfold Wired
  rw [len_of_st e]
  exact WiredN.ext h (ExtN.of_st e)

/-! ### accepting a part -/

theorem RB_acceptPart (w : World) (x p : Nat) (hx : x < w.devs.length) : RB w (w.acceptPart x p) := by
  -- for any record: unifying the record of `KS_acceptSite` with the one logged would unfold `recvHead`
  have hlen : ∀ r, ((recvHead (acceptHead w x p) x p).addRec r).devs.length = w.devs.length :=
    fun _ => (KS_acceptSite (ph := .flow) rfl w x p).devs_length
  rw [acceptPart_eq, onReceived_eq']
  refine RB.trans ?_ (RB.of_KS (KS_recvTail (ph := .quiet) _ _ _) rfl)
  refine ⟨hlen _, ?_⟩
  refine ⟨recvPre (acceptHead w x p) x p ++
    [Rec.received x (recvHead (acceptHead w x p) x p).now p
      ((recvHead (acceptHead w x p) x p).part p).quality ((recvHead (acceptHead w x p) x p).partValue p)], ?_, ?_⟩
  · show (recvHead (acceptHead w x p) x p).recs ++ [_] = _
    rw [recvHead_recs, RN_recs (RN_acceptHead w x p), List.append_assoc]
  · intro r hr y hy
    rcases List.mem_append.1 hr with h | h
    · unfold recvPre at h
      split at h
      · simp only [List.mem_singleton] at h; subst h; cases hy
      · cases h
    · simp only [List.mem_singleton] at h
      subst h
      have : x = y := by simpa [isReceivedBy] using hy
      rw [← this]; exact hx

open C02W C02V in
theorem RB_tryList (g : World → Nat → Nat → World × Bool)
    (hg : ∀ w y p, Wired w → y < w.devs.length → RB w (g w y p).1)
    (hs : ∀ w y p, st (g w y p).1 = st w) (w : World) (l : List Nat) (p : Nat)
    (hw : Wired w) (hl : ∀ y ∈ l, y < w.devs.length) : RB w (tryList g w l p).1 := by
  induction l generalizing w with
  | nil => exact RB.refl w
  | cons y ys ih =>
    rw [tryList]
    have h := hg w y p hw (hl y (List.mem_cons_self ..))
    have hst := hs w y p
    split
    · rename_i heq; rw [heq] at h; exact h
    · rename_i w' heq
      rw [heq] at h hst
      refine h.trans (ih _ (wired_of_st hw hst) (fun z hz => ?_))
      rw [h.1]; exact hl z (List.mem_cons_of_mem _ hz)

open C02W C02V in
theorem RB_give (n : Nat) : ∀ (w : World) (x p : Nat), Wired w → x < w.devs.length →
    RB w (give n w x p).1 := by
  induction n with
  | zero => intro w x p _ _; exact RB.of_KS (KS_setErr (ph := .quiet) _ _) rfl
  | succ n ih =>
    intro w x p hw hx
    have hT : ∀ (v : World) (z : Nat), Wired v → RB v (tryList (give n) v (v.sortedDown z) p).1 := by
      intro v z hv
      refine RB_tryList _ (fun a b c ha hb => ih a b c ha hb) (fun a b c => st_give n a b c) v _ p hv ?_
      intro y hy
      exact hv.down z y ((mem_sortedDown v z y).1 hy)
    have hq : ∀ {a b : World}, KS Phase.quiet a b → RB a b := fun h => RB.of_KS h rfl
    have hA : RB w (if w.canAcceptBasic x p = true then (w.acceptPart x p, true) else (w, false)).fst := by
      split
      · -- with `(w.acceptPart _ _, true).fst` left in the goal, `exact` unfolds `acceptPart` before the projection
        dsimp only
        exact RB_acceptPart w x p hx
      · exact RB.refl _
    rw [give]
    dsimp only
    split
    · exact hA
    · exact hA
    · exact hA
    · exact hA
    · exact hA
    -- processor
    · split
      · have h1 := hq (KS_procAcquire w x)
        split
        · rename_i w1 heq
          rw [heq] at h1
          dsimp only at h1 ⊢
          exact h1.trans (RB_acceptPart w1 x p (by rw [h1.1]; exact hx))
        · rename_i w1 heq
          rw [heq] at h1
          exact h1
      · exact RB.refl _
    -- gate
    · split
      · exact RB.refl _
      · split
        · exact RB.refl _
        · have h1 := hq (KS_addHist w p x)
          have hw1 : Wired (w.addHist p x) := wired_of_st hw (st_addHist ..)
          have h2 := hT (w.addHist p x) x hw1
          split
          · rename_i w2 heq
            rw [heq] at h2
            exact h1.trans h2
          · rename_i w2 heq
            rw [heq] at h2
            exact (h1.trans h2).trans (hq (KS_dropHist _ _))
    -- ginput
    · split
      · exact RB.refl _
      · exact hT w x hw
    -- gpath
    · split
      · exact RB.refl _
      · generalize hv : (w.modPart p (fun r => { r with stack := r.stack ++ [x] })).addHist p x = v
        have h1 : RB w v := by
          rw [← hv]; exact hq ((KS_modPart w p _ rfl).trans (KS_addHist _ _ _))
        have hst : st v = st w := by
          rw [← hv, st_addHist]; rfl
        have hw1 := wired_of_st hw hst
        have hin : ginp v (w.dev x).group < v.devs.length := by
          rcases hw1.gin (w.dev x).group with h | h
          · rw [h, h1.1]; omega
          · exact h
        have h2 := ih v _ p hw1 hin
        unfold ginp at h2
        split
        · rename_i w2 heq
          rw [heq] at h2
          exact h1.trans h2
        · rename_i w2 heq
          rw [heq] at h2
          exact (h1.trans h2).trans (hq ((KS_modPart _ _ _ rfl).trans (KS_dropHist _ _)))
    -- goutput
    · split
      · exact hq (KS_setErr _ _)
      · rename_i g _
        generalize hv : w.modPart p (fun r => { r with stack := r.stack.dropLast }) = v
        have h1 : RB w v := by rw [← hv]; exact hq (KS_modPart w p _ rfl)
        have hw1 : Wired v := wired_of_st hw (by rw [← hv]; rfl)
        have h2 := hT v g hw1
        split
        · rename_i w2 heq
          rw [heq] at h2
          exact h1.trans h2
        · rename_i w2 heq
          rw [heq] at h2
          exact (h1.trans h2).trans (hq (KS_modPart _ _ _ rfl))

open C02W C02V in
theorem RB_givePart (w : World) (x p : Nat) (hw : Wired w) (hx : x < w.devs.length) :
    RB w (w.givePart x p).1 := RB_give _ w x p hw hx

open C02W C02V in
theorem RB_tryList_givePart (w : World) (z p : Nat) (hw : Wired w) :
    RB w (tryList givePart w (w.sortedDown z) p).1 := by
  refine RB_tryList _ (fun a b c ha hb => RB_givePart a b c ha hb) (fun a b c => st_givePart a b c) w _ p hw ?_
  intro y hy
  exact hw.down z y ((mem_sortedDown w z y).1 hy)

/-! ### passing parts downstream -/

open C02W C02V in
theorem RB_passHandler (w : World) (x : Nat) (hw : Wired w) : RB w (w.passHandler x) := by
  have hq : ∀ {a b : World}, KS Phase.quiet a b → RB a b := fun h => RB.of_KS h rfl
  unfold passHandler
  dsimp only
  split
  · exact RB.refl _
  · split
    · exact RB.refl _
    · rename_i p _
      have h1 := RB_tryList_givePart w x p hw
      split
      · rename_i w1 heq
        rw [heq] at h1
        exact h1.trans (hq ((KS_modDev _ _ _ rfl).trans (KS_notify _ _)))
      · rename_i w1 heq
        rw [heq] at h1
        exact h1.trans (hq (KS_modDev _ _ _ rfl))

theorem RB_releaseStep (w : World) (x n : Nat) : RB w (releaseStep w x n) := by
  unfold releaseStep
  dsimp only
  refine ⟨by simp [World.addRec, World.modDev, World.setDev], [_], rfl, fun r hr y hy => ?_⟩
  simp only [List.mem_singleton] at hr
  subst hr
  cases hy

open C02W C02V in
theorem st_releaseStep (w : World) (x n : Nat) : st (releaseStep w x n) = st w := by
  unfold releaseStep
  dsimp only
  rw [st_addRec]
  exact st_modDev_same _ _ _ (fun _ => rfl)

open C02W C02V in
theorem RB_bufferLoop (n : Nat) (w : World) (x : Nat) (hw : Wired w) : RB w (bufferLoop n w x) := by
  induction n generalizing w with
  | zero => exact RB.refl _
  | succ n ih =>
    rw [bufferLoop_succ]
    split
    · exact RB.refl _
    · rename_i t p rest hbuf
      split
      · exact RB.refl _
      · have hT := RB_tryList_givePart w x p hw
        have hst := st_tryGive w (w.sortedDown x) p
        split
        · rename_i w1 heq
          rw [heq] at hT hst
          have h2 := RB_releaseStep w1 x (w.leafCount p)
          have hw2 : Wired (releaseStep w1 x (w.leafCount p)) :=
            wired_of_st hw ((st_releaseStep w1 x _).trans hst)
          exact (hT.trans h2).trans (ih _ hw2)
        · rename_i w1 heq
          rw [heq] at hT
          exact hT

open C02W C02V in
theorem RB_passPart (w : World) (x : Nat) (hw : Wired w) : RB w (w.passPart x) := by
  have hq : ∀ {a b : World}, KS Phase.still a b → RB a b := fun h => RB.of_KS h rfl
  by_cases hk : (w.dev x).kind = .source
  · rw [passPart_source_eq w x hk]
    split
    · exact RB.refl _
    · split
      · exact RB.refl _
      · rename_i p _
        have h1 := RB_passHandler w x hw
        split
        · have hk1 : ((w.passHandler x).dev x).kind = .source :=
            ((KS_passHandler (ph := .flow) rfl w x).kind x).trans hk
          exact (h1.trans (hq (KS_supplySite rfl _ x p _ hk1))).trans (hq (KS_scheduleFinish _ _))
        · exact h1
  · unfold passPart
    dsimp only
    split
    · contradiction
    · -- buffer
      refine RB.trans ?_ (hq (KS_notify _ _))
      generalize hv : bufferLoop ((w.dev x).buf.length + 1) w x = v
      have h1 : RB w v := by rw [← hv]; exact RB_bufferLoop _ w x hw
      split
      · exact h1
      · split
        · exact h1.trans (hq (KS_schedulePass _ _ _))
        · exact h1.trans (hq (KS_setDev _ _ _ rfl))
    · -- batcher
      have h1 := RB_passHandler w x hw
      split
      · exact h1.trans (hq (KS_tryMove _ _))
      · exact h1
    · exact RB.refl _
    · exact RB_passHandler w x hw

/-! ### the class of worlds with closed wiring (`C02W.DynN`) -/

/-- Outside operations: constructor-fresh payloads, admissible at the current device count
(`C02W.OpsOK`: re-wired devices exist, created devices name existing downstream neighbours, …). -/
def AW (need : Nat → Nat) : World → List Op → Prop :=
  fun w l => (∀ op ∈ l, opNew op = true) ∧ C02W.OpsOK need w.devs.length l

/-- … and no created device is set up for batches. -/
def AWB (need : Nat → Nat) : World → List Op → Prop :=
  fun w l => (∀ op ∈ l, opNew op = true ∧ opNB op = true) ∧ C02W.OpsOK need w.devs.length l

open C02W C02V in
theorem clsW (need : Nat → Nat) (A : World → List Op → Prop)
    (hA : ∀ w l, A w l → OpsOK need w.devs.length l) : Cls (DynN need) A InRK where
  step := fun h hst => dynN_step _ _ _ h hst
  setErr := fun _ _ h => h.of_st (st_setErr ..) (scr_setErr ..) (tg_setErr ..)
  init := fun w h => dyn_simulateInit w h
  runBegin := fun w d h => dyn_runBegin w d h
  ops := fun w l h ha => (dyn_applyOps l w w.devs.length h (Nat.le_refl _) (hA w l ha)).1
  pass := fun w h env' d hi =>
    (RB_passPart ({ w with env := env' } : World) d ⟨h.wired.down, h.wired.gin⟩).inR hi

end C15D
end SimProc
