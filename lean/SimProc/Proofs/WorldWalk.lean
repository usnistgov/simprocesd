/-
Walking a relation through the closed world.

`Model/World.lean` runs scripts (`applyOps`, `runScript`), lets the resource manager call back
(`rmCheck`), starts and finishes work orders (`hookStart`, `hookEnd`, `startWork`, `finishWork`) and
dispatches the popped event (`exec`, `step`, `runLoop`).  What these do besides applying a scripted
operation is a handful of atomic updates; a relation `R` that contains them under an invariant `I`
which it preserves (`ScriptClosed`, `EventClosed`, `RunClosed`) contains the whole chain, given what a single
operation of a script does (`applyOp`), which is where the users differ.

What the scripted operations do that neither touch the events of an asset nor shut down, restore,
rewire or create anything is stated first (`PlainClosed`): here too the users differ only in a few
atoms.

`Blind R` is the special case of a relation that can tell two worlds apart only by their
configuration (seed, scripts, static part of the devices, groups, targets, registered assets): it
contains every scripted operation except `create` (and `rewire`, if it looks at the wiring).  The
scripts themselves are such a configuration, and `create` does not touch them either, which is why
the operations of a script stay operations of the scripts while it runs.
-/
import SimProc.Proofs.FloorWalk

namespace SimProc

namespace World

/-! ### the plain scripted operations, for any relation -/

/-- The scripted operations that touch no timer, no machine state and no queue entry of a device:
everything but rewiring, creation, pause / resume / cancel and shutdown / restore. -/
def plainOp : Op → Bool
  | .rewire .. | .create .. | .pause .. | .unpause .. | .cancel .. | .shutdown .. | .restore .. => false
  | _ => true

/-- A relation that contains what the plain operations do: they rewrite tables that the floor does
not read, let the resource manager report, schedule a script or the start of a work order, and set
three fields of a device and the parameters of a target. -/
structure PlainClosed (R : World → World → Prop) : Prop where
  refl : ∀ w, R w w
  trans : ∀ {a b c}, (h1 : R a b) → (h2 : R b c) → R a c
  tables : ∀ (w : World) (rm : RM) (vars : List (Option Nat)) (maints : List MaintW)
    (scheds : List SchedW) (sensors : List SensorW) (cmsSensors : List (List Nat))
    (svars : List Int), R w { w with rm, vars, maints, scheds, sensors, cmsSensors, svars }
  rmEffects : ∀ w recs chk, R w (w.rmEffects recs chk)
  schedScript : ∀ w t a k p, R w (w.sched t a (.script k) p).1
  orderRec : ∀ w m tgt tag info, R w (w.addRec (.workOrder 0 m w.now tgt tag info))
  startOrders : ∀ w m st, R w (w.startOrders m st)
  setBlock : ∀ w d b, R w (w.setBlock d b)
  setCycle : ∀ w d c, R w (w.modDev d fun x => { x with cycle := c })
  addOffset : ∀ w d o, R w (w.modDev d fun x => { x with offset := x.offset + o })
  setParams : ∀ w tgt ps,
    R w { w with targets := w.targets.set tgt { w.targets.getD tgt default with params := ps } }

/-- Two operations are left to the caller: scheduling the failure of a processor, since whether it
is harmless depends on what `R` is told about the processors of this `w`, and `adjust`, which a
relation that looks at the part budget does not contain. -/
theorem PlainClosed.applyOp {R : World → World → Prop} (h : PlainClosed R) (w : World) (op : Op)
    (hp : plainOp op = true)
    (fail : ∀ t d, (w.dev d).kind = .processor → R w (w.sched t (w.dev d).aid (.fail d) pFail).1)
    (adjust : ∀ d n, op = .adjust d n → R w (w.adjustParts d n)) : R w (w.applyOp op).1 := by
  have rm : ∀ rm recs chk, R w (({ w with rm := rm }).rmEffects recs chk) := fun rm recs chk =>
    h.trans (h.tables w rm _ _ _ _ _ _) (h.rmEffects _ recs chk)
  cases op with
  | rewire | create | pause | unpause | cancel | shutdown | restore => cases hp
  | sched t a k p => exact h.schedScript w t a k p
  | schedRel dt a k p => exact h.schedScript w _ a k p
  | addRes r amt => exact rm _ _ _
  | reserve k req =>
    rw [World.applyOp]
    dsimp only
    split
    · exact h.refl w
    · exact h.trans (rm _ _ _) (h.tables _ _ _ _ _ _ _ _)
  | release k part =>
    rw [World.applyOp]
    split
    · exact h.refl w
    · exact rm _ _ _
  | merge h1 h2 =>
    rw [World.applyOp]
    split
    · exact h.refl w
    · split
      · exact h.refl w
      · exact h.tables w _ _ _ _ _ _ _
  | register k req => exact rm _ _ _
  | schedFail d t =>
    rw [World.applyOp]
    split
    · exact h.refl w
    · rename_i hk
      exact fail _ d (by simpa using hk)
  | schedFailRel d dt =>
    rw [World.applyOp]
    split
    · exact h.refl w
    · rename_i hk
      exact fail _ d (by simpa using hk)
  | block d b => exact h.setBlock w d b
  | adjust d n => exact adjust d n rfl
  | setCycle d c =>
    rw [World.applyOp]
    split
    · exact h.refl w
    · exact h.setCycle w d c
  | offsetNext d o => exact h.addOffset w d o
  | workOrder m tgt tag info =>
    rw [World.applyOp]
    dsimp only
    refine h.trans ?_ (h.startOrders _ _ _)
    split
    · exact h.trans (h.tables w _ _ _ _ _ _ _) (h.orderRec _ _ _ _ _)
    · exact h.tables w _ _ _ _ _ _ _
  | setParams tgt tag dur need cost => exact h.setParams w tgt _
  | regObj s obj ovr => exact h.tables w _ _ _ _ _ _ _
  | unregObj s obj => exact h.tables w _ _ _ _ _ _ _
  | setVar k v => exact h.tables w _ _ _ _ _ _ _
  | addSensor c s =>
    rw [World.applyOp]
    dsimp only
    split
    · exact h.refl w
    · exact h.tables w _ _ _ _ _ _ _

/-- For a relation that contains the atoms of the floor, what is left are the tables, the input
block, and three events and records that are not the floor's. -/
theorem PlainClosed.ofFloor {R : World → World → Prop} (h : FloorClosed R)
    (tables : ∀ (w : World) (rm : RM) (vars : List (Option Nat)) (maints : List MaintW)
      (scheds : List SchedW) (sensors : List SensorW) (cmsSensors : List (List Nat))
      (svars : List Int), R w { w with rm, vars, maints, scheds, sensors, cmsSensors, svars })
    (setBlockInput : ∀ w x b, R w (w.setDev x { w.dev x with blockInput := b }))
    (schedScript : ∀ w t a k p, R w (w.sched t a (.script k) p).1)
    (orderRec : ∀ w m tgt tag info, R w (w.addRec (.workOrder 0 m w.now tgt tag info)))
    (schedStart : ∀ w t a m seq, R w (w.schedLib t a (.startWork m seq) pStartWork))
    (setParams : ∀ w tgt ps, R w
      { w with targets := w.targets.set tgt { w.targets.getD tgt default with params := ps } }) :
    PlainClosed R where
  refl := h.refl
  trans := h.trans
  tables := tables
  rmEffects := h.rmEffects
  schedScript := schedScript
  orderRec := orderRec
  startOrders := fun w _ st => h.foldl _ (fun w _ => schedStart w _ _ _ _) st w
  setBlock := h.setBlock_of setBlockInput
  setCycle := fun w d _ => h.modDev w d _ rfl
  addOffset := fun w d _ => h.modDev w d _ rfl
  setParams := setParams

/-! ### relations that are blind to the state -/

/-- A relation that does not look at the queue, the logs, the error flag, the tables of the resource
manager, of maintenance, of schedulers and of sensors, the variables, the parts and the start flag
(`tables`: all of them may change at once); that of a device sees at most what
`FloorClosed.ofAtoms` allows, less the input block, the initialisation flag, the part budget and the
list of sensors; and that of a target does not see the parameters.  The wiring is not on the list:
a relation that does not look at it either gets `rewire` from `FloorClosed.rewire_of`. -/
structure Blind (R : World → World → Prop) : Prop where
  refl : ∀ w, R w w
  trans : ∀ {a b c}, (h1 : R a b) → (h2 : R b c) → R a c
  tables : ∀ (w : World) (env : Env) (results : List Res) (error : Option String) (recs : List Rec)
    (rm : RM) (vars : List (Option Nat)) (parts : List PartRec) (maints : List MaintW)
    (scheds : List SchedW) (sensors : List SensorW) (cmsSensors : List (List Nat))
    (svars : List Int) (started : Bool) (generated delivered lost : List Nat),
    R w { w with env, results, error, recs, rm, vars, parts, maints, scheds, sensors, cmsSensors,
                 svars, started, generated, delivered, lost }
  setDev : ∀ w x d, { d.cfg with reserved := none, waitingRes := false } =
    { (w.dev x).cfg with reserved := none, waitingRes := false } → R w (w.setDev x d)
  setBlockInput : ∀ w x b, R w (w.setDev x { w.dev x with blockInput := b })
  setMaxParts : ∀ w x m, R w (w.setDev x { w.dev x with maxParts := m })
  setInited : ∀ w x v, R w (w.setDev x { w.dev x with inited := true, val := v })
  addFinSensor : ∀ w x s, R w (w.setDev x { w.dev x with finSensors := (w.dev x).finSensors ++ [s] })
  setParams : ∀ w tgt ps,
    R w { w with targets := w.targets.set tgt { w.targets.getD tgt default with params := ps } }

namespace Blind
variable {R : World → World → Prop}

/-- Worlds with the same configuration are related. -/
theorem same (h : Blind R) : ∀ {w w' : World}, w'.seed = w.seed → w'.wmod = w.wmod →
    w'.scripts = w.scripts → w'.devs = w.devs → w'.groups = w.groups → w'.targets = w.targets →
    w'.assets = w.assets → R w w' := by
  intro w w' h1 h2 h3 h4 h5 h6 h7
  cases w'
  simp only at h1 h2 h3 h4 h5 h6 h7
  subst h1 h2 h3 h4 h5 h6 h7
  exact h.tables w _ _ _ _ _ _ _ _ _ _ _ _ _ _ _ _

/-- Closes `R w w'` for a `Blind R` in the context when `w'` has, by `rfl`, the configuration
of `w`. -/
macro "blind" : tactic => `(tactic| exact Blind.same ‹_› rfl rfl rfl rfl rfl rfl rfl)

theorem setErr (h : Blind R) (w : World) (m : String) : R w (w.setErr m) := by
  unfold World.setErr
  split
  · exact h.refl w
  · blind

theorem sched (h : Blind R) (w : World) (t a : Int) (act : Action) (p : Int) :
    R w (w.sched t a act p).1 := by
  unfold World.sched
  dsimp only
  split
  · blind
  · exact h.refl w

theorem schedLib (h : Blind R) (w : World) (t a : Int) (act : Action) (p : Int) :
    R w (w.schedLib t a act p) := by
  unfold World.schedLib
  have := h.sched w t a act p
  split <;> rename_i heq <;> rw [heq] at this
  · exact this
  · exact h.trans this (h.setErr _ _)

theorem floor (h : Blind R) : FloorClosed R :=
  .ofAtoms h.refl h.trans h.setErr (fun _ _ _ => by blind) (fun _ _ _ => by blind) h.setDev
    (fun _ _ _ => by blind) (fun w t a act p _ => h.schedLib w t a act p) (fun _ _ _ => by blind)
    (fun _ _ => by blind) (fun _ _ => by blind) (fun _ _ => by blind) (fun _ _ => by blind)
    (fun _ _ => by blind) (fun _ _ => by blind)

theorem procResourceCb (h : Blind R) (w : World) (x : Nat) : R w (w.procResourceCb x) :=
  h.floor.procResourceCb_of (fun w x => h.setDev w x _ rfl) w x
theorem setBlock (h : Blind R) (w : World) (x : Nat) (b : Bool) : R w (w.setBlock x b) :=
  h.floor.setBlock_of h.setBlockInput w x b
theorem adjustParts (h : Blind R) (w : World) (x : Nat) (v : Int) : R w (w.adjustParts x v) :=
  h.floor.adjustParts_of h.setMaxParts w x v
theorem initDev (h : Blind R) (w : World) (x : Nat) : R w (w.initDev x) :=
  h.floor.initDev_of h.setInited w x

theorem setRm (h : Blind R) (w : World) (rm : RM) (recs : List ResRec) (chk : Bool) :
    R w (({ w with rm := rm }).rmEffects recs chk) :=
  h.trans (by blind) (h.floor.rmEffects _ _ _)

/-! ### work orders, schedulers, sensors, initialisation -/

theorem startOrders (h : Blind R) (w : World) (m : Nat) (st : List Order) :
    R w (w.startOrders m st) :=
  h.floor.foldl _ (fun w _ => h.schedLib w _ _ _ _) st w

theorem schedUpdate (h : Blind R) (w : World) (s : Nat) (advance : Bool) :
    R w (w.schedUpdate s advance) := by
  unfold World.schedUpdate
  dsimp only
  split
  · blind
  · exact h.trans (h.trans (h.trans (by blind) (by blind : R _ (World.addRec _ _)))
      (h.floor.foldl _ (fun _ _ => by blind) _ _)) (h.schedLib _ _ _ _ _)

theorem periodicSense (h : Blind R) (w : World) (s : Nat) : R w (w.periodicSense s) := by
  unfold World.periodicSense
  dsimp only
  exact h.trans (h.trans (by blind) (h.floor.foldl _ (fun _ _ => by blind) _ _))
    (h.schedLib _ _ _ _ _)

theorem initAsset (h : Blind R) (w : World) (a : AssetRef) : R w (w.initAsset a) := by
  unfold World.initAsset
  split
  · exact h.initDev w _
  · blind
  · exact h.schedUpdate w _ _
  · dsimp only
    split
    · exact h.trans (by blind) (h.schedLib _ _ _ _ _)
    · split
      · exact h.trans (by blind) (h.addFinSensor _ _ _)
      · blind
  · exact h.refl w

/-! ### scripted operations -/

theorem modMaint (h : Blind R) (w : World) (m : Nat) (f : Maint → Maint) : R w (w.modMaint m f) := by
  blind

theorem plain (h : Blind R) : PlainClosed R :=
  .ofFloor h.floor (fun _ _ _ _ _ _ _ _ => by blind) h.setBlockInput (fun w t a _ p => h.sched w t a _ p)
    (fun _ _ _ _ _ => by blind) (fun w t a _ _ => h.schedLib w t a _ _) h.setParams

/-- Every scripted operation but `create`; `rewire` if `R` does not look at the wiring. -/
theorem applyOp (h : Blind R) (w : World) (op : Op) (hc : ∀ s, op ≠ .create s)
    (hr : ∀ d ups, op = .rewire d ups → R w (w.rewire d ups)) : R w (w.applyOp op).1 := by
  cases op with
  | pause a => blind
  | unpause a => blind
  | cancel a => blind
  | shutdown d =>
    rw [World.applyOp]
    split
    · exact h.refl w
    · exact h.floor.shutdownDev w d _ _
  | restore d =>
    rw [World.applyOp]
    split
    · exact h.refl w
    · exact h.floor.restoreDev w d
  | rewire d ups => exact hr d ups rfl
  | create spec => exact absurd rfl (hc spec)
  | _ => exact h.plain.applyOp w _ rfl (fun t _ _ => h.sched w t _ _ _) fun d n _ => h.adjustParts w d n

end Blind

/-- Two blind relations at once. -/
theorem Blind.and {R S : World → World → Prop} (h1 : Blind R) (h2 : Blind S) :
    Blind fun w w' => R w w' ∧ S w w' where
  refl := fun w => ⟨h1.refl w, h2.refl w⟩
  trans := fun a b => ⟨h1.trans a.1 b.1, h2.trans a.2 b.2⟩
  tables := fun w a b c d e f g i j k l m n o p q =>
    ⟨h1.tables w a b c d e f g i j k l m n o p q, h2.tables w a b c d e f g i j k l m n o p q⟩
  setDev := fun w x d h => ⟨h1.setDev w x d h, h2.setDev w x d h⟩
  setBlockInput := fun w x b => ⟨h1.setBlockInput w x b, h2.setBlockInput w x b⟩
  setMaxParts := fun w x m => ⟨h1.setMaxParts w x m, h2.setMaxParts w x m⟩
  setInited := fun w x v => ⟨h1.setInited w x v, h2.setInited w x v⟩
  addFinSensor := fun w x s => ⟨h1.addFinSensor w x s, h2.addFinSensor w x s⟩
  setParams := fun w t ps => ⟨h1.setParams w t ps, h2.setParams w t ps⟩

/-! ### the scripts never change -/

theorem blind_scripts : Blind fun w w' => w'.scripts = w.scripts where
  refl := fun _ => rfl
  trans := fun h1 h2 => h2.trans h1
  tables := fun _ _ _ _ _ _ _ _ _ _ _ _ _ _ _ _ _ => rfl
  setDev := fun _ _ _ _ => rfl
  setBlockInput := fun _ _ _ => rfl
  setMaxParts := fun _ _ _ => rfl
  setInited := fun _ _ _ => rfl
  addFinSensor := fun _ _ _ => rfl
  setParams := fun _ _ _ => rfl

theorem scripts_rewire (w : World) (x : Nat) (ups : List Nat) : (w.rewire x ups).scripts = w.scripts :=
  blind_scripts.floor.rewire_of (fun _ _ _ _ => rfl) w x ups

theorem scripts_addDev (w : World) (d : Dev) : (w.addDev d).scripts = w.scripts := by
  unfold World.addDev
  dsimp only
  split <;> split <;> (try rw [blind_scripts.initAsset]) <;> (try dsimp only) <;>
    exact scripts_rewire _ _ _

theorem scripts_addAsset (w : World) (spec : AssetSpec) : (w.addAsset spec).scripts = w.scripts := by
  have init : ∀ w' a, (if World.started w' then w'.initAsset a else w').scripts = w'.scripts :=
    fun w' a => by
      split
      · exact blind_scripts.initAsset _ _
      · rfl
  cases spec with
  | dev d => exact scripts_addDev w d
  | group gid devs ins outs =>
    rw [World.addAsset, scripts_rewire, scripts_addDev,
      blind_scripts.floor.foldl _ (fun w d => scripts_rewire w d _), scripts_addDev]
  | maint cap v => exact init _ _
  | sched tt cyc => exact init _ _
  | sensor sw => exact init _ _
  | cms => rfl

theorem scripts_applyOp (w : World) (op : Op) : (w.applyOp op).1.scripts = w.scripts := by
  by_cases hc : ∃ s, op = .create s
  · obtain ⟨s, rfl⟩ := hc
    exact scripts_addAsset w s
  · exact blind_scripts.applyOp w op (fun s e => hc ⟨s, e⟩) (fun d ups _ => scripts_rewire w d ups)

/-! ### scripts, call-backs of the resource manager, work orders -/

/-- The events a maintainer queues under its asset id: the start of an order that a scan has
released, the end of the order it starts. -/
inductive MaintEvent (w : World) : Int → Action → Int → Prop
  | start (m seq : Nat) : MaintEvent w (w.maints.getD m default).aid (.startWork m seq) pStartWork
  | finish (m seq : Nat) : MaintEvent w (w.maints.getD m default).aid (.finishWork m seq) pFinishWork

/-! ### the result of a scripted operation -/

/-- The values a scripted operation returns: never the log entry of a callback. -/
def _root_.SimProc.Res.plain : Res → Bool
  | .ok | .err _ | .bool _ | .none_ | .some_ => true
  | _ => false

theorem plain_sched (w : World) (t a : Int) (act : Action) (p : Int) :
    (w.sched t a act p).2.plain = true := by
  unfold World.sched
  dsimp only
  split <;> rfl

theorem _root_.SimProc.RM.plain_add (rm : RM) (r : Nat) (amt : Int) : (rm.add r amt).2.1.plain = true := by
  unfold RM.add
  repeat' split
  all_goals rfl

theorem _root_.SimProc.RM.plain_reserve (rm : RM) (req : Req) : (rm.reserve req).2.1.plain = true := by
  unfold RM.reserve
  dsimp only
  repeat' split
  all_goals rfl

theorem _root_.SimProc.RM.plain_validateRelease (h rel : Req) :
    (RM.validateRelease h rel).plain = true := by
  induction rel with
  | nil => rfl
  | cons a rel ih =>
    unfold RM.validateRelease
    repeat' split
    all_goals first | rfl | exact ih

theorem _root_.SimProc.RM.plain_release (rm : RM) (id : Nat) (part : Option Req) :
    (rm.release id part).2.1.plain = true := by
  unfold RM.release
  repeat' split
  all_goals first | rfl | exact RM.plain_validateRelease _ _

theorem _root_.SimProc.RM.plain_merge (rm : RM) (a b : Nat) : (rm.merge a b).2.plain = true := by
  unfold RM.merge
  repeat' split
  all_goals rfl

theorem plain_applyOp (w : World) (op : Op) : (w.applyOp op).2.plain = true := by
  cases op <;> simp only [World.applyOp]
  all_goals first
    | rfl
    | exact plain_sched _ _ _ _ _
    | exact RM.plain_add _ _ _
    | exact RM.plain_merge _ _ _
    | ((repeat' split) <;> first | rfl | exact plain_sched _ _ _ _ _ | exact RM.plain_release _ _ _ | exact RM.plain_merge _ _ _ | exact RM.plain_reserve _ _)

/-- A relation `R` that, in worlds satisfying an invariant `I` which it preserves, contains the
operations of the world's scripts (`applyOp`: the users differ in what they ask of a script and in
how they prove this) and the other updates made while a script, a call-back of the resource
manager or a work order runs.  Each is stated with what the model knows at the call. -/
structure ScriptClosed (I : World → Prop) (R : World → World → Prop) : Prop where
  refl : ∀ w, I w → R w w
  trans : ∀ {a b c}, (h1 : R a b) → (h2 : R b c) → R a c
  inv : ∀ {w w'}, I w → R w w' → I w'
  applyOp : ∀ w op, I w → (∃ l ∈ w.scripts, op ∈ l) → R w (w.applyOp op).1
  /-- the result of an operation, `.cb k`, `.hook …` -/
  addRes : ∀ w r, I w → (r.plain || r matches .cb .. | .hook ..) = true → R w (w.addRes r)
  erase : ∀ w i, I w → R w (scanOps.erase w i)
  procResourceCb : ∀ (w : World) (i : Nat) (req : Req) (d : Nat), I w →
    w.rm.waiting[i]? = some (req, Cb.proc d) → w.rm.canFulfill req = true →
    R w (w.procResourceCb d)
  modMaint : ∀ w m f, I w → R w (w.modMaint m f)
  addRec : ∀ w k m tgt tag info, I w → k = 1 ∨ k = 2 →
    R w (w.addRec (.workOrder k m w.now tgt tag info))
  schedLib : ∀ w t a act p, I w → w.MaintEvent a act p → R w (w.schedLib t a act p)
  shutdownDev : ∀ w tgt d, I w → (w.targets.getD tgt default).dev = some d →
    R w (w.shutdownDev d false none)
  restoreDev : ∀ w tgt d, I w → (w.targets.getD tgt default).dev = some d → R w (w.restoreDev d)
  setErr : ∀ w m, I w → m = "start-unknown-order" ∨ m = "finish-unknown-order" →
    R w (w.setErr m)

namespace ScriptClosed
variable {I : World → Prop} {R : World → World → Prop}

/-- One more step, in a world that satisfies the invariant because the steps so far preserve it. -/
theorem andThen (h : ScriptClosed I R) {w a b : World} (hI : I w) (s : R w a) (f : I a → R a b) :
    R w b := h.trans s (f (h.inv hI s))

theorem applyOps (h : ScriptClosed I R) (ops : List Op) : ∀ w, I w →
    (∀ op ∈ ops, ∃ l ∈ w.scripts, op ∈ l) → R w (w.applyOps ops) := by
  induction ops with
  | nil => exact fun w hI _ => h.refl w hI
  | cons op ops ih =>
    intro w hI hm
    unfold World.applyOps
    rw [List.foldl_cons]
    have s : R w ((w.applyOp op).1.addRes (w.applyOp op).2) :=
      h.andThen hI (h.applyOp w op hI (hm op List.mem_cons_self)) fun h1 =>
        h.addRes _ _ h1 (by rw [plain_applyOp]; rfl)
    refine h.andThen hI s fun h2 => ih _ h2 fun o ho => ?_
    show ∃ l ∈ (w.applyOp op).1.scripts, o ∈ l
    rw [scripts_applyOp]
    exact hm o (List.mem_cons_of_mem _ ho)

theorem runScript (h : ScriptClosed I R) (w : World) (k : Nat) (hI : I w) : R w (w.runScript k) := by
  exact h.applyOps _ w hI fun _ hop => mem_getD_nil hop

theorem scanWaiting (h : ScriptClosed I R) (n : Nat) : ∀ w i, I w →
    R w (scanWaiting scanOps n w i) := by
  induction n with
  | zero => exact fun w _ hI => h.refl w hI
  | succ n ih =>
    intro w i hI
    unfold SimProc.scanWaiting
    split
    · exact h.refl w hI
    · rename_i req cb hw
      split
      · rename_i hc
        refine h.andThen hI (?_ : R w (scanOps.erase (scanOps.call w cb req) i)) fun h1 => ih _ _ h1
        cases cb with
        | script k =>
          exact h.andThen hI (h.andThen hI (h.addRes w (.cb k) hI rfl) fun h1 => h.runScript _ k h1)
            fun h2 => h.erase _ i h2
        | proc d => exact h.andThen hI (h.procResourceCb w i req d hI hw hc) fun h1 => h.erase _ i h1
      · exact ih _ _ hI

theorem rmCheck (h : ScriptClosed I R) (w : World) (hI : I w) : R w w.rmCheck :=
  h.scanWaiting _ w 0 hI

theorem hookStart (h : ScriptClosed I R) (w : World) (tgt : Nat) (tag : Int) (hI : I w) :
    R w (w.hookStart tgt tag) := by
  have s0 := h.addRes w (.hook true tgt tag) hI rfl
  unfold World.hookStart
  dsimp only
  split
  · rename_i d hd
    exact h.andThen hI s0 fun h0 => h.shutdownDev _ tgt d h0 hd
  · split
    · exact h.andThen hI s0 fun h0 => h.runScript _ _ h0
    · exact s0

theorem hookEnd (h : ScriptClosed I R) (w : World) (tgt : Nat) (tag : Int) (hI : I w) :
    R w (w.hookEnd tgt tag) := by
  have s0 := h.addRes w (.hook false tgt tag) hI rfl
  unfold World.hookEnd
  dsimp only
  split
  · rename_i d hd
    exact h.andThen hI s0 fun h0 => h.restoreDev _ tgt d h0 hd
  · split
    · exact h.andThen hI s0 fun h0 => h.runScript _ _ h0
    · exact s0

theorem startOrders (h : ScriptClosed I R) (m : Nat) (st : List Order) : ∀ w, I w →
    R w (w.startOrders m st) := by
  unfold World.startOrders
  induction st with
  | nil => exact fun w hI => h.refl w hI
  | cons o st ih =>
    intro w hI
    rw [List.foldl_cons]
    exact h.andThen hI (h.schedLib w _ _ _ _ hI (.start m o.seq)) fun h1 => ih _ h1

theorem startWork (h : ScriptClosed I R) (w : World) (m seq : Nat) (hI : I w) :
    R w (w.startWork m seq) := by
  unfold World.startWork
  split
  · exact h.setErr w _ hI (.inl rfl)
  · dsimp only
    refine h.andThen hI ?_ fun h3 => h.schedLib _ _ _ _ _ h3 (.finish m seq)
    refine h.andThen hI ?_ fun h2 => h.hookStart _ _ _ h2
    exact h.andThen hI (h.addRec w 1 m _ _ _ hI (.inl rfl)) fun h1 => h.modMaint _ m _ h1

theorem finishWork (h : ScriptClosed I R) (w : World) (m seq : Nat) (hI : I w) :
    R w (w.finishWork m seq) := by
  unfold World.finishWork
  split
  · exact h.setErr w _ hI (.inr rfl)
  · dsimp only
    refine h.andThen hI ?_ fun h4 => h.startOrders m _ _ h4
    refine h.andThen hI ?_ fun h3 => h.modMaint _ m _ h3
    refine h.andThen hI ?_ fun h2 => h.addRec _ 2 m _ _ _ h2 (.inr rfl)
    exact h.andThen hI (h.hookEnd w _ _ hI) fun h1 => h.modMaint _ m _ h1

end ScriptClosed

/-! ### a second relation beside one that walks through the scripts -/

theorem MaintEvent.ne {w : World} {a p : Int} {act : Action} (e : w.MaintEvent a act p) :
    (∀ d, act ≠ .fail d) ∧ ∀ y, act ≠ .finishCycle y := by
  cases e <;> exact ⟨fun _ h => (nomatch h), fun _ h => (nomatch h)⟩

/-- A second relation `Q` beside `R`: it is asked for the same atoms, but not to preserve the
invariant, which `R` does. -/
theorem ScriptClosed.and {I : World → Prop} {R Q : World → World → Prop}
    (h : ScriptClosed I R) (refl : ∀ w, I w → Q w w)
    (trans : ∀ {a b c}, Q a b → Q b c → Q a c)
    (applyOp : ∀ w op, I w → (∃ l ∈ w.scripts, op ∈ l) → Q w (w.applyOp op).1)
    (addRes : ∀ w r, I w → (r.plain || r matches .cb .. | .hook ..) = true → Q w (w.addRes r))
    (erase : ∀ w i, I w → Q w (scanOps.erase w i))
    (procResourceCb : ∀ (w : World) (i : Nat) (req : Req) (d : Nat), I w →
      w.rm.waiting[i]? = some (req, Cb.proc d) → w.rm.canFulfill req = true →
      Q w (w.procResourceCb d))
    (modMaint : ∀ w m f, I w → Q w (w.modMaint m f))
    (addRec : ∀ w k m tgt tag info, I w → k = 1 ∨ k = 2 →
      Q w (w.addRec (.workOrder k m w.now tgt tag info)))
    (schedLib : ∀ w t a act p, I w → w.MaintEvent a act p → Q w (w.schedLib t a act p))
    (shutdownDev : ∀ w tgt d, I w → (w.targets.getD tgt default).dev = some d →
      Q w (w.shutdownDev d false none))
    (restoreDev : ∀ w tgt d, I w → (w.targets.getD tgt default).dev = some d →
      Q w (w.restoreDev d))
    (setErr : ∀ w m, I w → m = "start-unknown-order" ∨ m = "finish-unknown-order" →
      Q w (w.setErr m)) :
    ScriptClosed I fun w w' => R w w' ∧ Q w w' where
  refl := fun w hI => ⟨h.refl w hI, refl w hI⟩
  trans := fun s t => ⟨h.trans s.1 t.1, trans s.2 t.2⟩
  inv := fun hI s => h.inv hI s.1
  applyOp := fun w op hI hm => ⟨h.applyOp w op hI hm, applyOp w op hI hm⟩
  addRes := fun w r hI hr => ⟨h.addRes w r hI hr, addRes w r hI hr⟩
  erase := fun w i hI => ⟨h.erase w i hI, erase w i hI⟩
  procResourceCb := fun w i req d hI hw hc =>
    ⟨h.procResourceCb w i req d hI hw hc, procResourceCb w i req d hI hw hc⟩
  modMaint := fun w m f hI => ⟨h.modMaint w m f hI, modMaint w m f hI⟩
  addRec := fun w k m tgt tag info hI hk =>
    ⟨h.addRec w k m tgt tag info hI hk, addRec w k m tgt tag info hI hk⟩
  schedLib := fun w t a act p hI e => ⟨h.schedLib w t a act p hI e, schedLib w t a act p hI e⟩
  shutdownDev := fun w tgt d hI hd => ⟨h.shutdownDev w tgt d hI hd, shutdownDev w tgt d hI hd⟩
  restoreDev := fun w tgt d hI hd => ⟨h.restoreDev w tgt d hI hd, restoreDev w tgt d hI hd⟩
  setErr := fun w m hI hm => ⟨h.setErr w m hI hm, setErr w m hI hm⟩

/-! ### events -/

/-- On top of `ScriptClosed`: the functions that `exec` hands the other actions to. -/
structure EventClosed (I : World → Prop) (R : World → World → Prop) : Prop
    extends ScriptClosed I R where
  finishCycle : ∀ w d, I w → R w (w.finishCycle d)
  passPart : ∀ w d, I w → R w (w.passPart d)
  failDev : ∀ w d, I w → R w (w.failDev d)
  releaseIfIdle : ∀ w d, I w → R w (w.releaseIfIdle d)
  schedUpdate : ∀ w s, I w → R w (w.schedUpdate s true)
  periodicSense : ∀ w s, I w → R w (w.periodicSense s)
  unknown : ∀ w, I w → R w (w.setErr "unknown-action")

namespace EventClosed
variable {I : World → Prop} {R : World → World → Prop}

theorem exec (h : EventClosed I R) (w : World) (a : Action) (hI : I w) : R w (w.exec a) := by
  cases a with
  | terminate => exact h.refl w hI
  | script k => exact h.runScript w k hI
  | finishCycle d => exact h.finishCycle w d hI
  | passPart d => exact h.passPart w d hI
  | fail d => exact h.failDev w d hI
  | releaseIfIdle d => exact h.releaseIfIdle w d hI
  | rmCheck => exact h.rmCheck w hI
  | startWork m o => exact h.startWork w m o hI
  | finishWork m o => exact h.finishWork w m o hI
  | schedUpdate s => exact h.schedUpdate w s hI
  | periodicSense s => exact h.periodicSense w s hI
  | unknown n => exact h.unknown w hI

end EventClosed

/-- On top of `EventClosed`: popping the next event, running out of fuel.  (A relation that follows
the event queue does not contain the pop: it starts from the world after it, with `exec`.) -/
structure RunClosed (I : World → Prop) (R : World → World → Prop) : Prop
    extends EventClosed I R where
  pop : ∀ w e env', I w → w.env.step = some (e, env') → R w { w with env := env' }
  fuel : ∀ w, I w → R w (w.setErr "fuel")

namespace RunClosed
variable {I : World → Prop} {R : World → World → Prop}

theorem step (h : RunClosed I R) {w w' : World} {e : Event} (hI : I w)
    (hst : w.step = some (e, w')) : R w w' := by
  unfold World.step at hst
  split at hst
  · cases hst
  · rename_i e' env' henv
    simp only [Option.some.injEq, Prod.mk.injEq] at hst
    obtain ⟨rfl, rfl⟩ := hst
    have s := h.pop w e' env' hI henv
    split
    · exact h.andThen hI s fun h1 => h.exec _ _ h1
    · exact s

theorem runLoop (h : RunClosed I R) (n : Nat) : ∀ w, I w → R w (runLoop n w) := by
  induction n with
  | zero => exact fun w hI => h.fuel w hI
  | succ n ih =>
    intro w hI
    unfold World.runLoop
    split
    · split
      · exact h.refl w hI
      · rename_i hst
        exact h.andThen hI (h.step hI hst) fun h1 => ih _ h1
    · exact h.refl w hI

end RunClosed

/-! ### a blind relation contains the events -/

namespace Blind
variable {R : World → World → Prop}

theorem simulateInit (h : Blind R) (w : World) : R w w.simulateInit := by
  have started : ∀ w', R w w' → R w { w' with started := true } := fun w' r =>
    h.trans r (by blind)
  unfold World.simulateInit
  split
  · exact h.refl w
  · exact started _ (h.trans (h.setRm w _ _ _) (h.floor.foldl _ h.initAsset _ _))

theorem runBegin (h : Blind R) (w : World) (d : Int) : R w (w.runBegin d).1 := by
  unfold World.runBegin
  dsimp only
  split
  · exact h.refl w
  · blind

/-- What is left to show is what an operation of a script does, under the invariant `I` that says
what the scripts may contain. -/
theorem events (h : Blind R) {I : World → Prop} (inv : ∀ {w w'}, I w → R w w' → I w')
    (applyOp : ∀ w op, I w → (∃ l ∈ w.scripts, op ∈ l) → R w (w.applyOp op).1) :
    RunClosed I R where
  refl := fun w _ => h.refl w
  trans := h.trans
  inv := inv
  applyOp := applyOp
  addRes := fun _ _ _ _ => by blind
  erase := fun _ _ _ => by blind
  procResourceCb := fun w _ _ d _ _ _ => h.procResourceCb w d
  modMaint := fun w m f _ => h.modMaint w m f
  addRec := fun _ _ _ _ _ _ _ _ => by blind
  schedLib := fun w t a act p _ _ => h.schedLib w t a act p
  shutdownDev := fun w _ d _ _ => h.floor.shutdownDev w d _ _
  restoreDev := fun w _ d _ _ => h.floor.restoreDev w d
  setErr := fun w m _ _ => h.setErr w m
  finishCycle := fun w d _ => h.floor.finishCycle w d
  passPart := fun w d _ => h.floor.passPart w d
  failDev := fun w d _ => h.floor.failDev w d
  releaseIfIdle := fun w d _ => h.floor.releaseIfIdle w d
  schedUpdate := fun w s _ => h.schedUpdate w s true
  periodicSense := fun w s _ => h.periodicSense w s
  unknown := fun w _ => h.setErr w _
  pop := fun _ _ _ _ _ => by blind
  fuel := fun w _ => h.setErr w _

end Blind

end World
end SimProc
