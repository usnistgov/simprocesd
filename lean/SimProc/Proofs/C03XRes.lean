/-
C03W, stages A, B and C — the closed-world invariant `GoodB`: the generalised wake-up invariant
`G [] [] []` of `Proofs/C03W*.lean`, together with
* the resource invariant `C11W.Inv` (`Props/C11W.lean`) if some device declares a requirement, and
* the batcher / conservation invariant `C17W.CI` (`Props/C17W.lean`, which contains `C02V.InvW`) if
  batchers, batch-generating sources or group devices exist;
its preservation by every step, and the bridge from "registered processors count as refusing"
(`wouldAcceptR`) to the real answer (`wouldAccept`).
-/
import SimProc.Proofs.C03XSw
import SimProc.Proofs.C03YSwrW
import SimProc.Props.C11W
import SimProc.Props.C17W

namespace SimProc
namespace C03W
open World FloorCoreL C03

/-- scripts schedule failures of devices that are not sinks only (the condition of C02's closed-world
theorem; `applyOp` rejects `schedFail` on anything but a processor anyway) -/
def OpB (w : World) : Op → Prop
  | .schedFail d _ => (w.dev d).kind ≠ .sink
  | .schedFailRel d _ => (w.dev d).kind ≠ .sink
  | _ => True

instance (w : World) (op : Op) : Decidable (OpB w op) := by
  cases op <;> (simp only [OpB]; infer_instance)

def ScrB (w : World) : Prop := ∀ l ∈ w.scripts, ∀ op ∈ l, OpB w op

instance (w : World) : Decidable (ScrB w) := by unfold ScrB; infer_instance

/-- **The scope of stage C**: the scope `SC` of the machinery (sources — also of batches —,
handlers, processors with or without resource requirements, buffers, gates, batchers, sinks, and ONE
group — any number of group paths sharing one group input and one group output …); if some device
declares a requirement, the class `C11W.S` of the resource theorems; if batchers, batch-generating
sources or group devices exist, the conditions of the batcher / conservation theorems (`C17W`):
scripts schedule failures of non-sinks only, every configured batch size is positive. -/
def S4 (w : World) : Prop :=
  (SC w ∧ NR w) ∧ (hasRes w = true → C11W.S w) ∧ (¬ NoBatch w → ScrB w ∧ C17W.SizesPos w) ∧
    OneGrp w

/-- **The scope of stages D, E, F (several groups)**: as `S4`, but instead of "there is one group
only" (`OneGrp`) it suffices that the world is typed by group contexts (`C03Z.Typed cl w`, for a
certificate `cl` — for instance the computed `C03Z.ctxInfer w`): groups used one after the other,
the same group entered several times through different group paths, groups nested in groups. -/
def S5 (cl : List (List Nat)) (w : World) : Prop :=
  (SC w ∧ NR w) ∧ (hasRes w = true → C11W.S w) ∧ (¬ NoBatch w → ScrB w ∧ C17W.SizesPos w) ∧
    (OneGrp w ∨ C03Z.Typed cl w)

instance (cl : List (List Nat)) (w : World) : Decidable (S5 cl w) := by unfold S5; infer_instance

instance (w : World) : Decidable (S4 w) := by unfold S4; infer_instance

/-- no group device (decidable form) -/
def NoGroups (w : World) : Prop :=
  ∀ d ∈ w.devs, d.kind ≠ .gpath ∧ d.kind ≠ .ginput ∧ d.kind ≠ .goutput

instance (w : World) : Decidable (NoGroups w) := by unfold NoGroups; infer_instance

theorem NoGroups.noGrp {w : World} (h : NoGroups w) : NoGrp w := noGrp_of_devs h

theorem noGroups_of_noBatch {w : World} (h : NoBatch w) : NoGroups w := fun d hd => (h d hd).2.2

theorem noGroups_of_sw {w w' : World} (e : sw w' = sw w) (h : NoGroups w) : NoGroups w' := by
  intro d hd
  have h1 : stat1 d ∈ (sw w').devs := by simp only [sw, List.mem_map]; exact ⟨d, hd, rfl⟩
  rw [e] at h1
  simp only [sw, List.mem_map] at h1
  obtain ⟨d0, hd0, hs⟩ := h1
  have hk : d0.kind = d.kind := by
    have := congrArg Dev.kind hs
    simpa only [stat1] using this
  rw [← hk]; exact h d0 hd0

/-- **The scope of stage B**: stage C without group devices. -/
def S3 (w : World) : Prop := S4 w ∧ NoGroups w

instance (w : World) : Decidable (S3 w) := by unfold S3; infer_instance

/-- **The scope of stage A**: stage B without batchers and batch-generating sources. -/
def S2 (w : World) : Prop := S3 w ∧ NoBatch w

instance (w : World) : Decidable (S2 w) := by unfold S2; infer_instance

theorem S1.s2 {w : World} (h : S1 w) : S2 w :=
  ⟨⟨⟨⟨h.sc, h.nr⟩, (fun hr => by rw [h.noRes] at hr; cases hr), (fun hn => absurd h.noBatch hn),
    oneGrp_noGrp (noGroups_of_noBatch h.noBatch).noGrp⟩,
    noGroups_of_noBatch h.noBatch⟩, h.noBatch⟩

theorem S2.s3 {w : World} (h : S2 w) : S3 w := h.1

theorem S3.s4 {w : World} (h : S3 w) : S4 w := h.1

theorem S4.s5 {w : World} (h : S4 w) (cl : List (List Nat)) : S5 cl w :=
  ⟨h.1, h.2.1, h.2.2.1, Or.inl h.2.2.2⟩

/-! ### the static conditions of C02 / C17W follow from the scope -/

theorem scriptsStatic_of {w : World} (hs : SC w) (hr : NR w) (hb : ScrB w) :
    C02V.ScriptsStatic w := by
  intro l hl op hop
  have h1 := hs.scriptOp hl hop
  have h2 := hb l hl op hop
  have h3 := (hr l hl op hop).1
  cases op <;> first
    | exact absurd h1 id
    | exact absurd rfl (h3 _ _)
    | exact h2
    | trivial

theorem static_of {w : World} (hs : SC w) (hr : NR w) (hb : ScrB w) (he : EvOK w) :
    C02V.Static w := by
  refine ⟨scriptsStatic_of hs hr hb, fun x => hs.giveOK x, ?_⟩
  rintro ⟨n, hn, d, hd, hk⟩
  have := he n hn d hd
  rw [this] at hk; cases hk

/-- Everything the closed-world induction carries (stages A, B and C). -/
structure GoodB (w : World) : Prop where
  g : G [] [] [] w
  r : hasRes w = true → C11W.Inv w
  c : ¬ NoBatch w → C17W.CI w
  /-- no script re-wires, or every device has been initialised -/
  i : IOK w
  /-- there is one group, or the world is typed by group contexts and the stacks of the held parts
  are typed -/
  k : C03Z.GC w

theorem oneGrp_of_noBatch {w : World} (h : NoBatch w) : OneGrp w :=
  oneGrp_noGrp (noGroups_of_noBatch h).noGrp

theorem GoodB.invB {w : World} (h : GoodB w) : InvB w := fun hnb => (h.c hnb).inv

theorem GoodB.settled {w : World} (h : GoodB w) : Settled w := by
  intro x hk ho
  have hnb : ¬ NoBatch w := fun hn => (noBatch_dev hn x).1 hk
  rcases ((h.c hnb).bat x hk).settled with h1 | h1
  · rw [ho] at h1; cases h1
  · exact h1

theorem scrB_of_sw {w w' : World} (e : sw w' = sw w) (h : ScrB w) : ScrB w' := by
  have hs : w'.scripts = w.scripts := by
    have := congrArg World.scripts e; exact this
  intro l hl op hop
  rw [hs] at hl
  have := h l hl op hop
  cases op <;> simp only [OpB] at this ⊢ <;> first | trivial | (rw [sw_kind e]; exact this)

theorem sizesPos_of_sw {w w' : World} (e : sw w' = sw w) (h : C17W.SizesPos w) :
    C17W.SizesPos w' := by
  intro d hd n hn
  have h1 : stat1 d ∈ (sw w').devs := by simp only [sw, List.mem_map]; exact ⟨d, hd, rfl⟩
  rw [e] at h1
  simp only [sw, List.mem_map] at h1
  obtain ⟨d0, hd0, hs⟩ := h1
  refine h d0 hd0 n ?_
  have := congrArg Dev.bsize hs
  simp only [stat1] at this
  rw [this]; exact hn

theorem S4.of_sw {w w' : World} (h : S4 w) (hsc : SC w') (r : SW w w') (r' : C02V.SS w w') : S4 w' :=
  ⟨⟨hsc, h.1.2.of_sw r⟩, fun hr => (h.2.1 (by rw [← hasRes_of_ss r']; exact hr)).of_ss r',
    (fun hn => by
      have := h.2.2.1 (fun hb => hn ((noBatch_of_sw r.sw_eq).mpr hb))
      exact ⟨scrB_of_sw r.sw_eq this.1, sizesPos_of_sw r.sw_eq this.2⟩), h.2.2.2.of_sw r.sw_eq⟩

theorem S5.of_sw {cl : List (List Nat)} {w w' : World} (h : S5 cl w) (hsc : SC w') (r : SW w w')
    (r' : C02V.SS w w') : S5 cl w' :=
  ⟨⟨hsc, h.1.2.of_sw r⟩, fun hr => (h.2.1 (by rw [← hasRes_of_ss r']; exact hr)).of_ss r',
    (fun hn => by
      have := h.2.2.1 (fun hb => hn ((noBatch_of_sw r.sw_eq).mpr hb))
      exact ⟨scrB_of_sw r.sw_eq this.1, sizesPos_of_sw r.sw_eq this.2⟩),
    h.2.2.2.imp (fun h1 => h1.of_sw r.sw_eq) (fun h1 => h1.of_sw r.sw_eq)⟩

theorem S3.of_sw {w w' : World} (h : S3 w) (hsc : SC w') (r : SW w w') (r' : C02V.SS w w') : S3 w' :=
  ⟨h.1.of_sw hsc r r', noGroups_of_sw r.sw_eq h.2⟩

theorem hasRes_of_swr' {w w' : World} (r : SWR w w') : hasRes w' = hasRes w := hasRes_of_swr r.1

theorem noBatch_of_swr' {w w' : World} (r : SWR w w') : NoBatch w' ↔ NoBatch w := noBatch_of_swr r.1

theorem stat0_of_swr {w w' : World} (h : C02V.swr w' = C02V.swr w) (y : Nat) :
    stat0 (w'.dev y) = stat0 (w.dev y) := by
  have h1 : w'.devs.map stat0 = w.devs.map stat0 := congrArg Prod.fst h
  have e : ∀ v : World, stat0 (v.dev y) = (v.devs.map stat0).getD y (stat0 default) :=
    fun v => (getD_map stat0 v.devs y default).symm
  rw [e, e, h1]

theorem oneGrp_of_swr {w w' : World} (h : OneGrp w) (r : C02V.swr w' = C02V.swr w) : OneGrp w' := by
  have hl : w'.devs.length = w.devs.length := by
    have := congrArg (fun t => t.1.length) r
    simpa [C02V.swr] using this
  exact h.congr hl (fun y => stat0_kind (stat0_of_swr r y)) (fun y => stat0_group (stat0_of_swr r y))
    (congrArg (fun t => t.2.2) r)

/-- a world without one single group has group devices, hence carries the conservation invariant -/
theorem GoodB.ci_of {w : World} (h : GoodB w) (h1 : ¬ OneGrp w) : C17W.CI w :=
  h.c (fun hb => h1 (oneGrp_of_noBatch hb))

theorem GoodB.step {w w' : World} {e : Event} (h : GoodB w) (hst : w.step = some (e, w')) :
    GoodB w' := by
  have r := swrw_step w w' e h.g.sc.nc hst
  exact ⟨h.g.stepG h.invB h.settled h.i h.k hst,
    fun hr => C11W.inv_step w w' e (h.r (by rw [← hasRes_of_swr' r]; exact hr)) hst,
    fun hn => C17W.ci_step w w' e (h.c (fun hb => hn ((noBatch_of_swr' r).mpr hb))) hst,
    h.i.step (istep_step hst),
    C03Z.gc_step h.k (fun h1 => oneGrp_of_swr h1 r.1) (fun h1 => ⟨(h.ci_of h1).inv, (h.ci_of h1).stat⟩)
      (fun hn => (sw_step w w' e hn hst).sw_eq) hst⟩

theorem GoodB.runLoop (n : Nat) : ∀ {w : World}, GoodB w → GoodB (runLoop n w) := by
  induction n with
  | zero =>
    intro w h
    have r := swrw_runLoop 0 w h.g.sc.nc
    refine ⟨h.g.setErr _, fun hr => C11W.inv_runLoop 0 w (h.r ?_), fun hn => C17W.ci_runLoop 0 w (h.c ?_),
      h.i.step (istep_runLoop 0 w), h.k.frame ?_ (C02V.sv_setErr ..) (setErr_parts ..)⟩
    · rw [← hasRes_of_swr' r]; exact hr
    · exact fun hb => hn ((noBatch_of_swr' r).mpr hb)
    · exact C03Z.sw_of_swv (C02V.swv_blind.setErr w _) (C02V.scr_setErr ..)
  | succ n ih =>
    intro w h
    unfold World.runLoop
    split
    · split
      · exact h
      · next e w' hst => exact ih (h.step hst)
    · exact h

theorem GoodB.runBegin {w : World} (h : GoodB w) (d : Int) : GoodB (w.runBegin d).1 :=
  ⟨h.g.runBeginG d,
    fun hr => C11W.inv_runBegin w d (h.r (by rw [← hasRes_of_ss (ss_runBegin w d)]; exact hr)),
    fun hn => C17W.ci_runBegin w d
      (h.c (fun hb => hn ((noBatch_of_sw (sw_runBegin w d).sw_eq).mpr hb))),
    h.i.step (istep_runBegin w d), C03Z.gc_runBegin h.k d (sw_runBegin w d).sw_eq⟩

/-! ### registered processors really cannot get their resources, or a check is pending -/

theorem canFulfill_of_filter (rm : RM) (req : Req) (hnn : ∀ e ∈ req, 0 ≤ e.2)
    (h : rm.canFulfill (req.filter (fun e => e.2 > 0)) = true) : rm.canFulfill req = true := by
  rw [RM.canFulfill_iff] at h ⊢
  intro e he
  by_cases h0 : e.2 = 0
  · exact Or.inl h0
  · have := hnn e he
    exact h e (List.mem_filter.mpr ⟨he, by simp; omega⟩)

/-- **(W3)** A processor that the invariant counts as refusing for want of resources (it is
registered with the resource manager) cannot get them now — or a live availability check is queued
for the current instant.  (What is needed of the resource invariant is `C11W.Pend` only.) -/
theorem registered_of {w : World} (hg : G [] [] [] w) (hp : hasRes w = true → C11W.Pend w) (y : Nat)
    (hk : (w.dev y).kind = .processor) (hm : procM (w.dev y) = false) :
    procReal w y = false ∨ C11W.QueuedL w .rmCheck w.now pOtherHigh (-1) := by
  unfold procM at hm
  rw [hk] at hm
  cases hq : (w.dev y).resReq with
  | none => rw [hq] at hm; cases hm
  | some req =>
    rw [hq] at hm
    simp only [Bool.or_eq_false_iff, Bool.not_eq_false'] at hm
    have hylt : y < w.devs.length := valid_of_resReq hq
    have hres : hasRes w = true := by
      unfold hasRes
      rw [List.any_eq_true]
      exact ⟨w.dev y, dev_mem hylt, by rw [hq]; rfl⟩
    have hreg : Reg w := by
      rcases hg.wr with hn | hr
      · rw [hres] at hn; cases hn
      · exact hr
    obtain ⟨req', hq', hmem⟩ := hreg.2 y hm.2
    rw [hq] at hq'
    cases hq'
    cases hc : w.rm.canFulfill req with
    | true => exact Or.inr (hp hres ⟨(req, Cb.proc y), hmem, hc⟩)
    | false =>
      left
      unfold procReal
      rw [hq]
      simp only [hm.1, Bool.false_or]
      cases hf : w.rm.canFulfill (req.filter (fun e => e.2 > 0)) with
      | false => simp
      | true =>
        rw [canFulfill_of_filter w.rm req (hg.sc.reqNN y hq) hf] at hc; cases hc

theorem GoodB.registered {w : World} (h : GoodB w) (y : Nat) (hk : (w.dev y).kind = .processor)
    (hm : procM (w.dev y) = false) :
    procReal w y = false ∨ C11W.QueuedL w .rmCheck w.now pOtherHigh (-1) :=
  registered_of h.g (fun hr => (h.r hr).pend) y hk hm

/-- no live event is due at the current instant ⇒ no availability check is pending -/
theorem no_check_of_advance {w : World} (hadv : ∀ e ∈ w.env.events, w.now < e.time) :
    ¬ C11W.QueuedL w .rmCheck w.now pOtherHigh (-1) := by
  rintro ⟨e, he, _, ht, _⟩
  have := hadv e he
  omega

/-- There is one group only: every group output an offer can reach owns the innermost group path
of the part.  (Several groups: `C03Z.consS_of_ts`, from the typing of the stack.) -/
theorem consS_of {w : World} (_ : SC w) (h1 : OneGrp w) : ∀ f x stk,
    ((∀ x, (w.dev x).kind ≠ .goutput) ∨ ∀ g ∈ stk, (w.dev g).kind = .gpath) →
    consS f w x stk = true := C03Z.consS_of_one h1

/-- If no availability check is pending, whoever refuses a HELD part in the invariant's sense
really refuses it (`hgc`: there is one group, or the stacks of the held parts are typed). -/
theorem real_of_R_of {w : World} (hg : G [] [] [] w) (hp : hasRes w = true → C11W.Pend w)
    (hgc : C03Z.GC w)
    (hno : ¬ C11W.QueuedL w .rmCheck w.now pOtherHigh (-1)) (f : Nat) {d x p : Nat}
    (hd : holdsD (w.dev d) = some p) (hx : x ∈ (w.dev d).down)
    (hr : wouldAcceptR f w x p = false) : wouldAccept f w x p = false :=
  wouldAcceptT_of_S (fun y hk hm => (registered_of hg hp y hk hm).resolve_right hno) f x _
    (hgc.cs hg.stk (holdsD_lt hd) (holdsD_hl hd).2 (holdsD_mem_heldL hd) hx f) hr

theorem GoodB.real_of_R {w : World} (h : GoodB w)
    (hno : ¬ C11W.QueuedL w .rmCheck w.now pOtherHigh (-1)) (f : Nat) {d x p : Nat}
    (hd : holdsD (w.dev d) = some p) (hx : x ∈ (w.dev d).down)
    (hr : wouldAcceptR f w x p = false) : wouldAccept f w x p = false :=
  real_of_R_of h.g (fun hr => (h.r hr).pend) h.k hno f hd hx hr

/-! ### initialisation -/

/-- nobody is flagged as waiting for resources -/
def NoFlag (w : World) : Prop := ∀ d ∈ w.devs, d.waitingRes = false

instance (w : World) : Decidable (NoFlag w) := by unfold NoFlag; infer_instance

theorem wr_fresh {w : World} (hfl : NoFlag w) (hw : hasRes w = true → w.rm.waiting = []) : WR w := by
  cases hr : hasRes w with
  | false => exact Or.inl hr
  | true =>
    right
    refine ⟨fun e he => (by rw [hw hr] at he; cases he), fun x hx => ?_⟩
    rcases dev_mem_or_default w x with hm | hd
    · rw [hfl _ hm] at hx; cases hx
    · rw [hd] at hx; cases hx

end C03W
end SimProc
