/-
C10W — base machinery, part 2: the CONDITIONAL relation `C w w'`.

Under the closed-world invariant `P w` (device asset ids ≥ 1; scripts issue only user operations
on the event queue and construct only devices whose `waitingRes` flag is clear; shape `WaitOK` of
the waiting list: every processor waits at most once, a waiting processor has its flag set and
waits with its declared request, a processor whose flag is set is in the list) a function other
than the availability check
* keeps `P`,
* acts on the event queue through library operations only (`C01W.Refines`; hence keeps the clock
  and every live event of the internal asset id −1, in particular a queued availability check),
* keeps the manager initialised, and
* either leaves an availability check queued for the current instant, or leaves the waiting list
  alone and does not increase the free amount of any pool (`C10.PoolLe`).
-/
import SimProc.Proofs.C10WUWorld
import SimProc.Proofs.C11WBase

namespace SimProc
namespace C10W
open World FloorCoreL C01W

/-! ### a queued availability check survives library operations -/

/-- A live availability check is queued for the current instant. -/
def ChkNow (w : World) : Prop := C11W.QueuedL w .rmCheck w.now pOtherHigh (-1)

theorem lib_apply_keep (s : Env) {op : EnvOp} (h : LibOp op) (e : Event) (he : e ∈ s.events)
    (ha : e.asset = -1) : e ∈ (s.apply Arith.exact op).1.events := by
  cases op with
  | step => exact False.elim h
  | runBegin d w => exact False.elim h
  | sched t a act p w =>
    simp only [Env.apply]
    cases hs : s.schedule t a act p w with
    | none => exact he
    | some s' =>
      obtain ⟨_, rfl⟩ := Env.schedule_some.mp hs
      exact insort_mem.2 (Or.inr he)
  | pause a =>
    have hne : a ≠ -1 := h
    simp only [Env.apply, Env.pause, List.mem_filter]
    refine ⟨he, ?_⟩
    simp only [Bool.not_eq_true', beq_eq_false_iff_ne, ne_eq]
    rw [ha]; exact fun e => hne e.symm
  | unpause a =>
    simp only [Env.apply, Env.unpause, foldl_insort_map]
    exact insortAll_mem.2 (Or.inr he)
  | cancel a =>
    have hne : a ≠ -1 := h
    simp only [Env.apply, Env.cancel]
    refine List.mem_map.2 ⟨e, he, ?_⟩
    unfold Event.cancelIf
    rw [if_neg]
    simp only [beq_iff_eq]
    rw [ha]; exact fun e => hne e.symm

theorem refines_keep {s s' : Env} (h : Refines s s') (e : Event) (he : e ∈ s.events)
    (ha : e.asset = -1) : e ∈ s'.events := by
  obtain ⟨l, hl, rfl⟩ := h
  induction l generalizing s with
  | nil => exact he
  | cons op l ih =>
    rw [applyAll_cons_fst]
    exact ih (lib_apply_keep s (hl op List.mem_cons_self) e he ha)
      (fun o ho => hl o (List.mem_cons_of_mem _ ho))

theorem ChkNow.refines {w w' : World} (h : ChkNow w) (hr : Refines w.env w'.env) : ChkNow w' := by
  obtain ⟨e, he, h1, h2, h3, h4, h5⟩ := h
  have hn : w'.now = w.now := Refines.now hr
  exact ⟨e, refines_keep hr e he h4, h1, by rw [hn]; exact h2, h3, h4, h5⟩

theorem chkNow_schedLib (w : World) :
    ChkNow (w.schedLib w.now (-1) .rmCheck pOtherHigh) := by
  have henv := schedLib_env w w.now (-1) .rmCheck pOtherHigh
  have hs : w.env.schedule w.now (-1) Action.rmCheck.toNat pOtherHigh
      (weightOf w.seed w.wmod w.now (-1) Action.rmCheck.toNat pOtherHigh) =
      some { w.env with
        events := insort (w.env.newEvent w.now (-1) Action.rmCheck.toNat pOtherHigh
          (weightOf w.seed w.wmod w.now (-1) Action.rmCheck.toNat pOtherHigh)) w.env.events
        nextUid := w.env.nextUid + 1 } := by
    unfold Env.schedule
    rw [if_neg]
    unfold World.now; omega
  simp only [Env.apply, hs] at henv
  refine ⟨w.env.newEvent w.now (-1) Action.rmCheck.toNat pOtherHigh
      (weightOf w.seed w.wmod w.now (-1) Action.rmCheck.toNat pOtherHigh), ?_, rfl, ?_, rfl, rfl, rfl⟩
  · rw [henv]; exact insort_mem.2 (Or.inl rfl)
  · show w.now = (w.schedLib w.now (-1) .rmCheck pOtherHigh).env.now
    rw [henv]; rfl

/-! ### the invariant -/

/-- What the invariant reads of a device. -/
def kd (d : Dev) : Int × Bool × Option Req := (d.aid, d.waitingRes, d.resReq)

/-- What `C` observes of a world besides the event queue. -/
def KC (w : World) : RM × List (List Op) × List (Int × Bool × Option Req) :=
  (w.rm, w.scripts, w.devs.map kd)

/-- … and with the event queue. -/
def KK (w : World) : Env × RM × List (List Op) × List (Int × Bool × Option Req) :=
  (w.env, w.rm, w.scripts, w.devs.map kd)

theorem KC_rm {w w' : World} (h : KC w' = KC w) : w'.rm = w.rm := congrArg Prod.fst h
theorem KC_scr {w w' : World} (h : KC w' = KC w) : w'.scripts = w.scripts :=
  congrArg (fun q => q.2.1) h
theorem KC_devs {w w' : World} (h : KC w' = KC w) : w'.devs.map kd = w.devs.map kd :=
  congrArg (fun q => q.2.2) h

theorem kd_dev_of_map {w w' : World} (h : w'.devs.map kd = w.devs.map kd) (y : Nat) :
    kd (w'.dev y) = kd (w.dev y) := by
  unfold World.dev
  rw [← getD_map kd w'.devs y default, ← getD_map kd w.devs y default, h]

theorem KC_kd {w w' : World} (h : KC w' = KC w) (y : Nat) : kd (w'.dev y) = kd (w.dev y) :=
  kd_dev_of_map (KC_devs h) y

theorem kd_waitingRes {d d' : Dev} (h : kd d' = kd d) : d'.waitingRes = d.waitingRes :=
  congrArg (fun q => q.2.1) h
theorem kd_resReq {d d' : Dev} (h : kd d' = kd d) : d'.resReq = d.resReq :=
  congrArg (fun q => q.2.2) h
theorem kd_aid {d d' : Dev} (h : kd d' = kd d) : d'.aid = d.aid := congrArg Prod.fst h

theorem aids_of_map {w w' : World} (h : w'.devs.map kd = w.devs.map kd) :
    w'.devs.map (·.aid) = w.devs.map (·.aid) := by
  have := congrArg (List.map (fun q : Int × Bool × Option Req => q.1)) h
  simpa [List.map_map, kd, Function.comp_def] using this

theorem KK_KC {w w' : World} (h : KK w' = KK w) : KC w' = KC w := congrArg Prod.snd h
theorem KK_env {w w' : World} (h : KK w' = KK w) : w'.env = w.env := congrArg Prod.fst h

theorem KK_EK {w w' : World} (h : KK w' = KK w) : EK w' = EK w := by
  unfold EK
  rw [KK_env h, aids_of_map (KC_devs (KK_KC h)), KC_scr (KK_KC h)]

/-- The processor named by a waiting entry. -/
def procOf : Req × Cb → Option Nat
  | (_, .proc d) => some d
  | (_, .script _) => none

/-- **Shape of the waiting list.** -/
structure WaitOK (w : World) : Prop where
  /-- a processor waits at most once -/
  nodup : (w.rm.waiting.filterMap procOf).Nodup
  /-- a waiting processor has its flag set and waits with its declared request -/
  entry : ∀ e ∈ w.rm.waiting, ∀ d, procOf e = some d →
    (w.dev d).waitingRes = true ∧ (w.dev d).resReq = some e.1
  /-- a processor whose flag is set is in the list -/
  flag : ∀ d, (w.dev d).waitingRes = true → d ∈ w.rm.waiting.filterMap procOf

/-- Constructor calls of the class: a new device does not claim to be waiting for resources. -/
def specOK : AssetSpec → Bool
  | .dev d => !d.waitingRes
  | _ => true

/-- Scripted operations of the class: user operations on the event queue (`C01W.opUser`: no
`sched` at or below the `TERMINATE` priority, no pause / unpause / cancel of the internal asset id
−1), constructor calls as in `specOK`.  Everything else — in particular `register`, `reserve`,
`release`, `merge`, `addRes`, `rewire`, `create` — is allowed. -/
def opC (op : Op) : Bool :=
  opUser op && (match op with | .create s => specOK s | _ => true)

def ScriptsC (w : World) : Prop := ∀ l ∈ w.scripts, ∀ op ∈ l, opC op = true

instance (w : World) : Decidable (ScriptsC w) := by unfold ScriptsC; infer_instance

theorem opC_user {op : Op} (h : opC op = true) : opUser op = true := by
  unfold opC at h
  exact (Bool.and_eq_true_iff.1 h).1

theorem opC_create {s : AssetSpec} (h : opC (.create s) = true) : specOK s = true := by
  unfold opC at h
  exact (Bool.and_eq_true_iff.1 h).2

/-- **The closed-world invariant of C10W.** -/
structure P (w : World) : Prop where
  aid : AidOK w
  scr : ScriptsC w
  wait : WaitOK w

theorem P.good {w : World} (h : P w) : Good w :=
  ⟨h.aid, fun l hl op hop => opC_user (h.scr l hl op hop)⟩

theorem WaitOK.of_KC {w w' : World} (h : WaitOK w) (hk : KC w' = KC w) : WaitOK w' := by
  have hr := KC_rm hk
  refine ⟨by rw [hr]; exact h.nodup, ?_, ?_⟩
  · intro e he d hd
    rw [hr] at he
    obtain ⟨h1, h2⟩ := h.entry e he d hd
    exact ⟨by rw [kd_waitingRes (KC_kd hk d)]; exact h1, by rw [kd_resReq (KC_kd hk d)]; exact h2⟩
  · intro d hd
    rw [kd_waitingRes (KC_kd hk d)] at hd
    rw [hr]; exact h.flag d hd

theorem P.of_KC {w w' : World} (h : P w) (hk : KC w' = KC w) : P w' := by
  refine ⟨?_, ?_, h.wait.of_KC hk⟩
  · unfold AidOK; rw [aids_of_map (KC_devs hk)]; exact h.aid
  · unfold ScriptsC; rw [KC_scr hk]; exact h.scr

/-! ### the relation -/

structure Post (w w' : World) : Prop where
  ref : Refines w.env w'.env
  ini : w.rm.inited = true → w'.rm.inited = true
  pend : w.rm.inited = true →
    ChkNow w' ∨ (w'.rm.waiting = w.rm.waiting ∧ C10.PoolLe w'.rm w.rm)

/-- **The conditional relation.** -/
def C (w w' : World) : Prop := P w → P w' ∧ Post w w'

theorem C.refl (w : World) : C w w := fun h =>
  ⟨h, Refines.refl _, id, fun _ => Or.inr ⟨rfl, C10.PoolLe.refl _⟩⟩

theorem C.trans {a b c : World} (h1 : C a b) (h2 : C b c) : C a c := by
  intro hp
  obtain ⟨p1, q1⟩ := h1 hp
  obtain ⟨p2, q2⟩ := h2 p1
  refine ⟨p2, q1.ref.trans q2.ref, fun hi => q2.ini (q1.ini hi), fun hi => ?_⟩
  rcases q2.pend (q1.ini hi) with hc | ⟨hs2, hl2⟩
  · exact Or.inl hc
  · rcases q1.pend hi with hb | ⟨hs1, hl1⟩
    · exact Or.inl (hb.refines q2.ref)
    · exact Or.inr ⟨hs2.trans hs1, hl2.trans hl1⟩

/-- The invariant of the start state may be used while proving `C`. -/
theorem C.with_P {w w' : World} (h : P w → C w w') : C w w' := fun hp => h hp hp

/-- A function that acts on the event queue through the library and leaves the manager, the
scripts and the devices' keys alone. -/
theorem C.of_via {w w' : World} (hv : Via w w') (hk : KC w' = KC w) : C w w' := fun hp =>
  ⟨hp.of_KC hk, (hv hp.good).2, fun hi => by rw [KC_rm hk]; exact hi,
    fun _ => Or.inr ⟨by rw [KC_rm hk], C10.PoolLe.of_pools (by rw [KC_rm hk])⟩⟩

theorem C.of_KK {w w' : World} (h : KK w' = KK w) : C w w' :=
  C.of_via (Via.of_EK (KK_EK h)) (KK_KC h)

theorem C.trans_KK {a b c : World} (h1 : C a b) (h : KK c = KK b) : C a c :=
  h1.trans (C.of_KK h)

theorem C.of_KK_trans {a b c : World} (h : KK b = KK a) (h2 : C b c) : C a c :=
  (C.of_KK h).trans h2

theorem C.foldl {α} (g : World → α → World) (l : List α) (w : World)
    (h : ∀ w a, C w (g w a)) : C w (l.foldl g w) := by
  induction l generalizing w with
  | nil => exact C.refl w
  | cons a l ih => exact (h w a).trans (ih _)

theorem KK_foldl {α} (g : World → α → World) (l : List α) (w : World)
    (h : ∀ w a, KK (g w a) = KK w) : KK (l.foldl g w) = KK w :=
  foldl_preserve KK g l w h

theorem KC_foldl {α} (g : World → α → World) (l : List α) (w : World)
    (h : ∀ w a, KC (g w a) = KC w) : KC (l.foldl g w) = KC w :=
  foldl_preserve KC g l w h

/-! ### primitives -/

@[simp] theorem KK_setErr (w : World) (m : String) : KK (w.setErr m) = KK w := by
  unfold setErr; split <;> rfl
@[simp] theorem KK_addRes (w : World) (r : Res) : KK (w.addRes r) = KK w := rfl
@[simp] theorem KK_addRec (w : World) (r : Rec) : KK (w.addRec r) = KK w := rfl
@[simp] theorem KK_modPart (w : World) (p : Nat) (f : PartRec → PartRec) :
    KK (w.modPart p f) = KK w := rfl
@[simp] theorem KK_newPart (w : World) (r : PartRec) : KK (w.newPart r).1 = KK w := rfl

theorem KK_setDev (w : World) (x : Nat) (d : Dev) (h : kd d = kd (w.dev x)) :
    KK (w.setDev x d) = KK w := by
  unfold KK World.setDev
  simp only
  rw [map_set_of_eq kd w.devs x d default h]

theorem KK_modDev (w : World) (x : Nat) (f : Dev → Dev) (h : kd (f (w.dev x)) = kd (w.dev x)) :
    KK (w.modDev x f) = KK w := KK_setDev w x _ h

theorem C_setDev (w : World) (x : Nat) (d : Dev) (h : kd d = kd (w.dev x)) : C w (w.setDev x d) :=
  C.of_KK (KK_setDev w x d h)

theorem C_modDev (w : World) (x : Nat) (f : Dev → Dev) (h : kd (f (w.dev x)) = kd (w.dev x)) :
    C w (w.modDev x f) := C.of_KK (KK_modDev w x f h)

theorem KC_sched (w : World) (t a : Int) (act : Action) (p : Int) :
    KC (w.sched t a act p).1 = KC w := by
  unfold World.sched
  simp only [Env.apply]
  cases w.env.schedule t a act.toNat p (weightOf w.seed w.wmod t a act.toNat p) <;> rfl

theorem KC_setErr (w : World) (m : String) : KC (w.setErr m) = KC w := KK_KC (KK_setErr w m)

theorem KC_schedLib (w : World) (t a : Int) (act : Action) (p : Int) :
    KC (w.schedLib t a act p) = KC w := by
  unfold schedLib
  have h := KC_sched w t a act p
  generalize w.sched t a act p = s at h ⊢
  obtain ⟨w', r⟩ := s
  cases r <;> simp only [] <;> first | exact h | (rw [KC_setErr]; exact h)

theorem C_sched (w : World) (t a : Int) (act : Action) (p : Int)
    (ha : act ≠ .terminate) (hp : prioTerminate < p) : C w (w.sched t a act p).1 :=
  C.of_via (Via_sched w t a act p ha hp) (KC_sched w t a act p)

theorem C_schedLib (w : World) (t a : Int) (act : Action) (p : Int)
    (ha : act ≠ .terminate) (hp : prioTerminate < p) : C w (w.schedLib t a act p) :=
  C.of_via (Via_schedLib w t a act p ha hp) (KC_schedLib w t a act p)

theorem C_envOp (w : World) (op : EnvOp) (h : LibOp op) : C w (w.envOp op) :=
  C.of_via (Via_envOp w op h) rfl

theorem KC_rmEffects (w : World) (recs : List ResRec) (chk : Bool) :
    KC (w.rmEffects recs chk) = KC w := by
  unfold rmEffects
  dsimp only
  have h : KC (recs.foldl (fun w r => w.addRec (.resUpdate r.res w.now r.inUse r.cap)) w) = KC w :=
    KC_foldl _ _ _ (fun _ _ => rfl)
  split
  · rw [KC_schedLib, h]
  · exact h

theorem C_rmEffects (w : World) (recs : List ResRec) (chk : Bool) : C w (w.rmEffects recs chk) :=
  C.of_via (Via_rmEffects w recs chk) (KC_rmEffects w recs chk)

theorem chkNow_rmEffects (w : World) (recs : List ResRec) : ChkNow (w.rmEffects recs true) := by
  unfold rmEffects
  dsimp only
  rw [if_pos rfl]
  exact chkNow_schedLib _

/-! ### operations of the manager -/

/-- What a manager operation (other than the check, and other than a processor's registration) does:
it appends only script requests, keeps the manager initialised, and — on an initialised manager —
asks for a check unless it leaves the waiting list alone and frees nothing. -/
structure RmC (rm rm' : RM) (chk : Bool) : Prop where
  wapp : ∃ l, rm'.waiting = rm.waiting ++ l ∧ ∀ e ∈ l, procOf e = none
  ini : rm.inited = true → rm'.inited = true
  pend : rm.inited = true → chk = true ∨ (rm'.waiting = rm.waiting ∧ C10.PoolLe rm' rm)

theorem WaitOK.append {w w' : World} (h : WaitOK w) (hd : w'.devs.map kd = w.devs.map kd)
    (l : List (Req × Cb)) (hw : w'.rm.waiting = w.rm.waiting ++ l) (hl : ∀ e ∈ l, procOf e = none) :
    WaitOK w' := by
  have hf : w'.rm.waiting.filterMap procOf = w.rm.waiting.filterMap procOf := by
    rw [hw, List.filterMap_append]
    have : l.filterMap procOf = [] := by
      rw [List.filterMap_eq_nil_iff]; exact hl
    rw [this, List.append_nil]
  refine ⟨by rw [hf]; exact h.nodup, ?_, ?_⟩
  · intro e he d hd'
    rw [hw] at he
    rcases List.mem_append.1 he with he | he
    · obtain ⟨h1, h2⟩ := h.entry e he d hd'
      exact ⟨by rw [kd_waitingRes (kd_dev_of_map hd d)]; exact h1,
        by rw [kd_resReq (kd_dev_of_map hd d)]; exact h2⟩
    · rw [hl e he] at hd'; cases hd'
  · intro d hd'
    rw [kd_waitingRes (kd_dev_of_map hd d)] at hd'
    rw [hf]; exact h.flag d hd'

/-- One operation of the manager together with its effects (records, check). -/
theorem C_rmStep (w : World) (rm' : RM) (recs : List ResRec) (chk : Bool)
    (h : RmC w.rm rm' chk) : C w (({ w with rm := rm' } : World).rmEffects recs chk) := by
  intro hp
  have hk := KC_rmEffects ({ w with rm := rm' } : World) recs chk
  have hd : (({ w with rm := rm' } : World).rmEffects recs chk).devs.map kd = w.devs.map kd :=
    KC_devs (w := ({ w with rm := rm' } : World)) hk
  have hs : (({ w with rm := rm' } : World).rmEffects recs chk).scripts = w.scripts :=
    KC_scr (w := ({ w with rm := rm' } : World)) hk
  have hr : (({ w with rm := rm' } : World).rmEffects recs chk).rm = rm' :=
    KC_rm (w := ({ w with rm := rm' } : World)) hk
  have g0 : Good ({ w with rm := rm' } : World) := ⟨hp.good.aid, hp.good.scr⟩
  obtain ⟨l, hl, hlp⟩ := h.wapp
  refine ⟨⟨?_, ?_, ?_⟩, (Via_rmEffects _ recs chk g0).2, ?_, ?_⟩
  · unfold AidOK; rw [aids_of_map hd]; exact hp.aid
  · unfold ScriptsC; rw [hs]; exact hp.scr
  · exact hp.wait.append hd l (by rw [hr]; exact hl) hlp
  · intro hi; rw [hr]; exact h.ini hi
  · intro hi
    rcases h.pend hi with hc | ⟨h1, h2⟩
    · left; subst hc; exact chkNow_rmEffects _ _
    · right; rw [hr]; exact ⟨h1, h2⟩

/-- An operation of the manager without effects (`merge`). -/
theorem C_rmSet (w : World) (rm' : RM) (h : RmC w.rm rm' false) :
    C w ({ w with rm := rm' } : World) := by
  have := C_rmStep w rm' [] false h
  exact this

theorem apply_waiting_script (rm : RM) (op : RMOp) (h : ∀ req d, op ≠ .register req (.proc d)) :
    ∃ l, (rm.apply op).1.waiting = rm.waiting ++ l ∧ ∀ e ∈ l, procOf e = none := by
  cases op with
  | init => exact ⟨[], by simp [C10.apply_init], by simp⟩
  | add r amt =>
    refine ⟨[], ?_, by simp⟩
    simp only [RM.apply, List.append_nil]
    rcases C10.add_cases rm r amt with ⟨h, _⟩ | ⟨_, _, _, v, hv⟩
    · rw [h]
    · rw [hv]; simp
  | reserve req => exact ⟨[], by simp [RM.apply, (C10.reserve_spec rm req).1], by simp⟩
  | release id part =>
    refine ⟨[], ?_, by simp⟩
    simp only [RM.apply, List.append_nil]
    rcases C10.release_cases rm id part with ⟨h, _⟩ | ⟨_, _, hw, _⟩
    · rw [h]
    · exact hw
  | merge a b => exact ⟨[], by simp [RM.apply, (C10.merge_spec rm a b).1], by simp⟩
  | register req cb =>
    refine ⟨[(req, cb)], rfl, ?_⟩
    intro e he
    have : e = (req, cb) := by simpa using he
    subst this
    cases cb with
    | script k => rfl
    | proc d => exact absurd rfl (h req d)

theorem RmC.apply (rm : RM) (op : RMOp) (h : ∀ req d, op ≠ .register req (.proc d)) :
    RmC rm (rm.apply op).1 (rm.apply op).2.2 := by
  refine ⟨apply_waiting_script rm op h, C10.apply_inited_mono rm op, fun hi => ?_⟩
  cases hc : (rm.apply op).2.2 with
  | true => exact Or.inl rfl
  | false => exact Or.inr (C10.feasible_mono rm op hi hc)

theorem RmC.add (rm : RM) (r : Nat) (amt : Int) :
    RmC rm (rm.add r amt).1 (rm.add r amt).2.2.2 :=
  RmC.apply rm (.add r amt) (fun _ _ h => by cases h)
theorem RmC.reserve (rm : RM) (req : Req) : RmC rm (rm.reserve req).1 false :=
  RmC.apply rm (.reserve req) (fun _ _ h => by cases h)
theorem RmC.release (rm : RM) (id : Nat) (part : Option Req) :
    RmC rm (rm.release id part).1 (rm.release id part).2.2.2 :=
  RmC.apply rm (.release id part) (fun _ _ h => by cases h)
theorem RmC.merge (rm : RM) (a b : Nat) : RmC rm (rm.merge a b).1 false :=
  RmC.apply rm (.merge a b) (fun _ _ h => by cases h)
theorem RmC.register (rm : RM) (req : Req) (k : Nat) :
    RmC rm (rm.register req (.script k)).1 (rm.register req (.script k)).2 :=
  RmC.apply rm (.register req (.script k)) (fun _ _ h => by cases h)

/-! ### the peeling tactic -/

syntax "c_step" : tactic

macro "c_auto" : tactic => `(tactic| repeat' first | c_step | split | dsimp only)

macro "c_side" : tactic =>
  `(tactic| first
    | exact rfl
    | assumption
    | decide
    | (intro h; cases h))

macro_rules | `(tactic| c_step) => `(tactic| peel_struct C.trans_KK)
macro_rules | `(tactic| c_step) => `(tactic|
  ((with_reducible apply C.trans (h2 := C.foldl _ _ _ ?hs)); case hs => (intro _ _; c_auto; done)))
macro_rules | `(tactic| c_step) => `(tactic| with_reducible apply C.trans (h2 := C_rmEffects _ _ _))
macro_rules | `(tactic| c_step) => `(tactic|
  ((with_reducible apply C.trans (h2 := C_schedLib _ _ _ _ _ ?ha ?hp));
   case ha => c_side
   case hp => c_side))
macro_rules | `(tactic| c_step) => `(tactic| with_reducible apply C.trans_KK (h := KK_setErr _ _))
macro_rules | `(tactic| c_step) => `(tactic| with_reducible apply C.trans_KK (h := KK_addRes _ _))
macro_rules | `(tactic| c_step) => `(tactic| with_reducible apply C.trans_KK (h := KK_addRec _ _))
macro_rules | `(tactic| c_step) => `(tactic|
  ((with_reducible apply C.trans (h2 := C_modDev _ _ _ ?hp)); case hp => exact rfl))
macro_rules | `(tactic| c_step) => `(tactic|
  ((with_reducible apply C.trans (h2 := C_setDev _ _ _ ?hp)); case hp => exact rfl))
macro_rules | `(tactic| c_step) => `(tactic| with_reducible exact C.refl _)

end C10W
end SimProc
