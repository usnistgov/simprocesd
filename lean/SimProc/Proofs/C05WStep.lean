/-
C05W machinery, part 8: events.  Every action other than `passPart` leaves the auxiliary view and
the `kids` of the existing parts alone; the queue invariant of the environment is preserved by every
action; hence the clock never goes backwards and `C05.BufOK` holds for every buffer in every
reachable state.
-/
import SimProc.Proofs.C05WBuf
import SimProc.Proofs.C05WWorld
import SimProc.Proofs.C05WEnv
namespace SimProc
namespace C05W
open World C02V

/-! ### the queue invariant through `Model/World.lean` -/

theorem ei_applyOp (w : World) (op : Op) (hn : NoRC op) (h : EI w) : EI (w.applyOp op).1 := by
  cases op
  case rewire d ups => exact absurd hn id
  case create s => exact absurd hn id
  all_goals (simp only [World.applyOp]; einv)

theorem ei_applyOps (ops : List Op) : ∀ (w : World), (∀ op ∈ ops, NoRC op) → EI w → EI (w.applyOps ops) := by
  induction ops with
  | nil => intro w _ h; exact h
  | cons op ops ih =>
    intro w hok h
    unfold World.applyOps
    simp only [List.foldl_cons]
    have := ih ((w.applyOp op).1.addRes (w.applyOp op).2) (fun o ho => hok o (List.mem_cons_of_mem _ ho))
      (ei_addRes _ (ei_applyOp w op (hok op (List.mem_cons_self ..)) h))
    unfold World.applyOps at this
    exact this

theorem ei_runScript (w : World) (k : Nat) (hs : ScriptsNoRC w) (h : EI w) : EI (w.runScript k) := by
  unfold World.runScript
  apply ei_applyOps _ _ _ h
  intro op hop
  by_cases hk : k < w.scripts.length
  · have : w.scripts.getD k [] = w.scripts[k] := by simp [List.getD_eq_getElem?_getD, hk]
    rw [this] at hop
    exact hs _ (List.getElem_mem hk) op hop
  · have : w.scripts.getD k [] = [] := by simp [List.getD_eq_getElem?_getD, Nat.le_of_not_lt hk]
    rw [this] at hop; cases hop

theorem ei_scan (n : Nat) : ∀ (w : World) (i : Nat), ScriptsNoRC w → EI w → EI (scanWaiting scanOps n w i) := by
  induction n with
  | zero => intro w i _ h; exact h
  | succ n ih =>
    intro w i hs h
    unfold scanWaiting
    split
    · exact h
    · split
      · rename_i req cb _ _
        have key : EI (scanOps.erase (scanOps.call w cb req) i) ∧
            (scanOps.erase (scanOps.call w cb req) i).scripts = w.scripts := by
          cases cb with
          | script k =>
            exact ⟨ei_runScript (w.addRes (.cb k)) k hs h, scr_runScript _ k⟩
          | proc d => exact ⟨ei_procResourceCb d h, scr_floor.procResourceCb w d⟩
        exact ih _ _ (hs.of_eq key.2) key.1
      · exact ih _ _ hs h

theorem ei_rmCheck (w : World) (hs : ScriptsNoRC w) (h : EI w) : EI w.rmCheck := ei_scan _ _ _ hs h

theorem ei_hookStart (w : World) (tgt : Nat) (tag : Int) (hs : ScriptsNoRC w) (h : EI w) :
    EI (w.hookStart tgt tag) := by
  unfold World.hookStart
  simp only []
  split
  · exact ei_shutdownDev _ _ _ (ei_addRes _ h)
  · split
    · exact ei_runScript (w.addRes _) _ hs h
    · exact h

theorem ei_hookEnd (w : World) (tgt : Nat) (tag : Int) (hs : ScriptsNoRC w) (h : EI w) :
    EI (w.hookEnd tgt tag) := by
  unfold World.hookEnd
  simp only []
  split
  · exact ei_restoreDev _ (ei_addRes _ h)
  · split
    · exact ei_runScript (w.addRes _) _ hs h
    · exact h

theorem ei_startWork (w : World) (m seq : Nat) (hs : ScriptsNoRC w) (h : EI w) : EI (w.startWork m seq) := by
  have key : ∀ w' : World, EI w' → w'.scripts = w.scripts → ∀ t g a b c d,
      EI ((w'.hookStart t g).schedLib a b c d) := fun w' e1 e2 t g a b c d =>
    ei_schedLib _ _ _ _ (ei_hookStart w' t g (hs.of_eq e2) e1)
  unfold World.startWork
  split
  · exact ei_setErr _ h
  · simp only []
    refine key _ ?_ ?_ _ _ _ _ _ _
    · exact h
    · rfl

theorem ei_finishWork (w : World) (m seq : Nat) (hs : ScriptsNoRC w) (h : EI w) : EI (w.finishWork m seq) := by
  have key : ∀ w' : World, EI w' → ∀ w'' : World, w''.env = w'.env → ∀ m l, EI (w''.startOrders m l) :=
    fun w' e1 w'' e2 m l => ei_startOrders _ _ (e1.of_env e2)
  unfold World.finishWork
  split
  · exact ei_setErr _ h
  · simp only []
    rename_i o _
    refine key _ (ei_hookEnd w o.target o.tag hs h) _ ?_ _ _
    rfl

theorem ei_exec (w : World) (a : Action) (hs : ScriptsNoRC w) (h : EI w) : EI (w.exec a) := by
  cases a with
  | terminate => exact h
  | script k => exact ei_runScript w k hs h
  | finishCycle d => exact ei_finishCycle d h
  | passPart d => exact ei_passPart d h
  | fail d => exact ei_failDev d h
  | releaseIfIdle d => exact ei_releaseIfIdle d h
  | rmCheck => exact ei_rmCheck w hs h
  | startWork m o => exact ei_startWork w m o hs h
  | finishWork m o => exact ei_finishWork w m o hs h
  | schedUpdate s => exact ei_schedUpdate s true h
  | periodicSense s => exact ei_periodicSense s h
  | unknown n => exact ei_setErr _ h

theorem ei_simulateInit (w : World) (h : EI w) : EI w.simulateInit := by
  unfold World.simulateInit
  split
  · exact h
  · simp only []
    show EI (List.foldl _ _ _)
    apply foldl_inv (fun w' => EI w')
    · exact ei_rmEffects _ _ h
    · intro b a hb; exact ei_initAsset a hb

/-! ### the actions other than `passPart` -/

theorem kids_failDev (w : World) (x q : Nat) : ((w.failDev x).part q).kids = (w.part q).kids := by
  unfold World.failDev
  simp only []
  rw [kids_of_sv (sv_shutdownDev ..), kids_of_sv (sv_addRec ..), kids_of_sv (sv_releaseReserved ..)]
  rw [part_modDev]
  split <;> rfl

theorem parts_failDev (w : World) (x : Nat) : (w.failDev x).parts.length = w.parts.length := by
  unfold World.failDev
  simp only []
  rw [parts_len_of_sv (sv_shutdownDev ..), parts_len_of_sv (sv_addRec ..), parts_len_of_sv (sv_releaseReserved ..)]
  split <;> simp [World.modDev, World.setDev]

/-- Every action except `passPart` leaves the auxiliary view and the old `kids` alone. -/
theorem quiet_exec (w : World) (a : Action) (hs : ScriptsNoRC w) (ha : ∀ d, a ≠ .passPart d) :
    bv (w.exec a) = bv w ∧ KO w (w.exec a) := by
  cases a with
  | terminate => exact ⟨rfl, KOx.refl _ _⟩
  | script k => exact ⟨bv_of_sb (sb_runScript w k hs), KO.of_sv (sv_of_sb (sb_runScript w k hs))⟩
  | finishCycle d => exact ⟨bv_finishCycle w d, ko_finishCycle w d⟩
  | passPart d => exact absurd rfl (ha d)
  | fail d => exact ⟨bv_failDev w d, Nat.le_of_eq (parts_failDev w d).symm, fun q _ _ => kids_failDev w d q⟩
  | releaseIfIdle d => exact ⟨bv_releaseIfIdle w d, KO.of_sv (sv_releaseIfIdle w d)⟩
  | rmCheck => exact ⟨bv_of_sb (sb_rmCheck w hs), KO.of_sv (sv_of_sb (sb_rmCheck w hs))⟩
  | startWork m o => exact ⟨bv_of_sb (sb_startWork w m o hs), KO.of_sv (sv_of_sb (sb_startWork w m o hs))⟩
  | finishWork m o => exact ⟨bv_of_sb (sb_finishWork w m o hs), KO.of_sv (sv_of_sb (sb_finishWork w m o hs))⟩
  | schedUpdate s => exact ⟨bv_schedUpdate w s true, KO.of_sv (sv_schedUpdate w s true)⟩
  | periodicSense s => exact ⟨bv_periodicSense w s, KO.of_sv (sv_periodicSense w s)⟩
  | unknown n => exact ⟨bv_setErr .., KO.of_sv (sv_setErr ..)⟩

theorem kind_exec (w : World) (a : Action) (hw : Static w) (y : Nat) :
    ((w.exec a).dev y).kind = (w.dev y).kind :=
  kind_of_tv (sr_exec (fun d => (w.dev d).kind = .sink) w a ⟨fun _ => Iff.rfl, hw.1⟩).1 y

/-! ### the closed-world invariant of C05W -/

/-- Conservation, static well-formedness, the queue invariant, and the contract of every buffer. -/
structure BI (w : World) : Prop where
  inv : InvW w
  stat : Static w
  ei : EI w
  buf : BufAll w

theorem bufAll_exec (w : World) (a : Action) (hI : InvW w) (hw : Static w) (hB : BufAll w)
    (ha : ActOK w a) : BufAll (w.exec a) := by
  by_cases hp : ∃ d, a = .passPart d
  · obtain ⟨d, rfl⟩ := hp
    exact bufAll_passPart w d hI hB ha
  · have hq := quiet_exec w a (scriptsNoRC_of_static hw.1) (fun d hd => hp ⟨d, hd⟩)
    exact bufAll_of_ko hI (kind_exec w a hw) (fun y => bdev_of_bv hq.1 y)
      (by rw [now_of_bv hq.1]; exact Int.le_refl _) hq.2 hB

theorem bi_step (w w' : World) (e : Event) (h : BI w) (hst : w.step = some (e, w')) : BI w' := by
  obtain ⟨hI', hS'⟩ := static_step w w' e h.inv h.stat hst
  refine ⟨hI', hS', ?_, ?_⟩
  all_goals
    unfold World.step at hst
    split at hst
    · cases hst
    · rename_i e' env' henv
      simp only [Option.some.injEq, Prod.mk.injEq] at hst
      obtain ⟨rfl, rfl⟩ := hst
      have hS1 := static_pop w e' env' h.stat henv
      have hE1 : EI ({ w with env := env' } : World) := C01.inv_step h.ei henv
      have hI1 : InvW ({ w with env := env' } : World) := h.inv.of_sv rfl
      have hB1 : BufAll ({ w with env := env' } : World) := by
        intro x hx
        exact bufOK_transport (w := w) rfl (C01.step_clock h.ei henv).2 (fun _ _ => rfl) (h.buf x hx)
      split
      · first
        | exact ei_exec _ _ (scriptsNoRC_of_static hS1.1) hE1
        | exact bufAll_exec _ _ hI1 hS1 hB1 (static_actOK w e' env' h.stat henv)
      · first | exact hE1 | exact hB1

theorem bi_runLoop (n : Nat) : ∀ (w : World), BI w → BI (runLoop n w) := by
  induction n with
  | zero =>
    intro w h
    have hr := static_runLoop 0 w h.inv h.stat
    refine ⟨hr.1, hr.2, ei_setErr _ h.ei, ?_⟩
    exact bufAll_of_frame (w' := w.setErr "fuel") (st_setErr ..) (bv_setErr ..) (fun q => by rw [part_setErr]) h.buf
  | succ n ih =>
    intro w h
    unfold runLoop
    split
    · split
      · exact h
      · rename_i e w' hst
        exact ih w' (bi_step w w' e h hst)
    · exact h

end C05W
end SimProc
