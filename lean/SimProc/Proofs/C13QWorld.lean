/-
C13Q, part 3: the invariant `QI x w` of a processor `x`, the relation `QP x w w'` ("kind, asset id of
`x` kept and the invariant preserved"), shutdown / failure / restore of `x` and of other devices, the
scripted operations and the control events under the closed-world invariant `C06W.WI`.
-/
import SimProc.Proofs.C13QFloor
namespace SimProc
namespace C13Q
open World FloorCoreL C06W

variable {x : Nat}

/-! ### the invariant, on the environment -/

/-- `a`: asset id of `x`, `sd`: its shutdown flag. -/
structure QE (x : Nat) (a : Int) (sd : Bool) (s : Env) : Prop where
  /-- every live pass / release event of `x`, pending or paused, carries the asset id of `x` -/
  qa : ∀ e ∈ s.events ++ s.paused, isQ x e = true → e.asset = a
  /-- while `x` is down none is pending -/
  dn : sd = true → ∀ e ∈ s.events, isQ x e = false
  /-- while `x` is operational none is paused -/
  up : sd = false → ∀ e ∈ s.paused, isQ x e = false

theorem isQ_pausedAt (e : Event) (t : Option Int) : isQ x { e with pausedAt := t } = isQ x e := rfl
theorem isQ_time (e : Event) (t : Int) : isQ x { e with time := t } = isQ x e := rfl

theorem isQ_cancelIf {b : Int} {e : Event} (h : isQ x (Event.cancelIf b e) = true) :
    Event.cancelIf b e = e ∧ isQ x e = true := by
  unfold Event.cancelIf at h ⊢
  split
  · rename_i hb
    rw [if_pos hb] at h
    simp [isQ, Event.live] at h
  · rename_i hb
    rw [if_neg hb] at h
    exact ⟨rfl, h⟩

theorem asset_cancelIf (b : Int) (e : Event) : (Event.cancelIf b e).asset = e.asset := by
  unfold Event.cancelIf; split <;> rfl

theorem mem_unpause_events {s : Env} {b : Int} {e : Event} (h : e ∈ (s.unpause Arith.exact b).events) :
    e ∈ s.events ∨ ∃ e0 ∈ s.paused, e0.asset = b ∧ isQ x e = isQ x e0 ∧ e.asset = e0.asset := by
  rw [unpause_events] at h
  rw [(insortAll_perm _ _).mem_iff, List.mem_append] at h
  rcases h with h | h
  · obtain ⟨e0, h0, rfl⟩ := List.mem_map.mp h
    obtain ⟨h1, h2⟩ := List.mem_filter.mp h0
    exact Or.inr ⟨e0, h1, by simpa using h2, rfl, rfl⟩
  · exact Or.inl h

theorem qe_false_iff {e : Event} : isQ x e = false ↔ ¬ isQ x e = true := by
  cases isQ x e <;> simp

variable {a : Int} {sd : Bool} {s : Env}

theorem qe_cancel (b : Int) (h : QE x a sd s) : QE x a sd (s.cancel b) := by
  have key : ∀ l : List Event, ∀ e ∈ l.map (Event.cancelIf b), isQ x e = true → e ∈ l := by
    intro l e he hq
    obtain ⟨e0, h0, rfl⟩ := List.mem_map.mp he
    rw [(isQ_cancelIf hq).1]; exact h0
  refine ⟨?_, ?_, ?_⟩
  · intro e he hq
    simp only [Env.cancel, ← List.map_append] at he
    exact h.qa e (key _ e he hq) hq
  · intro hs e he
    rw [qe_false_iff]; intro hq
    have := h.dn hs e (key _ e he hq)
    rw [hq] at this; cases this
  · intro hs e he
    rw [qe_false_iff]; intro hq
    have := h.up hs e (key _ e he hq)
    rw [hq] at this; cases this

/-- cancelling the asset id of `x`: no live pass / release event of `x` is left at all -/
theorem qe_cancel_self (sd' : Bool) (h : QE x a sd s) : QE x a sd' (s.cancel a) := by
  have key : ∀ l : List Event, (∀ e ∈ l, isQ x e = true → e.asset = a) →
      ∀ e ∈ l.map (Event.cancelIf a), isQ x e = false := by
    intro l hl e he
    rw [qe_false_iff]; intro hq
    obtain ⟨e0, h0, rfl⟩ := List.mem_map.mp he
    obtain ⟨h1, h2⟩ := isQ_cancelIf hq
    have ha := hl e0 h0 h2
    unfold Event.cancelIf at hq
    rw [if_pos (by simpa using ha)] at hq
    simp [isQ, Event.live] at hq
  have k1 := key s.events (fun e he => h.qa e (List.mem_append.mpr (Or.inl he)))
  have k2 := key s.paused (fun e he => h.qa e (List.mem_append.mpr (Or.inr he)))
  refine ⟨?_, fun _ => k1, fun _ => k2⟩
  intro e he hq
  rcases List.mem_append.mp he with he | he
  · have := k1 e he; rw [hq] at this; cases this
  · have := k2 e he; rw [hq] at this; cases this

theorem qe_pause (b : Int) (hb : b ≠ a) (h : QE x a sd s) : QE x a sd (s.pause b) := by
  have hev : ∀ e ∈ (s.pause b).events, e ∈ s.events := fun e he => (List.mem_filter.mp he).1
  have hpa : ∀ e ∈ (s.pause b).paused, e ∈ s.paused ∨
      ∃ e0 ∈ s.events, e0.asset = b ∧ isQ x e = isQ x e0 ∧ e.asset = e0.asset := by
    intro e he
    simp only [Env.pause] at he
    rcases List.mem_append.mp he with he | he
    · exact Or.inl he
    · obtain ⟨e0, h0, rfl⟩ := List.mem_map.mp he
      obtain ⟨h1, h2⟩ := List.mem_filter.mp h0
      exact Or.inr ⟨e0, h1, by simpa using h2, rfl, rfl⟩
  refine ⟨?_, ?_, ?_⟩
  · intro e he hq
    rcases List.mem_append.mp he with he | he
    · exact h.qa e (List.mem_append.mpr (Or.inl (hev e he))) hq
    · rcases hpa e he with h1 | ⟨e0, h0, _, hqq, haa⟩
      · exact h.qa e (List.mem_append.mpr (Or.inr h1)) hq
      · rw [haa]; exact h.qa e0 (List.mem_append.mpr (Or.inl h0)) (hqq ▸ hq)
  · intro hs e he; exact h.dn hs e (hev e he)
  · intro hs e he
    rcases hpa e he with h1 | ⟨e0, h0, hb0, hqq, _⟩
    · exact h.up hs e h1
    · rw [qe_false_iff]; intro hq
      have := h.qa e0 (List.mem_append.mpr (Or.inl h0)) (hqq ▸ hq)
      exact hb (hb0.symm.trans this)

theorem qe_pause_self (h : QE x a sd s) : QE x a true (s.pause a) := by
  refine ⟨?_, ?_, fun hs => Bool.noConfusion hs⟩
  · intro e he hq
    simp only [Env.pause] at he
    rcases List.mem_append.mp he with he | he
    · exact h.qa e (List.mem_append.mpr (Or.inl (List.mem_filter.mp he).1)) hq
    · rcases List.mem_append.mp he with he | he
      · exact h.qa e (List.mem_append.mpr (Or.inr he)) hq
      · obtain ⟨e0, h0, rfl⟩ := List.mem_map.mp he
        exact h.qa e0 (List.mem_append.mpr (Or.inl (List.mem_filter.mp h0).1)) hq
  · intro _ e he
    rw [qe_false_iff]; intro hq
    obtain ⟨h1, h2⟩ := List.mem_filter.mp he
    have := h.qa e (List.mem_append.mpr (Or.inl h1)) hq
    simp [this] at h2

theorem qe_unpause (b : Int) (hb : b ≠ a) (h : QE x a sd s) : QE x a sd (s.unpause Arith.exact b) := by
  have hpa : ∀ e ∈ (s.unpause Arith.exact b).paused, e ∈ s.paused := fun e he => (List.mem_filter.mp he).1
  refine ⟨?_, ?_, ?_⟩
  · intro e he hq
    rcases List.mem_append.mp he with he | he
    · rcases mem_unpause_events (x := x) he with h1 | ⟨e0, h0, _, hqq, haa⟩
      · exact h.qa e (List.mem_append.mpr (Or.inl h1)) hq
      · rw [haa]; exact h.qa e0 (List.mem_append.mpr (Or.inr h0)) (hqq ▸ hq)
    · exact h.qa e (List.mem_append.mpr (Or.inr (hpa e he))) hq
  · intro hs e he
    rcases mem_unpause_events (x := x) he with h1 | ⟨e0, h0, hb0, hqq, _⟩
    · exact h.dn hs e h1
    · rw [qe_false_iff]; intro hq
      have := h.qa e0 (List.mem_append.mpr (Or.inr h0)) (hqq ▸ hq)
      exact hb (hb0.symm.trans this)
  · intro hs e he; exact h.up hs e (hpa e he)

theorem qe_unpause_self (h : QE x a sd s) : QE x a false (s.unpause Arith.exact a) := by
  refine ⟨?_, fun hs => Bool.noConfusion hs, ?_⟩
  · intro e he hq
    rcases List.mem_append.mp he with he | he
    · rcases mem_unpause_events (x := x) he with h1 | ⟨e0, h0, _, hqq, haa⟩
      · exact h.qa e (List.mem_append.mpr (Or.inl h1)) hq
      · rw [haa]; exact h.qa e0 (List.mem_append.mpr (Or.inr h0)) (hqq ▸ hq)
    · exact h.qa e (List.mem_append.mpr (Or.inr (List.mem_filter.mp he).1)) hq
  · intro _ e he
    rw [qe_false_iff]; intro hq
    obtain ⟨h1, h2⟩ := List.mem_filter.mp he
    have := h.qa e (List.mem_append.mpr (Or.inr h1)) hq
    simp [this] at h2

/-! ### the invariant, on the world -/

/-- The queue invariant of processor `x`. -/
structure QI (x : Nat) (w : World) : Prop where
  qe : QE x (w.dev x).aid (w.dev x).shutDown w.env
  /-- `adjust_part_count` is a method of sources: a processor has no part budget -/
  mp : (w.dev x).maxParts = none

/-- kind and asset id of `x` are kept, and so is the invariant -/
structure QP (x : Nat) (w w' : World) : Prop where
  kind : (w'.dev x).kind = (w.dev x).kind
  aid : (w'.dev x).aid = (w.dev x).aid
  inv : (w.dev x).kind = .processor → QI x w → QI x w'

theorem QP.refl (w : World) : QP x w w := ⟨rfl, rfl, fun _ h => h⟩
theorem QP.trans {a b c : World} (h1 : QP x a b) (h2 : QP x b c) : QP x a c :=
  ⟨h2.kind.trans h1.kind, h2.aid.trans h1.aid, fun hk h => h2.inv (h1.kind.trans hk) (h1.inv hk h)⟩

theorem QK.qp {w w' : World} (h : QK x w w') : QP x w w' := by
  refine ⟨h.kind, h.aid, fun hk hi => ⟨⟨?_, ?_, ?_⟩, h.mp hi.mp⟩⟩
  · intro e he hq
    rw [h.aid]
    rcases List.mem_append.mp he with he | he
    · rcases h.new e he with h1 | h1
      · exact hi.qe.qa e (List.mem_append.mpr (Or.inl h1)) hq
      · exact (h1.2.2 hq).1
    · rw [h.paused] at he
      exact hi.qe.qa e (List.mem_append.mpr (Or.inr he)) hq
  · intro hs e he
    rw [h.sd] at hs
    rcases h.new e he with h1 | h1
    · exact hi.qe.dn hs e h1
    · rw [qe_false_iff]; intro hq
      have := (h1.2.2 hq).2
      simp [World.operational, hk, hs] at this
  · intro hs e he
    rw [h.sd] at hs
    rw [h.paused] at he
    exact hi.qe.up hs e he

/-- a change of the environment together with an update of the shutdown flag of `x` -/
theorem qp_of_env {w w' : World} {sd' : Bool} (hk : (w'.dev x).kind = (w.dev x).kind)
    (ha : (w'.dev x).aid = (w.dev x).aid) (hs : (w'.dev x).shutDown = sd')
    (hm : (w.dev x).maxParts = none → (w'.dev x).maxParts = none)
    (he : QE x (w.dev x).aid (w.dev x).shutDown w.env → QE x (w.dev x).aid sd' w'.env) :
    QP x w w' :=
  ⟨hk, ha, fun _ hi => ⟨by rw [ha, hs]; exact he hi.qe, hm hi.mp⟩⟩

/-! ### shutdown, restore, failure -/

theorem qk_shut_tail (w : World) (_y : Nat) (l : List Nat) (f : Nat → Res) :
    QK x w (l.foldl (fun w k => w.addRes (f k)) w) := QK.foldl _ _ _ (fun _ _ => qk_addRes _ _)

theorem qp_shutdownDev (w : World) (y : Nat) (f : Bool) (lost : Option Nat)
    (hk : (w.dev x).kind = .processor)
    (hne : y ≠ x → (w.dev y).aid ≠ (w.dev x).aid) : QP x w (w.shutdownDev y f lost) := by
  have hx : x < w.devs.length := lt_of_processor hk
  unfold World.shutdownDev
  dsimp only
  split
  · rename_i hsd
    split
    · refine QP.trans ?_ (qk_shut_tail _ y _ _).qp
      refine qp_of_env (sd' := (w.dev x).shutDown) rfl rfl rfl id ?_
      exact qe_cancel _
    · exact QP.refl _
  · rename_i hsd
    refine QP.trans ?_ (qk_shut_tail _ y _ _).qp
    refine QP.trans ?_ (qk_setWaiting _ _ _ _).qp
    refine QP.trans ?_ (QK.qp (qk_setDev _ _ _ (Or.inr ?_)))
    · by_cases hy : y = x
      · subst hy
        have hd : ∀ op, ((w.setDev y { w.dev y with shutDown := true }).envOp op).dev y =
            { w.dev y with shutDown := true } := fun op => by
          rw [C11W.dev_setDev_envOp, if_pos ⟨rfl, hx⟩]
        split
        · refine qp_of_env (sd' := true) (by rw [hd]) (by rw [hd]) (by rw [hd]) (by rw [hd]; exact id) ?_
          exact qe_cancel_self true
        · refine qp_of_env (sd' := true) (by rw [hd]) (by rw [hd]) (by rw [hd]) (by rw [hd]; exact id) ?_
          exact qe_pause_self
      · have hd : ∀ op, ((w.setDev y { w.dev y with shutDown := true }).envOp op).dev x = w.dev x :=
          fun op => by
            rw [C11W.dev_setDev_envOp, if_neg (fun h => hy h.1)]
        split
        · refine qp_of_env (sd' := (w.dev x).shutDown) (by rw [hd]) (by rw [hd]) (by rw [hd])
            (by rw [hd]; exact id) ?_
          exact qe_cancel _
        · refine qp_of_env (sd' := (w.dev x).shutDown) (by rw [hd]) (by rw [hd]) (by rw [hd])
            (by rw [hd]; exact id) ?_
          exact qe_pause _ (hne hy)
    · split <;> exact ⟨rfl, rfl, rfl, id⟩

theorem qp_restoreDev (w : World) (y : Nat) (hk : (w.dev x).kind = .processor)
    (hne : y ≠ x → (w.dev y).aid ≠ (w.dev x).aid) : QP x w (w.restoreDev y) := by
  have hx : x < w.devs.length := lt_of_processor hk
  unfold World.restoreDev
  extract_lets d w1 w2 w3 w4
  split
  · exact QP.refl _
  · have h2 : QP x w w2 := by
      by_cases hy : y = x
      · subst hy
        have hd : w2.dev y = { w.dev y with shutDown := false, lastRestore := some w.now } := by
          rw [C11W.dev_setDev_envOp, if_pos ⟨rfl, hx⟩]
        refine qp_of_env (sd' := false) (by rw [hd]) (by rw [hd]) (by rw [hd]) (by rw [hd]; exact id) ?_
        exact qe_unpause_self
      · have hd : w2.dev x = w.dev x := by
          rw [C11W.dev_setDev_envOp, if_neg (fun h => hy h.1)]
        refine qp_of_env (sd' := (w.dev x).shutDown) (by rw [hd]) (by rw [hd]) (by rw [hd])
          (by rw [hd]; exact id) ?_
        exact qe_unpause _ (hne hy)
    have hop : y = x → w2.operational x = true := by
      intro e; subst e
      unfold World.operational
      rw [C11W.dev_setDev_envOp, if_pos ⟨rfl, hx⟩]
      split <;> rfl
    have h3 : QK x w2 w3 := by
      unfold w3
      split
      · exact qk_schedulePass _ _ _ hop
      · split
        · exact qk_notify _ _
        · exact QK.refl _
    have h4 : QK x w3 w4 := by
      unfold w4
      split
      · exact qk_modDev _ _ _ flg
      · exact QK.refl _
    exact (h2.trans (h3.trans h4).qp).trans (qk_shut_tail _ y _ _).qp

/-- `_fail()` before the shutdown -/
def failHead (w : World) (y : Nat) : World :=
  let lost := (w.dev y).part
  let w := match lost with
    | some p => { w with lost := w.lost ++ w.leavesOf p }
    | none => w
  let w := w.modDev y (fun d => { d with part := none })
  let w := w.releaseReserved y
  w.addRec (.failure y w.now lost)

theorem failDev_eq (w : World) (y : Nat) :
    w.failDev y = (failHead w y).shutdownDev y true (w.dev y).part := rfl

theorem qk_failHead (w : World) (y z : Nat) : QK z w (failHead w y) := by
  unfold failHead
  dsimp only
  refine QK.trans ?_ (qk_addRec _ _)
  refine QK.trans ?_ (qk_releaseReserved _ _)
  refine QK.trans ?_ (qk_modDev _ _ _ flg)
  split
  · exact qk_of_fields rfl rfl
  · exact QK.refl _

theorem qp_failDev (w : World) (y : Nat) (hk : (w.dev x).kind = .processor)
    (hne : y ≠ x → (w.dev y).aid ≠ (w.dev x).aid) : QP x w (w.failDev y) := by
  rw [failDev_eq]
  have h1 := qk_failHead w y x
  have h2 := qk_failHead w y y
  refine h1.qp.trans (qp_shutdownDev _ y true _ (h1.kind.trans hk) ?_)
  intro hy
  rw [h1.aid, h2.aid]
  exact hne hy

end C13Q
end SimProc
