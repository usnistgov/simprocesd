/-
C03W — the static data of the devices (kind, asset id, declared requirement) and the scripts are
never changed by a world whose scripts contain no `rewire` / `create`: `SS w w'` for every step of
the event loop.  (The same statements as in `Proofs/C11WStatic.lean`, under the weaker hypothesis
`NR` instead of `ScrOK`: scripts of stage S1 may pause, reserve, register, ….)
-/
import SimProc.Proofs.C03WWorld

namespace SimProc
namespace C03W
open World FloorCoreL C02V

theorem NR.of_ss {w w' : World} (h : NR w) (r : SS w w') : NR w' := by
  intro l hl op hop
  rw [r.2] at hl
  exact h l hl op hop

/-- The events of a world whose scripts neither re-wire nor create. -/
theorem SS.eventsNR : RunClosed NR SS :=
  SS.blind.events NR.of_ss fun w op h ⟨l, hl, hop⟩ =>
    SS.blind.applyOp w op (h l hl op hop).2 fun d ups e => absurd e ((h l hl op hop).1 d ups)

theorem nr_exec (w : World) (a : Action) (h : NR w) : SS w (w.exec a) := SS.eventsNR.exec w a h

theorem nr_step (w w' : World) (e : Event) (h : NR w) (hst : w.step = some (e, w')) : SS w w' :=
  SS.eventsNR.step h hst

theorem nr_runLoop (n : Nat) : ∀ (w : World), NR w → SS w (runLoop n w) := SS.eventsNR.runLoop n

theorem ss_runBegin (w : World) (d : Int) : SS w (w.runBegin d).1 := SS.blind.runBegin w d

theorem hasRes_of_ss {w w' : World} (r : SS w w') : hasRes w' = hasRes w := hasRes_of_sd r.1

end C03W
end SimProc
