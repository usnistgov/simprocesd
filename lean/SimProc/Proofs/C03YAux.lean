/-
C03W with re-wiring — stages A, B, C: the auxiliary invariants of the resource theorems (`C11W.Inv`)
and of the batcher / conservation theorems (`C17W.CI`) are not disturbed by `rewire`, so that the
closed-world invariant `GoodB` survives a re-wiring issued FROM OUTSIDE between two events
(`GoodB.rewireD`).  (The classes of `C11W` / `C17W` do not admit `rewire` in SCRIPTS.)
-/
import SimProc.Proofs.C03XRes
import SimProc.Proofs.C03YRewire
import SimProc.Proofs.C05WViews

namespace SimProc
namespace C03W
open World FloorCoreL C03 C02V

/-! ### the resource invariant -/

theorem monoS_rewireStep (x : Nat) (w : World) (u : Nat) : C11W.MonoS w (rewireStep x w u) := by
  unfold rewireStep
  split
  · exact C11W.MonoS.refl w
  · dsimp only
    have h1 : C11W.MonoS w (w.modDev u (fun du => { du with down := du.down ++ [x] })) :=
      C11W.monoS_modDev w u _ rfl (fun _ => rfl)
    split
    · exact h1.trans (C11W.monoS_spaceAvailable _ u)
    · exact h1

theorem monoS_foldl {α} (g : World → α → World) (hg : ∀ w a, C11W.MonoS w (g w a)) (l : List α)
    (w : World) : C11W.MonoS w (l.foldl g w) := by
  induction l generalizing w with
  | nil => exact C11W.MonoS.refl w
  | cons a l ih => exact (hg w a).trans (ih (g w a))

theorem monoS_downErase (w : World) (u x : Nat) :
    C11W.MonoS w (w.modDev u (fun du => { du with down := du.down.erase x })) :=
  C11W.monoS_modDev w u _ rfl (fun _ => rfl)

theorem monoS_setUp (w : World) (x : Nat) (ups : List Nat) :
    C11W.MonoS w (w.modDev x (fun d => { d with up := ups })) :=
  C11W.monoS_modDev w x _ rfl (fun _ => rfl)

theorem monoS_rewireClock (w : World) (x : Nat) : C11W.MonoS w (rewireClock w x) := by
  unfold rewireClock
  split
  · exact C11W.monoS_setWaiting w x true true
  · exact C11W.MonoS.refl w

theorem monoS_rewireWire (w : World) (x : Nat) (ups : List Nat) :
    C11W.MonoS w (rewireWire w x ups) := by
  unfold rewireWire eraseFold
  exact (monoS_foldl _ (fun w u => monoS_downErase w u x) _ w).trans (monoS_setUp _ x ups)

theorem monoS_rewire (w : World) (x : Nat) (ups : List Nat) : C11W.MonoS w (w.rewire x ups) := by
  rw [rewire_eq_fold]
  exact ((monoS_rewireClock w x).trans (monoS_rewireWire _ x ups)).trans
    (monoS_foldl _ (fun w u => monoS_rewireStep x w u) ups _)

/-- **The resource invariant of C11W is not disturbed by a re-wiring.** -/
theorem inv11_rewire {w : World} (h : C11W.Inv w) (x : Nat) (ups : List Nat) :
    C11W.Inv (w.rewire x ups) :=
  h.mono (monoS_rewire w x ups).toMono

/-! ### the batcher / conservation invariant -/

theorem bv_rewireStep (x : Nat) (w : World) (u : Nat) :
    C05W.bv (rewireStep x w u) = C05W.bv w := by
  unfold rewireStep
  split
  · rfl
  · dsimp only
    have h1 : C05W.bv (w.modDev u (fun du => { du with down := du.down ++ [x] })) = C05W.bv w :=
      C05W.bv_modDev_same w u _ (fun _ => rfl)
    split
    · exact (C05W.bv_spaceAvailable _ u).trans h1
    · exact h1

theorem bv_downErase (w : World) (u x : Nat) :
    C05W.bv (w.modDev u (fun du => { du with down := du.down.erase x })) = C05W.bv w :=
  C05W.bv_modDev_same w u _ (fun _ => rfl)

theorem bv_setUp (w : World) (x : Nat) (ups : List Nat) :
    C05W.bv (w.modDev x (fun d => { d with up := ups })) = C05W.bv w :=
  C05W.bv_modDev_same w x _ (fun _ => rfl)

theorem bv_rewire (w : World) (x : Nat) (ups : List Nat) :
    C05W.bv (w.rewire x ups) = C05W.bv w := by
  rw [rewire_eq_fold, foldl_proj C05W.bv _ _ _ (fun w u => bv_rewireStep x w u)]
  unfold rewireWire eraseFold
  rw [bv_setUp, foldl_proj C05W.bv _ _ _ (fun w u => bv_downErase w u x)]
  unfold rewireClock
  split
  · exact C05W.bv_setWaiting w x true true
  · rfl


theorem parts_rewire (w : World) (x : Nat) (ups : List Nat) : (w.rewire x ups).parts = w.parts := by
  unfold World.rewire
  dsimp only
  rw [FloorCoreL.foldl_preserve World.parts]
  · rw [modDev_parts, FloorCoreL.foldl_preserve World.parts]
    · split
      · exact setWaiting_parts ..
      · rfl
    · intro s a; exact modDev_parts ..
  · intro s a
    split
    · rfl
    · split
      · rw [core_eq_parts (spaceAvailable_core _ _)]; exact modDev_parts ..
      · exact modDev_parts ..

theorem kind_rewire (w : World) (x : Nat) (ups : List Nat) (y : Nat) :
    ((w.rewire x ups).dev y).kind = (w.dev y).kind :=
  stat0_kind (stat0_of_swr (swr_rewire w x ups) y)

theorem scrB_of_kind {w w' : World} (hs : w'.scripts = w.scripts)
    (hk : ∀ y, (w'.dev y).kind = (w.dev y).kind) (h : ScrB w) : ScrB w' := by
  intro l hl op hop
  rw [hs] at hl
  have := h l hl op hop
  cases op <;> simp only [OpB] at this ⊢ <;> first | trivial | (rw [hk]; exact this)

theorem sizesPos_of_swr {w w' : World} (e : swr w' = swr w) (h : C17W.SizesPos w) :
    C17W.SizesPos w' := by
  have h1 : w'.devs.map stat0 = w.devs.map stat0 := congrArg Prod.fst e
  intro d hd n hn
  have hm : stat0 d ∈ w'.devs.map stat0 := List.mem_map.mpr ⟨d, hd, rfl⟩
  rw [h1] at hm
  obtain ⟨d0, hd0, hs⟩ := List.mem_map.mp hm
  refine h d0 hd0 n ?_
  rw [stat0_bsize hs]; exact hn

/-- **The invariant of C17W (conservation, static well-formedness, batchers) is not disturbed by a
re-wiring** after which the world is in the scope. -/
theorem ci_rewire {w : World} (h : C17W.CI w) (x : Nat) (ups : List Nat)
    (hsc : SC (w.rewire x ups)) (hnr : NR w) (hb : ScrB w) (hev : EvOK (w.rewire x ups)) :
    C17W.CI (w.rewire x ups) := by
  have hscr : (w.rewire x ups).scripts = w.scripts := scr_floor.rewire w x ups
  refine ⟨h.inv.of_sv (sv_rewire w x ups),
    static_of hsc (hnr.of_scripts hscr) (scrB_of_kind hscr (kind_rewire w x ups) hb) hev,
    C17W.batAll_of_frame (kind_rewire w x ups) (sv_rewire w x ups) (bv_rewire w x ups) h.bat⟩

/-! ### the closed-world invariant of stages A, B, C -/

/-- **A re-wiring issued from outside** (between two events) preserves the invariant of stages A, B
and C, if it is admissible (`RewOK`), the re-wired world is in the scope again, every device has
been initialised (`Ini`), the scripts do not re-wire, and — if batchers, batches or group devices
exist — the scripts schedule failures of non-sinks only. -/
theorem GoodB.rewireD {w : World} (h : GoodB w) (hi : Ini w) (hnr : NR w)
    (hb : ¬ NoBatch w → ScrB w) (x : Nat) (ups : List Nat) (hok : RewOK w x ups)
    (hfin : SC (w.rewire x ups))
    (hty : ¬ OneGrp w → ∀ cl, C03Z.Typed cl w → C03Z.Typed cl (w.rewire x ups)) :
    GoodB (w.rewire x ups) ∧ Ini (w.rewire x ups) := by
  have hg := h.g.rewireD x ups hok hfin (fun z hz => hi.inited hz)
  have r : swr (w.rewire x ups) = swr w := swr_rewire w x ups
  have hi' : Ini (w.rewire x ups) := by
    obtain ⟨h1, h2, _⟩ := C20W.Pv_applyOp w (.rewire x ups) rfl hi.1
    exact ⟨h1, h2.trans hi.2⟩
  refine ⟨⟨hg, fun hr => inv11_rewire (h.r (by rw [← hasRes_of_swr r]; exact hr)) x ups,
    fun hn => ?_, Or.inr hi', ?_⟩, hi'⟩
  · have hn0 : ¬ NoBatch w := fun hb0 => hn ((noBatch_of_swr r).mpr hb0)
    exact ci_rewire (h.c hn0) x ups hfin hnr (hb hn0) hg.ev
  · have hl : (w.rewire x ups).devs.length = w.devs.length := by
      have := congrArg (fun t => t.1.length) r
      simpa [swr] using this
    exact h.k.of_kinds hl (kind_rewire w x ups) (fun y => stat0_group (stat0_of_swr r y))
      (congrArg (fun t => t.2.2) r) (sv_rewire w x ups) (parts_rewire w x ups) (scr_floor.rewire w x ups) hty

theorem sd_of_swr {w w' : World} (e : swr w' = swr w) : sd w' = sd w := by
  have h1 : w'.devs.map stat0 = w.devs.map stat0 := congrArg Prod.fst e
  have key : ∀ v : World, sd v = (v.devs.map stat0).map C11W.statD := by
    intro v
    unfold sd
    rw [List.map_map]
    rfl
  rw [key, key, h1]

/-- the scope of stage C survives an admissible re-wiring after which the world is in `SC` -/
theorem S4.rewire {w : World} (h : S4 w) (x : Nat) (ups : List Nat) (hfin : SC (w.rewire x ups)) :
    S4 (w.rewire x ups) := by
  have r : swr (w.rewire x ups) = swr w := swr_rewire w x ups
  have hscr : (w.rewire x ups).scripts = w.scripts := scr_floor.rewire w x ups
  refine ⟨⟨hfin, h.1.2.of_scripts hscr⟩, fun hr => ?_, fun hn => ?_, oneGrp_of_swr h.2.2.2 r⟩
  · exact (h.2.1 (by rw [← hasRes_of_swr r]; exact hr)).of_ss ⟨sd_of_swr r, hscr⟩
  · have := h.2.2.1 (fun hb => hn ((noBatch_of_swr r).mpr hb))
    exact ⟨scrB_of_kind hscr (kind_rewire w x ups) this.1, sizesPos_of_swr r this.2⟩

end C03W
end SimProc
