/-
C05W / C17W machinery, part 6: the functions of `Model/World.lean` (scripts without
`rewire`/`create`, resource check, maintainer events, scheduler and sensor events) change neither
the slot view nor the auxiliary view.
-/
import SimProc.Proofs.C05WViews
namespace SimProc
namespace C05W
open World C02V

/-- Slot view and auxiliary view together. -/
def sb (w : World) : SV × (List BDev × Int) := (sv w, bv w)

theorem sv_of_sb {w w' : World} (h : sb w' = sb w) : sv w' = sv w := congrArg Prod.fst h
theorem bv_of_sb {w w' : World} (h : sb w' = sb w) : bv w' = bv w := congrArg Prod.snd h

section
variable (w : World)

theorem bv_modMaint (m : Nat) (f : Maint → Maint) : bv (w.modMaint m f) = bv w := rfl
frame_lemma1 bv_modMaint
theorem bv_startOrders (m : Nat) (l : List Order) : bv (w.startOrders m l) = bv w := by
  unfold World.startOrders; frame
frame_lemma1 bv_startOrders
theorem bv_schedUpdate (s : Nat) (b : Bool) : bv (w.schedUpdate s b) = bv w := by
  unfold World.schedUpdate; frame
frame_lemma1 bv_schedUpdate
theorem bv_setVar (h : Nat) (v : Option Nat) : bv (w.setVar h v) = bv w := rfl
frame_lemma1 bv_setVar
theorem bv_periodicSense (s : Nat) : bv (w.periodicSense s) = bv w := by
  unfold World.periodicSense; frame
frame_lemma1 bv_periodicSense
theorem bv_initAsset (a : AssetRef) : bv (w.initAsset a) = bv w := by
  unfold World.initAsset; frame

end

/-- Operations that neither change the wiring nor create devices. -/
def NoRC : Op → Prop
  | .rewire _ _ => False
  | .create _ => False
  | _ => True

theorem noRC_of_static {w : World} {op : Op} (h : OpStatic w op) : NoRC op := by
  cases op <;> first | trivial | exact h

theorem bv_applyOp (w : World) (op : Op) (h : NoRC op) : bv (w.applyOp op).1 = bv w := by
  have rm : ∀ rm recs chk, bv (({ w with rm := rm } : World).rmEffects recs chk) = bv w :=
    fun rm recs chk => bv_rmEffects { w with rm := rm } recs chk
  cases op with
  | sched t a k p => exact bv_sched w t a _ p
  | schedRel dt a k p => exact bv_sched w _ a _ p
  | pause a => exact bv_pause w a
  | unpause a => exact bv_unpause w a
  | cancel a => exact bv_cancel w a
  | addRes r amt => exact rm _ _ _
  | reserve k req =>
    rw [World.applyOp]
    dsimp only
    split
    · rfl
    · exact rm _ _ _
  | release k part =>
    rw [World.applyOp]
    split
    · rfl
    · exact rm _ _ _
  | merge h1 h2 =>
    rw [World.applyOp]
    split
    · rfl
    · split <;> rfl
  | register k req => exact rm _ _ _
  | schedFail d t =>
    rw [World.applyOp]
    split
    · rfl
    · exact bv_sched w _ _ _ _
  | schedFailRel d dt =>
    rw [World.applyOp]
    split
    · rfl
    · exact bv_sched w _ _ _ _
  | shutdown d =>
    rw [World.applyOp]
    split
    · rfl
    · exact bv_shutdownDev w d _ _
  | restore d =>
    rw [World.applyOp]
    split
    · rfl
    · exact bv_restoreDev w d
  | block d b => exact bv_setBlock w d b
  | adjust d n => exact bv_adjustParts w d n
  | setCycle d c =>
    rw [World.applyOp]
    split
    · rfl
    · exact bv_modDev_same w d _ fun _ => rfl
  | offsetNext d o => exact bv_modDev_same w d _ fun _ => rfl
  | rewire d ups => exact absurd h id
  | workOrder m tgt tag info =>
    rw [World.applyOp]
    dsimp only
    refine (bv_startOrders _ _ _).trans ?_
    split <;> rfl
  | setParams tgt tag dur need cost => rfl
  | regObj s obj ovr => rfl
  | unregObj s obj => rfl
  | setVar k v => rfl
  | addSensor c s =>
    rw [World.applyOp]
    dsimp only
    split <;> rfl
  | create spec => exact absurd h id
theorem sb_applyOp (w : World) (op : Op) (h : NoRC op) : sb (w.applyOp op).1 = sb w := by
  unfold sb
  rw [sv_applyOp_noncreate w op (fun s e => by subst e; exact h), bv_applyOp w op h]

theorem sb_applyOps (ops : List Op) : ∀ (w : World), (∀ op ∈ ops, NoRC op) → sb (w.applyOps ops) = sb w := by
  induction ops with
  | nil => intro w _; rfl
  | cons op ops ih =>
    intro w hok
    unfold World.applyOps
    simp only [List.foldl_cons]
    have := ih ((w.applyOp op).1.addRes (w.applyOp op).2) (fun o ho => hok o (List.mem_cons_of_mem _ ho))
    unfold World.applyOps at this
    rw [this]
    exact sb_applyOp w op (hok op (List.mem_cons_self ..))

/-- All scripts are free of `rewire` / `create`. -/
def ScriptsNoRC (w : World) : Prop := ∀ l ∈ w.scripts, ∀ op ∈ l, NoRC op

theorem scriptsNoRC_of_static {w : World} (h : ScriptsStatic w) : ScriptsNoRC w :=
  fun l hl op hop => noRC_of_static (h l hl op hop)

theorem ScriptsNoRC.of_eq {w w' : World} (h : ScriptsNoRC w) (e : w'.scripts = w.scripts) : ScriptsNoRC w' := by
  unfold ScriptsNoRC; rw [e]; exact h

theorem sb_runScript (w : World) (k : Nat) (h : ScriptsNoRC w) : sb (w.runScript k) = sb w := by
  unfold World.runScript
  apply sb_applyOps
  intro op hop
  by_cases hk : k < w.scripts.length
  · have : w.scripts.getD k [] = w.scripts[k] := by simp [List.getD_eq_getElem?_getD, hk]
    rw [this] at hop
    exact h _ (List.getElem_mem hk) op hop
  · have : w.scripts.getD k [] = [] := by simp [List.getD_eq_getElem?_getD, Nat.le_of_not_lt hk]
    rw [this] at hop; cases hop

theorem sb_scan (n : Nat) : ∀ (w : World) (i : Nat), ScriptsNoRC w → sb (scanWaiting scanOps n w i) = sb w := by
  induction n with
  | zero => intro w i _; rfl
  | succ n ih =>
    intro w i h
    unfold scanWaiting
    split
    · rfl
    · split
      · rename_i req cb _ _
        have key : sb (scanOps.erase (scanOps.call w cb req) i) = sb w ∧
            (scanOps.erase (scanOps.call w cb req) i).scripts = w.scripts := by
          cases cb with
          | script k =>
            refine ⟨?_, scr_runScript _ k⟩
            exact sb_runScript (w.addRes (.cb k)) k h
          | proc d =>
            refine ⟨?_, scr_floor.procResourceCb w d⟩
            show sb (w.procResourceCb d) = sb w
            unfold sb; rw [sv_procResourceCb, bv_procResourceCb]
        rw [ih _ _ (h.of_eq key.2)]
        exact key.1
      · exact ih _ _ h

theorem sb_rmCheck (w : World) (h : ScriptsNoRC w) : sb w.rmCheck = sb w := sb_scan _ _ _ h

theorem sb_hookStart (w : World) (tgt : Nat) (tag : Int) (h : ScriptsNoRC w) :
    sb (w.hookStart tgt tag) = sb w := by
  unfold World.hookStart
  simp only []
  split
  · unfold sb; rw [sv_shutdownDev, bv_shutdownDev]; rfl
  · split
    · exact sb_runScript (w.addRes _) _ h
    · rfl

theorem sb_hookEnd (w : World) (tgt : Nat) (tag : Int) (h : ScriptsNoRC w) :
    sb (w.hookEnd tgt tag) = sb w := by
  unfold World.hookEnd
  simp only []
  split
  · unfold sb; rw [sv_restoreDev, bv_restoreDev]; rfl
  · split
    · exact sb_runScript (w.addRes _) _ h
    · rfl

theorem sb_startWork (w : World) (m seq : Nat) (h : ScriptsNoRC w) : sb (w.startWork m seq) = sb w := by
  have key : ∀ w' : World, sb w' = sb w → w'.scripts = w.scripts → ∀ t g a b c d,
      sb ((w'.hookStart t g).schedLib a b c d) = sb w := fun w' e1 e2 t g a b c d => by
    have := sb_hookStart w' t g (h.of_eq e2)
    unfold sb at this e1 ⊢
    rw [sv_schedLib, bv_schedLib, this, e1]
  unfold World.startWork
  split
  · unfold sb; rw [sv_setErr, bv_setErr]
  · simp only []
    refine key _ ?_ ?_ _ _ _ _ _ _ <;> rfl

theorem sb_finishWork (w : World) (m seq : Nat) (h : ScriptsNoRC w) : sb (w.finishWork m seq) = sb w := by
  have hM : ∀ (w : World) m f, sb (w.modMaint m f) = sb w := fun _ _ _ => rfl
  have hR : ∀ (w : World) r, sb (w.addRec r) = sb w := fun _ _ => rfl
  have hO : ∀ (w : World) m l, sb (w.startOrders m l) = sb w := fun w m l => by
    unfold sb; rw [sv_startOrders, bv_startOrders]
  unfold World.finishWork
  split
  · unfold sb; rw [sv_setErr, bv_setErr]
  · simp only []
    rename_i o _
    -- one update at a time: `rfl` through all three at once is slow to check
    exact (hO _ _ _).trans ((hM _ _ _).trans ((hR _ _).trans ((hM _ _ _).trans
      (sb_hookEnd w o.target o.tag h))))

theorem bv_simulateInit (w : World) : bv w.simulateInit = bv w := by
  unfold World.simulateInit
  split
  · rfl
  · simp only []
    show bv (List.foldl _ _ _) = _
    rw [foldl_proj bv _ _ _ (fun _ _ => bv_initAsset ..), bv_rmEffects]; rfl

end C05W
end SimProc
