/-
Hand-over of a part (`passHandler`, `bufferLoop`), `passPart`, `failDev`: the strengthened
invariant is preserved.
-/
import SimProc.Proofs.FloorGive
namespace SimProc
namespace C02V
open World

def InvW (w : World) : Prop := Inv (sv w)

theorem InvW.of_sv {w w' : World} (h : InvW w) (e : sv w' = sv w) : InvW w' := by
  unfold InvW; rw [e]; exact h

theorem InvW.steps {w w' : World} {x : Nat} (h : InvW w) (s : Steps x (sv w) (sv w')) : InvW w' :=
  inv_steps h s

/-- Topology hypothesis for the giver `x`: every device the hand-over can reach exists. -/
def GiveOK (w : World) (x : Nat) : Prop :=
  ∀ y ∈ (w.dev x).down, ∀ z, Reach (st w) y z → z < w.devs.length

theorem held_valid {w : World} (h : InvW w) {x p : Nat} (hx : x < w.devs.length)
    (hp : p ∈ (sdev (w.dev x)).held) : p < w.parts.length := by
  have := h.1.heldValid (sdev (w.dev x)) (List.mem_of_getElem? (sv_get w x hx)) p hp
  simpa [sv] using this

/-- The hand-over: after a successful `tryList givePart`, either the giver itself took the part (only
possible if its own slots are empty), or taking the part out of the giver's slots restores the
invariant. -/
theorem handover (w : World) (x p : Nat) (l : List Nat) (s : SDev) (hI : InvW w)
    (hx : x < w.devs.length) (hk : (w.dev x).kind ≠ .sink) (hsk : s.kind = (w.dev x).kind)
    (hperm : (sdev (w.dev x)).held.Perm (p :: s.held))
    (hin : ∀ b, s.inprog = some b → (w.dev x).inprog = some b)
    (hl : ∀ y ∈ l, ∀ z, Reach (st w) y z → z < w.devs.length)
    (hb : (tryList givePart w l p).2 = true) :
    ((w.dev x).part = none ∧ (w.dev x).output = none ∧
      ((w.dev x).kind = .buffer → sv (tryList givePart w l p).1 =
        (sv w).setDev x { sdev (w.dev x) with buf := (sdev (w.dev x)).buf ++ [p] })) ∨
    (Inv (mask (sv (tryList givePart w l p).1) x s) ∧
      sdev ((tryList givePart w l p).1.dev x) = sdev (w.dev x) ∧
      (tryList givePart w l p).1.devs.length = w.devs.length) := by
  have hp : p < w.parts.length := held_valid hI hx (hperm.mem_iff.mpr (List.mem_cons_self ..))
  obtain ⟨y, hy, z, hr, hz⟩ := (tryGive_spec w l p hp).2 hb
  have hzl := hl y hy z hr
  obtain ⟨hz1, hz2, hz3, hz4⟩ := hz _ (sv_get w z hzl)
  by_cases hne : x = z
  · subst hne
    exact Or.inl ⟨hz1, hz2, hz4⟩
  · right
    have h1 := inv_transfer hI (sv_get w x hx) (sv_get w z hzl) hne hz1 hk hsk hperm hin
    have h2 := inv_steps h1 (hz3.mask hne s)
    have h3 : (sv (tryList givePart w l p).1).devs[x]? = some (sdev (w.dev x)) := by
      rw [hz3.devs_ne hne]
      simp only [accept]
      rw [List.getElem?_set_ne (Ne.symm hne)]
      exact sv_get w x hx
    have h4 : (tryList givePart w l p).1.devs.length = w.devs.length := by
      have := hz3.length
      simpa [sv, accept] using this
    refine ⟨h2, ?_, h4⟩
    have := sv_get (tryList givePart w l p).1 x (by rw [h4]; exact hx)
    rw [h3] at this
    exact (Option.some.inj this).symm

theorem inv_passHandler (w : World) (x : Nat) (hI : InvW w) (hk : (w.dev x).kind ≠ .sink)
    (hg : GiveOK w x) : InvW (w.passHandler x) := by
  unfold World.passHandler
  simp only []
  split
  · exact hI
  · split
    · exact hI
    · rename_i p hp
      have hx : x < w.devs.length := lt_of_output hp
      cases hb : (tryList givePart w (w.sortedDown x) p).2 with
      | false =>
        have hs := (tryGive_spec w (w.sortedDown x) p (held_valid hI hx (by simp [SDev.held, sdev, hp]))).1 hb
        have : tryList givePart w (w.sortedDown x) p = ((tryList givePart w (w.sortedDown x) p).1, false) := by
          rw [← hb]
        rw [this]
        simp only []
        refine hI.of_sv ?_
        rw [sv_modDev_same]
        · exact hs
        · intro _; rfl
      | true =>
        have key := handover w x p (w.sortedDown x) { sdev (w.dev x) with output := none } hI hx hk rfl
          (by
            simp only [SDev.held, sdev, hp, Option.toList_some, Option.toList_none, List.append_nil,
              List.append_assoc, List.singleton_append]
            exact List.perm_middle)
          (fun b h => h)
          (by
            intro y hy z hr
            exact hg y ((mem_sortedDown ..).1 hy) z hr)
          hb
        have key : _ := key.resolve_left (by rintro ⟨_, h, _⟩; rw [hp] at h; cases h)
        have : tryList givePart w (w.sortedDown x) p = ((tryList givePart w (w.sortedDown x) p).1, true) := by
          rw [← hb]
        rw [this]
        simp only []
        unfold InvW
        rw [sv_notify]
        unfold World.modDev
        rw [sv_setDev]
        have e : sdev { ((tryList givePart w (w.sortedDown x) p).1.dev x) with output := none } =
            { sdev (w.dev x) with output := none } := by
          rw [← key.2.1]; rfl
        rw [e]
        exact key.1


theorem GiveOK.of_st {w w' : World} {x : Nat} (h : GiveOK w x) (e : st w' = st w)
    (el : w'.devs.length = w.devs.length) : GiveOK w' x := by
  have ht := tdev_of_st e x
  have hd : (w'.dev x).down = (w.dev x).down := congrArg TDev.down ht
  unfold GiveOK
  rw [hd, e, el]
  exact h

theorem perm_buf (p : Nat) (A B C D : List Nat) : (A ++ B ++ (p :: C) ++ D).Perm (p :: (A ++ B ++ C ++ D)) := by
  have := List.perm_middle (a := p) (l₁ := A ++ B) (l₂ := C ++ D)
  simpa [List.append_assoc] using this

theorem st_setBuf (w : World) (x n : Nat) :
    st (w.modDev x (fun d => { d with level := d.level - n, buf := d.buf.drop 1 })) = st w :=
  st_modDev_same _ _ _ (fun _ => rfl)

theorem sdev_dropBuf (d : Dev) (n : Nat) :
    sdev { d with level := d.level - n, buf := d.buf.drop 1 } = { sdev d with buf := (sdev d).buf.drop 1 } := by
  simp [sdev, List.map_drop]

theorem inv_bufferLoop (f : Nat) : ∀ (w : World) (x : Nat), InvW w → (w.dev x).kind = .buffer →
    GiveOK w x → InvW (bufferLoop f w x) := by
  induction f with
  | zero => intro w x h _ _; exact h
  | succ f ih =>
    intro w x hI hk hg
    unfold bufferLoop
    simp only []
    split
    · exact hI
    · rename_i t p rest hbuf
      have hx : x < w.devs.length := lt_of_buf (by rw [hbuf]; simp)
      have hbs : (sdev (w.dev x)).buf = p :: rest.map (·.2) := by simp [sdev, hbuf]
      split
      · exact hI
      · cases hb : (tryList givePart w (w.sortedDown x) p).2 with
        | false =>
          have hs := (tryGive_spec w (w.sortedDown x) p
            (held_valid hI hx (by simp [SDev.held, sdev, hbuf]))).1 hb
          have : tryList givePart w (w.sortedDown x) p = ((tryList givePart w (w.sortedDown x) p).1, false) := by
            rw [← hb]
          rw [this]
          exact hI.of_sv hs
        | true =>
          have key := handover w x p (w.sortedDown x) { sdev (w.dev x) with buf := rest.map (·.2) } hI hx
            (by rw [hk]; decide) rfl
            (by
              simp only [SDev.held, sdev, hbuf, List.map_cons]
              exact perm_buf ..)
            (fun b h => h)
            (fun y hy z hr => hg y ((mem_sortedDown ..).1 hy) z hr)
            hb
          have : tryList givePart w (w.sortedDown x) p = ((tryList givePart w (w.sortedDown x) p).1, true) := by
            rw [← hb]
          rw [this]
          simp only []
          have hst : st (tryList givePart w (w.sortedDown x) p).1 = st w := st_tryGive ..
          -- the state after removing the head of the buffer
          have hfin : InvW ((tryList givePart w (w.sortedDown x) p).1.modDev x
              (fun d => { d with level := d.level - w.leafCount p, buf := d.buf.drop 1 })) ∧
              ((tryList givePart w (w.sortedDown x) p).1.modDev x
              (fun d => { d with level := d.level - w.leafCount p, buf := d.buf.drop 1 })).devs.length =
                w.devs.length := by
            unfold InvW World.modDev
            rw [sv_setDev, sdev_dropBuf]
            rcases key with ⟨hpn, hon, hself⟩ | ⟨hinv, hsd, hlen⟩
            · -- the buffer handed the part to itself: its content is rotated
              have hsv := hself hk
              have hlen : (tryList givePart w (w.sortedDown x) p).1.devs.length = w.devs.length := by
                have := congrArg (fun a => a.devs.length) hsv
                simpa [sv, SV.setDev] using this
              have hd : sdev ((tryList givePart w (w.sortedDown x) p).1.dev x) =
                  { sdev (w.dev x) with buf := (sdev (w.dev x)).buf ++ [p] } := by
                have := congrArg (fun a => a.dev x) hsv
                simp only [sv_dev] at this
                rw [this]
                simp [SV.setDev, SV.dev, sv, hx]
              refine ⟨?_, by show (List.set _ _ _).length = _; rw [List.length_set]; exact hlen⟩
              rw [hsv, hd]
              simp only [SV.setDev, List.set_set]
              have hperm : (sdev (w.dev x)).held.Perm
                  ([] ++ (SDev.held { sdev (w.dev x) with buf := ((sdev (w.dev x)).buf ++ [p]).drop 1 })) := by
                simp only [SDev.held, hbs, List.nil_append, List.cons_append, List.drop_succ_cons, List.drop_zero]
                exact ((List.perm_append_singleton p _).symm.append_left _).append_right _
              exact ⟨consV_rearr hI.1 _ _ [] (sv_get w x hx) rfl hperm (Or.inr (by simp)),
                extraV_rearr hI.2 _ _ [] (sv_get w x hx) rfl hperm (fun b h => h)⟩
            · refine ⟨?_, by show (List.set _ _ _).length = _; rw [List.length_set]; exact hlen⟩
              rw [hsd, hbs]
              exact hinv
          apply ih
          · exact hfin.1.of_sv (sv_addRec ..)
          · have : st (((tryList givePart w (w.sortedDown x) p).1.modDev x
                (fun d => { d with level := d.level - w.leafCount p, buf := d.buf.drop 1 })).addRec
                (.level x ((tryList givePart w (w.sortedDown x) p).1.modDev x
                (fun d => { d with level := d.level - w.leafCount p, buf := d.buf.drop 1 })).now
                (((tryList givePart w (w.sortedDown x) p).1.modDev x
                (fun d => { d with level := d.level - w.leafCount p, buf := d.buf.drop 1 })).dev x).level)) = st w := by
              rw [st_addRec, st_setBuf, hst]
            rw [kind_of_st this]; exact hk
          · apply hg.of_st
            · rw [st_addRec, st_setBuf, hst]
            · exact hfin.2

theorem part_valid {w : World} (h : InvW w) (x : Nat) : ∀ p, (w.dev x).part = some p → p < w.parts.length := by
  intro p hp
  exact held_valid h (lt_of_part hp) (by simp [SDev.held, sdev, hp])

theorem inv_passPart_source (w : World) (x : Nat) (hI : InvW w) (hg : GiveOK w x)
    (hk : (w.dev x).kind = .source) : InvW (w.passPart x) := by
  have h1 := inv_passHandler w x hI (by rw [hk]; decide) hg
  unfold World.passPart
  simp only [hk]
  repeat' split
  all_goals first
    | exact hI
    | exact h1
    | (refine InvW.steps (x := x) ?_ (steps_scheduleFinish _ x)
       refine h1.of_sv ?_
       rw [sv_addRec, sv_modDev_same]
       intro _; rfl)

theorem inv_passPart_buffer (w : World) (x : Nat) (hI : InvW w) (hg : GiveOK w x)
    (hk : (w.dev x).kind = .buffer) : InvW (w.passPart x) := by
  unfold World.passPart
  simp only [hk]
  have h1 := inv_bufferLoop ((w.dev x).buf.length + 1) w x hI hk hg
  refine h1.of_sv ?_
  rw [sv_notify]
  split
  · rfl
  · split
    · rw [sv_schedulePass]
    · rw [sv_setDev_same]; rfl

theorem inv_passPart_batcher (w : World) (x : Nat) (hI : InvW w) (hg : GiveOK w x)
    (hk : (w.dev x).kind = .batcher) : InvW (w.passPart x) := by
  unfold World.passPart
  simp only [hk]
  have h1 := inv_passHandler w x hI (by rw [hk]; decide) hg
  split
  · exact InvW.steps h1 (steps_tryMove _ x (part_valid h1 x))
  · exact h1

theorem inv_passPart (w : World) (x : Nat) (hI : InvW w) (hg : GiveOK w x) : InvW (w.passPart x) := by
  cases hk : (w.dev x).kind
  case source => exact inv_passPart_source w x hI hg hk
  case buffer => exact inv_passPart_buffer w x hI hg hk
  case batcher => exact inv_passPart_batcher w x hI hg hk
  case sink => unfold World.passPart; simp only [hk]; exact hI
  all_goals
    unfold World.passPart
    simp only [hk]
    exact inv_passHandler w x hI (by rw [hk]; decide) hg

/-! ### failure -/

theorem inv_failDev (w : World) (x : Nat) (hI : InvW w) (hk : (w.dev x).kind ≠ .sink) : InvW (w.failDev x) := by
  unfold World.failDev
  simp only []
  unfold InvW
  rw [sv_shutdownDev, sv_addRec, sv_releaseReserved]
  cases hp : (w.dev x).part with
  | none =>
    simp only []
    unfold World.modDev
    rw [sv_setDev_same]
    · exact hI
    · show sdev { (w.dev x) with part := none } = sdev (w.dev x)
      simp only [sdev, hp]
  | some p =>
    simp only []
    have hx : x < w.devs.length := lt_of_part hp
    have := inv_lose hI (sv_get w x hx) hk hp
    unfold World.modDev
    rw [sv_setDev]
    rw [← leaves_eq]
    exact this

end C02V
end SimProc
