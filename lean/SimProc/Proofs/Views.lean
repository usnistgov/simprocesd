/-
The slot view `sv`, the static view `st` (kinds, wiring, source budgets) of a world, and how the
primitive state updates act on them.
-/
import SimProc.Model.World
import SimProc.Proofs.SV
namespace SimProc
namespace C02V
open World

def sdev (d : Dev) : SDev := ⟨d.kind, d.part, d.output, d.buf.map (·.2), d.inprog⟩

def sv (w : World) : SV := ⟨w.devs.map sdev, w.parts.map (·.kids), w.generated, w.delivered, w.lost⟩

/-- Static data of a device: kind, wiring, source budget. -/
structure TDev where
  kind : Kind
  down : List Nat
  group : Nat
  maxParts : Option Int
  produced : Int

def tdev (d : Dev) : TDev := ⟨d.kind, d.down, d.group, d.maxParts, d.produced⟩

structure ST where
  devs : List TDev
  gin : List Nat

def st (w : World) : ST := ⟨w.devs.map tdev, w.groups.map (·.input)⟩

/-! ### generic list facts -/

theorem map_set_getD_self {α β : Type} (f : α → β) (l : List α) (i : Nat) (dflt a : α)
    (h : f a = f (l.getD i dflt)) : (l.set i a).map f = l.map f := by
  rw [List.map_set, h]
  by_cases hi : i < l.length
  · have : f (l.getD i dflt) = (l.map f)[i]'(by simpa using hi) := by
      simp [List.getD_eq_getElem?_getD, hi]
    rw [this, List.set_getElem_self]
  · rw [List.set_eq_of_length_le]; simpa using Nat.le_of_not_lt hi

theorem foldl_inv {α β : Type} (P : β → Prop) (f : β → α → β) (l : List α) (b : β)
    (h0 : P b) (hs : ∀ b a, P b → P (f b a)) : P (l.foldl f b) := by
  induction l generalizing b with
  | nil => exact h0
  | cons a l ih => exact ih _ (hs _ _ h0)

/-- A fold of state transformers each of which keeps a projection `π` keeps `π`. -/
theorem foldl_proj {α β γ : Type} (π : β → γ) (f : β → α → β) (l : List α) (b : β)
    (hs : ∀ b a, π (f b a) = π b) : π (l.foldl f b) = π b :=
  foldl_inv (fun b' => π b' = π b) f l b rfl (fun b' a h => (hs b' a).trans h)

/-- `w'` has the same image under `π` as `w`.  As a relation, so that the effect of a model function
is written as the chain of its updates. -/
def Same {γ : Type} (π : World → γ) (w w' : World) : Prop := π w' = π w

namespace Same
variable {γ : Type} {π : World → γ}

theorem refl (w : World) : Same π w w := rfl
theorem trans {a b c : World} (h1 : Same π a b) (h2 : Same π b c) : Same π a c := Eq.trans h2 h1
theorem ite {w a b : World} {c : Prop} [Decidable c] (ha : Same π w a) (hb : Same π w b) :
    Same π w (if c then a else b) := by
  split
  · exact ha
  · exact hb
theorem foldl {α : Type} (g : World → α → World) (hg : ∀ w a, Same π w (g w a)) (l : List α)
    (w : World) : Same π w (l.foldl g w) := foldl_proj π g l w hg

end Same

/-! ### primitive updates -/

section prim
variable (w : World)

/-! A projection that looks neither at the error flag nor at the environment is kept by `setErr`,
`sched`, `schedLib`; if it does not look at the records either, by `rmEffects`. -/

theorem proj_setErr {γ : Type} (π : World → γ) (herr : ∀ w e, π { w with error := e } = π w)
    (m : String) : π (w.setErr m) = π w := by
  unfold World.setErr; split
  · rfl
  · exact herr ..

theorem proj_sched {γ : Type} (π : World → γ) (henv : ∀ w e, π { w with env := e } = π w)
    (t a : Int) (act : Action) (p : Int) : π (w.sched t a act p).1 = π w := by
  unfold World.sched; dsimp only; split
  · exact henv ..
  · rfl

theorem proj_schedLib {γ : Type} (π : World → γ) (herr : ∀ w e, π { w with error := e } = π w)
    (henv : ∀ w e, π { w with env := e } = π w) (t a : Int) (act : Action) (p : Int) :
    π (w.schedLib t a act p) = π w := by
  have h := proj_sched w π henv t a act p
  unfold World.schedLib; split
  · rename_i heq; rwa [heq] at h
  · rename_i heq; rw [heq] at h; exact (proj_setErr _ π herr _).trans h

theorem proj_rmEffects {γ : Type} (π : World → γ) (hrec : ∀ w r, π (w.addRec r) = π w)
    (hlib : ∀ w t a act p, π (w.schedLib t a act p) = π w) (recs : List ResRec) (c : Bool) :
    π (w.rmEffects recs c) = π w := by
  have h : π (recs.foldl (fun w r => w.addRec (.resUpdate r.res w.now r.inUse r.cap)) w) = π w :=
    foldl_proj π _ _ _ (fun _ _ => hrec ..)
  unfold World.rmEffects; dsimp only; split
  · exact (hlib ..).trans h
  · exact h

@[simp] theorem sv_setErr (m : String) : sv (w.setErr m) = sv w := proj_setErr w sv (fun _ _ => rfl) m
@[simp] theorem st_setErr (m : String) : st (w.setErr m) = st w := proj_setErr w st (fun _ _ => rfl) m
@[simp] theorem scr_setErr (m : String) : (w.setErr m).scripts = w.scripts :=
  proj_setErr w World.scripts (fun _ _ => rfl) m

@[simp] theorem sv_addRec (r : Rec) : sv (w.addRec r) = sv w := rfl
@[simp] theorem st_addRec (r : Rec) : st (w.addRec r) = st w := rfl
@[simp] theorem scr_addRec (r : Rec) : (w.addRec r).scripts = w.scripts := rfl
@[simp] theorem sv_addRes (r : Res) : sv (w.addRes r) = sv w := rfl
@[simp] theorem st_addRes (r : Res) : st (w.addRes r) = st w := rfl
@[simp] theorem scr_addRes (r : Res) : (w.addRes r).scripts = w.scripts := rfl

@[simp] theorem sv_sched (t a : Int) (act : Action) (p : Int) : sv (w.sched t a act p).1 = sv w :=
  proj_sched w sv (fun _ _ => rfl) t a act p
@[simp] theorem st_sched (t a : Int) (act : Action) (p : Int) : st (w.sched t a act p).1 = st w :=
  proj_sched w st (fun _ _ => rfl) t a act p
@[simp] theorem scr_sched (t a : Int) (act : Action) (p : Int) :
    (w.sched t a act p).1.scripts = w.scripts := proj_sched w World.scripts (fun _ _ => rfl) t a act p

@[simp] theorem sv_schedLib (t a : Int) (act : Action) (p : Int) : sv (w.schedLib t a act p) = sv w :=
  proj_schedLib w sv (fun _ _ => rfl) (fun _ _ => rfl) t a act p
@[simp] theorem st_schedLib (t a : Int) (act : Action) (p : Int) : st (w.schedLib t a act p) = st w :=
  proj_schedLib w st (fun _ _ => rfl) (fun _ _ => rfl) t a act p
@[simp] theorem scr_schedLib (t a : Int) (act : Action) (p : Int) :
    (w.schedLib t a act p).scripts = w.scripts :=
  proj_schedLib w World.scripts (fun _ _ => rfl) (fun _ _ => rfl) t a act p

@[simp] theorem sv_envOp (op : EnvOp) : sv (w.envOp op) = sv w := rfl
@[simp] theorem st_envOp (op : EnvOp) : st (w.envOp op) = st w := rfl
@[simp] theorem scr_envOp (op : EnvOp) : (w.envOp op).scripts = w.scripts := rfl

@[simp] theorem sv_rmEffects (recs : List ResRec) (c : Bool) : sv (w.rmEffects recs c) = sv w :=
  proj_rmEffects w sv (fun _ _ => rfl) sv_schedLib recs c
@[simp] theorem st_rmEffects (recs : List ResRec) (c : Bool) : st (w.rmEffects recs c) = st w :=
  proj_rmEffects w st (fun _ _ => rfl) st_schedLib recs c
@[simp] theorem scr_rmEffects (recs : List ResRec) (c : Bool) :
    (w.rmEffects recs c).scripts = w.scripts :=
  proj_rmEffects w World.scripts (fun _ _ => rfl) scr_schedLib recs c

/-- `setDev` in the slot view. -/
theorem sv_setDev (x : Nat) (d : Dev) : sv (w.setDev x d) = (sv w).setDev x (sdev d) := by
  simp [sv, World.setDev, SV.setDev, List.map_set]

theorem sv_setDev_same (x : Nat) (d : Dev) (h : sdev d = sdev (w.dev x)) : sv (w.setDev x d) = sv w := by
  simp only [sv, World.setDev]
  rw [map_set_getD_self sdev w.devs x default d h]
theorem st_setDev_same (x : Nat) (d : Dev) (h : tdev d = tdev (w.dev x)) : st (w.setDev x d) = st w := by
  simp only [st, World.setDev]
  rw [map_set_getD_self tdev w.devs x default d h]
@[simp] theorem scr_setDev (x : Nat) (d : Dev) : (w.setDev x d).scripts = w.scripts := rfl

theorem sv_modDev_same (x : Nat) (f : Dev → Dev) (h : ∀ d, sdev (f d) = sdev d) :
    sv (w.modDev x f) = sv w := sv_setDev_same w x _ (h _)
theorem st_modDev_same (x : Nat) (f : Dev → Dev) (h : ∀ d, tdev (f d) = tdev d) :
    st (w.modDev x f) = st w := st_setDev_same w x _ (h _)
@[simp] theorem scr_modDev (x : Nat) (f : Dev → Dev) : (w.modDev x f).scripts = w.scripts := rfl

@[simp] theorem st_modPart (p : Nat) (f : PartRec → PartRec) : st (w.modPart p f) = st w := rfl
@[simp] theorem scr_modPart (p : Nat) (f : PartRec → PartRec) : (w.modPart p f).scripts = w.scripts := rfl
theorem sv_modPart_same (p : Nat) (f : PartRec → PartRec) (h : ∀ r, (f r).kids = r.kids) :
    sv (w.modPart p f) = sv w := by
  simp only [sv, World.modPart, World.part]
  rw [map_set_getD_self (·.kids) w.parts p default _ (h _)]

end prim

end C02V
end SimProc

/-! ### the `frame` tactic -/
namespace SimProc
namespace C02V
open World

/-- One step of frame reasoning: close the goal by `rfl`, or rewrite with one frame lemma.
Extended by `macro_rules` as frame lemmas are proved. -/
syntax "fr_step" : tactic
macro_rules | `(tactic| fr_step) => `(tactic| first
  | with_reducible rfl
  | rw [sv_setErr] | rw [st_setErr] | rw [scr_setErr]
  | rw [sv_schedLib] | rw [st_schedLib] | rw [scr_schedLib]
  | rw [sv_rmEffects] | rw [st_rmEffects] | rw [scr_rmEffects]
  | rw [sv_setDev_same] | rw [st_setDev_same]
  | rw [sv_modDev_same] | rw [st_modDev_same]
  | rw [sv_modPart_same]
  | rw [scr_modDev] | rw [scr_setDev] | rw [scr_modPart] | rw [st_modPart]
  | rw [sv_addRec] | rw [st_addRec] | rw [scr_addRec] | rw [sv_addRes] | rw [st_addRes] | rw [scr_addRes]
  | rw [sv_envOp] | rw [st_envOp] | rw [scr_envOp]
  | rw [sv_sched] | rw [st_sched] | rw [scr_sched]
  | rfl
  | (intro _; rfl))

/-- Split all `if`/`match` and close every branch by frame steps. -/
macro "frame" : tactic => `(tactic| ((try simp only []); repeat' split) <;> (repeat' fr_step))

end C02V
end SimProc
