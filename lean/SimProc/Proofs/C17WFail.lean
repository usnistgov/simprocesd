/-
C17W machinery, part 5: the static condition "no failure event for a device that is not a
`PartProcessor` is pending or paused" is preserved by every step (scripts cannot schedule such a
failure: `applyOp` rejects `schedFail` on other devices; the library never schedules failures by
itself).  Under it, no batcher ever fails, and the order property holds for every event.
`srp_closed` walks `SR sk` for this set of "bad" devices through scripts, work orders and events.
-/
import SimProc.Proofs.C17WRun
namespace SimProc
namespace C17W
open World C02V C05W

/-- `sk` is the set of devices that are not processors. -/
def PK (sk : Nat → Prop) (w : World) : Prop := ∀ d, sk d ↔ (w.dev d).kind ≠ .processor

def StatP (sk : Nat → Prop) (w : World) : Prop := PK sk w ∧ ScriptsStatic w

theorem StatP.of_srp {sk : Nat → Prop} {w w' : World} (h : StatP sk w) (r : SR sk w w') : StatP sk w' := by
  refine ⟨fun d => ?_, ?_⟩
  · rw [kind_of_tv r.1]; exact h.1 d
  · intro l hl op hop
    rw [r.2.1] at hl
    exact opStatic_of_tv r.1 op (h.2 l hl op hop)

theorem hbp_applyOp (sk : Nat → Prop) (w : World) (op : Op) (hs : PK sk w) (h : OpStatic w op) :
    HasBad (badAct sk) (w.applyOp op).1 = HasBad (badAct sk) w :=
  hb_applyOp sk w op h fun d hk hd => (hs d).1 hd hk

theorem srp_applyOp (sk : Nat → Prop) (w : World) (op : Op) (hs : PK sk w) (h : OpStatic w op) :
    SR sk w (w.applyOp op).1 :=
  ⟨tv_applyOp_static w op h, scr_applyOp w op, hbp_applyOp sk w op hs h⟩


theorem srp_closed (sk : Nat → Prop) : EventClosed (StatP sk) (SR sk) where
  refl := fun w _ => SR.refl sk w
  trans := SR.trans
  inv := StatP.of_srp
  applyOp := fun w op h ⟨l, hl, hop⟩ => srp_applyOp sk w op h.1 (h.2 l hl op hop)
  addRes := fun _ _ _ _ => ⟨rfl, rfl, rfl⟩
  erase := fun _ _ _ => ⟨rfl, rfl, rfl⟩
  procResourceCb := fun w _ _ d _ _ _ =>
    SR.of_st (st_procResourceCb w d) (scr_floor.procResourceCb w d) ((hb_floor sk).procResourceCb w d)
  modMaint := fun _ _ _ _ => ⟨rfl, rfl, rfl⟩
  addRec := fun _ _ _ _ _ _ _ _ => ⟨rfl, rfl, rfl⟩
  schedLib := fun w t a act p _ e => SR.of_st (st_schedLib ..) (scr_schedLib ..)
    (hb_schedLib _ w t a act p (not_bad_of_not_fail sk _ e.ne.1))
  shutdownDev := fun _ _ _ _ _ =>
    SR.of_st (st_shutdownDev ..) (scr_floor.shutdownDev ..) ((hb_floor sk).shutdownDev ..)
  restoreDev := fun _ _ _ _ _ =>
    SR.of_st (st_restoreDev ..) (scr_floor.restoreDev ..) ((hb_floor sk).restoreDev ..)
  setErr := fun _ _ _ _ => SR.of_st (st_setErr ..) (scr_setErr ..) (hb_setErr ..)
  finishCycle := fun w d _ =>
    SR.of_st (st_finishCycle w d) (scr_floor.finishCycle w d) ((hb_floor sk).finishCycle w d)
  passPart := fun w d _ => ⟨tv_floor.passPart w d, scr_floor.passPart w d, (hb_floor sk).passPart w d⟩
  failDev := fun w d _ =>
    SR.of_st (st_failDev w d) (scr_floor.failDev w d) ((hb_floor sk).failDev w d)
  releaseIfIdle := fun w d _ =>
    SR.of_st (st_releaseIfIdle w d) (scr_floor.releaseIfIdle w d) ((hb_floor sk).releaseIfIdle w d)
  schedUpdate := fun w s _ =>
    SR.of_st (st_schedUpdate w s true) (scr_schedUpdate w s true) (hb_schedUpdate sk w s true)
  periodicSense := fun w s _ =>
    SR.of_st (st_periodicSense w s) (scr_periodicSense w s) (hb_periodicSense sk w s)
  unknown := fun _ _ => SR.of_st (st_setErr ..) (scr_setErr ..) (hb_setErr ..)

/-! ### the static condition -/

/-- No failure event for a device that is not a processor is pending or paused. -/
def NoFailNonProc (w : World) : Prop := ¬ HasBad (badAct (fun d => (w.dev d).kind ≠ .processor)) w

theorem NoFailNonProc.of_sr {w w' : World} (h : NoFailNonProc w)
    (r : SR (fun d => (w.dev d).kind ≠ .processor) w w') : NoFailNonProc w' := by
  have e : (fun d => (w'.dev d).kind ≠ .processor) = (fun d => (w.dev d).kind ≠ .processor) := by
    funext d; rw [kind_of_tv r.1]
  unfold NoFailNonProc
  rw [e, r.2.2]; exact h

theorem noFail_pop (w : World) (e : Event) (env' : Env) (h : NoFailNonProc w)
    (hst : w.env.step = some (e, env')) : NoFailNonProc ({ w with env := env' } : World) := by
  intro hb
  apply h
  obtain ⟨n, hn, hbad⟩ := hb
  refine ⟨n, ?_, hbad⟩
  unfold Env.step at hst
  split at hst
  · cases hst
  · rename_i e' es he
    simp only [Option.some.injEq, Prod.mk.injEq] at hst
    rw [mem_acts] at hn ⊢
    obtain ⟨x, hx, rfl⟩ := hn
    rw [← hst.2] at hx
    refine ⟨x, ?_, rfl⟩
    rw [he]
    rcases hx with hx | hx
    · exact Or.inl (List.mem_cons_of_mem _ hx)
    · exact Or.inr hx

/-- The popped event is not the failure of a device that is not a processor. -/
theorem noFail_head (w : World) (e : Event) (env' : Env) (h : NoFailNonProc w)
    (hst : w.env.step = some (e, env')) (d : Nat) (hd : Action.ofNat e.act = .fail d) :
    (w.dev d).kind = .processor := by
  apply Classical.byContradiction
  intro hk
  apply h
  refine ⟨e.act, ?_, d, hd, hk⟩
  rw [mem_acts]
  refine ⟨e, Or.inl ?_, rfl⟩
  unfold Env.step at hst
  split at hst
  · cases hst
  · rename_i e' es he
    simp only [Option.some.injEq, Prod.mk.injEq] at hst
    rw [he, ← hst.1]; exact List.mem_cons_self ..

theorem noFail_step (w w' : World) (e : Event) (hw : Static w) (h : NoFailNonProc w)
    (hst : w.step = some (e, w')) : NoFailNonProc w' := by
  unfold World.step at hst
  split at hst
  · cases hst
  · rename_i e' env' henv
    simp only [Option.some.injEq, Prod.mk.injEq] at hst
    obtain ⟨rfl, rfl⟩ := hst
    have h1 := noFail_pop w e' env' h henv
    split
    · exact h1.of_sr ((srp_closed _).exec _ _ ⟨fun _ => Iff.rfl, hw.1⟩)
    · exact h1

theorem noFail_runLoop (n : Nat) : ∀ (w : World), InvW w → Static w → NoFailNonProc w →
    NoFailNonProc (runLoop n w) := by
  induction n with
  | zero =>
    intro w _ _ h
    exact h.of_sr (SR.of_st (st_setErr ..) (scr_setErr ..) (hb_setErr ..))
  | succ n ih =>
    intro w hI hw h
    unfold runLoop
    split
    · split
      · exact h
      · rename_i e w' hst
        have := static_step w w' e hI hw hst
        exact ih w' this.1 this.2 (noFail_step w w' e hw h hst)
    · exact h

theorem noFail_simulateInit (w : World) (h : NoFailNonProc w) : NoFailNonProc w.simulateInit :=
  h.of_sr (sr_simulateInit _ w)

end C17W
end SimProc
