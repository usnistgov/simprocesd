/-
C10W — the pending-request service of the resource manager at world level.

Base machinery, part 1: the UNCONDITIONAL relation `U w w'` ("`w'` is `w` after something that is
not an availability check"): the waiting list of the manager is only appended to (and an appended
script request names a callback that some script registers, `RegBy`), the manager stays
initialised, the action log `results` is only appended to and no appended entry is a callback
record `.cb k`, the scripts are unchanged.  `U0` is the weak form (no `RegBy` clause) that also
holds for operations issued from outside.  A peeling tactic (`u_step` / `u_auto`) in the
style of `C01WBase` proves `U w (f w)` for the functions of `Model/World.lean`; its step for
structure updates, `peel_struct`, also serves the relations `C`, `W` and `C09W.R` built on this file.
-/
import SimProc.Proofs.C01WRun
import SimProc.Props.C10

namespace SimProc
namespace C10W
open World FloorCoreL
open Lean Elab Tactic Meta

/-- A result that is not a callback record. -/
def notCb : Res → Bool
  | .cb _ => false
  | _ => true

/-- What `U` observes of a world. -/
def KU (w : World) : RM × List Res × List (List Op) := (w.rm, w.results, w.scripts)

/-- Script `k` is registered as a callback by a `register` operation of some script. -/
def RegBy (w : World) (k : Nat) : Prop := ∃ s ∈ w.scripts, ∃ req, Op.register k req ∈ s

/-- **The unconditional relation.** -/
structure U (w w' : World) : Prop where
  /-- the waiting list is only appended to; an appended script request names a callback that some
  script registers -/
  wapp : ∃ l, w'.rm.waiting = w.rm.waiting ++ l ∧ ∀ e ∈ l, ∀ k, e.2 = .script k → RegBy w k
  ini : w.rm.inited = true → w'.rm.inited = true
  res : ∃ l, w'.results = w.results ++ l ∧ ∀ r ∈ l, notCb r = true
  scr : w'.scripts = w.scripts

theorem U.refl (w : World) : U w w :=
  ⟨⟨[], by simp, by simp⟩, id, ⟨[], by simp⟩, rfl⟩

theorem RegBy.of_scr {w w' : World} {k : Nat} (h : RegBy w' k) (hs : w'.scripts = w.scripts) :
    RegBy w k := by
  unfold RegBy at h ⊢; rw [← hs]; exact h

theorem U.trans {a b c : World} (h1 : U a b) (h2 : U b c) : U a c := by
  obtain ⟨l1, e1, q1⟩ := h1.wapp
  obtain ⟨l2, e2, q2⟩ := h2.wapp
  obtain ⟨r1, f1, g1⟩ := h1.res
  obtain ⟨r2, f2, g2⟩ := h2.res
  refine ⟨⟨l1 ++ l2, by rw [e2, e1, List.append_assoc], ?_⟩, fun h => h2.ini (h1.ini h),
    ⟨r1 ++ r2, by rw [f2, f1, List.append_assoc], ?_⟩, h2.scr.trans h1.scr⟩
  · intro e he k hk
    rcases List.mem_append.1 he with h | h
    · exact q1 e h k hk
    · exact (q2 e h k hk).of_scr h1.scr
  · intro r hr
    rcases List.mem_append.1 hr with h | h
    · exact g1 r h
    · exact g2 r h

/-- The waiting list is only appended to (the weak form of `U.wapp`). -/
theorem U.wapp' {w w' : World} (u : U w w') : ∃ l, w'.rm.waiting = w.rm.waiting ++ l := by
  obtain ⟨l, h, _⟩ := u.wapp; exact ⟨l, h⟩

theorem KU_rm {w w' : World} (h : KU w' = KU w) : w'.rm = w.rm := congrArg Prod.fst h
theorem KU_results {w w' : World} (h : KU w' = KU w) : w'.results = w.results :=
  congrArg (fun q => q.2.1) h
theorem KU_scr {w w' : World} (h : KU w' = KU w) : w'.scripts = w.scripts :=
  congrArg (fun q => q.2.2) h

theorem U.of_KU {w w' : World} (h : KU w' = KU w) : U w w' :=
  ⟨⟨[], by rw [KU_rm h]; simp, by simp⟩, fun hi => by rw [KU_rm h]; exact hi,
    ⟨[], by rw [KU_results h]; simp⟩, KU_scr h⟩

theorem U.trans_KU {a b c : World} (h1 : U a b) (h : KU c = KU b) : U a c :=
  h1.trans (U.of_KU h)

theorem U.of_KU_trans {a b c : World} (h : KU b = KU a) (h2 : U b c) : U a c :=
  (U.of_KU h).trans h2

theorem U.foldl {α} (g : World → α → World) (l : List α) (w : World)
    (h : ∀ w a, U w (g w a)) : U w (l.foldl g w) := by
  induction l generalizing w with
  | nil => exact U.refl w
  | cons a l ih => exact (h w a).trans (ih _)

theorem KU_foldl {α} (g : World → α → World) (l : List α) (w : World)
    (h : ∀ w a, KU (g w a) = KU w) : KU (l.foldl g w) = KU w :=
  foldl_preserve KU g l w h

/-- The weak form of `U`, for operations issued from outside (which may register any callback). -/
structure U0 (w w' : World) : Prop where
  wapp : ∃ l, w'.rm.waiting = w.rm.waiting ++ l
  ini : w.rm.inited = true → w'.rm.inited = true
  res : ∃ l, w'.results = w.results ++ l ∧ ∀ r ∈ l, notCb r = true
  scr : w'.scripts = w.scripts

theorem U.toU0 {w w' : World} (u : U w w') : U0 w w' := ⟨u.wapp', u.ini, u.res, u.scr⟩

/-! ### primitives -/

@[simp] theorem KU_setErr (w : World) (m : String) : KU (w.setErr m) = KU w := by
  unfold setErr; split <;> rfl
@[simp] theorem KU_addRec (w : World) (r : Rec) : KU (w.addRec r) = KU w := rfl
@[simp] theorem KU_modPart (w : World) (p : Nat) (f : PartRec → PartRec) :
    KU (w.modPart p f) = KU w := rfl
@[simp] theorem KU_newPart (w : World) (r : PartRec) : KU (w.newPart r).1 = KU w := rfl
@[simp] theorem KU_setDev (w : World) (x : Nat) (d : Dev) : KU (w.setDev x d) = KU w := rfl
@[simp] theorem KU_modDev (w : World) (x : Nat) (f : Dev → Dev) : KU (w.modDev x f) = KU w := rfl
@[simp] theorem KU_envOp (w : World) (op : EnvOp) : KU (w.envOp op) = KU w := rfl

theorem KU_sched (w : World) (t a : Int) (act : Action) (p : Int) :
    KU (w.sched t a act p).1 = KU w := by
  unfold World.sched
  simp only [Env.apply]
  cases w.env.schedule t a act.toNat p (weightOf w.seed w.wmod t a act.toNat p) <;> rfl

theorem KU_schedLib (w : World) (t a : Int) (act : Action) (p : Int) :
    KU (w.schedLib t a act p) = KU w := by
  unfold schedLib
  have h := KU_sched w t a act p
  generalize w.sched t a act p = s at h ⊢
  obtain ⟨w', r⟩ := s
  cases r <;> simp [h] <;> exact h

theorem KU_rmEffects (w : World) (recs : List ResRec) (chk : Bool) :
    KU (w.rmEffects recs chk) = KU w := by
  unfold rmEffects
  dsimp only
  have h : KU (recs.foldl (fun w r => w.addRec (.resUpdate r.res w.now r.inUse r.cap)) w) = KU w :=
    KU_foldl _ _ _ (fun _ _ => rfl)
  split
  · rw [KU_schedLib, h]
  · exact h

theorem U_addRes (w : World) (r : Res) (h : notCb r = true) : U w (w.addRes r) :=
  ⟨⟨[], by simp [addRes], by simp⟩, id, ⟨[r], rfl, by simpa using h⟩, rfl⟩

/-- What a manager operation other than the check and other than a script's registration does to
the waiting list and the flag: it appends no script request. -/
def RmU (rm rm' : RM) : Prop :=
  (∃ l, rm'.waiting = rm.waiting ++ l ∧ ∀ e ∈ l, ∀ k, e.2 ≠ .script k) ∧
  (rm.inited = true → rm'.inited = true)

theorem U_rmSet (w : World) (rm' : RM) (h : RmU w.rm rm') : U w { w with rm := rm' } := by
  obtain ⟨⟨l, hl, hq⟩, hi⟩ := h
  exact ⟨⟨l, hl, fun e he k hk => absurd hk (hq e he k)⟩, hi, ⟨[], by simp⟩, rfl⟩

theorem apply_waiting_noScript (rm : RM) (op : RMOp) (h : ∀ req k, op ≠ .register req (.script k)) :
    ∃ l, (rm.apply op).1.waiting = rm.waiting ++ l ∧ ∀ e ∈ l, ∀ k, e.2 ≠ .script k := by
  cases op with
  | init => exact ⟨[], by simp [C10.apply_init], by simp⟩
  | add r amt =>
    refine ⟨[], ?_, by simp⟩
    simp only [RM.apply, List.append_nil]
    rcases C10.add_cases rm r amt with ⟨h, _⟩ | ⟨_, _, _, v, hv⟩
    · rw [h]
    · rw [hv]; simp
  | reserve req => exact ⟨[], by simp [RM.apply, (C10.reserve_spec rm req).1], by simp⟩
  | release id part =>
    refine ⟨[], ?_, by simp⟩
    simp only [RM.apply, List.append_nil]
    rcases C10.release_cases rm id part with ⟨h, _⟩ | ⟨_, _, hw, _⟩
    · rw [h]
    · exact hw
  | merge a b => exact ⟨[], by simp [RM.apply, (C10.merge_spec rm a b).1], by simp⟩
  | register req cb =>
    refine ⟨[(req, cb)], rfl, ?_⟩
    intro e he k hk
    have : e = (req, cb) := by simpa using he
    subst this
    exact h req k (by rw [show cb = Cb.script k from hk])

theorem RmU.apply (rm : RM) (op : RMOp) (h : ∀ req k, op ≠ .register req (.script k)) :
    RmU rm (rm.apply op).1 :=
  ⟨apply_waiting_noScript rm op h, C10.apply_inited_mono rm op⟩

theorem RmU.add (rm : RM) (r : Nat) (amt : Int) : RmU rm (rm.add r amt).1 :=
  RmU.apply rm (.add r amt) (fun _ _ h => by cases h)
theorem RmU.reserve (rm : RM) (req : Req) : RmU rm (rm.reserve req).1 :=
  RmU.apply rm (.reserve req) (fun _ _ h => by cases h)
theorem RmU.release (rm : RM) (id : Nat) (part : Option Req) : RmU rm (rm.release id part).1 :=
  RmU.apply rm (.release id part) (fun _ _ h => by cases h)
theorem RmU.merge (rm : RM) (a b : Nat) : RmU rm (rm.merge a b).1 :=
  RmU.apply rm (.merge a b) (fun _ _ h => by cases h)
theorem RmU.register (rm : RM) (req : Req) (d : Nat) : RmU rm (rm.register req (.proc d)).1 :=
  RmU.apply rm (.register req (.proc d)) (fun _ _ h => by cases h)
theorem RmU.init (rm : RM) : RmU rm rm.init.1 := RmU.apply rm .init (fun _ _ h => by cases h)

/-- A script's registration. -/
theorem U_rmRegister (w : World) (k : Nat) (req : Req) (h : RegBy w k) :
    U w { w with rm := (w.rm.register req (.script k)).1 } := by
  refine ⟨⟨[(req, .script k)], rfl, ?_⟩, id, ⟨[], by simp⟩, rfl⟩
  intro e he k' hk'
  have : e = (req, Cb.script k) := by simpa using he
  subst this
  cases hk'; exact h

/-! ### the peeling tactic -/

/-- `peel_struct T`, for a lemma `T : R a b → K c = K b → R a c`: on a goal `R a { w with f := v, … }`
whose structure update leaves the key `K` alone (by `rfl`), go back to `R a w`.  The base world `w`
is read off the `seed` field, which nothing ever changes. -/
elab "peel_struct " T:ident : tactic => do
  let g ← getMainGoal
  g.withContext do
    let c ← mkConstWithFreshMVarLevels (← realizeGlobalConstNoOverloadWithInfo T)
    let (args, _, concl) ← forallMetaTelescope (← inferType c)
    unless args.size == 5 && (← isDefEq concl (← g.getType)) do
      throwError "peel_struct: the goal is not a conclusion of the lemma"
    let b := (← instantiateMVars args[2]!).consumeMData
    unless b.isAppOfArity ``World.mk 23 do throwError "peel_struct: not a structure instance"
    let r := b.getArg! 1
    let w0 ← match r with
      | .proj _ _ w0 => pure w0
      | _ =>
        if r.isAppOfArity ``World.seed 1 then pure (r.getArg! 0)
        else throwError "peel_struct: the seed is changed"
    unless (← isDefEq args[1]! w0) do throwError "peel_struct: the lemma does not fit"
    args[4]!.mvarId!.refl
    g.assign (mkAppN c args)
    args[3]!.mvarId!.setKind .syntheticOpaque
    replaceMainGoal [args[3]!.mvarId!]

/-- One step: close the goal, or peel the outermost function application. -/
syntax "u_step" : tactic

/-- Peel / split until nothing is left. -/
macro "u_auto" : tactic => `(tactic| repeat' first | u_step | split | dsimp only)

macro_rules | `(tactic| u_step) => `(tactic| peel_struct U.trans_KU)
macro_rules | `(tactic| u_step) => `(tactic|
  ((with_reducible apply U.trans (h2 := U.foldl _ _ _ ?hs)); case hs => (intro _ _; u_auto; done)))
macro_rules | `(tactic| u_step) => `(tactic| with_reducible apply U.trans_KU (h := KU_rmEffects _ _ _))
macro_rules | `(tactic| u_step) => `(tactic| with_reducible apply U.trans_KU (h := KU_envOp _ _))
macro_rules | `(tactic| u_step) => `(tactic| with_reducible apply U.trans_KU (h := KU_schedLib _ _ _ _ _))
macro_rules | `(tactic| u_step) => `(tactic| with_reducible apply U.trans_KU (h := KU_sched _ _ _ _ _))
macro_rules | `(tactic| u_step) => `(tactic| with_reducible apply U.trans_KU (h := KU_setErr _ _))
macro_rules | `(tactic| u_step) => `(tactic|
  ((with_reducible apply U.trans (h2 := U_addRes _ _ ?hr)); case hr => exact rfl))
macro_rules | `(tactic| u_step) => `(tactic| with_reducible apply U.trans_KU (h := KU_addRec _ _))
macro_rules | `(tactic| u_step) => `(tactic| with_reducible apply U.trans_KU (h := KU_modDev _ _ _))
macro_rules | `(tactic| u_step) => `(tactic| with_reducible apply U.trans_KU (h := KU_setDev _ _ _))
macro_rules | `(tactic| u_step) => `(tactic| with_reducible exact U.refl _)

end C10W
end SimProc
