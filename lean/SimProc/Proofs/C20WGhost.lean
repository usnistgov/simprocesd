/-
C20W — machinery, part 8: the ghost initialisation counter.

`GW` is a world together with one counter per registration entry.  The functions of
`Model/World.lean` that can reach `initAsset` (the constructors, scripted operations, scripts, the
resource check with its script callbacks, the maintenance hooks, `exec`, `step`, `simulateInit`,
`runLoop`) are mirrored on `GW`; the ONLY place where a counter is changed is `GW.initAsset`
(the counter of the initialised asset is incremented) and the only place where one is created is
a registration (a new counter 0).  `…_w` theorems: forgetting the counters gives exactly the
model's functions.
-/
import SimProc.Proofs.C20WCommute

namespace SimProc
namespace C20W
open World FloorCoreL RKey

structure GW where
  w : World
  cnt : List Nat

namespace GW

/-- **The instrumentation point**: every call of `initAsset` increments the counter of the asset
(the counter at its registration index). -/
def initAsset (g : GW) (a : AssetRef) : GW :=
  ⟨g.w.initAsset a, g.cnt.modify (g.w.assets.idxOf a) (· + 1)⟩

/-- A function that neither registers nor initialises. -/
def lift (g : GW) (f : World → World) : GW := ⟨f g.w, g.cnt⟩

/-- A registration: the world after the registration half of the constructor, a new counter 0;
initialised at once when the system has started. -/
def register (g : GW) (w' : World) (a : AssetRef) : GW :=
  let r : GW := ⟨w', g.cnt ++ [0]⟩
  if w'.started then r.initAsset a else r

def addDev (g : GW) (d : Dev) : GW := g.register (regDev g.w d) (.dev g.w.devs.length)

def addAsset (g : GW) : AssetSpec → GW
  | .dev d => g.addDev d
  | .group gid dvs ins outs =>
    let ins := if ins.isEmpty then dvs.take 1 else ins
    let outs := if outs.isEmpty then dvs.getLast?.toList else outs
    let gi := g.w.devs.length
    let groups := if g.w.groups.length ≤ gid then g.w.groups ++ List.replicate (gid + 1 - g.w.groups.length) {} else g.w.groups
    let g := g.lift (fun w => { w with groups := groups.set gid { paths := [], input := gi, output := gi + 1 } })
    let g := g.addDev { kind := .ginput, group := gid }
    let g := g.lift (fun w => ins.foldl (fun w d => w.rewire d [gi]) w)
    let g := g.addDev { kind := .goutput, group := gid }
    g.lift (fun w => w.rewire (gi + 1) outs)
  | .maint cap v =>
    g.register { g.w with maints := g.w.maints ++ [({ m := { cap := cap, val := { init := v, value := v } }, aid := g.w.assets.length + 1 } : MaintW)], assets := g.w.assets ++ [AssetRef.maint g.w.maints.length] } (.maint g.w.maints.length)
  | .sched tt cyc =>
    g.register { g.w with scheds := g.w.scheds ++ [({ s := { tt := tt, cyc := cyc }, aid := g.w.assets.length + 1 } : SchedW)], assets := g.w.assets ++ [AssetRef.sched g.w.scheds.length] } (.sched g.w.scheds.length)
  | .sensor sw =>
    g.register { g.w with sensors := g.w.sensors ++ [{ sw with aid := g.w.assets.length + 1 }], assets := g.w.assets ++ [AssetRef.sensor g.w.sensors.length] } (.sensor g.w.sensors.length)
  | .cms =>
    -- `World.addAsset .cms` leaves the call `initAsset (.cms c)` out because it is the identity;
    -- the ghost counts it
    g.register { g.w with assets := g.w.assets ++ [AssetRef.cms g.w.cmsSensors.length], cmsSensors := g.w.cmsSensors ++ [[]] } (.cms g.w.cmsSensors.length)

def applyOp (g : GW) : Op → GW × Res
  | .create spec => (g.addAsset spec, .ok)
  | op => (⟨(g.w.applyOp op).1, g.cnt⟩, (g.w.applyOp op).2)

def applyOps (g : GW) (ops : List Op) : GW :=
  ops.foldl (fun g op => let (g', r) := g.applyOp op; g'.lift (·.addRes r)) g

def runScript (g : GW) (k : Nat) : GW := g.applyOps (g.w.scripts.getD k [])

def scanOps : ScanOps GW where
  rm := fun g => g.w.rm
  call := fun g cb _ =>
    match cb with
    | .script k => (g.lift (·.addRes (.cb k))).runScript k
    | .proc d => g.lift (·.procResourceCb d)
  erase := fun g i => g.lift (fun w => { w with rm := { w.rm with waiting := w.rm.waiting.eraseIdx i } })

def rmCheck (g : GW) : GW := scanWaiting scanOps 10000 g 0

def hookStart (g : GW) (tgt : Nat) (tag : Int) : GW :=
  let t := g.w.targets.getD tgt default
  let g := g.lift (·.addRes (.hook true tgt tag))
  match t.dev with
  | some d => g.lift (·.shutdownDev d false none)
  | none => match t.startScript with
    | some k => g.runScript k
    | none => g

def hookEnd (g : GW) (tgt : Nat) (tag : Int) : GW :=
  let t := g.w.targets.getD tgt default
  let g := g.lift (·.addRes (.hook false tgt tag))
  match t.dev with
  | some d => g.lift (·.restoreDev d)
  | none => match t.endScript with
    | some k => g.runScript k
    | none => g

def startWork (g : GW) (m seq : Nat) : GW :=
  match (g.w.maint m).findActive seq with
  | none => g.lift (·.setErr "start-unknown-order")
  | some o =>
    let (dur, _, _) := g.w.targetParams o.target o.tag
    let g := g.lift (fun w => w.addRec (.workOrder 1 m w.now o.target o.tag o.info))
    let (_, _, cost) := g.w.targetParams o.target o.tag
    let g := g.lift (fun w => w.modMaint m (fun mm => mm.startCost w.now cost))
    let g := g.hookStart o.target o.tag
    g.lift (fun w => w.schedLib (w.now + dur) (w.maints.getD m default).aid (.finishWork m seq) pFinishWork)

def finishWork (g : GW) (m seq : Nat) : GW :=
  match (g.w.maint m).findActive seq with
  | none => g.lift (·.setErr "finish-unknown-order")
  | some o =>
    let g := g.hookEnd o.target o.tag
    g.lift (fun w =>
      let mm := w.maint m
      let mm := { mm with util := mm.util - o.needed, active := mm.active.erase o }
      let w := w.modMaint m (fun _ => mm)
      let w := w.addRec (.workOrder 2 m w.now o.target o.tag o.info)
      let (m', st) := (w.maint m).tryWork
      let w := w.modMaint m (fun _ => m')
      w.startOrders m st)

def exec (g : GW) (a : Action) : GW :=
  match a with
  | .script k => g.runScript k
  | .rmCheck => g.rmCheck
  | .startWork m o => g.startWork m o
  | .finishWork m o => g.finishWork m o
  | a => g.lift (·.exec a)

def step (g : GW) : Option (Event × GW) :=
  match g.w.env.step with
  | none => none
  | some (e, env') =>
    let g1 : GW := g.lift (fun w => { w with env := env' })
    some (e, if e.live then g1.exec (Action.ofNat e.act) else g1)

def simulateInit (g : GW) : GW :=
  if g.w.started then g
  else
    let g := g.lift rmStart
    let g := g.w.assets.foldl (fun g a => g.initAsset a) g
    g.lift (fun w => { w with started := true })

def runBegin (g : GW) (d : Int) : GW × Res := (⟨(g.w.runBegin d).1, g.cnt⟩, (g.w.runBegin d).2)

def runLoop : Nat → GW → GW
  | 0, g => g.lift (·.setErr "fuel")
  | f + 1, g =>
    if g.w.env.running then
      match g.step with
      | none => g
      | some (_, g') => runLoop f g'
    else g

/-! ### forgetting the counters gives the model -/

@[simp] theorem lift_w (g : GW) (f : World → World) : (g.lift f).w = f g.w := rfl
@[simp] theorem lift_cnt (g : GW) (f : World → World) : (g.lift f).cnt = g.cnt := rfl
@[simp] theorem initAsset_w (g : GW) (a : AssetRef) : (g.initAsset a).w = g.w.initAsset a := rfl

theorem register_w (g : GW) (w' : World) (a : AssetRef) :
    (g.register w' a).w = if w'.started then w'.initAsset a else w' := by
  unfold register
  dsimp only
  split <;> rfl

theorem addDev_w (g : GW) (d : Dev) : (g.addDev d).w = g.w.addDev d := by
  unfold addDev
  rw [register_w, addDev_eq_regDev]

theorem addAsset_w (g : GW) (spec : AssetSpec) : (g.addAsset spec).w = g.w.addAsset spec := by
  cases spec with
  | dev d => exact addDev_w g d
  | group gid dvs ins outs =>
    unfold addAsset World.addAsset
    simp only [lift_w, addDev_w]
  | maint cap v => unfold addAsset World.addAsset; rw [register_w]
  | sched tt cyc => unfold addAsset World.addAsset; rw [register_w]
  | sensor sw => unfold addAsset World.addAsset; rw [register_w]
  | cms => unfold addAsset World.addAsset; rw [register_w]; split <;> rfl

theorem applyOp_w (g : GW) (op : Op) : (g.applyOp op).1.w = (g.w.applyOp op).1 ∧
    (g.applyOp op).2 = (g.w.applyOp op).2 := by
  cases op
  case create spec => exact ⟨addAsset_w g spec, rfl⟩
  all_goals exact ⟨rfl, rfl⟩

theorem applyOps_w (ops : List Op) : ∀ g : GW, (g.applyOps ops).w = g.w.applyOps ops := by
  induction ops with
  | nil => intro g; rfl
  | cons op ops ih =>
    intro g
    unfold applyOps World.applyOps at *
    rw [List.foldl_cons, List.foldl_cons, ih]
    congr 1
    show ((g.applyOp op).1.w).addRes (g.applyOp op).2 = _
    rw [(applyOp_w g op).1, (applyOp_w g op).2]

theorem runScript_w (g : GW) (k : Nat) : (g.runScript k).w = g.w.runScript k := applyOps_w _ g

theorem call_w (g : GW) (cb : Cb) (req : Req) :
    (scanOps.call g cb req).w = World.scanOps.call g.w cb req := by
  cases cb with
  | script k => exact runScript_w _ k
  | proc d => rfl

theorem erase_w (g : GW) (i : Nat) : (scanOps.erase g i).w = World.scanOps.erase g.w i := rfl

theorem scanWaiting_w (n : Nat) : ∀ (g : GW) (i : Nat),
    (scanWaiting scanOps n g i).w = scanWaiting World.scanOps n g.w i := by
  induction n with
  | zero => intro g i; rfl
  | succ n ih =>
    intro g i
    rw [scanWaiting, scanWaiting]
    have e1 : scanOps.rm g = g.w.rm := rfl
    have e2 : World.scanOps.rm g.w = g.w.rm := rfl
    rw [e1, e2]
    cases hq : g.w.rm.waiting[i]? with
    | none => rfl
    | some q =>
      obtain ⟨req, cb⟩ := q
      simp only
      by_cases hc : g.w.rm.canFulfill req = true
      · rw [if_pos hc, if_pos hc, ih, erase_w, call_w]
      · rw [if_neg hc, if_neg hc]
        exact ih _ _

theorem rmCheck_w (g : GW) : g.rmCheck.w = g.w.rmCheck := scanWaiting_w _ _ _

theorem hookStart_w (g : GW) (tgt : Nat) (tag : Int) : (g.hookStart tgt tag).w = g.w.hookStart tgt tag := by
  unfold hookStart World.hookStart
  dsimp only [lift_w]
  cases (g.w.targets.getD tgt default).dev with
  | some d => rfl
  | none =>
    cases (g.w.targets.getD tgt default).startScript with
    | some k => exact runScript_w _ k
    | none => rfl

theorem hookEnd_w (g : GW) (tgt : Nat) (tag : Int) : (g.hookEnd tgt tag).w = g.w.hookEnd tgt tag := by
  unfold hookEnd World.hookEnd
  dsimp only [lift_w]
  cases (g.w.targets.getD tgt default).dev with
  | some d => rfl
  | none =>
    cases (g.w.targets.getD tgt default).endScript with
    | some k => exact runScript_w _ k
    | none => rfl

theorem startWork_w (g : GW) (m seq : Nat) : (g.startWork m seq).w = g.w.startWork m seq := by
  unfold startWork World.startWork
  cases (g.w.maint m).findActive seq with
  | none => rfl
  | some o =>
    dsimp only [lift_w]
    rw [hookStart_w]
    rfl

theorem finishWork_w (g : GW) (m seq : Nat) : (g.finishWork m seq).w = g.w.finishWork m seq := by
  unfold finishWork World.finishWork
  cases (g.w.maint m).findActive seq with
  | none => rfl
  | some o =>
    dsimp only [lift_w]
    rw [hookEnd_w]

theorem exec_w (g : GW) (a : Action) : (g.exec a).w = g.w.exec a := by
  cases a
  case script k => exact runScript_w g k
  case rmCheck => exact rmCheck_w g
  case startWork m o => exact startWork_w g m o
  case finishWork m o => exact finishWork_w g m o
  all_goals rfl

theorem step_w (g : GW) : g.step.map (fun p => (p.1, p.2.w)) = g.w.step := by
  unfold step World.step
  cases g.w.env.step with
  | none => rfl
  | some q =>
    obtain ⟨e, env'⟩ := q
    simp only [Option.map_some]
    congr 2
    split
    · rw [exec_w]; rfl
    · rfl

theorem sweep_w (l : List AssetRef) : ∀ g : GW,
    (l.foldl (fun g a => g.initAsset a) g).w = sweepW g.w l := by
  induction l with
  | nil => intro g; rfl
  | cons a l ih => intro g; rw [List.foldl_cons, ih]; rfl

theorem simulateInit_w (g : GW) : g.simulateInit.w = g.w.simulateInit := by
  unfold simulateInit
  split
  · rename_i h
    unfold World.simulateInit
    rw [if_pos h]
  · rename_i h
    rw [simulateInit_eq g.w (by simpa using h)]
    dsimp only [lift_w]
    rw [sweep_w]
    rfl

theorem runLoop_w (n : Nat) : ∀ g : GW, (runLoop n g).w = World.runLoop n g.w := by
  induction n with
  | zero => intro g; rfl
  | succ n ih =>
    intro g
    rw [runLoop, World.runLoop]
    split
    · have hs := step_w g
      cases hg : g.step with
      | none =>
        rw [hg] at hs
        simp only [Option.map_none] at hs
        rw [← hs]
      | some q =>
        obtain ⟨e, g'⟩ := q
        rw [hg] at hs
        simp only [Option.map_some] at hs
        rw [← hs]
        exact ih g'
    · rfl

/-! ### the counter invariant -/

/-- Every counter is 1 if the system has started and 0 otherwise: every registered asset has been
initialised exactly once, or not at all. -/
def CntOK (g : GW) : Prop :=
  g.cnt = List.replicate g.w.assets.length (if g.w.started then 1 else 0)

def GInv (g : GW) : Prop := Reg g.w ∧ CntOK g

/-- `g'` keeps the invariant of `g`. -/
def GPv (g g' : GW) : Prop := GInv g → GInv g'

theorem GPv.refl (g : GW) : GPv g g := id
theorem GPv.trans {a b c : GW} (h1 : GPv a b) (h2 : GPv b c) : GPv a c := fun h => h2 (h1 h)

/-- A step that keeps the registration invariant, the registration list, `started` and the counters. -/
theorem GPv.of_frame {g g' : GW} (hpv : Pv g.w g'.w) (hc : g'.cnt = g.cnt)
    (ha : g'.w.assets = g.w.assets) (hs : g'.w.started = g.w.started) : GPv g g' := by
  intro h
  refine ⟨(hpv h.1).1, ?_⟩
  unfold CntOK
  rw [hc, ha, hs]; exact h.2

theorem GPv.lift {g : GW} {f : World → World} (h : Same g.w (f g.w)) : GPv g (g.lift f) :=
  GPv.of_frame (Pv.of_same h) rfl h.assets h.started

theorem GPv.foldl {α} (f : GW → α → GW) (l : List α) (g : GW) (h : ∀ g a, GPv g (f g a)) :
    GPv g (l.foldl f g) := by
  induction l generalizing g with
  | nil => exact GPv.refl g
  | cons a l ih => exact (h g a).trans (ih _)

theorem modify_replicate_append (n : Nat) (t : List Nat) :
    (List.replicate n 1 ++ 0 :: t).modify n (· + 1) = List.replicate (n + 1) 1 ++ t := by
  induction n with
  | zero => simp
  | succ n ih =>
    rw [List.replicate_succ, List.cons_append, List.modify_succ_cons, ih]
    simp [List.replicate_succ]

/-- A registration keeps the invariant. -/
theorem GPv_register (g : GW) (w' : World) (a : AssetRef) (hass : w'.assets = g.w.assets ++ [a])
    (hst : w'.started = g.w.started) (hnew : Reg g.w → a ∉ g.w.assets)
    (hreg : Reg g.w → Reg (if w'.started then w'.initAsset a else w')) : GPv g (g.register w' a) := by
  intro h
  refine ⟨by rw [register_w]; exact hreg h.1, ?_⟩
  have hc := h.2
  unfold CntOK at hc ⊢
  unfold register
  dsimp only
  cases hs : w'.started
  · simp only [Bool.false_eq_true, if_false]
    have hgs : g.w.started = false := by rw [← hst]; exact hs
    rw [hass, hc, hgs]
    simp [List.replicate_succ', hs]
  · simp only [if_true]
    have hgs : g.w.started = true := by rw [← hst]; exact hs
    show ((g.cnt ++ [0]).modify (w'.assets.idxOf a) (· + 1)) =
      List.replicate (w'.initAsset a).assets.length (if (w'.initAsset a).started = true then 1 else 0)
    rw [(initAsset_lengths w' a).2.2.2.1, (initAsset_lengths w' a).2.2.2.2, hs, hass, hc, hgs]
    have hi : (g.w.assets ++ [a]).idxOf a = g.w.assets.length := by
      simp [List.idxOf_append, hnew h.1]
    rw [hi]
    simp only [if_true, List.length_append, List.length_singleton]
    have := modify_replicate_append g.w.assets.length []
    simpa using this

theorem not_mem_of_invalid {w : World} (h : Reg w) {a : AssetRef} (hv : (RK w).valid a = false) :
    a ∉ w.assets := mem_valid_ne h hv

theorem GPv_addDev (g : GW) (d : Dev) (hd : d.inited = false) : GPv g (g.addDev d) := by
  unfold addDev
  have hrk := RK_regDev g.w d
  refine GPv_register g _ _ ?_ ?_ ?_ ?_
  · have := congrArg RKey.assets hrk
    simpa [RK, pushDev] using this
  · have := congrArg RKey.started hrk; exact this
  · intro r; exact not_mem_of_invalid r (by simp [valid, RK])
  · intro r
    rw [← addDev_eq_regDev]
    exact (Pv_addDev g.w d hd r).1

/-- The initialisation sweep increments every counter exactly once. -/
theorem sweep_cnt (as : List AssetRef) (hnd : as.Nodup) : ∀ (l pre : List AssetRef) (g : GW),
    as = pre ++ l → g.w.assets = as →
    g.cnt = List.replicate pre.length 1 ++ List.replicate l.length 0 →
    (l.foldl (fun g a => g.initAsset a) g).cnt = List.replicate as.length 1 := by
  intro l
  induction l with
  | nil =>
    intro pre g has _ hc
    simp at has
    subst has
    simpa using hc
  | cons a l ih =>
    intro pre g has hga hc
    rw [List.foldl_cons]
    refine ih (pre ++ [a]) (g.initAsset a) (by simp [has]) ?_ ?_
    · show (g.w.initAsset a).assets = as
      rw [(initAsset_lengths g.w a).2.2.2.1, hga]
    · show g.cnt.modify (g.w.assets.idxOf a) (· + 1) = _
      have hnp : a ∉ pre := by
        rw [has] at hnd
        have := (List.nodup_append.1 hnd).2.2
        intro hm
        exact this a hm a List.mem_cons_self rfl
      have hi : g.w.assets.idxOf a = pre.length := by
        rw [hga, has, List.idxOf_append, if_neg hnp, List.idxOf_cons_self]; simp
      rw [hi, hc]
      have := modify_replicate_append pre.length (List.replicate l.length 0)
      simpa [List.replicate_succ] using this

theorem GPv_simulateInit (g : GW) : GPv g g.simulateInit := by
  intro h
  refine ⟨by rw [simulateInit_w]; exact reg_simulateInit g.w h.1, ?_⟩
  have hc := h.2
  unfold CntOK at hc ⊢
  unfold simulateInit
  cases hs : g.w.started
  · simp only [Bool.false_eq_true, if_false]
    simp only [hs, Bool.false_eq_true, if_false] at hc
    have ha : (g.lift rmStart).w.assets = g.w.assets := (Same_rmStart g.w).assets
    have hnd : g.w.assets.Nodup := h.1.nodup
    have key := sweep_cnt g.w.assets hnd g.w.assets [] (g.lift rmStart) (by simp) ha (by simpa using hc)
    rw [ha]
    generalize hG : List.foldl (fun g a => GW.initAsset g a) (g.lift rmStart) g.w.assets = G at key
    have hGw : G.w.assets = g.w.assets := by
      rw [← hG, sweep_w, (sweepW_assets _ _).1, ha]
    show G.cnt = List.replicate G.w.assets.length 1
    rw [key, hGw]
  · simp only [if_true]
    rw [hs]
    simp only [hs, if_true] at hc
    exact hc

theorem GPv_addAsset (g : GW) (spec : AssetSpec) (hs : specFresh spec = true) : GPv g (g.addAsset spec) := by
  cases spec with
  | dev d => exact GPv_addDev g d (by simpa [specFresh] using hs)
  | group gid dvs ins outs =>
    unfold addAsset
    dsimp only
    refine GPv.trans ?_ (GPv.lift (Same_rewire _ _ _))
    refine GPv.trans ?_ (GPv_addDev _ _ rfl)
    refine GPv.trans ?_ (GPv.lift (Same.foldl _ _ _ (fun _ _ => Same_rewire _ _ _)))
    refine GPv.trans ?_ (GPv_addDev _ _ rfl)
    exact GPv.lift (Same.of_eq rfl)
  | maint cap v =>
    unfold addAsset
    refine GPv_register g _ _ rfl rfl (fun r => not_mem_of_invalid r (by simp [valid, RK])) ?_
    intro r; exact (Pv_addAsset g.w (.maint cap v) hs r).1
  | sched tt cyc =>
    unfold addAsset
    refine GPv_register g _ _ rfl rfl (fun r => not_mem_of_invalid r (by simp [valid, RK])) ?_
    intro r; exact (Pv_addAsset g.w (.sched tt cyc) hs r).1
  | sensor sw =>
    unfold addAsset
    refine GPv_register g _ _ rfl rfl (fun r => not_mem_of_invalid r (by simp [valid, RK])) ?_
    intro r; exact (Pv_addAsset g.w (.sensor sw) hs r).1
  | cms =>
    unfold addAsset
    refine GPv_register g _ _ rfl rfl (fun r => not_mem_of_invalid r (by simp [valid, RK])) ?_
    intro r
    have := (Pv_addAsset g.w .cms hs r).1
    split <;> exact this

theorem GPv_applyOp (g : GW) (op : Op) (h : opFresh op = true) : GPv g (g.applyOp op).1 := by
  by_cases hc : ∃ s, op = .create s
  · obtain ⟨s, rfl⟩ := hc
    exact GPv_addAsset g s h
  · have hc' : ∀ s, op ≠ .create s := fun s e => hc ⟨s, e⟩
    have e : (g.applyOp op).1 = ⟨(g.w.applyOp op).1, g.cnt⟩ := by
      cases op
      case create s => exact absurd rfl (hc' s)
      all_goals rfl
    rw [e]
    exact GPv.of_frame (Pv_applyOp g.w op h) rfl (applyOp_assets g.w op hc').1 (applyOp_assets g.w op hc').2

theorem GPv_applyOps (ops : List Op) : ∀ g : GW, (∀ op ∈ ops, opFresh op = true) → GPv g (g.applyOps ops) := by
  induction ops with
  | nil => intro g _; exact GPv.refl g
  | cons op ops ih =>
    intro g h
    unfold applyOps at *
    rw [List.foldl_cons]
    refine GPv.trans ?_ (ih _ (fun o ho => h o (List.mem_cons_of_mem _ ho)))
    exact (GPv_applyOp g op (h op List.mem_cons_self)).trans (GPv.lift (Same.of_eq (RK_addRes _ _)))

theorem GPv_runScript (g : GW) (k : Nat) : GPv g (g.runScript k) := by
  intro h
  refine GPv_applyOps _ g ?_ h
  intro op hop
  obtain ⟨s, hs, hm⟩ := mem_getD_nil hop
  exact h.1.scripts s hs op hm

theorem GPv_scanWaiting (n : Nat) : ∀ (g : GW) (i : Nat), GPv g (scanWaiting scanOps n g i) := by
  induction n with
  | zero => intro g i; exact GPv.refl g
  | succ n ih =>
    intro g i
    rw [scanWaiting]
    split
    · exact GPv.refl g
    · split
      · refine GPv.trans ?_ (ih _ _)
        rename_i req cb _ _
        refine GPv.trans ?_ (GPv.lift (Same.of_eq rfl))
        cases cb with
        | script k => exact (GPv.lift (Same.of_eq (RK_addRes _ _))).trans (GPv_runScript _ k)
        | proc d => exact GPv.lift (Same_procResourceCb _ d)
      · exact ih _ _

theorem GPv_rmCheck (g : GW) : GPv g g.rmCheck := GPv_scanWaiting _ _ _

theorem GPv_hookStart (g : GW) (tgt : Nat) (tag : Int) : GPv g (g.hookStart tgt tag) := by
  unfold hookStart
  dsimp only
  have h0 : GPv g (g.lift (·.addRes (.hook true tgt tag))) := GPv.lift (Same.of_eq (RK_addRes _ _))
  split
  · exact h0.trans (GPv.lift (Same.floor.shutdownDev _ _ _ _))
  · split
    · exact h0.trans (GPv_runScript _ _)
    · exact h0

theorem GPv_hookEnd (g : GW) (tgt : Nat) (tag : Int) : GPv g (g.hookEnd tgt tag) := by
  unfold hookEnd
  dsimp only
  have h0 : GPv g (g.lift (·.addRes (.hook false tgt tag))) := GPv.lift (Same.of_eq (RK_addRes _ _))
  split
  · exact h0.trans (GPv.lift (Same.floor.restoreDev _ _))
  · split
    · exact h0.trans (GPv_runScript _ _)
    · exact h0

theorem GPv_startWork (g : GW) (m seq : Nat) : GPv g (g.startWork m seq) := by
  unfold startWork
  split
  · exact GPv.lift (Same.of_eq (RK_setErr _ _))
  · dsimp only
    refine GPv.trans ?_ (GPv.lift (Same.of_eq (RK_schedLib _ _ _ _ _)))
    refine GPv.trans ?_ (GPv_hookStart _ _ _)
    refine GPv.trans ?_ (GPv.lift (Same.of_eq (RK_modMaint _ _ _)))
    exact GPv.lift (Same.of_eq (RK_addRec _ _))

theorem GPv_finishWork (g : GW) (m seq : Nat) : GPv g (g.finishWork m seq) := by
  unfold finishWork
  split
  · exact GPv.lift (Same.of_eq (RK_setErr _ _))
  · dsimp only
    refine GPv.trans (GPv_hookEnd _ _ _) (GPv.lift ?_)
    rk_auto

theorem GPv_exec (g : GW) (a : Action) : GPv g (g.exec a) := by
  cases a
  case script k => exact GPv_runScript g k
  case rmCheck => exact GPv_rmCheck g
  case startWork m o => exact GPv_startWork g m o
  case finishWork m o => exact GPv_finishWork g m o
  case terminate => exact GPv.lift (Same.refl _)
  case finishCycle d => exact GPv.lift (Same.floor.finishCycle _ d)
  case passPart d => exact GPv.lift (Same.floor.passPart _ d)
  case fail d => exact GPv.lift (Same.floor.failDev _ d)
  case releaseIfIdle d => exact GPv.lift (Same.floor.releaseIfIdle _ d)
  case schedUpdate s => exact GPv.lift (Same_schedUpdate _ s true)
  case periodicSense s => exact GPv.lift (Same_periodicSense _ s)
  case unknown n => exact GPv.lift (Same.of_eq (RK_setErr _ _))

theorem GPv_step {g g' : GW} {e : Event} (h : g.step = some (e, g')) : GPv g g' := by
  unfold step at h
  split at h
  · cases h
  · rename_i e0 env' hs
    cases h
    have h0 : GPv g (g.lift (fun w => { w with env := env' })) := GPv.lift (Same.of_eq rfl)
    split
    · exact h0.trans (GPv_exec _ _)
    · exact h0

theorem GPv_runBegin (g : GW) (d : Int) : GPv g (g.runBegin d).1 :=
  GPv.of_frame (Pv.of_same (Same_runBegin g.w d)) rfl (Same_runBegin g.w d).assets (Same_runBegin g.w d).started

theorem GPv_runLoop (n : Nat) : ∀ g : GW, GPv g (runLoop n g) := by
  induction n with
  | zero => intro g; exact GPv.lift (Same.of_eq (RK_setErr _ _))
  | succ n ih =>
    intro g
    rw [runLoop]
    split
    · split
      · exact GPv.refl g
      · rename_i hs
        exact (GPv_step hs).trans (ih _)
    · exact GPv.refl g

end GW

end C20W
end SimProc
