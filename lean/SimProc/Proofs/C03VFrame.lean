/-
C03V, part 1 — several groups AND re-wiring in scripts: the frame `RW w w'` of everything that is not
a factory-floor action, in a world whose scripts may RE-WIRE (but do not create assets).

`RW w w'`: the slots (`sv`), the parts table, the static data of the devices without the wiring
(`swr`), the scripts are unchanged, and every connection of `w'` lies in the ENVELOPE of `w` (the
wiring plus every connection some scripted `rewire` may add).  The relation is transitive (the
envelope can only shrink) and holds for script runs, maintenance hooks, the start / the end of a
work order, the availability check of the resource manager (`rw_exec_scr`) — the analogue of
`C08W.RF` (which excludes `rewire`) and of `C03W.SWR` (which says nothing about slots, parts and
connections).
-/
import SimProc.Proofs.C03YBatR
import SimProc.Proofs.C03ZWorld

namespace SimProc
namespace C03V
open World C02V C03W C03 FloorCoreL

/-! ### the down lists after a re-wiring -/

theorem swr_of_swv {w w' : World} (h : swv w' = swv w) : swr w' = swr w := by
  have h1 : w'.devs.map stat1 = w.devs.map stat1 := congrArg Prod.fst h
  have h2 : w'.targets.map (·.dev) = w.targets.map (·.dev) := congrArg (fun t => t.2.1) h
  have h3 : w'.groups = w.groups := congrArg (fun t => t.2.2) h
  have e : ∀ l : List Dev, l.map stat0 =
      (l.map stat1).map (fun d => ({ d with up := [], down := [] } : Dev)) := by
    intro l; rw [List.map_map]; rfl
  unfold swr
  rw [e, e w.devs, h1, h2, h3]

theorem swr_len {w w' : World} (h : swr w' = swr w) : w'.devs.length = w.devs.length := by
  have := congrArg (fun t => t.1.length) h
  simpa [swr] using this

theorem swr_groups {w w' : World} (h : swr w' = swr w) : w'.groups = w.groups :=
  congrArg (fun t => t.2.2) h

/-- **The connections after `rewire x ups`**: old ones, or `u → x` for a `u ∈ ups`. -/
theorem down_rewire (v : World) (x : Nat) (ups : List Nat) (z y : Nat)
    (hy : y ∈ ((v.rewire x ups).dev z).down) : y ∈ (v.dev z).down ∨ (y = x ∧ z ∈ ups) := by
  rw [rewire_eq_fold] at hy
  have hca := rewireClock_core v x
  have hr := statRel_fold (x := x) (ups := ups) ups (fun _ hu => hu) _
    (StatRel.refl x ups (rewireWire (rewireClock v x) x ups))
  have hsub : ∀ y, y ∈ ((rewireWire (rewireClock v x) x ups).dev z).down → y ∈ (v.dev z).down := by
    intro y hy
    have := (rewireWire_down (rewireClock v x) x ups z).subset hy
    rw [core_eq_dev_down hca z] at this
    exact this
  rcases hr.down z with hd | ⟨hzu, _, _, hd⟩
  · rw [hd] at hy; exact Or.inl (hsub y hy)
  · rw [hd] at hy
    rcases List.mem_append.mp hy with hy | hy
    · exact Or.inl (hsub y hy)
    · exact Or.inr ⟨List.mem_singleton.mp hy, hzu⟩

/-! ### the frame -/

/-- slots, parts, static data (the wiring aside), scripts unchanged; the connections stay in the
envelope -/
structure RW (w w' : World) : Prop where
  sv : sv w' = sv w
  parts : w'.parts = w.parts
  swr : swr w' = swr w
  scr : w'.scripts = w.scripts
  sub : ∀ z, ∀ y ∈ (w'.dev z).down, y ∈ ((envl w).dev z).down

theorem RW.refl (w : World) : RW w w := ⟨rfl, rfl, rfl, rfl, fun _ _ h => mem_envl_down_of_down h⟩

theorem RW.kind {w w' : World} (h : RW w w') (z : Nat) : (w'.dev z).kind = (w.dev z).kind :=
  stat0_kind (stat0_of_swr h.swr z)

theorem RW.group {w w' : World} (h : RW w w') (z : Nat) : (w'.dev z).group = (w.dev z).group :=
  stat0_group (stat0_of_swr h.swr z)

/-- the envelope can only shrink -/
theorem RW.envl {w w' : World} (h : RW w w') : TopoSub (envl w) (envl w') :=
  topoSub_envl_envl (swr_len h.swr) h.scr h.kind h.group (swr_groups h.swr) h.sub

theorem RW.trans {a b c : World} (h1 : RW a b) (h2 : RW b c) : RW a c :=
  ⟨h2.sv.trans h1.sv, h2.parts.trans h1.parts, h2.swr.trans h1.swr, h2.scr.trans h1.scr,
    fun z y hy => h1.envl.down z y (h2.sub z y hy)⟩

/-- a step that does not touch the static world at all -/
theorem RW.of_swv {w w' : World} (h1 : C02V.sv w' = C02V.sv w) (h2 : w'.parts = w.parts)
    (h3 : swv w' = swv w) (h4 : w'.scripts = w.scripts) : RW w w' := by
  refine ⟨h1, h2, swr_of_swv h3, h4, fun z y hy => ?_⟩
  rw [sw_down (SW.sw_eq ⟨h3, h4⟩) z] at hy
  exact mem_envl_down_of_down hy

theorem NC.of_rw {w w' : World} (h : NC w) (r : RW w w') : NC w' := h.of_swr ⟨r.swr, r.scr⟩

/-- a scripted re-wiring -/
theorem rw_rewire (w : World) (x : Nat) (ups : List Nat)
    (hscr : ∃ l ∈ w.scripts, Op.rewire x ups ∈ l) : RW w (w.rewire x ups) := by
  refine ⟨sv_rewire w x ups, parts_rewire w x ups, swr_rewire w x ups, scr_floor.rewire w x ups,
    fun z y hy => ?_⟩
  rcases down_rewire w x ups z y hy with h | ⟨hyx, hz⟩
  · exact mem_envl_down_of_down h
  · subst hyx
    have hzl : z < w.devs.length := by
      apply Nat.lt_of_not_le
      intro hc
      rw [dev_of_length_le (by rw [swr_len (swr_rewire w y ups)]; exact hc)] at hy
      cases hy
    obtain ⟨l, hl, hop⟩ := hscr
    rw [envl_down_lt hzl]
    exact List.mem_append_right _ (mem_extraDown.mpr (mem_rewEdges.mpr ⟨l, hl, ups, hop, hz⟩))

/-- an operation of a script (not `create`) -/
theorem rw_applyOp (w : World) (op : Op) (hnc : ∀ sp, op ≠ .create sp)
    (hscr : ∃ l ∈ w.scripts, op ∈ l) : RW w (w.applyOp op).1 := by
  by_cases hr : ∃ x ups, op = .rewire x ups
  · obtain ⟨x, ups, rfl⟩ := hr
    exact rw_rewire w x ups hscr
  · have hn : ∀ d ups, op ≠ .rewire d ups := fun d ups he => hr ⟨d, ups, he⟩
    exact RW.of_swv (sv_applyOp_noncreate w op hnc) (C08W.parts_applyOp_static w op hn hnc)
      (swv_applyOp w op hn hnc) (scr_applyOp w op)

/-- `RW`, in a world whose scripts create nothing, contains what scripts, call-backs of the
resource manager and work orders do. -/
theorem RW.scripts : ScriptClosed NC RW where
  refl := fun w _ => RW.refl w
  trans := RW.trans
  inv := NC.of_rw
  applyOp := fun w op h ⟨l, hl, hop⟩ => rw_applyOp w op (h l hl op hop) ⟨l, hl, hop⟩
  addRes := fun _ _ _ _ => RW.of_swv rfl rfl rfl rfl
  erase := fun _ _ _ => RW.of_swv rfl rfl rfl rfl
  procResourceCb := fun w _ _ d _ _ _ => RW.of_swv (sv_procResourceCb w d)
    (C08W.parts_procResourceCb w d) (swv_blind.procResourceCb w d) (scr_floor.procResourceCb w d)
  modMaint := fun _ _ _ _ => RW.of_swv rfl rfl rfl rfl
  addRec := fun _ _ _ _ _ _ _ _ => RW.of_swv rfl rfl rfl rfl
  schedLib := fun _ _ _ _ _ _ _ => RW.of_swv (sv_schedLib ..) (schedLib_parts ..)
    (swv_blind.schedLib ..) (scr_schedLib ..)
  shutdownDev := fun _ _ _ _ _ => RW.of_swv (sv_shutdownDev ..) (C08W.parts_shutdownDev ..)
    (swv_blind.floor.shutdownDev ..) (scr_floor.shutdownDev ..)
  restoreDev := fun _ _ _ _ _ => RW.of_swv (sv_restoreDev ..) (C08W.parts_restoreDev ..)
    (swv_blind.floor.restoreDev ..) (scr_floor.restoreDev ..)
  setErr := fun _ _ _ _ => RW.of_swv (sv_setErr ..) (setErr_parts ..) (swv_blind.setErr ..)
    (scr_setErr ..)

/-- **The actions that may run a script.** -/
theorem rw_exec_scr (w : World) (a : Action) (h : NC w)
    (ha : (∃ k, a = .script k) ∨ a = .rmCheck ∨ (∃ m o, a = .startWork m o) ∨
      ∃ m o, a = .finishWork m o) : RW w (w.exec a) := by
  rcases ha with ⟨k, rfl⟩ | rfl | ⟨m, o, rfl⟩ | ⟨m, o, rfl⟩
  · exact RW.scripts.runScript w k h
  · exact RW.scripts.rmCheck w h
  · exact RW.scripts.startWork w m o h
  · exact RW.scripts.finishWork w m o h

end C03V
end SimProc
