/-
C08W, part 6: the routing invariant along the event loop of a statically well-formed world.
-/
import SimProc.Proofs.C08WFloor
import SimProc.Proofs.StaticWorld
namespace SimProc
namespace C08W
open World C02V C08L FloorCoreL

/-! ### the parts table is not touched by anything but the factory floor -/

theorem foldl_parts {α} (g : World → α → World) (l : List α) (w : World)
    (h : ∀ w a, (g w a).parts = w.parts) : (l.foldl g w).parts = w.parts :=
  foldl_preserve World.parts g l w h

theorem parts_shutdownDev (w : World) (x : Nat) (f : Bool) (l : Option Nat) :
    (w.shutdownDev x f l).parts = w.parts := by
  unfold World.shutdownDev; dsimp only
  repeat' split
  all_goals simp [foldl_parts]

theorem parts_restoreDev (w : World) (x : Nat) : (w.restoreDev x).parts = w.parts := by
  unfold World.restoreDev; dsimp only
  -- `parts` is pushed through the conditionals; a `split` would abstract the whole body at each of them
  rw [apply_ite World.parts, foldl_parts]
  · rw [apply_ite World.parts, modDev_parts, ite_self, apply_ite World.parts, schedulePass_parts,
      apply_ite World.parts, notify_parts, ite_self, ite_self, envOp_parts, setDev_parts, ite_self]
  · exact fun _ _ => rfl

theorem parts_releaseIfIdle (w : World) (x : Nat) : (w.releaseIfIdle x).parts = w.parts := by
  unfold World.releaseIfIdle; split <;> simp

theorem parts_procResourceCb (w : World) (x : Nat) : (w.procResourceCb x).parts = w.parts := by
  unfold World.procResourceCb; simp

theorem parts_startOrders (w : World) (m : Nat) (l : List Order) : (w.startOrders m l).parts = w.parts := by
  unfold World.startOrders; simp [foldl_parts]

theorem parts_schedUpdate (w : World) (s : Nat) (b : Bool) : (w.schedUpdate s b).parts = w.parts := by
  unfold World.schedUpdate; dsimp only
  split
  · rfl
  · simp only [schedLib_parts]
    rw [foldl_parts]
    · rfl
    · intro w a; rfl

theorem parts_periodicSense (w : World) (s : Nat) : (w.periodicSense s).parts = w.parts := by
  unfold World.periodicSense; dsimp only
  simp only [schedLib_parts]
  rw [foldl_parts]
  intro w a; rfl

theorem parts_applyOp_static (w : World) (op : Op) (h1 : ∀ d ups, op ≠ .rewire d ups)
    (h2 : ∀ s, op ≠ .create s) : (w.applyOp op).1.parts = w.parts := by
  cases op
  case rewire d ups => exact absurd rfl (h1 d ups)
  case create s => exact absurd rfl (h2 s)
  case workOrder m tgt tag info =>
    simp only [World.applyOp]
    rw [parts_startOrders]
    split <;> rfl
  all_goals
    simp only [World.applyOp]
    repeat' split
    all_goals first
      | rfl
      | simp [parts_shutdownDev, parts_restoreDev, World.setVar]

variable {nb nc : Prop}

/-! ### the frame of everything that is not a factory-floor action -/

structure RF (w w' : World) : Prop where
  sv : sv w' = sv w
  tv : tv w' = tv w
  parts : w'.parts = w.parts
  scr : w'.scripts = w.scripts
  pc : pcv w' = pcv w

theorem RF.refl (w : World) : RF w w := ⟨rfl, rfl, rfl, rfl, rfl⟩
theorem RF.trans {a b c : World} (h1 : RF a b) (h2 : RF b c) : RF a c :=
  ⟨h2.sv.trans h1.sv, h2.tv.trans h1.tv, h2.parts.trans h1.parts, h2.scr.trans h1.scr,
    h2.pc.trans h1.pc⟩

theorem RF.of_st {w w' : World} (h1 : C02V.sv w' = C02V.sv w) (h2 : st w' = st w)
    (h3 : w'.parts = w.parts) (h4 : w'.scripts = w.scripts) (h5 : pcv w' = pcv w) : RF w w' :=
  ⟨h1, tv_of_st h2, h3, h4, h5⟩

theorem RouteN.of_rf {w w' : World} (h : RouteN nb nc w) (r : RF w w') : RouteN nb nc w' :=
  h.of_frame r.sv (topo_of_tv r.tv) r.parts r.pc

theorem NoCb.of_rf {w w' : World} (h : NoCb w) (r : RF w w') : NoCb w' := h.of_pcv r.pc

theorem InvW.of_rf {w w' : World} (h : InvW w) (r : RF w w') : InvW w' := h.of_sv r.sv

theorem scriptsStatic_of_rf {w w' : World} (h : ScriptsStatic w) (r : RF w w') : ScriptsStatic w' := by
  intro l hl op hop
  rw [r.scr] at hl
  exact opStatic_of_tv r.tv op (h l hl op hop)

theorem rf_applyOp (w : World) (op : Op) (h : OpStatic w op) : RF w (w.applyOp op).1 := by
  have h1 : ∀ d ups, op ≠ .rewire d ups := by intro d ups e; subst e; exact h
  have h2 : ∀ s, op ≠ .create s := by intro s e; subst e; exact h
  exact ⟨sv_applyOp_noncreate w op h2, tv_applyOp_static w op h, parts_applyOp_static w op h1 h2,
    scr_applyOp w op, pcv_blind.applyOp w op h2 fun d ups e => absurd e (h1 d ups)⟩

/-- `RF`, in a world with static scripts, contains what scripts, call-backs of the resource
manager and work orders do. -/
theorem RF.scripts : ScriptClosed ScriptsStatic RF where
  refl := fun w _ => RF.refl w
  trans := RF.trans
  inv := scriptsStatic_of_rf
  applyOp := fun w op h ⟨l, hl, hop⟩ => rf_applyOp w op (h l hl op hop)
  addRes := fun _ _ _ _ => ⟨rfl, rfl, rfl, rfl, rfl⟩
  erase := fun _ _ _ => ⟨rfl, rfl, rfl, rfl, rfl⟩
  procResourceCb := fun w _ _ d _ _ _ => RF.of_st (sv_procResourceCb w d) (st_procResourceCb w d)
    (parts_procResourceCb w d) (scr_floor.procResourceCb w d) (pcv_blind.procResourceCb w d)
  modMaint := fun _ _ _ _ => ⟨rfl, rfl, rfl, rfl, rfl⟩
  addRec := fun _ _ _ _ _ _ _ _ => ⟨rfl, rfl, rfl, rfl, rfl⟩
  schedLib := fun _ _ _ _ _ _ _ => RF.of_st (sv_schedLib ..) (st_schedLib ..) (schedLib_parts ..)
    (scr_schedLib ..) (pcv_blind.schedLib ..)
  shutdownDev := fun _ _ _ _ _ => RF.of_st (sv_shutdownDev ..) (st_shutdownDev ..)
    (parts_shutdownDev ..) (scr_floor.shutdownDev ..) (pcv_blind.floor.shutdownDev ..)
  restoreDev := fun _ _ _ _ _ => RF.of_st (sv_restoreDev ..) (st_restoreDev ..)
    (parts_restoreDev ..) (scr_floor.restoreDev ..) (pcv_blind.floor.restoreDev ..)
  setErr := fun _ _ _ _ => RF.of_st (sv_setErr ..) (st_setErr ..) (setErr_parts ..)
    (scr_setErr ..) (pcv_blind.setErr ..)

theorem rf_runScript (w : World) (k : Nat) (h : ScriptsStatic w) : RF w (w.runScript k) :=
  RF.scripts.runScript w k h

theorem rf_rmCheck (w : World) (h : ScriptsStatic w) : RF w w.rmCheck := RF.scripts.rmCheck w h

theorem rf_startWork (w : World) (m seq : Nat) (h : ScriptsStatic w) : RF w (w.startWork m seq) :=
  RF.scripts.startWork w m seq h

theorem rf_finishWork (w : World) (m seq : Nat) (h : ScriptsStatic w) : RF w (w.finishWork m seq) :=
  RF.scripts.finishWork w m seq h

/-! ### events -/

/-- Every admissible event action preserves the routing invariant (in a world whose scripts neither
rewire nor create devices). -/
theorem routeN_exec (w : World) (a : Action) (hI : InvW w) (hR : RouteN nb nc w)
    (hnb : nb → NoBatcher w) (hnc : nc → NoBatcher w ∧ NoCb w) (hs : ScriptsStatic w)
    (ha : ActOK w a) : RouteN nb nc (w.exec a) := by
  cases a with
  | terminate => exact hR
  | script k => exact hR.of_rf (rf_runScript w k hs)
  | finishCycle d => exact route_finishCycle w d hI hR hnc
  | passPart d => exact route_passPart w d hI hR hnb hnc ha
  | fail d => exact route_failDev w d hR
  | releaseIfIdle d =>
    exact hR.of_rf (RF.of_st (sv_releaseIfIdle w d) (st_releaseIfIdle w d) (parts_releaseIfIdle w d)
      (scr_floor.releaseIfIdle w d) (pcv_blind.floor.releaseIfIdle w d))
  | rmCheck => exact hR.of_rf (rf_rmCheck w hs)
  | startWork m o => exact hR.of_rf (rf_startWork w m o hs)
  | finishWork m o => exact hR.of_rf (rf_finishWork w m o hs)
  | schedUpdate s =>
    exact hR.of_rf (RF.of_st (sv_schedUpdate w s true) (st_schedUpdate w s true) (parts_schedUpdate w s true)
      (scr_schedUpdate w s true) (pcv_blind.schedUpdate w s true))
  | periodicSense s =>
    exact hR.of_rf (RF.of_st (sv_periodicSense w s) (st_periodicSense w s) (parts_periodicSense w s)
      (scr_periodicSense w s) (pcv_blind.periodicSense w s))
  | unknown n =>
    exact hR.of_rf (RF.of_st (sv_setErr ..) (st_setErr ..) (setErr_parts ..) (scr_setErr ..) (pcv_blind.setErr ..))

/-- The gate predicates and callbacks never change. -/
theorem pcv_exec (w : World) (a : Action) (hs : ScriptsStatic w) : pcv (w.exec a) = pcv w := by
  cases a with
  | terminate => rfl
  | script k => exact (rf_runScript w k hs).pc
  | finishCycle d => exact pcv_blind.floor.finishCycle w d
  | passPart d => exact pcv_blind.floor.passPart w d
  | fail d => exact pcv_blind.floor.failDev w d
  | releaseIfIdle d => exact pcv_blind.floor.releaseIfIdle w d
  | rmCheck => exact (rf_rmCheck w hs).pc
  | startWork m o => exact (rf_startWork w m o hs).pc
  | finishWork m o => exact (rf_finishWork w m o hs).pc
  | schedUpdate s => exact pcv_blind.schedUpdate w s true
  | periodicSense s => exact pcv_blind.periodicSense w s
  | unknown n => exact pcv_blind.setErr ..

/-- One step of the event loop keeps the wiring, the gate predicates and the callbacks. -/
theorem tv_step (w w' : World) (e : Event) (hs : Static w) (hst : w.step = some (e, w')) :
    tv w' = tv w ∧ pcv w' = pcv w := by
  unfold World.step at hst
  split at hst
  · cases hst
  · rename_i e' env' henv
    simp only [Option.some.injEq, Prod.mk.injEq] at hst
    obtain ⟨rfl, rfl⟩ := hst
    have h1 := static_pop w e' env' hs henv
    split
    · exact ⟨(sr_exec (fun d => (({ w with env := env' } : World).dev d).kind = .sink) _ _
        ⟨fun _ => Iff.rfl, h1.1⟩).1, pcv_exec _ _ h1.1⟩
    · exact ⟨rfl, rfl⟩

theorem routeN_step (w w' : World) (e : Event) (hI : InvW w) (hR : RouteN nb nc w)
    (hnb : nb → NoBatcher w) (hnc : nc → NoBatcher w ∧ NoCb w) (hs : Static w)
    (hst : w.step = some (e, w')) :
    InvW w' ∧ RouteN nb nc w' ∧ Static w' ∧ (nb → NoBatcher w') ∧ (nc → NoBatcher w' ∧ NoCb w') := by
  have h0 := static_step w w' e hI hs hst
  have htv := tv_step w w' e hs hst
  refine ⟨h0.1, ?_, h0.2, fun hn => (hnb hn).of_tv htv.1,
    fun hn => ⟨(hnc hn).1.of_tv htv.1, (hnc hn).2.of_pcv htv.2⟩⟩
  unfold World.step at hst
  split at hst
  · cases hst
  · rename_i e' env' henv
    simp only [Option.some.injEq, Prod.mk.injEq] at hst
    obtain ⟨rfl, rfl⟩ := hst
    have h1 := static_pop w e' env' hs henv
    have hR1 : RouteN nb nc ({ w with env := env' } : World) := hR.of_frame rfl rfl rfl rfl
    have hI1 : InvW ({ w with env := env' } : World) := hI.of_sv rfl
    split
    · exact routeN_exec _ _ hI1 hR1 hnb hnc h1.1 (static_actOK w e' env' hs henv)
    · exact hR1

theorem routeN_runLoop (n : Nat) : ∀ (w : World), InvW w → RouteN nb nc w → (nb → NoBatcher w) →
    (nc → NoBatcher w ∧ NoCb w) → Static w →
    InvW (runLoop n w) ∧ RouteN nb nc (runLoop n w) ∧ Static (runLoop n w) ∧
      (nb → NoBatcher (runLoop n w)) ∧ (nc → NoBatcher (runLoop n w) ∧ NoCb (runLoop n w)) := by
  induction n with
  | zero =>
    intro w hI hR hnb hnc hs
    have := static_runLoop 0 w hI hs
    refine ⟨this.1, ?_, this.2, fun hn => (hnb hn).of_st (st_setErr ..),
      fun hn => ⟨(hnc hn).1.of_st (st_setErr ..), (hnc hn).2.of_pcv (pcv_blind.setErr ..)⟩⟩
    exact hR.of_frame_st (sv_setErr ..) (st_setErr ..) (setErr_parts ..) (pcv_blind.setErr ..)
  | succ n ih =>
    intro w hI hR hnb hnc hs
    unfold runLoop
    split
    · split
      · exact ⟨hI, hR, hs, hnb, hnc⟩
      · rename_i e w' hst
        have := routeN_step w w' e hI hR hnb hnc hs hst
        exact ih w' this.1 this.2.1 this.2.2.2.1 this.2.2.2.2 this.2.2.1
    · exact ⟨hI, hR, hs, hnb, hnc⟩

/-- The configured graph never changes along a run. -/
theorem tv_runLoop (n : Nat) : ∀ (w : World), InvW w → Static w → tv (runLoop n w) = tv w := by
  induction n with
  | zero => intro w _ _; exact tv_of_st (st_setErr ..)
  | succ n ih =>
    intro w hI hs
    unfold runLoop
    split
    · split
      · rfl
      · rename_i e w' hst
        have h1 := static_step w w' e hI hs hst
        rw [ih w' h1.1 h1.2, (tv_step w w' e hs hst).1]
    · rfl

/-! ### `Environment.run(d)`: the terminate event -/

theorem static_runBegin (w : World) (d : Int) (hs : Static w) : Static (w.runBegin d).1 := by
  unfold World.runBegin
  dsimp only
  split
  · exact hs
  · rename_i e he
    refine ⟨hs.1, hs.2.1, ?_⟩
    rintro ⟨n, hn, hbad⟩
    apply hs.2.2
    unfold Env.runBegin at he
    have := (acts_schedule he n).1 hn
    rcases this with rfl | hn'
    · obtain ⟨d', hd', _⟩ := hbad
      simp [terminateAct, Action.ofNat] at hd'
    · exact ⟨n, hn', hbad⟩

theorem rf_runBegin (w : World) (d : Int) : RF w (w.runBegin d).1 := by
  unfold World.runBegin
  dsimp only
  split
  · exact RF.refl w
  · exact ⟨rfl, rfl, rfl, rfl, rfl⟩

/-! ### a decidable sufficient condition for the wiring part of `Static` -/

/-- Every configured downstream device and every group input exists. -/
def WiredOK (w : World) : Prop :=
  0 < w.devs.length ∧ (∀ d ∈ w.devs, ∀ y ∈ d.down, y < w.devs.length) ∧
    (∀ g ∈ w.groups, g.input < w.devs.length)

instance (w : World) : Decidable (WiredOK w) := by unfold WiredOK; infer_instance

theorem down_lt_of_wired {w : World} (h : WiredOK w) {x y : Nat} (hy : y ∈ (w.dev x).down) :
    y < w.devs.length := by
  by_cases hx : x < w.devs.length
  · have : w.dev x ∈ w.devs := by
      unfold World.dev
      rw [List.getD_eq_getElem?_getD, List.getElem?_eq_getElem hx]
      exact List.getElem_mem hx
    exact h.2.1 _ this y hy
  · rw [dev_of_ge w x (Nat.le_of_not_lt hx)] at hy; cases hy

theorem reach_lt_of_wired {w : World} (h : WiredOK w) {y z : Nat} (hr : Reach (st w) y z) :
    y < w.devs.length → z < w.devs.length := by
  induction hr with
  | self y _ => exact id
  | gate y z u _ hz _ ih =>
    intro _
    rw [st_down] at hz
    exact ih (down_lt_of_wired h hz)
  | gpath y u _ _ ih =>
    intro _
    apply ih
    rw [st_gin]
    by_cases hg : (st w).group y < w.groups.length
    · have : w.groups.getD ((st w).group y) default ∈ w.groups := by
        rw [List.getD_eq_getElem?_getD, List.getElem?_eq_getElem hg]
        exact List.getElem_mem hg
      exact h.2.2 _ this
    · rw [List.getD_eq_getElem?_getD, List.getElem?_eq_none (Nat.le_of_not_lt hg)]
      exact h.1
  | goutput y g z u _ hz _ ih =>
    intro _
    rw [st_down] at hz
    exact ih (down_lt_of_wired h hz)

theorem topoOK_of_wired {w : World} (h : WiredOK w) : TopoOK w := by
  intro x y hy z hr
  exact reach_lt_of_wired h hr (down_lt_of_wired h hy)

/-- Static well-formedness from decidable conditions: static scripts, existing wiring, no pending
events. -/
theorem static_of_wired {w : World} (h1 : ScriptsStatic w) (h2 : WiredOK w)
    (h3 : w.env.events = [] ∧ w.env.paused = []) : Static w := by
  refine ⟨h1, topoOK_of_wired h2, ?_⟩
  rintro ⟨n, hn, _⟩
  simp [acts, h3.1, h3.2] at hn

/-! ### initialisation -/

theorem parts_initFlag (w : World) (x : Nat) : (initFlag w x).parts = w.parts := rfl

theorem pcv_initFlag (w : World) (x : Nat) : pcv (initFlag w x) = pcv w :=
  pcv_modDev_same _ _ _ (fun _ => rfl)

theorem route_initDev (w : World) (x : Nat) (hI : InvW w) (hR : RouteN nb nc w)
    (hnc : nc → NoBatcher w ∧ NoCb w) : RouteN nb nc (w.initDev x) := by
  have hR0 : RouteN nb nc (initFlag w x) :=
    hR.of_frame_st (sv_initFlag w x) (st_initFlag w x) rfl (pcv_initFlag w x)
  have hI0 : InvW (initFlag w x) := hI.of_sv (sv_initFlag w x)
  rw [initDev_eq]
  split
  · exact hR0
  · exact hR0
  · exact hR0
  · exact hR0
  · refine hR0.of_frame_st ?_ ?_ ?_ ?_
    · rw [sv_modDev_same, sv_setWaiting]; intro _; rfl
    · rw [st_modDev_same, st_setWaiting]; intro _; rfl
    · rw [modDev_parts, setWaiting_parts]
    · rw [pcv_modDev_same, pcv_blind.floor.setWaiting]; intro _; rfl
  · refine route_scheduleFinish _ x (hI0.of_sv (sv_setWaiting ..)) ?_ ?_
    · exact hR0.of_frame_st (sv_setWaiting ..) (st_setWaiting ..) (setWaiting_parts ..) (pcv_blind.floor.setWaiting ..)
    · intro hn
      refine ⟨(hnc hn).1.of_st ?_, (hnc hn).2.of_pcv ?_⟩
      · rw [st_setWaiting, st_initFlag]
      · rw [pcv_blind.floor.setWaiting, pcv_initFlag]
  · exact hR0.of_frame_st (sv_setWaiting ..) (st_setWaiting ..) (setWaiting_parts ..) (pcv_blind.floor.setWaiting ..)

theorem parts_initAsset_nondev (w : World) (a : AssetRef) (h : ∀ d, a ≠ .dev d) :
    (w.initAsset a).parts = w.parts := by
  unfold World.initAsset
  split
  · rename_i d; exact absurd rfl (h d)
  · rfl
  · exact parts_schedUpdate ..
  · dsimp only
    split
    · simp
    · split <;> rfl
  · rfl

theorem route_initAsset (w : World) (a : AssetRef) (hI : InvW w) (hR : RouteN nb nc w)
    (hnc : nc → NoBatcher w ∧ NoCb w) :
    RouteN nb nc (w.initAsset a) := by
  by_cases h : ∃ d, a = .dev d
  · obtain ⟨d, rfl⟩ := h
    exact route_initDev w d hI hR hnc
  · have h' : ∀ d, a ≠ .dev d := fun d e => h ⟨d, e⟩
    exact hR.of_frame_st (sv_initAsset_nondev w a h') (st_initAsset w a) (parts_initAsset_nondev w a h')
      (pcv_blind.initAsset w a)

theorem routeN_simulateInit (w : World) (hI : InvW w) (hR : RouteN nb nc w)
    (hnc : nc → NoBatcher w ∧ NoCb w) :
    InvW w.simulateInit ∧ RouteN nb nc w.simulateInit := by
  refine ⟨pres_simulateInit closed_inv w hI, ?_⟩
  unfold World.simulateInit
  split
  · exact hR
  · simp only []
    have key : ∀ (l : List AssetRef) (w0 : World), InvW w0 → RouteN nb nc w0 →
        (nc → NoBatcher w0 ∧ NoCb w0) →
        InvW (l.foldl (fun w a => w.initAsset a) w0) ∧ RouteN nb nc (l.foldl (fun w a => w.initAsset a) w0) := by
      intro l
      induction l with
      | nil => intro w0 h1 h2 _; exact ⟨h1, h2⟩
      | cons a l ih =>
        intro w0 h1 h2 h3
        exact ih _ (pres_initAsset closed_inv w0 a h1) (route_initAsset w0 a h1 h2 h3)
          (fun hn => ⟨(h3 hn).1.of_st (st_initAsset w0 a), (h3 hn).2.of_pcv (pcv_blind.initAsset w0 a)⟩)
    refine RouteN.of_frame (w := List.foldl _ _ _) ?_ rfl rfl rfl rfl
    refine (key _ _ ?_ ?_ ?_).2
    · apply InvW.of_sv _ (sv_rmEffects ..)
      exact hI.of_sv rfl
    · apply RouteN.of_frame_st _ (sv_rmEffects ..) (st_rmEffects ..) (rmEffects_parts ..) (pcv_blind.floor.rmEffects ..)
      exact hR.of_frame rfl rfl rfl rfl
    · intro hn
      exact ⟨(hnc hn).1.of_st (by rw [st_rmEffects]; rfl), (hnc hn).2.of_pcv (by rw [pcv_blind.floor.rmEffects]; rfl)⟩

theorem pcv_simulateInit (w : World) : pcv w.simulateInit = pcv w := pcv_blind.simulateInit w

/-- A world without parts in which no device holds anything satisfies the invariant. -/
theorem route_of_empty (w : World) (hp : w.parts = []) (h : ∀ d ∈ w.devs, (sdev d).held = []) :
    RouteN nb nc w := by
  have key : ∀ (z : Nat) (d : SDev) (q : Nat), (sv w).devs[z]? = some d → q ∈ d.held → False := by
    intro z d q hz hq
    have hm := List.mem_of_getElem? hz
    simp only [sv, List.mem_map] at hm
    obtain ⟨d', hd', rfl⟩ := hm
    rw [h d' hd'] at hq; cases hq
  exact ⟨⟨fun z d q hz hq _ => (key z d q hz hq).elim, fun z d q l hz hq _ => (key z d q hz hq).elim,
    fun z d q l k hz hq _ _ => (key z d q hz hq).elim⟩, fun _ z d q hz hq _ => (key z d q hz hq).elim,
    (fun q hq => by rw [sv_kids_length, hp] at hq; cases hq),
    fun _ z d q hz hq _ => (key z d q hz hq).elim⟩

end C08W
end SimProc
