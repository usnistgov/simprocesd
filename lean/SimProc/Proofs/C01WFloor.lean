/-
C01W — `Via` contains the atoms of the floor (`World.FloorClosed.Ops Via`), hence `Via w (f w)` for
every function `f` of `Model/Floor.lean` (`Proofs/FloorWalk.lean`).
-/
import SimProc.Proofs.C01WBase
import SimProc.Proofs.FloorWalk

namespace SimProc
namespace C01W
open World FloorCoreL

/-- The events of the floor are library operations: none is `terminate`, and the library's
priorities lie above `TERMINATE`. -/
theorem Via_floorEvent (w : World) (t a : Int) (act : Action) (p : Int) (h : w.FloorEvent a act p) :
    Via w (w.schedLib t a act p) := by
  cases h <;> exact Via_schedLib _ _ _ _ _ (by intro h; cases h) (by decide)

/-- A machine pauses, resumes and cancels under its own asset id, which is not −1. -/
theorem Via_floorEnvOp (w : World) (op : EnvOp) (h : w.FloorEnvOp op) : Via w (w.envOp op) :=
  Via.with_good fun g => by
    cases h <;> exact Via_envOp _ _ (g.ne _)

theorem Via.floor : FloorClosed.Ops Via where
  toFloorClosed := .ofAtoms (refl := Via.refl) (trans := Via.trans)
    (setErr := fun _ _ => Via.of_EK (EK_setErr _ _))
    (addRec := fun _ _ _ => Via.of_EK rfl) (addRes := fun _ _ _ => Via.of_EK rfl)
    (setDev := fun w x d h => Via_setDev w x d (congrArg Dev.aid h :))
    (modPart := fun _ _ _ => Via.of_EK rfl)
    (schedLib := Via_floorEvent) (envOp := Via_floorEnvOp)
    (setRm := fun _ _ => Via.of_EK rfl) (setSensors := fun _ _ => Via.of_EK rfl)
    (setParts := fun _ _ => Via.of_EK rfl) (setGenerated := fun _ _ => Via.of_EK rfl)
    (setDelivered := fun _ _ => Via.of_EK rfl) (setLost := fun _ _ => Via.of_EK rfl)
  setBlockInput := fun w x _ => Via_setDev w x _ rfl
  setMaxParts := fun w x _ => Via_setDev w x _ rfl
  setWiring := fun w x _ _ => Via_setDev w x _ rfl
  setInited := fun w x _ => Via_setDev w x _ rfl
  clearWaitingRes := fun w x => Via_setDev w x _ rfl

theorem Via_senseOutput (w : World) (s p : Nat) : Via w (w.senseOutput s p) :=
  World.senseOutput_walk Via.refl Via.trans (fun _ _ => Via.of_EK rfl) (fun _ _ _ => Via.of_EK rfl)
    w s p

macro_rules | `(tactic| via_step) => `(tactic| with_reducible apply Via.trans (h2 := Via.floor.shutdownDev _ _ _ _))
macro_rules | `(tactic| via_step) => `(tactic| with_reducible apply Via.trans (h2 := Via.floor.restoreDev _ _))
macro_rules | `(tactic| via_step) => `(tactic| with_reducible apply Via.trans (h2 := Via.floor.setBlock _ _ _))
macro_rules | `(tactic| via_step) => `(tactic| with_reducible apply Via.trans (h2 := Via.floor.adjustParts _ _ _))
macro_rules | `(tactic| via_step) => `(tactic| with_reducible apply Via.trans (h2 := Via.floor.rewire _ _ _))
macro_rules | `(tactic| via_step) => `(tactic| with_reducible apply Via.trans (h2 := Via.floor.initDev _ _))
macro_rules | `(tactic| via_step) => `(tactic| with_reducible apply Via.trans (h2 := Via.floor.finishCycle _ _))
macro_rules | `(tactic| via_step) => `(tactic| with_reducible apply Via.trans (h2 := Via.floor.passPart _ _))
macro_rules | `(tactic| via_step) => `(tactic| with_reducible apply Via.trans (h2 := Via.floor.failDev _ _))
macro_rules | `(tactic| via_step) => `(tactic| with_reducible apply Via.trans (h2 := Via.floor.releaseIfIdle _ _))
macro_rules | `(tactic| via_step) => `(tactic| with_reducible apply Via.trans (h2 := Via.floor.procResourceCb _ _))

end C01W
end SimProc
