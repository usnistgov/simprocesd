/-
C18W / C19W — closed-world machinery for action schedulers and sensors, part 1.

* tracked events (`.schedUpdate s`, `.periodicSense s`), tracked records (`.schedUpdate`,
  `.produced`) and tracked results (`.act`, `.sense`);
* the tracked key `tk w` of a world (schedulers, sensors, tracked records / results, the devices'
  asset ids and attached output sensors, the scripts) and the abstract steps `CStep` on keys:
  `reg` / `unreg` (scripted registration with a scheduler), `addCb` (`Cms.add_sensor`), `prod` (a
  processor finishes a part: its output sensors count / sample it, a `produced` record is written);
* harmless environment operations `HOp ta` (scheduling an untracked action, pausing / resuming /
  cancelling an asset id that is not the id of a scheduler or sensor), `ERef`;
* the frame relation `Fr w w'`: under the static conditions `Stat w`, `w'.env` is `w.env` after
  harmless operations and `tk w'` is `tk w` after abstract steps;
* the primitives of `WorldDef`, and a peeling tactic (`fr_step` / `fr_auto`) in the style of
  `Proofs/C01WBase.lean`.
-/
import SimProc.Model.World
import SimProc.Proofs.FloorCore2
import SimProc.Proofs.C01WBase
import SimProc.Proofs.C06WBase
import SimProc.Props.C01
import Lean

namespace SimProc
namespace C18W
open World FloorCoreL
open Lean Elab Tactic Meta

/-! ### tracked events, records, results -/

/-- action codes of `.schedUpdate s` (9 + 16 s) and `.periodicSense s` (10 + 16 s) -/
def trackedNat (n : Nat) : Bool := n % 16 == 9 || n % 16 == 10

def tracked (e : Event) : Bool := trackedNat e.act

def isTrackedAct : Action → Bool
  | .schedUpdate _ => true
  | .periodicSense _ => true
  | _ => false

theorem untracked_toNat {a : Action} (h : isTrackedAct a = false) : trackedNat a.toNat = false := by
  cases a <;> simp [isTrackedAct] at h <;> simp [Action.toNat, trackedNat] <;> omega

def trackedRec : Rec → Bool
  | .schedUpdate .. => true
  | .produced .. => true
  | _ => false

def trackedRes : Res → Bool
  | .act .. => true
  | .sense .. => true
  | _ => false

/-! ### the tracked key -/

structure TK where
  scheds : List SchedW
  sensors : List SensorW
  recsT : List Rec
  resT : List Res
  /-- per device: asset id, attached output sensors -/
  dk : List (Int × List Nat)
  scripts : List (List Op)

def dkey (d : Dev) : Int × List Nat := (d.aid, d.finSensors)

def tk (w : World) : TK :=
  { scheds := w.scheds, sensors := w.sensors, recsT := w.recs.filter trackedRec,
    resT := w.results.filter trackedRes, dk := w.devs.map dkey, scripts := w.scripts }

/-- The asset ids of schedulers and sensors. -/
def TK.ta (c : TK) : List Int := c.scheds.map (·.aid) ++ c.sensors.map (·.aid)

/-- output sensors attached to device `x` -/
def TK.finS (c : TK) (x : Nat) : List Nat := (c.dk.getD x (0, [])).2

theorem finS_tk (w : World) (x : Nat) : (tk w).finS x = (w.dev x).finSensors := by
  unfold TK.finS tk World.dev
  simp only [List.getD_eq_getElem?_getD, List.getElem?_map]
  cases w.devs[x]? <;> rfl

/-! ### abstract steps on keys -/

def TK.reg (c : TK) (s obj : Nat) (ovr : Option Nat) : TK :=
  let sw := c.scheds.getD s default
  { c with scheds := c.scheds.set s { sw with s := (sw.s.register obj ovr).1 } }

def TK.unreg (c : TK) (s obj : Nat) : TK :=
  let sw := c.scheds.getD s default
  { c with scheds := c.scheds.set s { sw with s := (sw.s.unregister obj).1 } }

def TK.addCb (c : TK) (s cb : Nat) : TK :=
  let sw := c.sensors.getD s default
  { c with sensors := c.sensors.set s { sw with s := sw.s.addCb cb } }

/-- values probed by an output-part sensor on a part of quality `q` and value `v` -/
def outVals (attrs : List Nat) (q v : Int) : List Int := attrs.map (fun a => if a == 0 then q else v)

/-- `senseOutput` on the key: output sensor `s` sees a finished part (time `t`, quality `q`,
value `v`). -/
def TK.outSense (c : TK) (s : Nat) (t q v : Int) : TK :=
  let sw := c.sensors.getD s default
  if sw.s.countPart.2 then
    let s2 := sw.s.countPart.1.collect (outVals sw.attrs q v)
    { c with sensors := c.sensors.set s { sw with s := s2 },
             resT := c.resT ++ s2.cbs.map (fun cb => Res.sense s cb t (outVals sw.attrs q v)) }
  else { c with sensors := c.sensors.set s { sw with s := sw.s.countPart.1 } }

/-- processor `x` finishes part `p` at time `t`. -/
def TK.prod (c : TK) (x : Nat) (t : Int) (p : Nat) (q v : Int) : TK :=
  let c1 := (c.finS x).foldl (fun c s => c.outSense s t q v) c
  { c1 with recsT := c1.recsT ++ [Rec.produced x t p q v] }

inductive CStep : TK → TK → Prop
  | reg (c : TK) (s obj : Nat) (ovr : Option Nat) : CStep c (c.reg s obj ovr)
  | unreg (c : TK) (s obj : Nat) : CStep c (c.unreg s obj)
  | addCb (c : TK) (s cb : Nat) : CStep c (c.addCb s cb)
  | prod (c : TK) (x : Nat) (t : Int) (p : Nat) (q v : Int) (hx : x < c.dk.length) :
      CStep c (c.prod x t p q v)

inductive CRun : TK → TK → Prop
  | refl (c : TK) : CRun c c
  | tail {a b c : TK} : CRun a b → CStep b c → CRun a c

theorem CRun.single {a b : TK} (h : CStep a b) : CRun a b := .tail (.refl a) h

theorem CRun.trans {a b c : TK} (h1 : CRun a b) (h2 : CRun b c) : CRun a c := by
  induction h2 with
  | refl => exact h1
  | tail _ hs ih => exact .tail ih hs

theorem CRun.of_eq {a b : TK} (h : b = a) : CRun a b := h ▸ CRun.refl a

/-- An invariant of the abstract steps holds along runs. -/
theorem CRun.preserve {P : TK → Prop} (hP : ∀ {a b}, CStep a b → P a → P b) {a b : TK}
    (h : CRun a b) (ha : P a) : P b := by
  induction h with
  | refl => exact ha
  | tail _ hs ih => exact hP hs ih

/-! ### what no abstract step changes -/

/-- The static part of a sensor. -/
def sensStat (sw : SensorW) :
    Int × List Nat × Nat × List Nat × Bool × SensorKind × Int × Option Nat × Nat :=
  (sw.aid, sw.vars, sw.proc, sw.attrs, sw.registered, sw.s.kind, sw.s.interval, sw.s.cap, sw.s.nprobes)

def schedStat (sw : SchedW) : Int × List (Int × Int) × Bool × Nat × Option Int :=
  (sw.aid, sw.s.tt, sw.s.cyc, sw.s.idx, sw.s.state)

/-- The static part of a key. -/
def cstat (c : TK) :=
  (c.scheds.map schedStat, c.sensors.map sensStat, c.dk, c.scripts)

theorem countPart_stat (s : Sensor) :
    s.countPart.1.kind = s.kind ∧ s.countPart.1.interval = s.interval ∧ s.countPart.1.cap = s.cap ∧
    s.countPart.1.nprobes = s.nprobes ∧ s.countPart.1.cbs = s.cbs ∧ s.countPart.1.data = s.data ∧
    s.countPart.1.time = s.time ∧ s.countPart.1.last = s.last := by
  unfold Sensor.countPart
  dsimp only
  split <;> exact ⟨rfl, rfl, rfl, rfl, rfl, rfl, rfl, rfl⟩

theorem outSense_cstat (c : TK) (s : Nat) (t q v : Int) : cstat (c.outSense s t q v) = cstat c := by
  unfold TK.outSense
  dsimp only
  have h := countPart_stat (c.sensors.getD s default).s
  split
  · simp only [cstat]
    congr 2
    refine (map_set_of_eq sensStat _ _ _ default ?_)
    simp only [sensStat, Sensor.collect, h.1, h.2.1, h.2.2.1, h.2.2.2.1]
  · simp only [cstat]
    congr 2
    refine (map_set_of_eq sensStat _ _ _ default ?_)
    simp only [sensStat, h.1, h.2.1, h.2.2.1, h.2.2.2.1]

theorem foldl_outSense_cstat (l : List Nat) (c : TK) (t q v : Int) :
    cstat (l.foldl (fun c s => c.outSense s t q v) c) = cstat c :=
  foldl_preserve cstat _ l c (fun c s => outSense_cstat c s t q v)

theorem CStep.cstat {a b : TK} (h : CStep a b) : cstat b = cstat a := by
  cases h with
  | reg s obj ovr =>
    simp only [C18W.cstat, TK.reg]
    congr 1
    refine (map_set_of_eq schedStat _ _ _ default ?_)
    simp only [schedStat, Sched.register]
    split <;> rfl
  | unreg s obj =>
    simp only [C18W.cstat, TK.unreg]
    congr 1
    refine (map_set_of_eq schedStat _ _ _ default ?_)
    simp only [schedStat, Sched.unregister]
    split <;> rfl
  | addCb s cb =>
    simp only [C18W.cstat, TK.addCb]
    congr 2
    exact (map_set_of_eq sensStat _ _ _ default rfl)
  | prod x t p q v hx =>
    have := foldl_outSense_cstat (a.finS x) a t q v
    simp only [C18W.cstat, TK.prod] at this ⊢
    exact this

theorem CRun.cstat {a b : TK} (h : CRun a b) : cstat b = cstat a := by
  induction h with
  | refl => rfl
  | tail _ hs ih => rw [hs.cstat, ih]

theorem ta_of_cstat {a b : TK} (h : cstat b = cstat a) : b.ta = a.ta := by
  have h1 : b.scheds.map schedStat = a.scheds.map schedStat := congrArg (·.1) h
  have h2 : b.sensors.map sensStat = a.sensors.map sensStat := congrArg (·.2.1) h
  have e1 : ∀ l : List SchedW, l.map (·.aid) = (l.map schedStat).map (·.1) := by
    intro l; simp [schedStat]
  have e2 : ∀ l : List SensorW, l.map (·.aid) = (l.map sensStat).map (·.1) := by
    intro l; simp [sensStat]
  unfold TK.ta
  rw [e1, e1, e2, e2, h1, h2]

theorem dk_of_cstat {a b : TK} (h : cstat b = cstat a) : b.dk = a.dk := congrArg (·.2.2.1) h
theorem scripts_of_cstat {a b : TK} (h : cstat b = cstat a) : b.scripts = a.scripts :=
  congrArg (·.2.2.2) h

/-! ### harmless environment operations -/

/-- Operations on the event queue that do not concern the events of schedulers and sensors. -/
def HOp (ta : List Int) : EnvOp → Prop
  | .sched _ _ act _ _ => trackedNat act = false
  | .pause a => a ∉ ta
  | .unpause a => a ∉ ta
  | .cancel a => a ∉ ta
  | .step => False
  | .runBegin _ _ => False

theorem HOp.ne_step {ta : List Int} {op : EnvOp} (h : HOp ta op) : op ≠ .step := by
  intro e; subst e; exact h

def ERef (ta : List Int) (s s' : Env) : Prop :=
  ∃ ops : List EnvOp, (∀ op ∈ ops, HOp ta op) ∧ s' = (s.applyAll Arith.exact ops).1

theorem ERef.refl (ta : List Int) (s : Env) : ERef ta s s := C01W.RefinesBy.refl (HOp ta) s

theorem ERef.trans {ta : List Int} {a b c : Env} (h1 : ERef ta a b) (h2 : ERef ta b c) :
    ERef ta a c := C01W.RefinesBy.trans (P := HOp ta) h1 h2

theorem ERef.one {ta : List Int} (s : Env) {op : EnvOp} (h : HOp ta op) :
    ERef ta s (s.apply Arith.exact op).1 := C01W.RefinesBy.one (P := HOp ta) s h

theorem ERef.of_eq {ta : List Int} {s s' : Env} (h : s' = s) : ERef ta s s' :=
  C01W.RefinesBy.of_eq (P := HOp ta) h

theorem ERef.now {ta : List Int} {s s' : Env} (h : ERef ta s s') : s'.now = s.now :=
  C01W.RefinesBy.now (P := HOp ta) (fun _ => HOp.ne_step) h

theorem ERef.inv {ta : List Int} {s s' : Env} (h : ERef ta s s') (hi : C01.Inv s) : C01.Inv s' :=
  C01W.RefinesBy.inv (P := HOp ta) h hi

/-- Every tracked event carries the asset id of a scheduler or sensor. -/
def QI (ta : List Int) (s : Env) : Prop :=
  ∀ e ∈ s.events ++ s.paused, tracked e = true → e.asset ∈ ta

theorem filter_filter_not_of {l : List Event} {a : Int} {ta : List Int} (ha : a ∉ ta)
    (h : ∀ e ∈ l, tracked e = true → e.asset ∈ ta) :
    (l.filter (fun e => !(e.asset == a))).filter tracked = l.filter tracked ∧
    (l.filter (fun e => e.asset == a)).filter tracked = [] := by
  induction l with
  | nil => exact ⟨rfl, rfl⟩
  | cons e l ih =>
    have ih' := ih (fun e' he' => h e' (List.mem_cons_of_mem _ he'))
    by_cases ht : tracked e = true
    · have hne : (e.asset == a) = false := by
        have := h e List.mem_cons_self ht
        simp only [beq_eq_false_iff_ne, ne_eq]
        intro he; rw [he] at this; exact ha this
      simp only [List.filter_cons, hne, Bool.not_false, if_true, Bool.false_eq_true, if_false, ht]
      exact ⟨by rw [ih'.1], ih'.2⟩
    · by_cases hea : (e.asset == a) = true
      · simp only [List.filter_cons, hea, Bool.not_true, Bool.false_eq_true, if_false, if_true, ht]
        exact ih'
      · simp only [List.filter_cons, hea, Bool.not_false, if_true, Bool.false_eq_true, if_false, ht]
        exact ih'

theorem tracked_cancelIf (a : Int) (e : Event) : tracked (e.cancelIf a) = tracked e := by
  unfold Event.cancelIf tracked; split <;> rfl

theorem filter_map_cancelIf {l : List Event} {a : Int} {ta : List Int} (ha : a ∉ ta)
    (h : ∀ e ∈ l, tracked e = true → e.asset ∈ ta) :
    (l.map (Event.cancelIf a)).filter tracked = l.filter tracked := by
  induction l with
  | nil => rfl
  | cons e l ih =>
    have ih' := ih (fun e' he' => h e' (List.mem_cons_of_mem _ he'))
    simp only [List.map_cons, List.filter_cons, tracked_cancelIf]
    by_cases ht : tracked e = true
    · have hne : (e.asset == a) = false := by
        have := h e List.mem_cons_self ht
        simp only [beq_eq_false_iff_ne, ne_eq]
        intro he; rw [he] at this; exact ha this
      have : e.cancelIf a = e := by simp [Event.cancelIf, hne]
      simp only [ht, if_true, this, ih']
    · simp only [ht, Bool.false_eq_true, if_false, ih']

theorem mem_of_filter_eq {l l' : List Event} (h : l'.filter tracked = l.filter tracked) {e : Event}
    (he : e ∈ l') (ht : tracked e = true) : e ∈ l := by
  have : e ∈ l'.filter tracked := List.mem_filter.mpr ⟨he, ht⟩
  rw [h] at this
  exact (List.mem_filter.mp this).1

/-- A harmless operation keeps the tracked events exactly as they are. -/
theorem hop_apply {ta : List Int} {op : EnvOp} (h : HOp ta op) (s : Env) (hq : QI ta s) :
    ((s.apply Arith.exact op).1.events.filter tracked = s.events.filter tracked ∧
     (s.apply Arith.exact op).1.paused.filter tracked = s.paused.filter tracked) := by
  have hqe : ∀ e ∈ s.events, tracked e = true → e.asset ∈ ta :=
    fun e he => hq e (List.mem_append.mpr (Or.inl he))
  have hqp : ∀ e ∈ s.paused, tracked e = true → e.asset ∈ ta :=
    fun e he => hq e (List.mem_append.mpr (Or.inr he))
  cases op with
  | step => exact False.elim h
  | runBegin d w => exact False.elim h
  | sched t a act p w =>
    simp only [Env.apply]
    cases hs : s.schedule t a act p w with
    | none => exact ⟨rfl, rfl⟩
    | some s' =>
      obtain ⟨_, rfl⟩ := Env.schedule_some.mp hs
      exact ⟨C06W.filter_insort_neg _ _ _ h, rfl⟩
  | pause a =>
    have ha : a ∉ ta := h
    have := filter_filter_not_of ha hqe
    simp only [Env.apply, Env.pause]
    refine ⟨this.1, ?_⟩
    rw [List.filter_append]
    have h2 : ((s.events.filter (fun e => e.asset == a)).map
        (fun e => { e with pausedAt := some s.now })).filter tracked = [] := by
      apply filter_eq_nil_of_forall
      intro e he
      obtain ⟨e0, he0, rfl⟩ := List.mem_map.mp he
      have hm := List.mem_filter.mp he0
      cases ht : tracked e0 with
      | false => exact ht
      | true =>
        have := hqe e0 hm.1 ht
        have hea : e0.asset = a := by simpa using hm.2
        rw [hea] at this
        exact absurd this ha
    rw [h2, List.append_nil]
  | unpause a =>
    have ha : a ∉ ta := h
    have := filter_filter_not_of ha hqp
    simp only [Env.apply, Env.unpause]
    refine ⟨?_, this.1⟩
    rw [foldl_insort_map, C06W.filter_insortAll_neg]
    intro e he
    obtain ⟨e0, he0, rfl⟩ := List.mem_map.mp he
    have hm := List.mem_filter.mp he0
    cases ht : tracked e0 with
    | false => exact ht
    | true =>
      have := hqp e0 hm.1 ht
      have hea : e0.asset = a := by simpa using hm.2
      rw [hea] at this
      exact absurd this ha
  | cancel a =>
    have ha : a ∉ ta := h
    simp only [Env.apply, Env.cancel]
    exact ⟨filter_map_cancelIf ha hqe, filter_map_cancelIf ha hqp⟩

theorem qi_of_filters {ta : List Int} {s s' : Env} (hq : QI ta s)
    (he : s'.events.filter tracked = s.events.filter tracked)
    (hp : s'.paused.filter tracked = s.paused.filter tracked) : QI ta s' := by
  intro e hm ht
  rcases List.mem_append.mp hm with hm | hm
  · exact hq e (List.mem_append.mpr (Or.inl (mem_of_filter_eq he hm ht))) ht
  · exact hq e (List.mem_append.mpr (Or.inr (mem_of_filter_eq hp hm ht))) ht

/-- Harmless operations keep the tracked events exactly as they are. -/
theorem ERef.filters {ta : List Int} {s s' : Env} (h : ERef ta s s') (hq : QI ta s) :
    s'.events.filter tracked = s.events.filter tracked ∧
    s'.paused.filter tracked = s.paused.filter tracked ∧ QI ta s' := by
  obtain ⟨l, hl, rfl⟩ := h
  induction l generalizing s with
  | nil => exact ⟨rfl, rfl, hq⟩
  | cons op l ih =>
    rw [C01W.applyAll_cons_fst]
    have h1 := hop_apply (hl op List.mem_cons_self) s hq
    have hq1 := qi_of_filters hq h1.1 h1.2
    have h2 := ih hq1 (fun o ho => hl o (List.mem_cons_of_mem _ ho))
    exact ⟨h2.1.trans h1.1, h2.2.1.trans h1.2, h2.2.2⟩

/-! ### the static conditions and the frame relation -/

/-- A scripted operation of the static class: it does not pause / resume / cancel the asset id
of a scheduler or sensor, and it creates no asset. -/
def opOK (ta : List Int) : Op → Bool
  | .pause a => !ta.contains a
  | .unpause a => !ta.contains a
  | .cancel a => !ta.contains a
  | .create _ => false
  | _ => true

/-- The static conditions on a key: asset ids of schedulers and sensors differ from 0 (the id an
operation on a non-existent device would use) and from every device id; the scripts are in the
static class. -/
structure StatC (c : TK) : Prop where
  aids : ∀ a ∈ c.ta, a ≠ 0 ∧ ∀ k ∈ c.dk, k.1 ≠ a
  scr : ∀ l ∈ c.scripts, ∀ op ∈ l, opOK c.ta op = true

theorem StatC.of_cstat {a b : TK} (h : cstat b = cstat a) (hs : StatC a) : StatC b := by
  refine ⟨?_, ?_⟩
  · rw [ta_of_cstat h, dk_of_cstat h]; exact hs.aids
  · rw [ta_of_cstat h, scripts_of_cstat h]; exact hs.scr

structure Stat (w : World) : Prop where
  c : StatC (tk w)
  qi : QI (tk w).ta w.env

/-- The asset id of device `x` (0 if there is no such device) is not the id of a scheduler or
sensor. -/
theorem Stat.dev_aid {w : World} (h : Stat w) (x : Nat) : (w.dev x).aid ∉ (tk w).ta := by
  intro hm
  have := h.c.aids _ hm
  unfold World.dev at hm this
  rw [List.getD_eq_getElem?_getD] at hm this
  cases hx : w.devs[x]? with
  | none =>
    rw [hx] at this
    exact this.1 rfl
  | some d =>
    rw [hx] at this
    simp only [Option.getD_some] at this
    exact this.2 (dkey d) (List.mem_map.mpr ⟨d, List.mem_of_getElem? hx, rfl⟩) rfl

/-- **The frame relation.**  Under the static conditions, the event queue of `w'` is that of `w`
after harmless operations and the tracked key moved by abstract steps. -/
def Fr (w w' : World) : Prop :=
  Stat w → ERef (tk w).ta w.env w'.env ∧ CRun (tk w) (tk w')

theorem Stat.fr {w w' : World} (h : Stat w) (hf : Fr w w') : Stat w' := by
  obtain ⟨he, hc⟩ := hf h
  have hcs := hc.cstat
  refine ⟨h.c.of_cstat hcs, ?_⟩
  rw [ta_of_cstat hcs]
  exact (he.filters h.qi).2.2

theorem Fr.refl (w : World) : Fr w w := fun _ => ⟨ERef.refl _ _, CRun.refl _⟩

theorem Fr.trans {a b c : World} (h1 : Fr a b) (h2 : Fr b c) : Fr a c := fun g => by
  have g1 := h1 g
  have gb := g.fr h1
  have g2 := h2 gb
  rw [ta_of_cstat g1.2.cstat] at g2
  exact ⟨g1.1.trans g2.1, g1.2.trans g2.2⟩

/-- What the frame argument observes of a world. -/
def view (w : World) : Env × TK := (w.env, tk w)

theorem view_env {w w' : World} (h : view w' = view w) : w'.env = w.env := congrArg Prod.fst h
theorem view_tk {w w' : World} (h : view w' = view w) : tk w' = tk w := congrArg Prod.snd h

theorem Fr.of_view {w w' : World} (h : view w' = view w) : Fr w w' := fun _ =>
  ⟨ERef.of_eq (view_env h), CRun.of_eq (view_tk h)⟩

theorem Fr.trans_view {a b c : World} (h1 : Fr a b) (h : view c = view b) : Fr a c :=
  h1.trans (Fr.of_view h)

theorem Fr.with_stat {w w' : World} (h : Stat w → Fr w w') : Fr w w' := fun g => h g g

theorem Fr.foldl {α} (g : World → α → World) (l : List α) (w : World)
    (h : ∀ w a, Fr w (g w a)) : Fr w (l.foldl g w) := by
  induction l generalizing w with
  | nil => exact Fr.refl w
  | cons a l ih => exact (h w a).trans (ih _)

/-- One abstract step with the event queue untouched. -/
theorem Fr.of_cstep {w w' : World} (he : w'.env = w.env) (hc : CStep (tk w) (tk w')) : Fr w w' :=
  fun _ => ⟨ERef.of_eq he, CRun.single hc⟩

/-! ### primitives of `WorldDef` -/

@[simp] theorem view_setErr (w : World) (m : String) : view (w.setErr m) = view w := by
  unfold setErr; split <;> rfl

theorem view_addRes (w : World) (r : Res) (h : trackedRes r = false) :
    view (w.addRes r) = view w := by
  unfold view tk World.addRes
  simp [List.filter_append, h]

theorem view_addRec (w : World) (r : Rec) (h : trackedRec r = false) :
    view (w.addRec r) = view w := by
  unfold view tk World.addRec
  simp [List.filter_append, h]

theorem view_setDev (w : World) (x : Nat) (d : Dev) (h : dkey d = dkey (w.dev x)) :
    view (w.setDev x d) = view w := by
  unfold view tk World.setDev
  simp only
  rw [map_set_of_eq dkey w.devs x d default h]

theorem Fr_setDev (w : World) (x : Nat) (d : Dev) (h : dkey d = dkey (w.dev x)) :
    Fr w (w.setDev x d) := Fr.of_view (view_setDev w x d h)

theorem Fr_modDev (w : World) (x : Nat) (f : Dev → Dev)
    (h : dkey (f (w.dev x)) = dkey (w.dev x)) : Fr w (w.modDev x f) :=
  Fr_setDev w x _ h

theorem tk_sched (w : World) (t a : Int) (act : Action) (p : Int) :
    tk (w.sched t a act p).1 = tk w := by
  unfold World.sched
  simp only [Env.apply]
  cases w.env.schedule t a act.toNat p (weightOf w.seed w.wmod t a act.toNat p) <;> rfl

theorem Fr_sched (w : World) (t a : Int) (act : Action) (p : Int)
    (ha : isTrackedAct act = false) : Fr w (w.sched t a act p).1 := by
  intro _
  refine ⟨?_, CRun.of_eq (tk_sched w t a act p)⟩
  rw [C01W.sched_env]
  exact ERef.one _ (untracked_toNat ha)

theorem schedLib_view (w : World) (t a : Int) (act : Action) (p : Int) :
    view (w.schedLib t a act p) = view (w.sched t a act p).1 := by
  unfold schedLib
  generalize w.sched t a act p = s
  obtain ⟨w', r⟩ := s
  cases r <;> simp

theorem Fr_schedLib (w : World) (t a : Int) (act : Action) (p : Int)
    (ha : isTrackedAct act = false) : Fr w (w.schedLib t a act p) :=
  (Fr_sched w t a act p ha).trans_view (schedLib_view w t a act p)

theorem Fr_envOp (w : World) (op : EnvOp) (h : HOp (tk w).ta op) : Fr w (w.envOp op) :=
  fun _ => ⟨ERef.one _ h, CRun.refl _⟩

theorem Fr_rmEffects (w : World) (recs : List ResRec) (chk : Bool) :
    Fr w (w.rmEffects recs chk) := by
  unfold rmEffects
  dsimp only
  have h : Fr w (recs.foldl (fun w r => w.addRec (.resUpdate r.res w.now r.inUse r.cap)) w) :=
    Fr.foldl _ _ _ fun _ _ => Fr.of_view (view_addRec _ _ rfl)
  split
  · exact h.trans (Fr_schedLib _ _ _ _ _ rfl)
  · exact h

/-! ### the peeling tactic -/

/-- Peel a structure update `{ w with f := v, … }` that leaves the view alone. -/
elab "fr_struct" : tactic => do
  let g ← getMainGoal
  g.withContext do
    let t ← instantiateMVars (← g.getType)
    let_expr Fr a b := t.consumeMData | throwError "fr_struct: not a Fr goal"
    let b := b.consumeMData
    unless b.isAppOfArity ``World.mk 23 do throwError "fr_struct: not a structure instance"
    let r := b.getArg! 0
    let w0 ← match r with
      | .proj _ _ w0 => pure w0
      | _ =>
        if r.isAppOfArity ``World.env 1 then pure (r.getArg! 0)
        else throwError "fr_struct: the environment is changed"
    let newGoal ← mkFreshExprSyntheticOpaqueMVar (← mkAppM ``Fr #[a, w0])
    let eq ← mkEq (← mkAppM ``view #[b]) (← mkAppM ``view #[w0])
    let pf ← mkFreshExprMVar eq
    pf.mvarId!.refl
    g.assign (mkApp5 (mkConst ``Fr.trans_view) a w0 b newGoal pf)
    replaceMainGoal [newGoal.mvarId!]

/-- One step: close the goal, or peel the outermost function application. -/
syntax "fr_step" : tactic

/-- Peel / split until nothing is left. -/
macro "fr_auto" : tactic => `(tactic| repeat' first | fr_step | split)

macro_rules | `(tactic| fr_step) => `(tactic| fr_struct)
macro_rules | `(tactic| fr_step) => `(tactic|
  ((with_reducible apply Fr.trans (h2 := Fr.foldl _ _ _ ?hs)); case hs => (intro _ _; fr_auto; done)))
macro_rules | `(tactic| fr_step) => `(tactic| with_reducible apply Fr.trans (h2 := Fr_rmEffects _ _ _))
macro_rules | `(tactic| fr_step) => `(tactic|
  ((with_reducible apply Fr.trans (h2 := Fr_schedLib _ _ _ _ _ ?ha));
   case ha => exact rfl))
macro_rules | `(tactic| fr_step) => `(tactic| with_reducible apply Fr.trans_view (h := view_setErr _ _))
macro_rules | `(tactic| fr_step) => `(tactic|
  ((with_reducible apply Fr.trans_view (h := view_addRec _ _ ?hr)); case hr => exact rfl))
macro_rules | `(tactic| fr_step) => `(tactic|
  ((with_reducible apply Fr.trans (h2 := Fr_modDev _ _ _ ?hp)); case hp => exact rfl))
macro_rules | `(tactic| fr_step) => `(tactic| with_reducible exact Fr.refl _)

end C18W
end SimProc
