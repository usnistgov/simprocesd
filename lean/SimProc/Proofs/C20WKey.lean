/-
C20W — machinery, part 1: the registration key `RK` of a world (per device kind / asset id /
`inited`, per maintainer asset id / `inited`, per scheduler asset id, per sensor asset id /
`registered`, the number of cms slots, the registration list, `started`, the scripts), the peeling
tactic `rk_step` for the functions of `Model/World.lean`, and `Same.floor`: the atoms of the floor
keep the key (`World.FloorClosed`), hence so does every function of `Model/Floor.lean`
(`Proofs/FloorWalk.lean`).
-/
import SimProc.Model.World
import SimProc.Proofs.FloorCore2
import SimProc.Proofs.FloorSt
import SimProc.Proofs.FloorWalk
import Lean

namespace SimProc
namespace C20W
open World FloorCoreL
open Lean Elab Tactic Meta

/-! ### the key -/

def dk (d : Dev) : Kind × Int × Bool := (d.kind, d.aid, d.inited)
def mk (m : MaintW) : Int × Bool := (m.aid, m.inited)
def sk (s : SensorW) : Int × Bool := (s.aid, s.registered)

structure RKey where
  devs : List (Kind × Int × Bool)
  maints : List (Int × Bool)
  scheds : List Int
  sensors : List (Int × Bool)
  ncms : Nat
  assets : List AssetRef
  started : Bool
  scripts : List (List Op)

def RK (w : World) : RKey :=
  ⟨w.devs.map dk, w.maints.map mk, w.scheds.map (·.aid), w.sensors.map sk, w.cmsSensors.length,
   w.assets, w.started, w.scripts⟩

/-- `w'` has the registration key of `w`. -/
def Same (w w' : World) : Prop := RK w' = RK w

theorem Same.refl (w : World) : Same w w := rfl
theorem Same.trans {a b c : World} (h1 : Same a b) (h2 : Same b c) : Same a c :=
  Eq.trans h2 h1
theorem Same.of_eq {a b : World} (h : RK b = RK a) : Same a b := h
theorem Same.trans_eq {a b c : World} (h1 : Same a b) (h : RK c = RK b) : Same a c :=
  h1.trans h

theorem Same.foldl {α} (g : World → α → World) (l : List α) (w : World)
    (h : ∀ w a, Same w (g w a)) : Same w (l.foldl g w) := by
  induction l generalizing w with
  | nil => exact Same.refl w
  | cons a l ih => exact (h w a).trans (ih _)

section fields
variable {w w' : World} (h : Same w w')
include h
theorem Same.devs : w'.devs.map dk = w.devs.map dk := congrArg RKey.devs h
theorem Same.maints : w'.maints.map mk = w.maints.map mk := congrArg RKey.maints h
theorem Same.scheds : w'.scheds.map (·.aid) = w.scheds.map (·.aid) := congrArg RKey.scheds h
theorem Same.sensors : w'.sensors.map sk = w.sensors.map sk := congrArg RKey.sensors h
theorem Same.ncms : w'.cmsSensors.length = w.cmsSensors.length := congrArg RKey.ncms h
theorem Same.assets : w'.assets = w.assets := congrArg RKey.assets h
theorem Same.started : w'.started = w.started := congrArg RKey.started h
theorem Same.scripts : w'.scripts = w.scripts := congrArg RKey.scripts h
theorem Same.devs_length : w'.devs.length = w.devs.length := by
  have := congrArg List.length h.devs; simpa using this
theorem Same.maints_length : w'.maints.length = w.maints.length := by
  have := congrArg List.length h.maints; simpa using this
theorem Same.scheds_length : w'.scheds.length = w.scheds.length := by
  have := congrArg List.length h.scheds; simpa using this
theorem Same.sensors_length : w'.sensors.length = w.sensors.length := by
  have := congrArg List.length h.sensors; simpa using this
theorem Same.dk (x : Nat) : dk (w'.dev x) = dk (w.dev x) := by
  have h1 := h.devs
  unfold World.dev
  have e : ∀ l : List Dev, C20W.dk (l.getD x default) = (l.map C20W.dk).getD x (C20W.dk default) :=
    fun l => (getD_map C20W.dk l x default).symm
  rw [e, e, h1]
theorem Same.mk (x : Nat) : mk (w'.maints.getD x default) = mk (w.maints.getD x default) := by
  have h1 := h.maints
  have e : ∀ l : List MaintW, C20W.mk (l.getD x default) = (l.map C20W.mk).getD x (C20W.mk default) :=
    fun l => (getD_map C20W.mk l x default).symm
  rw [e, e, h1]
theorem Same.sk (x : Nat) : sk (w'.sensors.getD x default) = sk (w.sensors.getD x default) := by
  have h1 := h.sensors
  have e : ∀ l : List SensorW, C20W.sk (l.getD x default) = (l.map C20W.sk).getD x (C20W.sk default) :=
    fun l => (getD_map C20W.sk l x default).symm
  rw [e, e, h1]
theorem Same.schedAid (x : Nat) : (w'.scheds.getD x default).aid = (w.scheds.getD x default).aid := by
  have h1 := h.scheds
  have e : ∀ l : List SchedW, (l.getD x default).aid = (l.map (·.aid)).getD x (default : SchedW).aid :=
    fun l => (getD_map (fun s : SchedW => s.aid) l x default).symm
  rw [e, e, h1]
theorem Same.kind (x : Nat) : (w'.dev x).kind = (w.dev x).kind := congrArg (·.1) (h.dk x)
theorem Same.aid (x : Nat) : (w'.dev x).aid = (w.dev x).aid := congrArg (·.2.1) (h.dk x)
theorem Same.inited (x : Nat) : (w'.dev x).inited = (w.dev x).inited := congrArg (·.2.2) (h.dk x)
end fields

/-! ### the registration invariant (on keys) -/

/-- A constructor-fresh asset description: not initialised yet. -/
def specFresh : AssetSpec → Bool
  | .dev d => !d.inited
  | .sensor s => !s.registered
  | _ => true

/-- Scripted operations whose `create` payloads are constructor-fresh. -/
def opFresh : Op → Bool
  | .create spec => specFresh spec
  | _ => true

@[simp] theorem blt_eq_false_iff (a b : Nat) : Nat.blt a b = false ↔ b ≤ a := by
  rw [Bool.eq_false_iff]; simp [Nat.blt_eq]

/-- A cms reference. -/
def _root_.SimProc.AssetRef.isCms : AssetRef → Bool
  | .cms _ => true
  | _ => false

namespace RKey

/-- The reference points to an existing component. -/
def valid (k : RKey) : AssetRef → Bool
  | .dev d => Nat.blt d k.devs.length
  | .maint m => Nat.blt m k.maints.length
  | .sched s => Nat.blt s k.scheds.length
  | .sensor s => Nat.blt s k.sensors.length
  | .cms c => Nat.blt c k.ncms

/-- The asset id of a registered asset (the model keeps none for a cms). -/
def aidOf (k : RKey) : AssetRef → Option Int
  | .dev d => k.devs[d]?.map (·.2.1)
  | .maint m => k.maints[m]?.map (·.1)
  | .sched s => k.scheds[s]?
  | .sensor s => k.sensors[s]?.map (·.1)
  | .cms _ => none

/-- The "has been initialised" flag of a registered asset (`inited` of a device or maintainer,
`registered` of a sensor; schedulers and cms keep none). -/
def flagOf (k : RKey) : AssetRef → Option Bool
  | .dev d => k.devs[d]?.map (·.2.2)
  | .maint m => k.maints[m]?.map (·.2)
  | .sensor s => k.sensors[s]?.map (·.2)
  | _ => none

/-- What `initAsset` does to the key: the flag is raised. -/
def init (k : RKey) : AssetRef → RKey
  | .dev d => { k with devs := k.devs.modify d (fun x => (x.1, x.2.1, true)) }
  | .maint m => { k with maints := k.maints.modify m (fun x => (x.1, true)) }
  | .sensor s => { k with sensors := k.sensors.modify s (fun x => (x.1, true)) }
  | _ => k

/-- What the constructors do to the key: one component, one registration entry, asset id =
registration index + 1. -/
def pushDev (k : RKey) (kd : Kind) (b : Bool) : RKey :=
  { k with devs := k.devs ++ [(kd, (k.assets.length : Int) + 1, b)],
           assets := k.assets ++ [AssetRef.dev k.devs.length] }
def pushMaint (k : RKey) (b : Bool) : RKey :=
  { k with maints := k.maints ++ [((k.assets.length : Int) + 1, b)],
           assets := k.assets ++ [AssetRef.maint k.maints.length] }
def pushSched (k : RKey) : RKey :=
  { k with scheds := k.scheds ++ [(k.assets.length : Int) + 1],
           assets := k.assets ++ [AssetRef.sched k.scheds.length] }
def pushSensor (k : RKey) (b : Bool) : RKey :=
  { k with sensors := k.sensors ++ [((k.assets.length : Int) + 1, b)],
           assets := k.assets ++ [AssetRef.sensor k.sensors.length] }
def pushCms (k : RKey) : RKey :=
  { k with ncms := k.ncms + 1, assets := k.assets ++ [AssetRef.cms k.ncms] }

end RKey

/-- **The registration invariant**, on keys. -/
structure RegK (k : RKey) : Prop where
  /-- no asset is registered twice -/
  nodup : k.assets.Nodup
  /-- every registration entry points to an existing component -/
  valid : ∀ a ∈ k.assets, k.valid a = true
  /-- every constructed device / maintainer / scheduler / sensor is registered (cms slots can also
  be opened by `add_sensor`) -/
  complete : ∀ a, k.valid a = true → a.isCms = false → a ∈ k.assets
  /-- asset id = registration index + 1 -/
  aid : ∀ i (h : i < k.assets.length), ∀ x, k.aidOf k.assets[i] = some x → x = (i : Int) + 1
  /-- initialised exactly when the system has started simulating -/
  flag : ∀ a ∈ k.assets, ∀ b, k.flagOf a = some b → b = k.started
  /-- scripts construct fresh assets only -/
  scripts : ∀ l ∈ k.scripts, ∀ op ∈ l, opFresh op = true

/-- The registration invariant of a world. -/
def Reg (w : World) : Prop := RegK (RK w)

/-- `w'` keeps the registration invariant of `w`, the `started` flag, and every registration entry
(the registration list only grows at its end). -/
def Pv (w w' : World) : Prop := Reg w → Reg w' ∧ w'.started = w.started ∧ w.assets <+: w'.assets

theorem Pv.refl (w : World) : Pv w w := fun h => ⟨h, rfl, List.prefix_refl _⟩
theorem Pv.trans {a b c : World} (h1 : Pv a b) (h2 : Pv b c) : Pv a c := fun h =>
  have g1 := h1 h
  have g2 := h2 g1.1
  ⟨g2.1, g2.2.1.trans g1.2.1, g1.2.2.trans g2.2.2⟩
theorem Pv.of_same {a b : World} (h : Same a b) : Pv a b := fun r =>
  ⟨by unfold Reg at *; rw [h]; exact r, h.started, by rw [h.assets]; exact List.prefix_refl _⟩
theorem Pv.trans_same {a b c : World} (h1 : Pv a b) (h2 : Same b c) : Pv a c :=
  h1.trans (Pv.of_same h2)
theorem Pv.trans_eq {a b c : World} (h1 : Pv a b) (h : RK c = RK b) : Pv a c :=
  h1.trans_same h
theorem Pv.with_reg {w w' : World} (h : Reg w → Pv w w') : Pv w w' := fun r => h r r

theorem Pv.foldl {α} (g : World → α → World) (l : List α) (w : World)
    (h : ∀ w a, Pv w (g w a)) : Pv w (l.foldl g w) := by
  induction l generalizing w with
  | nil => exact Pv.refl w
  | cons a l ih => exact (h w a).trans (ih _)

theorem Pv.of_fst_eq {α} {w w' : World} {e : World × α} {b : α} (he : Pv w e.1)
    (h : e = (w', b)) : Pv w w' := by
  subst h; exact he

/-! ### primitives of `WorldDef` -/

@[simp] theorem RK_setErr (w : World) (m : String) : RK (w.setErr m) = RK w := by
  unfold setErr; split <;> rfl
@[simp] theorem RK_addRes (w : World) (r : Res) : RK (w.addRes r) = RK w := rfl
@[simp] theorem RK_addRec (w : World) (r : Rec) : RK (w.addRec r) = RK w := rfl
@[simp] theorem RK_modPart (w : World) (p : Nat) (f : PartRec → PartRec) :
    RK (w.modPart p f) = RK w := rfl
@[simp] theorem RK_newPart (w : World) (r : PartRec) : RK (w.newPart r).1 = RK w := rfl
@[simp] theorem RK_envOp (w : World) (op : EnvOp) : RK (w.envOp op) = RK w := rfl

theorem RK_setDev (w : World) (x : Nat) (d : Dev) (h : dk d = dk (w.dev x)) :
    RK (w.setDev x d) = RK w := by
  unfold RK World.setDev
  simp only
  rw [map_set_of_eq dk w.devs x d default h]

theorem RK_modDev (w : World) (x : Nat) (f : Dev → Dev) (h : dk (f (w.dev x)) = dk (w.dev x)) :
    RK (w.modDev x f) = RK w := RK_setDev w x _ h

theorem RK_sched (w : World) (t a : Int) (act : Action) (p : Int) :
    RK (w.sched t a act p).1 = RK w := by
  unfold World.sched
  simp only [Env.apply]
  cases w.env.schedule t a act.toNat p (weightOf w.seed w.wmod t a act.toNat p) <;> rfl

theorem RK_schedLib (w : World) (t a : Int) (act : Action) (p : Int) :
    RK (w.schedLib t a act p) = RK w := by
  have h := RK_sched w t a act p
  unfold schedLib
  generalize w.sched t a act p = s at h
  obtain ⟨w', r⟩ := s
  cases r <;> simp_all

theorem RK_foldl {α} (g : World → α → World) (l : List α) (w : World)
    (h : ∀ w a, RK (g w a) = RK w) : RK (l.foldl g w) = RK w :=
  foldl_preserve RK g l w h

theorem RK_rmEffects (w : World) (recs : List ResRec) (chk : Bool) :
    RK (w.rmEffects recs chk) = RK w := by
  unfold rmEffects
  dsimp only
  have h : RK (recs.foldl (fun w r => w.addRec (.resUpdate r.res w.now r.inUse r.cap)) w) = RK w :=
    RK_foldl _ _ _ (fun _ _ => rfl)
  split
  · rw [RK_schedLib, h]
  · exact h

theorem RK_setSensor (w : World) (s : Nat) (x : SensorW) (h : sk x = sk (w.sensors.getD s default)) :
    RK ({ w with sensors := w.sensors.set s x } : World) = RK w := by
  unfold RK
  simp only
  rw [map_set_of_eq sk w.sensors s x default h]

theorem RK_setSensor2 (w : World) (s : Nat) (a b : SensorW)
    (_ha : sk a = sk (w.sensors.getD s default)) (hb : sk b = sk (w.sensors.getD s default)) :
    RK ({ w with sensors := (w.sensors.set s a).set s b } : World) = RK w := by
  unfold RK
  simp only
  rw [List.set_set, map_set_of_eq sk w.sensors s b default hb]

theorem RK_setSched (w : World) (s : Nat) (x : SchedW) (h : x.aid = (w.scheds.getD s default).aid) :
    RK ({ w with scheds := w.scheds.set s x } : World) = RK w := by
  unfold RK
  simp only
  rw [map_set_of_eq (fun s : SchedW => s.aid) w.scheds s x default h]

theorem RK_setMaint (w : World) (m : Nat) (x : MaintW) (h : mk x = mk (w.maints.getD m default)) :
    RK ({ w with maints := w.maints.set m x } : World) = RK w := by
  unfold RK
  simp only
  rw [map_set_of_eq mk w.maints m x default h]

/-! ### the peeling tactic -/

/-- Peel a structure update `{ w with f := v, … }` that leaves the key alone. -/
elab "rk_struct" : tactic => do
  let g ← getMainGoal
  g.withContext do
    let t ← instantiateMVars (← g.getType)
    let_expr Same a b := t.consumeMData | throwError "rk_struct: not a Same goal"
    let b := b.consumeMData
    unless b.isAppOfArity ``World.mk 23 do throwError "rk_struct: not a structure instance"
    let r := b.getArg! 18
    let w0 ← match r with
      | .proj _ _ w0 => pure w0
      | _ =>
        if r.isAppOfArity ``World.assets 1 then pure (r.getArg! 0)
        else throwError "rk_struct: the registration list is changed"
    let newGoal ← mkFreshExprSyntheticOpaqueMVar (← mkAppM ``Same #[a, w0])
    let eq ← mkEq (← mkAppM ``RK #[b]) (← mkAppM ``RK #[w0])
    let pf ← mkFreshExprMVar eq
    pf.mvarId!.refl
    g.assign (mkApp5 (mkConst ``Same.trans_eq) a w0 b newGoal pf)
    replaceMainGoal [newGoal.mvarId!]

/-- The same for `Pv` goals. -/
elab "pv_struct" : tactic => do
  let g ← getMainGoal
  g.withContext do
    let t ← instantiateMVars (← g.getType)
    let_expr Pv a b := t.consumeMData | throwError "pv_struct: not a Pv goal"
    let b := b.consumeMData
    unless b.isAppOfArity ``World.mk 23 do throwError "pv_struct: not a structure instance"
    let r := b.getArg! 18
    let w0 ← match r with
      | .proj _ _ w0 => pure w0
      | _ =>
        if r.isAppOfArity ``World.assets 1 then pure (r.getArg! 0)
        else throwError "pv_struct: the registration list is changed"
    let newGoal ← mkFreshExprSyntheticOpaqueMVar (← mkAppM ``Pv #[a, w0])
    let eq ← mkEq (← mkAppM ``RK #[b]) (← mkAppM ``RK #[w0])
    let pf ← mkFreshExprMVar eq
    pf.mvarId!.refl
    g.assign (mkApp5 (mkConst ``Pv.trans_eq) a w0 b newGoal pf)
    replaceMainGoal [newGoal.mvarId!]

/-- One step: close the goal, or peel the outermost function application. -/
syntax "rk_step" : tactic
syntax "pv_step" : tactic

/-- Peel / split until nothing is left. -/
macro "rk_auto" : tactic => `(tactic| repeat' first | rk_step | split)
macro "pv_auto" : tactic => `(tactic| repeat' first | pv_step | split)

/-- Register `t : Same _ (f …)` as a peeling step of both tactics. -/
macro "same_rule " t:term : command =>
  `(macro_rules | `(tactic| rk_step) => `(tactic| with_reducible apply Same.trans (h2 := $t))
    macro_rules | `(tactic| pv_step) => `(tactic| with_reducible apply Pv.trans_same (h2 := $t)))

/-- Register `t : RK (f …) = RK _` as a peeling step of both tactics. -/
macro "eq_rule " t:term : command =>
  `(macro_rules | `(tactic| rk_step) => `(tactic| with_reducible apply Same.trans_eq (h := $t))
    macro_rules | `(tactic| pv_step) => `(tactic| with_reducible apply Pv.trans_eq (h := $t)))

/-- The same with one side goal closed by `rfl`. -/
macro "eq_rule1 " t:term : command =>
  `(macro_rules | `(tactic| rk_step) => `(tactic|
      ((with_reducible apply Same.trans_eq (h := $t)); case hp => exact rfl))
    macro_rules | `(tactic| pv_step) => `(tactic|
      ((with_reducible apply Pv.trans_eq (h := $t)); case hp => exact rfl)))

macro_rules | `(tactic| rk_step) => `(tactic| rk_struct)
macro_rules | `(tactic| pv_step) => `(tactic| pv_struct)
macro_rules | `(tactic| rk_step) => `(tactic|
  ((with_reducible apply Same.trans (h2 := Same.foldl _ _ _ ?hs)); case hs => (intro _ _; rk_auto; done)))
macro_rules | `(tactic| pv_step) => `(tactic|
  ((with_reducible apply Pv.trans (h2 := Pv.foldl _ _ _ ?hs)); case hs => (intro _ _; pv_auto; done)))
eq_rule RK_rmEffects _ _ _
eq_rule RK_envOp _ _
eq_rule RK_schedLib _ _ _ _ _
eq_rule RK_setErr _ _
eq_rule RK_addRes _ _
eq_rule RK_addRec _ _
eq_rule1 RK_modDev _ _ _ ?hp
eq_rule1 RK_setSensor _ _ _ ?hp
macro_rules | `(tactic| rk_step) => `(tactic|
  ((with_reducible apply Same.trans_eq (h := RK_setSensor2 _ _ _ _ ?ha ?hb)); (case ha => exact rfl); (case hb => exact rfl)))
eq_rule1 RK_setSched _ _ _ ?hp
eq_rule1 RK_setMaint _ _ _ ?hp
macro_rules | `(tactic| rk_step) => `(tactic| with_reducible exact Same.refl _)
macro_rules | `(tactic| pv_step) => `(tactic| with_reducible exact Pv.refl _)

/-! ### `Model/Floor.lean`

The key reads the asset id and the `registered` flag of every sensor, so it is not blind to the
sensor table as `FloorClosed.ofAtoms` requires: the four functions that write the resource manager,
the sensors and the part table are walked here, every other function of the floor follows from
`Same.floor`. -/

theorem Same_releaseReserved (w : World) (x : Nat) : Same w (w.releaseReserved x) := by
  unfold releaseReserved
  split
  · exact Same.refl _
  · dsimp only
    rk_auto

theorem Same_procAcquire (w : World) (x : Nat) : Same w (w.procAcquire x).1 := by
  unfold procAcquire
  dsimp only
  rk_auto

theorem Same_senseOutput (w : World) (s p : Nat) : Same w (w.senseOutput s p) := by
  unfold senseOutput
  dsimp only
  rk_auto

theorem RK_genPart (w : World) (x : Nat) : RK (w.genPart x).1 = RK w := by
  cases h : ((w.dev x).genBatch == 0)
  · rw [C02V.genPart_batch w x h]; rfl
  · rw [C02V.genPart_leaf w x h]; rfl

/-- Nothing on the factory floor registers, initialises or re-numbers an asset. -/
theorem Same.floor : FloorClosed Same where
  refl := Same.refl
  trans := Same.trans
  setErr := RK_setErr
  addRec w r _ := RK_addRec w r
  addRes w r _ := RK_addRes w r
  setDev w x d h := RK_setDev w x d (congrArg C20W.dk h :)
  modPart := RK_modPart
  newPart := RK_newPart
  schedLib w t a act p _ := RK_schedLib w t a act p
  envOp w op _ := RK_envOp w op
  setDelivered _ _ := rfl
  setLost _ _ := rfl
  releaseReserved := Same_releaseReserved
  procAcquire := Same_procAcquire
  produce w x p _ := World.produce_walk Same.refl Same.trans Same_senseOutput (fun _ _ _ _ _ _ => rfl) w x p
  genPart := RK_genPart

/-! The scripted operations write `blockInput`, `maxParts`, the wiring and `waitingRes`, none of
which is in the key.  (`initDev` raises `inited`: see `RK_initDev`.) -/

theorem Same_procResourceCb (w : World) (x : Nat) : Same w (w.procResourceCb x) :=
  Same.floor.procResourceCb_of (fun w x => RK_setDev w x _ rfl) w x

theorem Same_setBlock (w : World) (x : Nat) (b : Bool) : Same w (w.setBlock x b) :=
  Same.floor.setBlock_of (fun w x _ => RK_setDev w x _ rfl) w x b

theorem Same_adjustParts (w : World) (x : Nat) (v : Int) : Same w (w.adjustParts x v) :=
  Same.floor.adjustParts_of (fun w x _ => RK_setDev w x _ rfl) w x v

theorem Same_rewire (w : World) (x : Nat) (ups : List Nat) : Same w (w.rewire x ups) :=
  Same.floor.rewire_of (fun w x _ _ => RK_setDev w x _ rfl) w x ups

same_rule Same.floor.setWaiting _ _ _ _
same_rule Same.floor.scheduleFinish _ _
same_rule Same.floor.shutdownDev _ _ _ _
same_rule Same.floor.restoreDev _ _
same_rule Same_procResourceCb _ _
same_rule Same_setBlock _ _ _
same_rule Same_adjustParts _ _ _
same_rule Same_rewire _ _ _

end C20W
end SimProc
