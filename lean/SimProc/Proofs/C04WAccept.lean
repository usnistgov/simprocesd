/-
C04 (general serial line) — layer 2: what accepting a part does to the invariant of the accepting
station (handler / processor, sink, buffer).
-/
import SimProc.Proofs.C04WSpec

set_option linter.unusedSimpArgs false
set_option linter.unusedVariables false

namespace SimProc
namespace C04W
open World C04
open SS (Key key cls)


/-! ### end of a cycle (handler, processor) -/

theorem rtj_produced (i : Nat) (recs : List Rec) (d : Nat) (t : Int) (p : Nat) (q v : Int) :
    rtj i (recs ++ [.produced d t p q v]) = rtj i recs := by
  rw [rtj_append]; simp [rtj]

theorem rtj_level (i : Nat) (recs : List Rec) (d : Nat) (t : Int) (n : Nat) :
    rtj i (recs ++ [.level d t n]) = rtj i recs := by
  rw [rtj_append]; simp [rtj]

theorem rtj_supplied (i : Nat) (recs : List Rec) (d : Nat) (t : Int) (p : Nat) :
    rtj i (recs ++ [.supplied d t p]) = rtj i recs := by
  rw [rtj_append]; simp [rtj]

theorem rtj_received (i : Nat) (recs : List Rec) (d : Nat) (t : Int) (p : Nat) (q v : Int) :
    rtj i (recs ++ [.received d t p q v]) = rtj i recs ++ (if d = i then [t] else []) := by
  rw [rtj_append]
  by_cases h : d = i <;> simp [rtj, h]

theorem finishHP_spec {P : Par} {s : S} (hG : Good P s) {j : Nat} (hj : j ≤ P.L.n)
    (hk : kindOf P.L j = .handler ∨ kindOf P.L j = .processor) (p : Nat)
    (hkeys : cls ((j : Int) + 1) s.evs = []) :
    dyn (dv (finishS P s j p) j) = { dyn (dv s j) with output := some p, part := none, wds := false } ∧
    cls ((j : Int) + 1) (finishS P s j p).evs = [(s.now, 28, (j : Int) + 1, 3 + 16 * j, false)] ∧
    (∀ i, rtj i (finishS P s j p).recs = rtj i s.recs) ∧
    Foot P.L [j] s (finishS P s j p) := by
  have hlt := hG.stat.lt hj
  have hkind := (hG.stat.facts hj).kind
  have hG1 : Good P (setD s j { dv s j with output := some p, part := none }) := hG.setD (by rfl)
  have hlt1 : j < (setD s j { dv s j with output := some p, part := none }).ds.length := by simpa using hlt
  have hk1 : cls ((j : Int) + 1) (setD s j { dv s j with output := some p, part := none }).evs = [] := hkeys
  have e1 : dyn (dv (finishHS P s j p) j) =
      { dyn (dv s j) with output := some p, part := none, wds := false } := by
    unfold finishHS
    rw [dyn_passS_same _ _ _ _ hlt1, dv_setD_same _ _ _ hlt]
    rfl
  have e2 : cls ((j : Int) + 1) (finishHS P s j p).evs = [(s.now, 28, (j : Int) + 1, 3 + 16 * j, false)] := by
    unfold finishHS
    rw [cls_passS_same hG1 hj 0 hk1]
    simp
  unfold finishS
  rcases hk with hk | hk <;> rw [hkind, hk] <;> simp only []
  · exact ⟨e1, e2, fun i => rfl, Foot.finishHS hG hj p⟩
  · have hlt2 : j < (finishHS P s j p).ds.length := by simpa [finishHS] using hlt
    refine ⟨?_, e2, fun i => ?_, Foot.finishPS hG hj p⟩
    · unfold finishPS
      simp only [dv_addR]
      rw [dv_setD_same _ _ _ hlt2]
      exact e1
    · unfold finishPS
      simp only [addR_recs, setD_recs]
      rw [rtj_produced]
      rfl

theorem Good.cycle_eq {P : Par} {s : S} (h : Good P s) {j : Nat} (hj : j ≤ P.L.n)
    (hb : isBuf P.L j = false) : (dv s j).cycle = (stn P.L j).c := by
  rw [(h.stat.facts hj).cycle, hb]; rfl

theorem Good.delay_eq {P : Par} {s : S} (h : Good P s) {j : Nat} (hj : j ≤ P.L.n)
    (hb : isBuf P.L j = true) : (dv s j).delay = (stn P.L j).c := by
  rw [(h.stat.facts hj).delay, hb]; rfl

theorem isBuf_hp {L : Line} {j : Nat} (hk : kindOf L j = .handler ∨ kindOf L j = .processor) :
    isBuf L j = false := by
  unfold isBuf; rcases hk with hk | hk <;> rw [hk] <;> rfl

/-- `_schedule_finish_cycle` of a handler / processor. -/
theorem schedFinHP_spec {P : Par} {s : S} (hG : Good P s) (hL : P.L.WF) {i : Nat} (hi : i ≤ P.L.n)
    (hk : kindOf P.L i = .handler ∨ kindOf P.L i = .processor) (p : Nat)
    (hkeys : cls ((i : Int) + 1) s.evs = []) :
    dyn (dv (schedFinS P s i p) i) =
      (if 0 < (stn P.L i).c then dyn (dv s i)
       else { dyn (dv s i) with output := some p, part := none, wds := false }) ∧
    cls ((i : Int) + 1) (schedFinS P s i p).evs =
      (if 0 < (stn P.L i).c then [(s.now + (stn P.L i).c, 32, (i : Int) + 1, 2 + 16 * i, false)]
       else [(s.now, 28, (i : Int) + 1, 3 + 16 * i, false)]) ∧
    (∀ i', rtj i' (schedFinS P s i p).recs = rtj i' s.recs) ∧
    Foot P.L [i] s (schedFinS P s i p) := by
  have hc := hG.cycle_eq hi (isBuf_hp hk)
  unfold schedFinS
  rw [hc]
  by_cases hpos : 0 < (stn P.L i).c
  · rw [if_neg (by omega), if_pos hpos, if_pos hpos, hG.aid hi]
    refine ⟨rfl, ?_, fun _ => rfl, Foot.push P s i _ _ _ hi (by omega)⟩
    exact SS.cls_insort_eq _ _ _ rfl hkeys
  · rw [if_pos (by omega), if_neg hpos, if_neg hpos]
    exact finishHP_spec hG hi hk p hkeys

/-- A handler / processor accepts a part. -/
theorem acceptHP_spec {P : Par} {s : S} (hG : Good P s) (hL : P.L.WF) {i : Nat} (h1 : 1 ≤ i)
    (hi : i < P.L.n) (hk : kindOf P.L i = .handler ∨ kindOf P.L i = .processor) (p : Nat)
    {xp xi xn : Nat} (hkeys : cls ((i : Int) + 1) s.evs = [])
    (hpd : PD P.L s.now i (dyn (dv s i)) xp xi xn .idle)
    (hent : rtj i s.recs = (List.range xp).map (fun k => dI P.L (i - 1) (k + 1)))
    (hE : dI P.L (i - 1) (xp + 1) = s.now) :
    cls ((i : Int) + 1) (acceptS P s i p).evs =
      keysOf P.L i xi (if 0 < (stn P.L i).c then .proc else .ready s.now) ∧
    PD P.L s.now i (dyn (dv (acceptS P s i p) i)) (xp + 1) xi xn
      (if 0 < (stn P.L i).c then .proc else .ready s.now) ∧
    rtj i (acceptS P s i p).recs = (List.range (xp + 1)).map (fun k => dI P.L (i - 1) (k + 1)) ∧
    Foot P.L [i] s (acceptS P s i p) := by
  have hle := Nat.le_of_lt hi
  have hlt := hG.stat.lt hle
  have hkind := (hG.stat.facts hle).kind
  obtain ⟨_, hxx⟩ := hpd.idle rfl
  have hsl := (Slots_hp hk _ _ _ _).1 hpd.slots
  have hw : (dv s i).waitingDS = false := by
    have := hpd.wds; simp [dyn] at this; exact this
  have hpart : (dv s i).part = none := by
    have := hsl.1; simp [dyn] at this; exact this
  have hout : (dv s i).output = none := by
    have := hsl.2; simp [dyn] at this; exact this
  have heI : eI P.L i (xi + 1) = s.now := by
    obtain ⟨i', rfl⟩ : ∃ i', i = i' + 1 := ⟨i - 1, by omega⟩
    rw [eI_succ, ← hxx]; exact hE
  -- common conclusion from the scheduling step
  have fin : ∀ s2 : S, Good P s2 → s2.evs = s.evs →
      dyn (dv s2 i) = { dyn (dv s i) with part := some p } → s2.now = s.now →
      rtj i s2.recs = rtj i s.recs ++ [s.now] → Foot P.L [i] s s2 →
      cls ((i : Int) + 1) (schedFinS P s2 i p).evs =
        keysOf P.L i xi (if 0 < (stn P.L i).c then .proc else .ready s.now) ∧
      PD P.L s.now i (dyn (dv (schedFinS P s2 i p) i)) (xp + 1) xi xn
        (if 0 < (stn P.L i).c then .proc else .ready s.now) ∧
      rtj i (schedFinS P s2 i p).recs = (List.range (xp + 1)).map (fun k => dI P.L (i - 1) (k + 1)) ∧
      Foot P.L [i] s (schedFinS P s2 i p) := by
    intro s2 hG2 he2 hd2 hn2 hr2 F2
    have hk2 : cls ((i : Int) + 1) s2.evs = [] := by rw [he2]; exact hkeys
    obtain ⟨e1, e2, e3, F3⟩ := schedFinHP_spec hG2 hL hle hk p hk2
    refine ⟨?_, ?_, ?_, F2.trans F3⟩
    · rw [e2, hn2]
      by_cases hpos : 0 < (stn P.L i).c
      · simp only [hpos, if_true, keysOf, heI]
      · simp only [hpos, if_false, keysOf]
    · rw [e1, hd2]
      have hcap1 := effCap_nonbuf P.L hle (isBuf_hp hk)
      by_cases hpos : 0 < (stn P.L i).c
      · simp only [hpos, if_true]
        exact { past := hpd.past, le := fun _ => by omega,
                cap := (by intro _ K hK; rw [hcap1] at hK; cases hK; omega),
                idle := (by intro h; cases h), nonidle := fun _ _ => by omega,
                procm := fun _ => ⟨isBuf_hp hk, hpos⟩, readym := (by intro t h; cases h),
                blockedm := (by intro h; cases h), exhm := (by intro h; cases h),
                wds := (by simp [dyn, hw]),
                slots := (Slots_hp hk _ _ _ _).2 (by simp [dyn, hout]) }
      · simp only [hpos, if_false]
        have hc0 : (stn P.L i).c = 0 := by have := c_nonneg hL hle; omega
        exact { past := hpd.past, le := fun _ => by omega,
                cap := (by intro _ K hK; rw [hcap1] at hK; cases hK; omega),
                idle := (by intro h; cases h), nonidle := fun _ _ => by omega,
                procm := (by intro h; cases h),
                readym := (by
                  intro t h; cases h
                  refine ⟨hi, by omega, ?_⟩
                  have := dI_ge_ec P.L hL hle xi
                  omega),
                blockedm := (by intro h; cases h), exhm := (by intro h; cases h),
                wds := (by simp),
                slots := (Slots_hp hk _ _ _ _).2 (by simp) }
    · rw [e3, hr2, hent, List.range_succ, List.map_append]
      simp [hE]
  -- the state after the part has been taken and logged
  obtain ⟨s1, hs1⟩ : ∃ s1, s1 = addR (takeS s i p) (.received i s.now p (qual s p i) 0) := ⟨_, rfl⟩
  have hG1 : Good P s1 := by rw [hs1]; exact (hG.takeS i p).addR _
  have he1 : s1.evs = s.evs := by rw [hs1]; rfl
  have hn1 : s1.now = s.now := by rw [hs1]; rfl
  have hdv1 : dv s1 i = { dv s i with part := some p, since := none } := by
    rw [hs1, dv_addR]; exact dv_takeS_same _ _ _ hlt
  have hr1 : rtj i s1.recs = rtj i s.recs ++ [s.now] := by
    rw [hs1, addR_recs, takeS_recs, rtj_received, if_pos rfl]
  have F1 : Foot P.L [i] s s1 := by
    rw [hs1]; exact (Foot.takeS P.L s i p).trans (Foot.addR _ _ _ _ (by simp [RecIn]))
  unfold acceptS
  rw [hkind]
  rcases hk with hk' | hk' <;> rw [hk'] <;> simp only []
  · unfold acceptHS
    rw [← hs1]
    exact fin s1 hG1 he1 (by rw [hdv1]; rfl) hn1 hr1 F1
  · unfold acceptPS
    simp only []
    rw [← hs1]
    exact fin _ (hG1.setD (by rfl)) he1 (by rw [dv_setD_same _ _ _ (hG1.stat.lt hle), hdv1]; rfl) hn1 hr1
      (F1.trans (Foot.setD _ _ _ _))

/-! ### the sink -/

theorem wakeS_quiet (P : Par) (s : S) (u : Nat) (h : (dv s u).waitingDS = false) : wakeS P s u = s := by
  unfold wakeS; rw [h]; rfl

theorem n_pos (L : Line) : 0 < L.n := by unfold Line.n; omega

theorem finishKS_eq {P : Par} {s : S} (hG : Good P s) :
    finishKS P s P.L.n =
      wakeS P (waitS (setD s P.L.n { dv s P.L.n with output := none, part := none }) P.L.n) (P.L.n - 1) := by
  have hlt := hG.stat.lt (Nat.le_refl _)
  have hkind := (hG.stat.facts (Nat.le_refl _)).kind
  unfold finishKS
  refine notifyS_wake P _ (by have := n_pos P.L; omega) ?_
  rw [dv_setD_same _ _ _ hlt]
  intro h
  have : (dv s P.L.n).kind = .buffer := h.1
  rw [hkind, kindOf_n] at this
  cases this

/-- The state of the sink after its cycle: the slot is free. -/
theorem finishKS_self {P : Par} {s : S} (hG : Good P s) :
    dyn (dv (finishKS P s P.L.n) P.L.n) = { dyn (dv s P.L.n) with output := none, part := none } ∧
    cls ((P.L.n : Int) + 1) (finishKS P s P.L.n).evs = cls ((P.L.n : Int) + 1) s.evs ∧
    (finishKS P s P.L.n).recs = s.recs := by
  have hlt := hG.stat.lt (Nat.le_refl _)
  have h := notifyS_self (hG.setD (j := P.L.n) (d := { dv s P.L.n with output := none, part := none }) (by rfl))
    (Nat.le_refl _)
  unfold finishKS
  refine ⟨?_, h.2.1, h.2.2.1⟩
  rw [h.1, dv_setD_same _ _ _ hlt]
  rfl

theorem dI_sink {L : Line} (hL : L.WF) (k : Nat) : dI L L.n (k + 1) = dI L (L.n - 1) (k + 1) + (stn L L.n).c := by
  have hn := n_pos L
  obtain ⟨n', hn'⟩ : ∃ n', L.n = n' + 1 := ⟨L.n - 1, by omega⟩
  have h1 := dI_rec L hL L.n k _ (stations_get L (Nat.le_refl _))
  rw [blockI_beyond L (by omega)] at h1
  have he : eI L L.n (k + 1) = dI L (L.n - 1) (k + 1) := by
    rw [hn']; rfl
  rw [he] at h1
  have hb : (stn L L.n).isBuffer = false := by rw [stn_n]; rfl
  rw [hb] at h1
  have h2 := dI_nonneg L hL (L.n - 1) (k + 1)
  have h3 := c_nonneg hL (Nat.le_refl L.n)
  rw [h1]
  simp only [Bool.false_eq_true, if_false]
  omega

/-- The sink accepts a part. -/
theorem acceptK_spec {P : Par} {s : S} (hG : Good P s) (hL : P.L.WF) (p : Nat)
    {xp xi xn : Nat} (hkeys : cls ((P.L.n : Int) + 1) s.evs = [])
    (hpd : PD P.L s.now P.L.n (dyn (dv s P.L.n)) xp xi xn .idle)
    (hent : rtj P.L.n s.recs = (List.range xp).map (fun k => dI P.L (P.L.n - 1) (k + 1)))
    (hE : dI P.L (P.L.n - 1) (xp + 1) = s.now) (hq : (dv s (P.L.n - 1)).waitingDS = false) :
    cls ((P.L.n : Int) + 1) (acceptS P s P.L.n p).evs =
      keysOf P.L P.L.n (if 0 < (stn P.L P.L.n).c then xi else xi + 1)
        (if 0 < (stn P.L P.L.n).c then .proc else .idle) ∧
    PD P.L s.now P.L.n (dyn (dv (acceptS P s P.L.n p) P.L.n)) (xp + 1)
      (if 0 < (stn P.L P.L.n).c then xi else xi + 1) xn
      (if 0 < (stn P.L P.L.n).c then .proc else .idle) ∧
    rtj P.L.n (acceptS P s P.L.n p).recs =
      (List.range (xp + 1)).map (fun k => dI P.L (P.L.n - 1) (k + 1)) ∧
    Foot P.L [P.L.n] s (acceptS P s P.L.n p) := by
  have hn := n_pos P.L
  have hle := Nat.le_refl P.L.n
  have hlt := hG.stat.lt hle
  have hkind := (hG.stat.facts hle).kind
  have hks := kindOf_n P.L
  obtain ⟨_, hxx⟩ := hpd.idle rfl
  have hsl := (Slots_sink hks _ _ _ _).1 hpd.slots
  have hpart : (dv s P.L.n).part = none := by
    have := hsl.1; simp [dyn] at this; exact this
  have hout : (dv s P.L.n).output = none := hsl.2.1
  have hrc : (dv s P.L.n).recvCount = (xp : Int) := hsl.2.2
  have hw : (dv s P.L.n).waitingDS = false := by
    have := hpd.wds; simp [dyn] at this; exact this
  have hbuf : isBuf P.L P.L.n = false := by unfold isBuf; rw [hks]; rfl
  have hcap1 := effCap_nonbuf P.L hle hbuf
  have hdn := dI_sink hL xi
  -- the state before the cycle is scheduled
  obtain ⟨d0, hd0'⟩ : ∃ d, d = dv (takeS (addDel s p) P.L.n p) P.L.n := ⟨_, rfl⟩
  obtain ⟨s3, hs3⟩ : ∃ s3, s3 = addR (setD (takeS (addDel s p) P.L.n p) P.L.n
      { d0 with recvCount := d0.recvCount + ((1 : Nat) : Int), recvValue := d0.recvValue + 0,
                val := d0.val.addValue lblCollected s.now 0,
                collected := if d0.collect then d0.collected ++ [p] else d0.collected })
      (.received P.L.n s.now p (qual s p P.L.n) 0) := ⟨_, rfl⟩
  have hd0 : d0 = { dv s P.L.n with part := some p, since := none } := by
    rw [hd0']; exact dv_takeS_same (addDel s p) _ p hlt
  have hG3 : Good P s3 := by
    rw [hs3]; exact (((hG.addDel p).takeS _ p).setD (by rw [hd0']; rfl)).addR _
  have hlt0 : P.L.n < (takeS (addDel s p) P.L.n p).ds.length := by simpa using hlt
  have hd3 : dyn (dv s3 P.L.n) = { dyn (dv s P.L.n) with part := some p, recvCount := (xp : Int) + 1 } := by
    rw [hs3, dv_addR, dv_setD_same _ _ _ hlt0, hd0]
    simp [dyn, hrc]
  have F3 : Foot P.L [P.L.n] s s3 := by
    rw [hs3]
    exact (((Foot.addDel P.L _ s p).trans (Foot.takeS P.L _ _ p)).trans (Foot.setD P.L _ _ _)).trans
      (Foot.addR _ _ _ _ (by simp [RecIn]))
  have hn3 : s3.now = s.now := F3.now
  have hk3 : cls ((P.L.n : Int) + 1) s3.evs = [] := by
    rw [hs3, addR_evs, setD_evs, takeS_evs, addDel_evs]; exact hkeys
  have hr3 : rtj P.L.n s3.recs = rtj P.L.n s.recs ++ [s.now] := by
    rw [hs3, addR_recs, setD_recs, takeS_recs, addDel_recs, rtj_received, if_pos rfl]
  have hent' : rtj P.L.n s3.recs = (List.range (xp + 1)).map (fun k => dI P.L (P.L.n - 1) (k + 1)) := by
    rw [hr3, hent, List.range_succ, List.map_append]; simp [hE]
  have hacc : acceptS P s P.L.n p = schedFinS P s3 P.L.n p := by
    unfold acceptS
    rw [hkind, hks, hs3, hd0']
    rfl
  rw [hacc]
  clear hs3 hacc
  have hc := hG3.cycle_eq hle hbuf
  unfold schedFinS
  rw [hc, hn3]
  by_cases hpos : 0 < (stn P.L P.L.n).c
  · simp only [hpos, if_true, if_neg (by omega : ¬ (stn P.L P.L.n).c ≤ 0)]
    rw [hG3.aid hle]
    refine ⟨?_, ?_, hent', F3.trans (Foot.push P s3 _ _ _ _ hle (by rw [hn3]; omega))⟩
    · have heI : eI P.L P.L.n (xi + 1) = s.now := by
        obtain ⟨n', hn'⟩ : ∃ n', P.L.n = n' + 1 := ⟨P.L.n - 1, by omega⟩
        rw [hn', eI_succ, ← hxx]
        have : n' = P.L.n - 1 := by omega
        rw [this]; exact hE
      rw [push_evs]
      refine (SS.cls_insort_eq ((P.L.n : Int) + 1) _ _ rfl hk3).trans ?_
      simp only [keysOf, heI, key_mkEv]
      rfl
    · rw [dv_push, hd3]
      exact { past := hpd.past, le := fun _ => by omega,
              cap := (by intro _ K hK; rw [hcap1] at hK; cases hK; omega),
              idle := (by intro h; cases h), nonidle := fun _ _ => by omega,
              procm := fun _ => ⟨hbuf, hpos⟩, readym := (by intro t h; cases h),
              blockedm := (by intro h; cases h), exhm := (by intro h; cases h),
              wds := (by simp [dyn, hw]),
              slots := (Slots_sink hks _ _ _ _).2 (by simp [dyn, hout]) }
  · have hc0 : (stn P.L P.L.n).c = 0 := by have := c_nonneg hL hle; omega
    simp only [hpos, if_false, if_pos (by omega : (stn P.L P.L.n).c ≤ 0)]
    have hfin : finishS P s3 P.L.n p = finishKS P s3 P.L.n := by
      unfold finishS
      rw [(hG3.stat.facts hle).kind, hks]
    rw [hfin]
    obtain ⟨e1, e2, e3⟩ := finishKS_self hG3
    have hlt3 : P.L.n < s3.ds.length := hG3.stat.lt hle
    have Fk : Foot P.L [P.L.n] s3 (finishKS P s3 P.L.n) := by
      rw [finishKS_eq hG3, wakeS_quiet]
      · exact (Foot.setD P.L _ _ _).trans (Foot.waitS P.L _ _)
      · rw [dv_waitS_ne _ _ _ (by omega), dv_setD_ne _ _ _ _ (by omega), F3.dvj _ (by simp; omega)]
        exact hq
    refine ⟨?_, ?_, by rw [e3]; exact hent', F3.trans Fk⟩
    · rw [e2, hk3]; rfl
    · rw [e1, hd3]
      exact { past := (by rw [hdn, ← hxx, hE, hc0]; omega), le := fun _ => by omega,
              cap := (by intro _ K hK; rw [hcap1] at hK; cases hK; omega),
              idle := fun _ => ⟨by omega, by omega⟩, nonidle := fun _ h => absurd rfl h,
              procm := (by intro h; cases h), readym := (by intro t h; cases h),
              blockedm := (by intro h; cases h), exhm := (by intro h; cases h),
              wds := (by simp [dyn, hw]),
              slots := (Slots_sink hks _ _ _ _).2 (by simp [dyn]) }

/-! ### buffers -/

/-- A notification whose upstream station is not waiting touches only the notifying station. -/
theorem notifyS_quiet {P : Par} {s : S} (hG : Good P s) {i : Nat} (hi : i ≤ P.L.n) (h1 : 1 ≤ i)
    (hq : (dv s (i - 1)).waitingDS = false) : Foot P.L [i] s (notifyS P s i) := by
  unfold notifyS
  split
  · exact Foot.refl _ _ _
  · rw [if_neg (by omega), wakeS_quiet]
    · exact Foot.waitS P.L s i
    · rw [dv_waitS_ne _ _ _ (by omega)]; exact hq

def bufMode (now c : Int) (m : Mode) : Mode := if m = .idle then .ready (now + c) else m

theorem acceptB_spec {P : Par} {s : S} (hG : Good P s) (hL : P.L.WF) {i : Nat} (h1 : 1 ≤ i)
    (hi : i < P.L.n) (hk : kindOf P.L i = .buffer) (p : Nat)
    {xp xi xn : Nat} {m : Mode} (hkeys : cls ((i : Int) + 1) s.evs = keysOf P.L i xi m)
    (hpd : PD P.L s.now i (dyn (dv s i)) xp xi xn m)
    (hent : rtj i s.recs = (List.range xp).map (fun k => dI P.L (i - 1) (k + 1)))
    (hE : dI P.L (i - 1) (xp + 1) = s.now) (hq : (dv s (i - 1)).waitingDS = false)
    (hroom : ∀ K, (stn P.L i).effCap = some K → xp < xi + K) :
    cls ((i : Int) + 1) (acceptS P s i p).evs = keysOf P.L i xi (bufMode s.now (stn P.L i).c m) ∧
    PD P.L s.now i (dyn (dv (acceptS P s i p) i)) (xp + 1) xi xn (bufMode s.now (stn P.L i).c m) ∧
    rtj i (acceptS P s i p).recs = (List.range (xp + 1)).map (fun k => dI P.L (i - 1) (k + 1)) ∧
    Foot P.L [i] s (acceptS P s i p) := by
  have hle := Nat.le_of_lt hi
  have hlt := hG.stat.lt hle
  have hkind := (hG.stat.facts hle).kind
  have hbuf : isBuf P.L i = true := by unfold isBuf; rw [hk]; rfl
  have hsl := (Slots_buffer hk _ _ _ _).1 hpd.slots
  simp only [dyn] at hsl
  obtain ⟨hpart, hout, hlev, hbt⟩ := hsl
  have hxle := hpd.le h1
  have heIp : eI P.L i (xp + 1) = s.now := by
    obtain ⟨i', rfl⟩ : ∃ i', i = i' + 1 := ⟨i - 1, by omega⟩
    rw [eI_succ]; exact hE
  -- the state before the part joins the queue
  obtain ⟨d0, hd0'⟩ : ∃ d, d = dv (takeS s i p) i := ⟨_, rfl⟩
  obtain ⟨s3, hs3⟩ : ∃ s3, s3 = addR (addR (setD (takeS s i p) i { d0 with level := d0.level + 1 })
      (.level i s.now (d0.level + 1))) (.received i s.now p (qual s p i) 0) := ⟨_, rfl⟩
  have hG3 : Good P s3 := by rw [hs3]; exact (((hG.takeS i p).setD (by rw [hd0']; rfl)).addR _).addR _
  have hlt0 : i < (takeS s i p).ds.length := by simpa using hlt
  have hd0 : d0 = { dv s i with part := some p, since := none } := by
    rw [hd0']; exact dv_takeS_same s i p hlt
  have hdv3 : dv s3 i = { d0 with level := d0.level + 1 } := by
    rw [hs3, dv_addR, dv_addR, dv_setD_same _ _ _ hlt0]
  have F3 : Foot P.L [i] s s3 := by
    rw [hs3]
    exact (((Foot.takeS P.L s i p).trans (Foot.setD P.L _ _ _)).trans
      (Foot.addR _ _ _ (.level i s.now (d0.level + 1)) trivial)).trans
      (Foot.addR _ _ _ _ (by simp [RecIn]))
  have hn3 : s3.now = s.now := F3.now
  have hr3 : rtj i s3.recs = rtj i s.recs ++ [s.now] := by
    rw [hs3, addR_recs, addR_recs, setD_recs, takeS_recs, rtj_received, if_pos rfl, rtj_level]
  have hent' : rtj i s3.recs = (List.range (xp + 1)).map (fun k => dI P.L (i - 1) (k + 1)) := by
    rw [hr3, hent, List.range_succ, List.map_append]; simp [hE]
  have hk3 : cls ((i : Int) + 1) s3.evs = keysOf P.L i xi m := by
    rw [hs3, addR_evs, addR_evs, setD_evs, takeS_evs]; exact hkeys
  have hacc : acceptS P s i p = moveBS P s3 i p := by
    unfold acceptS
    rw [hkind, hk, hs3, hd0']
    rfl
  rw [hacc]
  clear hs3 hacc
  -- the queue is extended
  obtain ⟨s4, hs4⟩ : ∃ s4, s4 = setD s3 i { dv s3 i with buf := (dv s3 i).buf ++ [(s3.now, p)], part := none } :=
    ⟨_, rfl⟩
  have hG4 : Good P s4 := by rw [hs4]; exact hG3.setD (by rfl)
  have hlt3 : i < s3.ds.length := hG3.stat.lt hle
  have hdv4 : dv s4 i = { dv s i with since := none, level := (dv s i).level + 1,
                                      buf := (dv s i).buf ++ [(s.now, p)], part := none } := by
    rw [hs4, dv_setD_same _ _ _ hlt3, hdv3, hd0, hn3]
  have F4 : Foot P.L [i] s3 s4 := by rw [hs4]; exact Foot.setD P.L _ _ _
  have hq4 : (dv s4 (i - 1)).waitingDS = false := by
    rw [F4.dvj _ (by simp; omega), F3.dvj _ (by simp; omega)]; exact hq
  have hk4 : cls ((i : Int) + 1) s4.evs = keysOf P.L i xi m := by rw [hs4]; exact hk3
  have hr4 : s4.recs = s3.recs := by rw [hs4]; rfl
  have hn4 : s4.now = s.now := by rw [F4.now, hn3]
  have F5 : Foot P.L [i] s4 (notifyS P s4 i) := notifyS_quiet hG4 hle h1 hq4
  obtain ⟨e1, e2, e3, _⟩ := notifyS_self hG4 hle
  have hG5 := hG4.notifyS i
  have hlt5 : i < (notifyS P s4 i).ds.length := hG5.stat.lt hle
  have hk5 : cls ((i : Int) + 1) (notifyS P s4 i).evs = keysOf P.L i xi m := by rw [e2]; exact hk4
  have hlen : (dv (notifyS P s4 i) i).buf.length = xp - xi + 1 := by
    have : (dyn (dv (notifyS P s4 i) i)).buf = (dyn (dv s4 i)).buf := by rw [e1]
    simp only [dyn] at this
    rw [this, hdv4]
    have hl : ((dv s i).buf.map (·.1)).length = xp - xi := by rw [hbt]; simp
    simp at hl
    simp [hl]
  have hdelay : (dv s3 i).delay = (stn P.L i).c := hG3.delay_eq hle hbuf
  have hcapK : ∀ K, (stn P.L i).effCap = some K → xp + 1 ≤ xi + K := fun K hK => by
    have := hroom K hK; omega
  have hslots' : ∀ w, Slots P.L i { dyn (dv s4 i) with wds := w } (xp + 1) xi (bufMode s.now (stn P.L i).c m) := by
    intro w
    refine (Slots_buffer hk _ _ _ _).2 ?_
    rw [hdv4]
    refine ⟨rfl, hout, ?_, ?_⟩
    · show (dv s i).level + 1 = xp + 1 - xi
      rw [hlev]; omega
    · show ((dv s i).buf ++ [(s.now, p)]).map (·.1) = _
      have : xp + 1 - xi = (xp - xi) + 1 := by omega
      rw [List.map_append, hbt, this, List.range_succ, List.map_append]
      simp only [List.map_cons, List.map_nil]
      have : xi + 1 + (xp - xi) = xp + 1 := by omega
      rw [this, heIp]
  have hnow4 : (notifyS P s4 i).now = s.now := by rw [notifyS_now, hn4]
  have hmv : moveBS P s3 i p =
      if ((dv (notifyS P s4 i) i).buf.length == 1) = true then passS P (notifyS P s4 i) i (dv s3 i).delay
      else notifyS P s4 i := by
    unfold moveBS; rw [hs4]
  rw [hmv]
  clear hmv hs4
  by_cases hm : m = .idle
  · -- the queue was empty: a hand-over is scheduled
    have hxx := (hpd.idle hm).2
    have hb1 : ((dv (notifyS P s4 i) i).buf.length == 1) = true := by rw [hlen]; simp; omega
    rw [if_pos hb1]
    have hbm : bufMode s.now (stn P.L i).c m = .ready (s.now + (stn P.L i).c) := by
      unfold bufMode; rw [if_pos hm]
    subst hm
    refine ⟨?_, ?_, ?_, ((F3.trans F4).trans F5).trans
      (Foot.passS hG5 hle _ (by rw [hdelay]; exact c_nonneg hL hle))⟩
    · rw [cls_passS_same hG5 hle _ (by rw [hk5]; rfl), hnow4, hdelay, hbm]
      rfl
    · rw [dyn_passS_same _ _ _ _ hlt5, e1, hbm]
      have := hslots' false
      rw [hbm] at this
      exact { past := hpd.past, le := fun _ => by omega, cap := fun _ K hK => hcapK K hK,
              idle := (by intro h; cases h), nonidle := fun _ _ => by omega,
              procm := (by intro h; cases h),
              readym := (by
                intro t h; cases h
                refine ⟨hi, ?_, ?_⟩
                · rw [← hxx, heIp]; omega
                · have := dI_ge_ec P.L hL hle xi
                  rw [← hxx, heIp] at this
                  rw [← hxx]; exact this),
              blockedm := (by intro h; cases h), exhm := (by intro h; cases h),
              wds := (by simp), slots := this }
    · rw [passS_recs, e3, hr4]; exact hent'
  · have hlt' := hpd.nonidle h1 hm
    have hb1 : ¬ ((dv (notifyS P s4 i) i).buf.length == 1) = true := by rw [hlen]; simp; omega
    rw [if_neg hb1]
    have hbm : bufMode s.now (stn P.L i).c m = m := by unfold bufMode; rw [if_neg hm]
    refine ⟨by rw [hbm]; exact hk5, ?_, by rw [e3, hr4]; exact hent', (F3.trans F4).trans F5⟩
    rw [e1]
    have hw : (dyn (dv s4 i)).wds = (dyn (dv s i)).wds := by rw [hdv4]; rfl
    have := (hslots' false).congr (d' := dyn (dv s4 i)) rfl rfl rfl rfl rfl rfl Iff.rfl Iff.rfl
    rw [hbm] at this ⊢
    exact { past := hpd.past, le := fun _ => by omega, cap := fun _ K hK => hcapK K hK,
            idle := fun h => absurd h hm, nonidle := fun _ _ => by omega,
            procm := hpd.procm, readym := hpd.readym, blockedm := hpd.blockedm, exhm := hpd.exhm,
            wds := (by rw [hw]; exact hpd.wds), slots := this }


/-! ### accepting a part, uniformly -/

/-- Number of parts that have left station `i` after it accepted a part (a sink with cycle time 0
frees its slot at once). -/
def accX (L : Line) (i xi : Nat) : Nat :=
  if i = L.n ∧ ¬ 0 < (stn L i).c then xi + 1 else xi

/-- Mode of station `i` after it accepted a part at time `now`. -/
def accM (L : Line) (i : Nat) (now : Int) (m : Mode) : Mode :=
  if isBuf L i then bufMode now (stn L i).c m
  else if 0 < (stn L i).c then .proc
  else if i = L.n then .idle else .ready now

theorem accept_spec {P : Par} {s : S} (hG : Good P s) (hL : P.L.WF) {i : Nat} (h1 : 1 ≤ i)
    (hi : i ≤ P.L.n) (p : Nat) {xp xi xn : Nat} {m : Mode}
    (hkeys : cls ((i : Int) + 1) s.evs = keysOf P.L i xi m)
    (hpd : PD P.L s.now i (dyn (dv s i)) xp xi xn m)
    (hent : rtj i s.recs = (List.range xp).map (fun k => dI P.L (i - 1) (k + 1)))
    (hE : dI P.L (i - 1) (xp + 1) = s.now) (hq : (dv s (i - 1)).waitingDS = false)
    (hc : canAcc (dv s i) = true) :
    cls ((i : Int) + 1) (acceptS P s i p).evs = keysOf P.L i (accX P.L i xi) (accM P.L i s.now m) ∧
    PD P.L s.now i (dyn (dv (acceptS P s i p) i)) (xp + 1) (accX P.L i xi) xn (accM P.L i s.now m) ∧
    rtj i (acceptS P s i p).recs = (List.range (xp + 1)).map (fun k => dI P.L (i - 1) (k + 1)) ∧
    Foot P.L [i] s (acceptS P s i p) := by
  have hroom := (room_iff hG.stat h1 hi hpd).1 hc
  cases hb : isBuf P.L i
  · have hm : m = .idle := (canAcc_nonbuf hG.stat h1 hi hb hpd).1 hc
    subst hm
    have hk0 : cls ((i : Int) + 1) s.evs = [] := hkeys
    by_cases hin : i = P.L.n
    · subst hin
      have := acceptK_spec hG hL p hk0 hpd hent hE hq
      unfold accX accM
      rw [hb]
      by_cases hpos : 0 < (stn P.L P.L.n).c
      · simpa [hpos] using this
      · simpa [hpos] using this
    · have hlt : i < P.L.n := by omega
      have hk : kindOf P.L i = .handler ∨ kindOf P.L i = .processor := by
        rcases kindOf_mid P.L i (by omega) hlt with h | h | h
        · exact Or.inl h
        · exact Or.inr h
        · unfold isBuf at hb; rw [h] at hb; simp at hb
      have := acceptHP_spec hG hL h1 hlt hk p hk0 hpd hent hE
      unfold accX accM
      rw [hb]
      by_cases hpos : 0 < (stn P.L i).c
      · simpa [hpos, hin] using this
      · simpa [hpos, hin] using this
  · have hk := kind_buffer_of_isBuf hb
    have hlt : i < P.L.n := by
      by_cases hin : i = P.L.n
      · subst hin; rw [kindOf_n] at hk; cases hk
      · omega
    have := acceptB_spec hG hL h1 hlt hk p hkeys hpd hent hE hq hroom
    unfold accX accM
    rw [hb]
    have hne : ¬ (i = P.L.n ∧ ¬ 0 < (stn P.L i).c) := fun h => by omega
    rw [if_neg hne]
    simpa using this

/-- The hand-over of the part at the head of station `j` to station `j+1`, which has room: the
part leaves `j` exactly at the reference's time. -/
theorem handover_time {P : Par} {s : S} (hG : Good P s) (hL : P.L.WF) {j : Nat} (hj : j < P.L.n)
    {xj x1 x2 : Nat} {m1 : Mode}
    (hpd1 : PD P.L s.now (j + 1) (dyn (dv s (j + 1))) xj x1 x2 m1)
    (hc : canAcc (dv s (j + 1)) = true)
    (hlo : eI P.L j (xj + 1) + (stn P.L j).c ≤ s.now) (hpast : dI P.L j xj ≤ s.now)
    (hup : s.now ≤ dI P.L j (xj + 1)) :
    dI P.L j (xj + 1) = s.now := by
  have hroom := (room_iff hG.stat (by omega) (by omega : j + 1 ≤ P.L.n) hpd1).1 hc
  have hle : dI P.L j (xj + 1) ≤ s.now := by
    refine dI_le_of P.L hL (Nat.le_of_lt hj) xj s.now hlo hpast ?_
    refine blockI_le_of_room P.L hL (j + 1) xj x1 s.now ?_ hpd1.past hG.now0
    intro K _ hK
    have := hroom K hK
    omega
  omega

end C04W
end SimProc
