/-
C10W — `U` contains the atoms of the floor (`World.FloorClosed.Ops U`), hence `U w (f w)` for every
function `f` of `Model/Floor.lean` (`Proofs/FloorWalk.lean`), unconditionally.  The manager is
written by `releaseReserved` and `procAcquire` only, with operations that append no script request
(`RmU`).
-/
import SimProc.Proofs.C10WBase
import SimProc.Proofs.FloorWalk

namespace SimProc
namespace C10W
open World FloorCoreL

theorem U_releaseReserved (w : World) (x : Nat) : U w (w.releaseReserved x) := by
  unfold releaseReserved
  split
  · exact U.refl _
  · rename_i id _
    have h := RmU.release w.rm id none
    rcases hr : w.rm.release id none with ⟨rm, res, recs, chk⟩
    rw [hr] at h
    dsimp only
    u_step
    u_step
    exact U_rmSet w rm h

theorem U_procAcquire (w : World) (x : Nat) : U w (w.procAcquire x).1 := by
  unfold procAcquire
  dsimp only
  split
  · exact U.refl _
  · rename_i req _
    split
    · exact U.refl _
    · have h := RmU.reserve w.rm req
      split
      · rename_i rm r id recs heq
        rw [heq] at h
        dsimp only
        u_step
        u_step
        exact U_rmSet w rm h
      · dsimp only
        u_auto
      · split
        · exact U.refl _
        · have h2 := RmU.register w.rm req x
          rcases hr : w.rm.register req (.proc x) with ⟨rm, chk⟩
          rw [hr] at h2
          dsimp only
          u_step
          u_step
          exact U_rmSet w rm h2

theorem U.floor : FloorClosed.Ops U where
  refl := U.refl
  trans := U.trans
  setErr := fun _ _ => U.of_KU (KU_setErr _ _)
  addRec := fun _ _ _ => U.of_KU (KU_addRec _ _)
  addRes := fun w r h => U_addRes w r (by cases r <;> first | rfl | exact h)
  setDev := fun _ _ _ _ => U.of_KU (KU_setDev _ _ _)
  modPart := fun _ _ _ => U.of_KU (KU_modPart _ _ _)
  newPart := fun _ _ => U.of_KU (KU_newPart _ _)
  schedLib := fun _ _ _ _ _ _ => U.of_KU (KU_schedLib _ _ _ _ _)
  envOp := fun _ _ _ => U.of_KU (KU_envOp _ _)
  setDelivered := fun _ _ => U.of_KU rfl
  setLost := fun _ _ => U.of_KU rfl
  releaseReserved := U_releaseReserved
  procAcquire := U_procAcquire
  produce w x p _ := World.produce_walk U.refl U.trans
    (World.senseOutput_walk U.refl U.trans (fun _ _ => U.of_KU rfl)
      (fun w r h => U_addRes w r (by cases r <;> first | rfl | exact h)))
    (fun _ _ _ _ _ _ => U.of_KU rfl) w x p
  genPart := World.genPart_walk U.refl U.trans (fun _ _ => U.of_KU (KU_newPart _ _))
    (fun _ _ => U.of_KU rfl)
  setBlockInput := fun _ _ _ => U.of_KU (KU_setDev _ _ _)
  setMaxParts := fun _ _ _ => U.of_KU (KU_setDev _ _ _)
  setWiring := fun _ _ _ _ => U.of_KU (KU_setDev _ _ _)
  setInited := fun _ _ _ => U.of_KU (KU_setDev _ _ _)
  clearWaitingRes := fun _ _ => U.of_KU (KU_setDev _ _ _)

macro_rules | `(tactic| u_step) => `(tactic| with_reducible apply U.trans (h2 := U.floor.shutdownDev _ _ _ _))
macro_rules | `(tactic| u_step) => `(tactic| with_reducible apply U.trans (h2 := U.floor.restoreDev _ _))
macro_rules | `(tactic| u_step) => `(tactic| with_reducible apply U.trans (h2 := U.floor.setBlock _ _ _))
macro_rules | `(tactic| u_step) => `(tactic| with_reducible apply U.trans (h2 := U.floor.adjustParts _ _ _))
macro_rules | `(tactic| u_step) => `(tactic| with_reducible apply U.trans (h2 := U.floor.rewire _ _ _))
macro_rules | `(tactic| u_step) => `(tactic| with_reducible apply U.trans (h2 := U.floor.initDev _ _))

end C10W
end SimProc
