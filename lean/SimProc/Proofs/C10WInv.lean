/-
C10W — the world's scan: `World.scanOps` satisfies `C10.Laws`; one served entry (`erase ∘ call`)
keeps the closed-world invariant; the pending-check invariant `Pend` through a complete check;
`exec`, `step`, `runBegin`, `simulateInit`.
-/
import SimProc.Proofs.C10WCWorld
import SimProc.Proofs.C10WScan
import SimProc.Proofs.C11WMono

namespace SimProc
namespace C10W
open World FloorCoreL C01W

/-! ### the interface laws -/

/-- **`World.scanOps` satisfies the interface laws of C10's generic scan theorems**, for every
world and every callback (unconditionally): a callback — the resource callback of a processor or a
script — only appends to the waiting list, and `pop(i)` removes exactly entry `i`. -/
theorem scanOps_laws : C10.Laws World.scanOps where
  call_appends := by
    intro w cb req
    cases cb with
    | script k => exact (U_runScript (w.addRes (.cb k)) k).wapp'
    | proc d => exact (U.floor.procResourceCb w d).wapp'
  erase_spec := fun _ _ => rfl

/-! ### list facts about the processors in the waiting list -/

theorem split_at {α} (l : List α) (i : Nat) (e0 : α) (hi : l[i]? = some e0) :
    l = l.take i ++ e0 :: l.drop (i + 1) ∧ l.eraseIdx i = l.take i ++ l.drop (i + 1) := by
  obtain ⟨hlt, hget⟩ := List.getElem?_eq_some_iff.mp hi
  refine ⟨?_, List.eraseIdx_eq_take_drop_succ l i⟩
  rw [← hget, ← List.drop_eq_getElem_cons hlt, List.take_append_drop]

theorem filterMap_eraseIdx_none {l : List (Req × Cb)} {i : Nat} {e0 : Req × Cb}
    (hi : l[i]? = some e0) (h0 : procOf e0 = none) :
    (l.eraseIdx i).filterMap procOf = l.filterMap procOf := by
  obtain ⟨h1, h2⟩ := split_at l i e0 hi
  rw [h2]
  conv => rhs; rw [h1]
  simp [List.filterMap_append, h0]

theorem filterMap_eraseIdx_some {l : List (Req × Cb)} {i d : Nat} {e0 : Req × Cb}
    (hn : (l.filterMap procOf).Nodup) (hi : l[i]? = some e0) (h0 : procOf e0 = some d) :
    (∀ e ∈ l.eraseIdx i, procOf e ≠ some d) ∧
    (∀ y, y ≠ d → y ∈ l.filterMap procOf → y ∈ (l.eraseIdx i).filterMap procOf) := by
  obtain ⟨h1, h2⟩ := split_at l i e0 hi
  rw [h1, List.filterMap_append, List.filterMap_cons, h0] at hn
  have hn' := List.nodup_append.1 hn
  have hdA : d ∉ (l.take i).filterMap procOf := by
    intro hm
    exact hn'.2.2 d hm d (List.mem_cons_self) rfl
  have hdB : d ∉ (l.drop (i + 1)).filterMap procOf := (List.nodup_cons.1 hn'.2.1).1
  constructor
  · intro e he hpe
    rw [h2] at he
    rcases List.mem_append.1 he with he | he
    · exact hdA (List.mem_filterMap.2 ⟨e, he, hpe⟩)
    · exact hdB (List.mem_filterMap.2 ⟨e, he, hpe⟩)
  · intro y hy hm
    rw [h1, List.filterMap_append, List.filterMap_cons, h0] at hm
    rw [h2, List.filterMap_append]
    rcases List.mem_append.1 hm with hm | hm
    · exact List.mem_append_left _ hm
    · rcases List.mem_cons.1 hm with hm | hm
      · exact absurd hm hy
      · exact List.mem_append_right _ hm

/-! ### one served entry keeps `P` -/

theorem erase_KC (w : World) (i : Nat) :
    (scanOps.erase w i).scripts = w.scripts ∧ (scanOps.erase w i).devs = w.devs ∧
    (scanOps.erase w i).env = w.env ∧
    (scanOps.erase w i).rm = { w.rm with waiting := w.rm.waiting.eraseIdx i } :=
  ⟨rfl, rfl, rfl, rfl⟩

/-- Removing a script's entry. -/
theorem P_eraseScript (w : World) (i : Nat) (e0 : Req × Cb) (hp : P w)
    (hi : w.rm.waiting[i]? = some e0) (h0 : procOf e0 = none) : P (scanOps.erase w i) := by
  have hf : (scanOps.erase w i).rm.waiting.filterMap procOf = w.rm.waiting.filterMap procOf :=
    filterMap_eraseIdx_none hi h0
  refine ⟨hp.aid, hp.scr, ?_, ?_, ?_⟩
  · rw [hf]; exact hp.wait.nodup
  · intro e he d hd
    exact hp.wait.entry e ((List.eraseIdx_sublist _ _).subset he) d hd
  · intro d hd
    rw [hf]; exact hp.wait.flag d hd

theorem KC_notify (w : World) (x : Nat) : KC (w.notify x) = KC w := by
  have m := (C11W.monoS_notify w x).m0
  have h2 : (w.notify x).devs.map Dev.resA = w.devs.map Dev.resA := congrArg Prod.snd m.keepA
  have h3 := congrArg (List.map (fun a : Option Nat × Option Req × Bool × Kind × Int × Bool =>
    (a.2.2.2.2.1, a.2.2.1, a.2.1))) h2
  simp only [List.map_map] at h3
  unfold KC
  rw [m.rm, m.scr]
  exact congrArg (fun l => (w.rm, w.scripts, l)) h3

/-- What the resource callback of processor `d` does to what the invariant reads. -/
theorem procResourceCb_spec (w : World) (d : Nat) :
    (w.procResourceCb d).rm = w.rm ∧ (w.procResourceCb d).scripts = w.scripts ∧
    (w.procResourceCb d).devs.map (·.aid) = w.devs.map (·.aid) ∧
    (∀ y, y ≠ d → kd ((w.procResourceCb d).dev y) = kd (w.dev y)) ∧
    (d < w.devs.length → ((w.procResourceCb d).dev d).waitingRes = false) := by
  have hk := KC_notify (w.modDev d (fun x => { x with waitingRes := false })) d
  have e : w.procResourceCb d = (w.modDev d (fun x => { x with waitingRes := false })).notify d := rfl
  rw [e]
  refine ⟨(KC_rm hk).trans rfl, (KC_scr hk).trans rfl, ?_, ?_, ?_⟩
  · rw [aids_of_map (KC_devs hk)]
    unfold World.modDev World.setDev
    exact map_set_of_eq Dev.aid w.devs d _ default rfl
  · intro y hy
    rw [KC_kd hk y, dev_modDev, if_neg (fun h => hy h.1.symm)]
  · intro hd
    rw [kd_waitingRes (KC_kd hk d), dev_modDev, if_pos ⟨rfl, hd⟩]

/-- Calling back processor `d` (entry `i`) and removing its entry. -/
theorem P_serveProc (w : World) (i d : Nat) (req : Req) (hp : P w)
    (hi : w.rm.waiting[i]? = some (req, .proc d)) :
    P (scanOps.erase (w.procResourceCb d) i) := by
  obtain ⟨hrm, hscr, haid, hoth, hflag⟩ := procResourceCb_spec w d
  have hmem : (req, Cb.proc d) ∈ w.rm.waiting := List.mem_of_getElem? hi
  obtain ⟨hfl, hrq⟩ := hp.wait.entry _ hmem d rfl
  have hd : d < w.devs.length := lt_of_resReq hrq
  obtain ⟨hne, hin⟩ := filterMap_eraseIdx_some hp.wait.nodup hi (show procOf (req, Cb.proc d) = some d from rfl)
  have hw : (scanOps.erase (w.procResourceCb d) i).rm.waiting = w.rm.waiting.eraseIdx i := by
    show (w.procResourceCb d).rm.waiting.eraseIdx i = _
    rw [hrm]
  have hdev : ∀ y, (scanOps.erase (w.procResourceCb d) i).dev y = (w.procResourceCb d).dev y :=
    fun _ => rfl
  refine ⟨?_, ?_, ?_, ?_, ?_⟩
  · unfold AidOK
    show ∀ a ∈ (w.procResourceCb d).devs.map (·.aid), _
    rw [haid]; exact hp.aid
  · unfold ScriptsC
    show ∀ l ∈ (w.procResourceCb d).scripts, _
    rw [hscr]; exact hp.scr
  · rw [hw]
    exact ((List.eraseIdx_sublist _ _).filterMap procOf).nodup hp.wait.nodup
  · intro e he y hy
    rw [hw] at he
    have hyd : y ≠ d := fun h => hne e he (h ▸ hy)
    obtain ⟨h1, h2⟩ := hp.wait.entry e ((List.eraseIdx_sublist _ _).subset he) y hy
    rw [hdev y]
    have := hoth y hyd
    exact ⟨(kd_waitingRes this).trans h1, (kd_resReq this).trans h2⟩
  · intro y hy
    rw [hdev y] at hy
    have hyd : y ≠ d := by
      intro h; subst h
      rw [hflag hd] at hy; cases hy
    rw [kd_waitingRes (hoth y hyd)] at hy
    rw [hw]
    exact hin y hyd (hp.wait.flag y hy)

theorem P_addRes {w : World} (hp : P w) (r : Res) : P (w.addRes r) := hp.of_KC rfl

/-- Calling back script `k` (entry `i`) and removing its entry. -/
theorem P_serveScript (w : World) (i k : Nat) (req : Req) (hp : P w)
    (hi : w.rm.waiting[i]? = some (req, .script k)) :
    P (scanOps.erase ((w.addRes (.cb k)).runScript k) i) := by
  have h1 : P ((w.addRes (.cb k)).runScript k) := (C_runScript _ k (P_addRes hp _)).1
  obtain ⟨l, hl⟩ := (U_runScript (w.addRes (.cb k)) k).wapp'
  refine P_eraseScript _ i (req, .script k) h1 ?_ rfl
  rw [hl]
  obtain ⟨hlt, _⟩ := List.getElem?_eq_some_iff.mp hi
  rw [List.getElem?_append_left (show i < (w.addRes (.cb k)).rm.waiting.length from hlt)]
  exact hi

theorem P_serve (w : World) (i : Nat) (req : Req) (cb : Cb) (hp : P w)
    (hi : w.rm.waiting[i]? = some (req, cb)) :
    P (scanOps.erase (scanOps.call w cb req) i) := by
  cases cb with
  | script k => exact P_serveScript w i k req hp hi
  | proc d => exact P_serveProc w i d req hp hi

/-- **The check keeps the invariant `P`** (with any fuel, from any index). -/
theorem P_scan (f : Nat) (w : World) (i : Nat) (hp : P w) : P (scanWaiting scanOps f w i) :=
  scan_induct scanOps P (fun w i req cb h hw _ => P_serve w i req cb h hw) f w i hp

/-! ### what one callback does to the queue and the pools -/

theorem call_post (w : World) (cb : Cb) (req : Req) (hp : P w) :
    Post w (scanOps.call w cb req) := by
  cases cb with
  | script k =>
    have := (C_runScript _ k (P_addRes hp (.cb k))).2
    exact ⟨this.ref, this.ini, this.pend⟩
  | proc d =>
    have hrm := (procResourceCb_spec w d).1
    refine ⟨(Via.floor.procResourceCb w d hp.good).2, fun h => by
      show (w.procResourceCb d).rm.inited = true
      rw [hrm]; exact h, fun _ => Or.inr ⟨?_, ?_⟩⟩
    · show (w.procResourceCb d).rm.waiting = _
      rw [hrm]
    · show C10.PoolLe (w.procResourceCb d).rm w.rm
      rw [hrm]; exact C10.PoolLe.refl _

/-! ### the invariants -/

/-- A feasible waiting request has a live availability check queued for the current instant. -/
def Pend (w : World) : Prop := C10.feasibleWaiting w.rm → ChkNow w

/-- The invariant without `Pend`. -/
structure Inv0 (w : World) : Prop where
  p : P w
  ini : w.rm.inited = true
  q : C01.Inv w.env

/-- **The closed-world invariant of C10W.** -/
structure Inv (w : World) : Prop where
  i0 : Inv0 w
  pend : Pend w

theorem Inv0.step_C {w w' : World} (h : Inv0 w) (c : C w w') : Inv0 w' :=
  ⟨(c h.p).1, (c h.p).2.ini h.ini, (c h.p).2.ref.inv h.q⟩

theorem Pend.step_C {w w' : World} (h : Pend w) (hp : P w) (hi : w.rm.inited = true)
    (c : C w w') : Pend w' := by
  intro ⟨e, he, hc⟩
  rcases (c hp).2.pend hi with hq | ⟨hs, hle⟩
  · exact hq
  · rw [hs] at he
    exact (h ⟨e, he, C10.canFulfill_mono hle _ hc⟩).refines (c hp).2.ref

theorem Inv.step_C {w w' : World} (h : Inv w) (c : C w w') : Inv w' :=
  ⟨h.i0.step_C c, h.pend.step_C h.i0.p h.i0.ini c⟩

theorem Inv0.serve {w : World} (h : Inv0 w) (i : Nat) (req : Req) (cb : Cb)
    (hi : w.rm.waiting[i]? = some (req, cb)) :
    Inv0 (scanOps.erase (scanOps.call w cb req) i) := by
  have hq := call_post w cb req h.p
  exact ⟨P_serve w i req cb h.p hi, hq.ini h.ini, hq.ref.inv h.q⟩

theorem Inv0.scan {w : World} (h : Inv0 w) (f i : Nat) : Inv0 (scanWaiting scanOps f w i) :=
  scan_induct scanOps Inv0 (fun _ i req cb h hw _ => h.serve i req cb hw) f w i h

/-! ### the pending-check invariant through a check -/

/-- Scan invariant: a check is queued, or everything the scan has passed is infeasible. -/
def SI (w : World) (i : Nat) : Prop :=
  ChkNow w ∨ ∀ j e, j < i → w.rm.waiting[j]? = some e → w.rm.canFulfill e.1 = false

theorem SI.serve {w : World} {i : Nat} (h : SI w i) (h0 : Inv0 w) (req : Req) (cb : Cb) :
    SI (scanOps.erase (scanOps.call w cb req) i) i := by
  have hq := call_post w cb req h0.p
  have henv : (scanOps.erase (scanOps.call w cb req) i).env = (scanOps.call w cb req).env := rfl
  rcases hq.pend h0.ini with hc | ⟨hs, hle⟩
  · exact Or.inl (hc.of_env henv)
  · rcases h with h | h
    · exact Or.inl ((h.refines hq.ref).of_env henv)
    · right
      intro j e hj he
      have hw : (scanOps.erase (scanOps.call w cb req) i).rm.waiting =
          w.rm.waiting.eraseIdx i := by
        show (scanOps.call w cb req).rm.waiting.eraseIdx i = _
        rw [hs]
      rw [hw, List.getElem?_eraseIdx, if_pos hj] at he
      have h1 := h j e hj he
      cases hc : (scanOps.erase (scanOps.call w cb req) i).rm.canFulfill e.1 with
      | false => rfl
      | true =>
        have hc' : (scanOps.call w cb req).rm.canFulfill e.1 = true := by
          rw [← hc]
          exact C10.canFulfill_pools _ _ rfl _
        rw [C10.canFulfill_mono hle _ hc'] at h1; cases h1

/-- **A check that reaches the end of the waiting list re-establishes `Pend`.** -/
theorem pend_scan (f : Nat) (w : World) (i : Nat) (h0 : Inv0 w) (hs : SI w i)
    (hd : C10.scanDone scanOps f w i = true) : Pend (scanWaiting scanOps f w i) := by
  induction f generalizing w i with
  | zero => simp [C10.scanDone] at hd
  | succ f ih =>
    cases hw : w.rm.waiting[i]? with
    | none =>
      have hw' : (scanOps.rm w).waiting[i]? = none := hw
      simp only [scanWaiting, hw']
      intro ⟨e, he, hc⟩
      rcases hs with hs | hs
      · exact hs
      · obtain ⟨j, hj⟩ := List.mem_iff_getElem?.mp he
        have : w.rm.waiting.length ≤ i := List.getElem?_eq_none_iff.mp hw
        have hj' : j < w.rm.waiting.length := (List.getElem?_eq_some_iff.mp hj).1
        rw [hs j e (by omega) hj] at hc; cases hc
    | some e =>
      obtain ⟨req, cb⟩ := e
      have hw' : (scanOps.rm w).waiting[i]? = some (req, cb) := hw
      by_cases hc : w.rm.canFulfill req = true
      · have hc' : (scanOps.rm w).canFulfill req = true := hc
        simp only [scanWaiting, C10.scanDone, hw', hc', if_true] at hd ⊢
        exact ih _ _ (h0.serve i req cb hw) (hs.serve h0 req cb) hd
      · have hc' : ¬ (scanOps.rm w).canFulfill req = true := hc
        simp only [scanWaiting, C10.scanDone, hw', hc'] at hd ⊢
        refine ih _ _ h0 ?_ hd
        rcases hs with hs | hs
        · exact Or.inl hs
        · right
          intro j e hj he
          by_cases hji : j = i
          · subst hji
            rw [hw] at he; cases he
            simpa using hc
          · exact hs j e (by omega) he

/-! ### events -/

/-- The check executed by the next step (if it is a live check event) reaches the end of the
waiting list with the model's fuel (the Python loop has no bound). -/
def StepDone (w : World) : Prop :=
  match w.env.step with
  | none => True
  | some (e, env') => e.live = true → Action.ofNat e.act = .rmCheck →
    C10.scanDone scanOps 10000 ({ w with env := env' } : World) 0 = true

instance (w : World) : Decidable (StepDone w) := by
  unfold StepDone
  split <;> infer_instance

theorem StepDone.spec {w : World} (h : StepDone w) {e : Event} {env' : Env}
    (hs : w.env.step = some (e, env')) (hl : e.live = true)
    (ha : Action.ofNat e.act = .rmCheck) :
    C10.scanDone scanOps 10000 ({ w with env := env' } : World) 0 = true := by
  unfold StepDone at h
  rw [hs] at h
  exact h hl ha

theorem Inv0.exec {w : World} (h : Inv0 w) (a : Action) : Inv0 (w.exec a) := by
  by_cases ha : a = .rmCheck
  · subst ha; exact h.scan 10000 0
  · exact h.step_C (C_exec w a ha)

/-- Taking the next event from the queue. -/
theorem Inv0.pop {w : World} (h : Inv0 w) {e : Event} {env' : Env}
    (hst : w.env.step = some (e, env')) : Inv0 ({ w with env := env' } : World) :=
  ⟨h.p.of_KC rfl, h.ini, C01.inv_step h.q hst⟩

theorem Inv0.step {w w' : World} {e : Event} (h : Inv0 w) (hst : w.step = some (e, w')) :
    Inv0 w' := by
  obtain ⟨env1, hs1, _, hdead, hlive⟩ := step_via hst
  cases hl : e.live with
  | true => rw [hlive hl]; exact (h.pop hs1).exec _
  | false => rw [hdead hl]; exact h.pop hs1

/-- After the pop: the check was the event taken, or `Pend` still holds. -/
theorem Pend.pop {w : World} (h : Inv w) {e : Event} {env' : Env}
    (hst : w.env.step = some (e, env')) :
    (e.cancelled = false ∧ Action.ofNat e.act = .rmCheck) ∨
      Pend ({ w with env := env' } : World) := by
  obtain ⟨es, hes, henv'⟩ := Env.step_some.1 hst
  have hehd : e ∈ w.env.events := by rw [hes]; exact List.mem_cons_self ..
  by_cases hf : C10.feasibleWaiting w.rm
  · obtain ⟨ew, hew, h1, h2, h3, h4, h5⟩ := h.pend hf
    have ht : e.time = w.now := by
      have hle := C01.step_min_time h.i0.q hst ew hew
      have hge := h.i0.q.future e hehd
      unfold World.now at h2 ⊢
      omega
    rw [hes] at hew
    rcases List.mem_cons.1 hew with rfl | hew
    · left
      refine ⟨h5, ?_⟩
      rw [h1]; exact C11W.ofNat_rmCheck
    · right
      intro _
      refine ⟨ew, ?_, h1, ?_, h3, h4, h5⟩
      · show ew ∈ env'.events
        rw [henv']; exact hew
      · show ew.time = env'.now
        rw [henv']; exact h2.trans ht.symm
  · exact Or.inr (fun hf' => absurd hf' hf)

/-- **Every event whose check (if it is one) completes preserves the invariant.** -/
theorem Inv.step {w w' : World} {e : Event} (h : Inv w) (hst : w.step = some (e, w'))
    (hdone : StepDone w) : Inv w' := by
  refine ⟨h.i0.step hst, ?_⟩
  obtain ⟨env1, hs1, _, hdead, hlive⟩ := step_via hst
  have h0 := h.i0.pop hs1
  cases hl : e.live with
  | true =>
    rw [hlive hl]
    by_cases ha : Action.ofNat e.act = .rmCheck
    · rw [ha]
      exact pend_scan 10000 _ 0 h0 (Or.inr (fun j _ hj => absurd hj (Nat.not_lt_zero j)))
        (hdone.spec hs1 hl ha)
    · rcases Pend.pop h hs1 with ⟨_, h2⟩ | h2
      · exact absurd h2 ha
      · exact h2.step_C h0.p h0.ini (C_exec _ _ ha)
  | false =>
    rw [hdead hl]
    rcases Pend.pop h hs1 with ⟨h1, _⟩ | h2
    · unfold Event.live at hl
      rw [h1] at hl; cases hl
    · exact h2

/-! ### `runBegin` -/

theorem KC_runBegin (w : World) (d : Int) : KC (w.runBegin d).1 = KC w := by
  unfold World.runBegin
  dsimp only
  split <;> rfl

theorem Inv0.runBegin {w : World} (h : Inv0 w) (d : Int) : Inv0 (w.runBegin d).1 := by
  refine ⟨h.p.of_KC (KC_runBegin w d), by rw [KC_rm (KC_runBegin w d)]; exact h.ini, ?_⟩
  rw [(runBegin_env w d).1]
  exact C01.inv_apply Arith.exact _ h.q

theorem Pend.runBegin {w : World} (h : Pend w) (d : Int) : Pend (w.runBegin d).1 := by
  intro hf
  rw [KC_rm (KC_runBegin w d)] at hf
  obtain ⟨e, he, hr⟩ := h hf
  unfold World.runBegin
  dsimp only
  split
  · exact ⟨e, he, hr⟩
  · rename_i env' henv
    unfold Env.runBegin at henv
    obtain ⟨_, rfl⟩ := Env.schedule_some.1 henv
    exact ⟨e, insort_mem.2 (Or.inr he), hr⟩

theorem Inv.runBegin {w : World} (h : Inv w) (d : Int) : Inv (w.runBegin d).1 :=
  ⟨h.i0.runBegin d, h.pend.runBegin d⟩

/-! ### fresh worlds and initialisation -/

/-- **Fresh worlds**: not yet started; no processor waits for resources (no processor entry in
the waiting list — script requests registered before the simulation starts are allowed —, no
`waitingRes` flag set); the queue invariant. -/
def Fresh (w : World) : Prop :=
  w.started = false ∧ (∀ e ∈ w.rm.waiting, procOf e = none) ∧
  (∀ d ∈ w.devs, d.waitingRes = false) ∧ C01.Inv w.env

/-- **The static class**: device asset ids ≥ 1, scripts as in `opC`. -/
def Cls (w : World) : Prop := AidOK w ∧ ScriptsC w

instance (w : World) : Decidable (Cls w) := by unfold Cls; infer_instance

theorem P_fresh {w : World} (hc : Cls w) (hf : Fresh w) : P w := by
  obtain ⟨_, hw, hd, _⟩ := hf
  have hnil : w.rm.waiting.filterMap procOf = [] := List.filterMap_eq_nil_iff.2 hw
  have hfl : ∀ d, (w.dev d).waitingRes = false := by
    intro d
    by_cases hlt : d < w.devs.length
    · exact hd _ (C11W.mem_devs_of_lt hlt)
    · rw [dev_of_length_le (Nat.not_lt.1 hlt)]; rfl
  refine ⟨hc.1, hc.2, by rw [hnil]; exact List.nodup_nil, ?_, ?_⟩
  · intro e he d hd'
    rw [hw e he] at hd'; cases hd'
  · intro d hd'
    rw [hfl d] at hd'; cases hd'

/-- **`System.simulate`'s initialisation establishes the invariant.** -/
theorem inv_simulateInit {w : World} (hc : Cls w) (hf : Fresh w) : Inv w.simulateInit := by
  have hp := P_fresh hc hf
  have hst : w.started = false := hf.1
  -- the first half: initialise the manager
  have key : ∀ (rm : RM) (recs : List ResRec) (chk : Bool), w.rm.init = (rm, recs, chk) →
      Inv (({ w with rm := rm } : World).rmEffects recs chk) := by
    intro rm recs chk hr
    have hrm : rm = { w.rm with inited := true } := by
      have : rm = w.rm.init.1 := by rw [hr]
      exact this
    have hchk : chk = !w.rm.waiting.isEmpty := by
      have : chk = w.rm.init.2.2 := by rw [hr]
      exact this
    have hR : RmC w.rm rm chk := by
      refine ⟨⟨[], by rw [hrm]; simp, by simp⟩, fun _ => by rw [hrm], fun _ => Or.inr ⟨?_, ?_⟩⟩
      · rw [hrm]
      · rw [hrm]; exact C10.PoolLe.of_pools rfl
    have hC := C_rmStep w rm recs chk hR hp
    have hk := KC_rmEffects ({ w with rm := rm } : World) recs chk
    have hr' : (({ w with rm := rm } : World).rmEffects recs chk).rm = rm :=
      KC_rm (w := ({ w with rm := rm } : World)) hk
    refine ⟨⟨hC.1, by rw [hr', hrm], hC.2.ref.inv hf.2.2.2⟩, ?_⟩
    intro ⟨e, he, _⟩
    rw [hr', hrm] at he
    have hne : w.rm.waiting.isEmpty = false := by
      cases hw : w.rm.waiting with
      | nil => rw [hw] at he; cases he
      | cons a t => rfl
    have : chk = true := by rw [hchk, hne]; rfl
    subst this
    exact chkNow_rmEffects _ _
  unfold simulateInit
  rw [if_neg (by rw [hst]; decide)]
  rcases hr : w.rm.init with ⟨rm, recs, chk⟩
  have h1 := key rm recs chk hr
  dsimp only
  generalize ({ w with rm := rm } : World).rmEffects recs chk = W1 at h1
  have h2 : Inv (W1.assets.foldl (fun w a => w.initAsset a) W1) :=
    h1.step_C (C.foldl _ _ _ (fun w a => C_initAsset w a))
  exact h2.step_C (C.of_KK rfl)

/-! ### the event loop -/

theorem Inv0.runLoop (n : Nat) : ∀ {w : World}, Inv0 w → Inv0 (World.runLoop n w) := by
  induction n with
  | zero => intro w h; exact h.step_C (C.of_KK (KK_setErr _ _))
  | succ n ih =>
    intro w h
    unfold World.runLoop
    split
    · split
      · exact h
      · rename_i e w' hst
        exact ih (h.step hst)
    · exact h

/-- Every check executed by `runLoop n w` reaches the end of the waiting list. -/
def RunDone : Nat → World → Prop
  | 0, _ => True
  | n + 1, w =>
    w.env.running = true →
      match w.step with
      | none => True
      | some (_, w') => StepDone w ∧ RunDone n w'

instance : (n : Nat) → (w : World) → Decidable (RunDone n w)
  | 0, _ => isTrue trivial
  | n + 1, w => by
    unfold RunDone
    have : ∀ w', Decidable (RunDone n w') := fun w' => instDecidableRunDone n w'
    cases w.step with
    | none => infer_instance
    | some q => obtain ⟨e, w'⟩ := q; infer_instance

theorem Inv.runLoop (n : Nat) : ∀ {w : World}, Inv w → RunDone n w → Inv (World.runLoop n w) := by
  induction n with
  | zero => intro w h _; exact h.step_C (C.of_KK (KK_setErr _ _))
  | succ n ih =>
    intro w h hd
    unfold World.runLoop
    split
    · rename_i hrun
      have hd' := hd hrun
      split
      · exact h
      · rename_i e w' hst
        rw [hst] at hd'
        exact ih (h.step hst hd'.1) hd'.2
    · exact h

end C10W
end SimProc
