/-
C01W — `Via w (f w)` for every function of `Model/World.lean`; `step` and `runBegin` as
environment operations followed by library operations.
-/
import SimProc.Proofs.C01WFloor
import SimProc.Proofs.WorldWalk

namespace SimProc
namespace C01W
open World FloorCoreL

/-! ### small state updates -/

@[simp] theorem EK_modMaint (w : World) (m : Nat) (f : Maint → Maint) :
    EK (w.modMaint m f) = EK w := rfl
@[simp] theorem EK_setVar (w : World) (h : Nat) (v : Option Nat) : EK (w.setVar h v) = EK w := rfl

macro_rules | `(tactic| via_step) => `(tactic| with_reducible apply Via.trans_EK (h := EK_modMaint _ _ _))
macro_rules | `(tactic| via_step) => `(tactic| with_reducible apply Via.trans_EK (h := EK_setVar _ _ _))

theorem Via_startOrders (w : World) (m : Nat) (st : List Order) : Via w (w.startOrders m st) := by
  unfold startOrders
  via_auto

macro_rules | `(tactic| via_step) => `(tactic| with_reducible apply Via.trans (h2 := Via_startOrders _ _ _))

theorem Via_schedUpdate (w : World) (s : Nat) (advance : Bool) :
    Via w (w.schedUpdate s advance) := by
  unfold schedUpdate
  dsimp only
  via_auto

macro_rules | `(tactic| via_step) => `(tactic| with_reducible apply Via.trans (h2 := Via_schedUpdate _ _ _))

theorem Via_initAsset (w : World) (a : AssetRef) : Via w (w.initAsset a) := by
  unfold initAsset
  split <;> (try dsimp only) <;> via_auto

macro_rules | `(tactic| via_step) => `(tactic| with_reducible apply Via.trans (h2 := Via_initAsset _ _))

/-! ### constructors -/

theorem Via_addDev (w : World) (d : Dev) : Via w (w.addDev d) := by
  unfold addDev
  extract_lets i d' ups w1 w2 gr w3
  have h1 : Via w w1 := by
    intro g
    refine ⟨⟨?_, g.scr⟩, Refines.refl _⟩
    intro a ha
    have ha' : a ∈ w.devs.map (·.aid) ++ [(w.assets.length : Int) + 1] := by
      simpa [w1, d'] using ha
    rcases List.mem_append.1 ha' with h | h
    · exact g.aid a h
    · have : a = (w.assets.length : Int) + 1 := by simpa using h
      omega
  have h2 : Via w1 w2 := Via.floor.rewire _ _ _
  have h3 : Via w2 w3 := by
    show Via w2 (if _ then _ else _)
    split
    · exact Via.of_EK rfl
    · exact Via.refl _
  have h4 : Via w3 (if w3.started = true then w3.initAsset (AssetRef.dev i) else w3) := by
    split
    · exact Via_initAsset _ _
    · exact Via.refl _
  exact (h1.trans h2).trans (h3.trans h4)

macro_rules | `(tactic| via_step) => `(tactic| with_reducible apply Via.trans (h2 := Via_addDev _ _))

theorem Via_addAsset (w : World) (spec : AssetSpec) : Via w (w.addAsset spec) := by
  unfold addAsset
  split <;> (try dsimp only)
  all_goals via_auto

macro_rules | `(tactic| via_step) => `(tactic| with_reducible apply Via.trans (h2 := Via_addAsset _ _))

/-! ### scripted operations -/

theorem Via_applyOp (w : World) (op : Op) (h : opUser op = true) : Via w (w.applyOp op).1 := by
  unfold applyOp
  split <;> (try dsimp only)
  · exact Via_sched _ _ _ _ _ (by intro h; cases h)
      (by have h' : pTerminate < _ := of_decide_eq_true h; exact h')
  · exact Via_sched _ _ _ _ _ (by intro h; cases h)
      (by have h' : pTerminate < _ := of_decide_eq_true h; exact h')
  · exact Via_envOp _ _ (show _ ≠ _ from of_decide_eq_true h)
  · exact Via_envOp _ _ (show _ ≠ _ from of_decide_eq_true h)
  · exact Via_envOp _ _ (show _ ≠ _ from of_decide_eq_true h)
  all_goals try (via_auto; done)
  all_goals repeat' first
      | via_step
      | exact Via_sched _ _ _ _ _ (by intro h; cases h) (by decide)
      | split
      | dsimp only

theorem Via_applyOps (w : World) (ops : List Op) (h : ∀ op ∈ ops, opUser op = true) :
    Via w (w.applyOps ops) := by
  unfold applyOps
  induction ops generalizing w with
  | nil => exact Via.refl _
  | cons op ops ih =>
    rw [List.foldl_cons]
    refine Via.trans ?_ (ih _ (fun o ho => h o (List.mem_cons_of_mem _ ho)))
    exact (Via_applyOp w op (h op List.mem_cons_self)).trans_EK (EK_addRes _ _)

theorem Via_periodicSense (w : World) (s : Nat) : Via w (w.periodicSense s) := by
  unfold periodicSense
  dsimp only
  via_auto

/-! ### events -/

/-- `Via`, under its own invariant, contains what scripts, work orders and the actions of events
do.  (Not the pop of the event: that is the environment's own step, see `step_via`.) -/
theorem Via.events : EventClosed Good Via where
  refl := fun w _ => Via.refl w
  trans := Via.trans
  inv := fun g r => (r g).1
  applyOp := fun w op g ⟨l, hl, hop⟩ => Via_applyOp w op (g.scr l hl op hop)
  addRes := fun _ _ _ _ => Via.of_EK rfl
  erase := fun _ _ _ => Via.of_EK rfl
  procResourceCb := fun w _ _ d _ _ _ => Via.floor.procResourceCb w d
  modMaint := fun _ _ _ _ => Via.of_EK rfl
  addRec := fun _ _ _ _ _ _ _ _ => Via.of_EK rfl
  schedLib := fun w t _ _ _ _ he => by
    cases he <;> exact Via_schedLib w t _ _ _ (by intro h; cases h) (by decide)
  shutdownDev := fun w _ d _ _ => Via.floor.shutdownDev w d _ _
  restoreDev := fun w _ d _ _ => Via.floor.restoreDev w d
  setErr := fun w m _ _ => Via.of_EK (EK_setErr w m)
  finishCycle := fun w d _ => Via.floor.finishCycle w d
  passPart := fun w d _ => Via.floor.passPart w d
  failDev := fun w d _ => Via.floor.failDev w d
  releaseIfIdle := fun w d _ => Via.floor.releaseIfIdle w d
  schedUpdate := fun w s _ => Via_schedUpdate w s true
  periodicSense := fun w s _ => Via_periodicSense w s
  unknown := fun w _ => Via.of_EK (EK_setErr w _)

theorem Via_exec (w : World) (a : Action) : Via w (w.exec a) :=
  Via.with_good fun g => Via.events.exec w a g

theorem Via_simulateInit (w : World) : Via w w.simulateInit := by
  unfold simulateInit
  split
  · exact Via.refl _
  · dsimp only
    via_auto

/-! ### `step`, `runBegin`, `runLoop` -/

theorem Good.with_env {w : World} (g : Good w) (e : Env) : Good { w with env := e } :=
  ⟨g.aid, g.scr⟩

theorem Good.of_with_env {w : World} {e : Env} (g : Good { w with env := e }) : Good w :=
  ⟨g.aid, g.scr⟩

/-- **A world step is the environment's `step` followed by library operations.** -/
theorem step_via {w w' : World} {e : Event} (h : w.step = some (e, w')) :
    ∃ env1, w.env.step = some (e, env1) ∧ Via { w with env := env1 } w' ∧
      (e.live = false → w' = { w with env := env1 }) ∧
      (e.live = true → w' = ({ w with env := env1 } : World).exec (Action.ofNat e.act)) := by
  unfold World.step at h
  split at h
  · cases h
  · rename_i e0 env' hs
    cases h
    refine ⟨env', hs, ?_, ?_, ?_⟩
    · split
      · exact Via_exec _ _
      · exact Via.refl _
    · intro hl; simp [hl]
    · intro hl; simp [hl]

/-- `World.runBegin` is exactly one `.runBegin` operation of the environment. -/
theorem runBegin_env (w : World) (d : Int) :
    (w.runBegin d).1.env =
      (w.env.apply Arith.exact (.runBegin d
        (weightOf w.seed w.wmod (w.env.now + d) (-1) terminateAct pTerminate))).1 ∧
    EK (w.runBegin d).1 = ((w.runBegin d).1.env, (EK w).2) := by
  unfold World.runBegin
  simp only [Env.apply]
  cases w.env.runBegin Arith.exact d
      (weightOf w.seed w.wmod (w.env.now + d) (-1) terminateAct pTerminate) <;> exact ⟨rfl, rfl⟩

theorem runBegin_good (w : World) (d : Int) (g : Good w) : Good (w.runBegin d).1 := by
  have h := (runBegin_env w d).2
  refine ⟨?_, ?_⟩
  · unfold AidOK
    rw [show (w.runBegin d).1.devs.map (·.aid) = w.devs.map (·.aid) from
      congrArg (fun q => q.2.1) h]
    exact g.aid
  · unfold ScriptsUser
    rw [show (w.runBegin d).1.scripts = w.scripts from congrArg (fun q => q.2.2) h]
    exact g.scr

end C01W
end SimProc
