/-
C13Q, part 2: every function of the factory floor other than shutdown / failure / restore is a frame
`QK x` — it never pauses, resumes or cancels anything, and it queues a pass / release event of `x` only
with the asset id of `x` and only while `x` is operational.
-/
import SimProc.Proofs.C13QBase
namespace SimProc
namespace C13Q
open World FloorCoreL C06W

variable {x : Nat}

macro "flg" : term => `(Or.inr ⟨by first | rfl | (symm; assumption), rfl, rfl, id⟩)

theorem op_of_kind {w : World} {y : Nat} (h : (w.dev y).kind ≠ .processor) : w.operational y = true := by
  unfold World.operational
  cases hk : (w.dev y).kind <;> first | rfl | exact absurd hk h

section floor
variable (w : World)

theorem qk_setWaiting (y : Nat) (a b : Bool) : QK x w (w.setWaiting y a b) := by
  unfold World.setWaiting; qk_auto
macro_rules | `(tactic| qks) => `(tactic| qk_peel qk_setWaiting _ _ _ _)

theorem qk_schedulePass (y : Nat) (o : Int) (hy : y = x → w.operational x = true) :
    QK x w (w.schedulePass y o) := by
  unfold World.schedulePass
  dsimp only
  split
  · exact QK.refl _
  · have h1 : QK x w (w.setDev y { w.dev y with waitingDS := false }) :=
      qk_setDev _ _ _ flg
    refine h1.trans (qk_schedLib _ _ _ _ _ ?_)
    intro e
    rcases e with e | e
    · injection e with e
      subst e
      exact ⟨h1.aid.symm, by rw [h1.op]; exact hy rfl⟩
    · cases e

theorem qk_notify_aux (f : Nat) :
    ∀ (w : World) (y : Nat), QK x w (notifyUp f w y) ∧ QK x w (spaceAvail f w y) := by
  induction f with
  | zero =>
    intro w y
    exact ⟨by unfold notifyUp; exact qk_setErr _ _, by unfold spaceAvail; exact qk_setErr _ _⟩
  | succ f ih =>
    intro w y
    have hup : ∀ (w : World) (l : List Nat), QK x w (l.foldl (fun w u => spaceAvail f w u) w) :=
      fun w l => QK.foldl _ l w (fun w a => (ih w a).2)
    have hnu : ∀ (w : World) (l : List Nat), QK x w (l.foldl (fun w u => notifyUp f w u) w) :=
      fun w l => QK.foldl _ l w (fun w a => (ih w a).1)
    have h1 : QK x w (notifyUp (f + 1) w y) := by
      unfold notifyUp
      simp only []
      repeat' split
      all_goals first
        | exact QK.refl _ | exact (qk_setWaiting ..).trans (hup ..) | exact hnu .. | exact hup ..
    refine ⟨h1, ?_⟩
    unfold spaceAvail
    simp only []
    repeat' split
    all_goals first
      | exact QK.refl _ | exact (ih w y).1 | exact (ih _ _).2
      | (rename_i hc
         refine qk_schedulePass _ _ _ ?_
         intro e; subst e
         simp only [Bool.and_eq_true] at hc
         exact hc.1)

theorem qk_notifyUp (f : Nat) (y : Nat) : QK x w (notifyUp f w y) := (qk_notify_aux f w y).1
theorem qk_spaceAvail (f : Nat) (y : Nat) : QK x w (spaceAvail f w y) := (qk_notify_aux f w y).2
theorem qk_notify (y : Nat) : QK x w (w.notify y) := qk_notifyUp w _ y
theorem qk_spaceAvailable (y : Nat) : QK x w (w.spaceAvailable y) := qk_spaceAvail w _ y
macro_rules | `(tactic| qks) => `(tactic| qk_peel qk_notify _ _)
macro_rules | `(tactic| qks) => `(tactic| qk_peel qk_spaceAvailable _ _)

macro_rules | `(tactic| qks) => `(tactic|
  qk_peel QK.foldl _ _ _ ?side with (intro _ _; qk_auto; done))

theorem qk_releaseReserved (y : Nat) : QK x w (w.releaseReserved y) := by
  unfold World.releaseReserved; qk_auto
macro_rules | `(tactic| qks) => `(tactic| qk_peel qk_releaseReserved _ _)

theorem qk_procAcquire (y : Nat) : QK x w (w.procAcquire y).1 := by
  unfold World.procAcquire; qk_auto
macro_rules | `(tactic| qks) => `(tactic| qk_peel qk_procAcquire _ _)

theorem qk_applyPartCb (y p : Nat) (c : PartCb) : QK x w (w.applyPartCb y p c) := by
  rw [applyPartCb_eq]; unfold cbDev; qk_auto
macro_rules | `(tactic| qks) => `(tactic| qk_peel qk_applyPartCb _ _ _ _)

theorem qk_addHist (p d : Nat) : QK x w (w.addHist p d) := by
  unfold World.addHist; qk_auto
macro_rules | `(tactic| qks) => `(tactic| qk_peel qk_addHist _ _ _)

theorem qk_dropHist (p : Nat) : QK x w (w.dropHist p) := by
  unfold World.dropHist; qk_auto
macro_rules | `(tactic| qks) => `(tactic| qk_peel qk_dropHist _ _)

theorem qk_senseOutput (s p : Nat) : QK x w (w.senseOutput s p) := by
  unfold World.senseOutput; qk_auto
macro_rules | `(tactic| qks) => `(tactic| qk_peel qk_senseOutput _ _ _)

theorem qk_setBlock (y : Nat) (b : Bool) : QK x w (w.setBlock y b) := by
  unfold World.setBlock; qk_auto
macro_rules | `(tactic| qks) => `(tactic| qk_peel qk_setBlock _ _ _)

theorem qk_procResourceCb (y : Nat) : QK x w (w.procResourceCb y) := by
  unfold World.procResourceCb; qk_auto
macro_rules | `(tactic| qks) => `(tactic| qk_peel qk_procResourceCb _ _)

theorem qk_releaseIfIdle (y : Nat) : QK x w (w.releaseIfIdle y) := by
  unfold World.releaseIfIdle; qk_auto
macro_rules | `(tactic| qks) => `(tactic| qk_peel qk_releaseIfIdle _ _)

/-- `adjust_part_count` exists on sources only: for a device without a part budget it does nothing. -/
theorem qk_adjustParts (y : Nat) (v : Int) (hm : y = x → (w.dev x).maxParts = none) :
    QK x w (w.adjustParts y v) := by
  unfold World.adjustParts
  dsimp only
  split
  · exact QK.refl _
  · rename_i m hmm
    have hy : y ≠ x := by
      intro e; subst e; rw [hm rfl] at hmm; cases hmm
    split
    · refine QK.trans ?_ (qk_schedulePass _ _ _ (fun e => absurd e hy))
      exact qk_setDev _ _ _ (Or.inl hy)
    · exact qk_setDev _ _ _ (Or.inl hy)

theorem qk_genPart (y : Nat) : QK x w (w.genPart y).1 := by
  cases h : ((w.dev y).genBatch == 0)
  · rw [C02V.genPart_batch w y h]; exact qk_of_fields rfl rfl
  · rw [C02V.genPart_leaf w y h]; exact qk_of_fields rfl rfl

theorem qk_finishCycleHandler (y : Nat) : QK x w (w.finishCycleHandler y) := by
  unfold World.finishCycleHandler
  dsimp only
  split
  · exact qk_setErr _ _
  · rename_i hop
    split
    · exact qk_setErr _ _
    · split
      · exact qk_setErr _ _
      · rename_i p _ _
        have h1 : QK x w (w.setDev y { w.dev y with output := some p, part := none }) :=
          qk_setDev _ _ _ flg
        refine h1.trans (qk_schedulePass _ _ _ ?_)
        intro e; subst e
        rw [h1.op]; simpa using hop

/-- `_finish_cycle` of `y`: for `y = x` only while `x` is operational (the assertion of the handler
fails otherwise, but the processor's bookkeeping would still queue a release event). -/
theorem qk_finishCycle (y : Nat) (hy : y = x → w.operational x = true) : QK x w (w.finishCycle y) := by
  cases hk : (w.dev y).kind
  case source =>
    rw [C06W.finishCycle_source_eq w y hk]
    have h0 : QK x w (if (w.dev y).output.isNone then
        ((w.genPart y).1.modDev y (fun d => { d with output := some (w.genPart y).2 })).addHist
          (w.genPart y).2 y else w) := by
      split
      · have h1 : QK x w (w.genPart y).1 := qk_genPart w y
        generalize w.genPart y = g at h1 ⊢
        obtain ⟨w1, p⟩ := g
        exact (h1.trans (qk_modDev _ _ _ flg)).trans (qk_addHist _ _ _)
      · exact QK.refl _
    refine h0.trans (qk_schedulePass _ _ _ ?_)
    intro e
    rw [h0.op]; exact hy e
  case sink =>
    unfold World.finishCycle
    simp only [hk]
    refine QK.trans ?_ (qk_notify _ _)
    refine QK.trans ?_ (qk_modDev _ _ _ flg)
    exact qk_finishCycleHandler w y
  case processor =>
    rw [finishCycle_proc w hk]
    unfold World.finishCbs World.finishBook
    dsimp only
    have h0 := qk_finishCycleHandler (x := x) w y
    have h1 : QK x w ((w.finishCycleHandler y).setDev y
        { (w.finishCycleHandler y).dev y with
          timeInUse := ((w.finishCycleHandler y).dev y).timeInUse +
            ((w.finishCycleHandler y).now - ((w.finishCycleHandler y).dev y).lastUseStart.getD
              (w.finishCycleHandler y).now),
          lastUseStart := none }) := h0.trans (qk_setDev _ _ _ flg)
    have h2 : ∀ t p, QK x w (((w.finishCycleHandler y).setDev y
        { (w.finishCycleHandler y).dev y with
          timeInUse := ((w.finishCycleHandler y).dev y).timeInUse +
            ((w.finishCycleHandler y).now - ((w.finishCycleHandler y).dev y).lastUseStart.getD
              (w.finishCycleHandler y).now),
          lastUseStart := none }).schedLib t ((w.finishCycleHandler y).dev y).aid
            (.releaseIfIdle y) p) := by
      intro t p
      refine h1.trans (qk_schedLib _ _ _ _ _ ?_)
      intro e
      rcases e with e | e
      · cases e
      · injection e with e
        subst e
        refine ⟨?_, by rw [h1.op]; exact hy rfl⟩
        rw [h1.aid, h0.aid]
    split
    · split
      · exact h2 _ _
      · exact h1
    · refine QK.trans ?_ (qk_addRec _ _)
      refine QK.trans ?_ (QK.foldl _ _ _ (fun _ _ => qk_senseOutput _ _ _))
      refine QK.trans ?_ (QK.foldl _ _ _ (fun _ _ => qk_applyPartCb _ _ _ _))
      split
      · exact h2 _ _
      · exact h1
  all_goals
    unfold World.finishCycle
    simp only [hk]
    exact qk_finishCycleHandler w y

theorem qk_scheduleFinish (y : Nat) (hy : y = x → w.operational x = true) :
    QK x w (w.scheduleFinish y) := by
  have h1 : QK x w (w.setDev y { w.dev y with offset := 0 }) :=
    qk_setDev _ _ _ flg
  by_cases hc : 0 < w.finishDelay y
  · rw [scheduleFinish_pos w y hc]
    exact h1.trans (qk_schedLib _ _ _ _ _ (by intro e; rcases e with e | e <;> cases e))
  · rw [scheduleFinish_nonpos w y (Int.not_lt.1 hc)]
    exact h1.trans (qk_finishCycle _ y (fun e => by rw [h1.op]; exact hy e))

theorem QK.then_pass {w w1 : World} (h : QK x w w1) (y : Nat) (o : Int)
    (hy : y = x → w.operational x = true) : QK x w (w1.schedulePass y o) :=
  h.trans (qk_schedulePass _ _ _ (fun e => by rw [h.op]; exact hy e))

theorem QK.then_finish {w w1 : World} (h : QK x w w1) (y : Nat)
    (hy : y = x → w.operational x = true) : QK x w (w1.scheduleFinish y) :=
  h.trans (qk_scheduleFinish _ _ (fun e => by rw [h.op]; exact hy e))

theorem qk_batchGet (y p : Nat) : QK x w (C02V.batchGet w y p).1 := by
  unfold C02V.batchGet; qk_auto

theorem qk_batchShell (y : Nat) : QK x w (C02V.batchShell w y).1 := by
  unfold C02V.batchShell
  split
  · exact QK.refl _
  · dsimp only [World.newPart]
    refine QK.trans ?_ (qk_modDev _ _ _ flg)
    exact qk_of_fields rfl rfl

theorem qk_batchAdd (y t : Nat) : QK x w (C02V.batchAdd w y t) := by
  unfold C02V.batchAdd
  split
  · exact qk_modDev _ _ _ flg
  · have h1 := qk_batchShell (x := x) w y
    dsimp only
    split
    · exact (h1.trans (qk_modPart _ _ _)).trans (qk_modDev _ _ _ flg)
    · exact h1.trans (qk_modPart _ _ _)

theorem qk_batcherLoop (f : Nat) : ∀ (w : World) (y : Nat), QK x w (batcherLoop f w y) := by
  induction f with
  | zero => intro w y; exact QK.refl _
  | succ f ih =>
    intro w y
    rw [C02V.batcherLoop_succ]
    split
    · rename_i p _ _
      exact ((qk_batchGet w y p).trans (qk_batchAdd _ y _)).trans (ih _ y)
    · exact QK.refl _

theorem qk_tryMove (y : Nat) : QK x w (w.tryMove y) := by
  cases hk : (w.dev y).kind
  case buffer =>
    have hopy : y = x → w.operational x = true := by
      intro e; subst e; exact op_of_kind (by rw [hk]; decide)
    unfold World.tryMove
    simp only [hk]
    split
    · exact QK.refl _
    · split
      · refine QK.then_pass ?_ _ _ hopy
        refine QK.trans ?_ (qk_notify _ _)
        exact qk_setDev _ _ _ flg
      · refine QK.trans ?_ (qk_notify _ _)
        exact qk_setDev _ _ _ flg
  case batcher =>
    have hopy : y = x → w.operational x = true := by
      intro e; subst e; exact op_of_kind (by rw [hk]; decide)
    unfold World.tryMove
    simp only [hk]
    repeat' split
    all_goals first
      | exact QK.refl _
      | exact qk_setDev _ _ _ flg
      | exact qk_batcherLoop _ _ _
      | (refine QK.then_pass ?_ _ _ hopy; exact qk_batcherLoop _ _ _)
  case processor =>
    rw [tryMove_proc w hk]
    split
    · rename_i hc
      refine QK.then_finish ?_ _ ?_
      · exact qk_setDev _ _ _ flg
      · intro e
        subst e
        simp only [Bool.and_eq_true] at hc
        exact hc.1.1
    · exact QK.refl _
  all_goals
    have hopy : y = x → w.operational x = true := by
      intro e; subst e; exact op_of_kind (by rw [hk]; decide)
    unfold World.tryMove
    simp only [hk]
    split
    · exact qk_scheduleFinish _ _ hopy
    · exact QK.refl _

theorem qk_recvTail (y p : Nat) : QK x w (C13W.recvTail w y p) := by
  unfold C13W.recvTail
  dsimp only
  have h1 : QK x w ((w.addRec (.received y w.now p (w.part p).quality (w.partValue p)))) :=
    qk_addRec _ _
  split
  · refine QK.trans ?_ (qk_tryMove _ _)
    exact h1.trans (QK.foldl _ _ _ (fun _ _ => qk_applyPartCb _ _ _ _))
  · exact h1.trans (QK.foldl _ _ _ (fun _ _ => qk_applyPartCb _ _ _ _))

theorem qk_recvHead (y p : Nat) : QK x w (C13W.recvHead w y p) := by
  unfold C13W.recvHead
  split
  · exact qk_setDev _ _ _ flg
  · refine QK.trans ?_ (qk_addRec _ _)
    exact qk_setDev _ _ _ flg
  · exact QK.refl _

theorem qk_onReceived (y p : Nat) : QK x w (w.onReceived y p) := by
  rw [C13W.onReceived_eq]
  exact (qk_recvHead w y p).trans (qk_recvTail _ y p)

theorem qk_acceptPart (y p : Nat) : QK x w (w.acceptPart y p) := by
  unfold World.acceptPart
  dsimp only
  refine QK.trans ?_ (qk_onReceived _ _ _)
  refine QK.trans ?_ (qk_setWaiting _ _ _ _)
  refine QK.trans ?_ (qk_addHist _ _ _)
  refine QK.trans ?_ (qk_modDev _ _ _ flg)
  split
  · exact qk_of_fields rfl rfl
  · exact QK.refl _

end floor

/-! ### the hand-over -/

theorem qk_tryList (g : World → Nat → Nat → World × Bool)
    (hg : ∀ w y p, QK x w (g w y p).1) (l : List Nat) :
    ∀ (w : World) (p : Nat), QK x w (tryList g w l p).1 := by
  induction l with
  | nil => intro w p; exact QK.refl _
  | cons y ys ih =>
    intro w p
    unfold tryList
    have h1 := hg w y p
    cases hgy : g w y p with
    | mk w' b =>
      rw [hgy] at h1
      cases b with
      | true => exact h1
      | false => exact h1.trans (ih w' p)

theorem qk_give (f : Nat) : ∀ (w : World) (y p : Nat), QK x w (give f w y p).1 := by
  induction f with
  | zero => intro w y p; exact qk_setErr _ _
  | succ f ih =>
    intro w y p
    have hl := qk_tryList (x := x) (give f) ih
    unfold give
    simp only []
    split
    iterate 5
      split
      · dsimp only
        exact qk_acceptPart w y p
      · exact QK.refl _
    · -- processor
      split
      · have ma : QK x w (w.procAcquire y).1 := qk_procAcquire w y
        split
        · rename_i w1 hw1
          rw [hw1] at ma
          dsimp only at ma ⊢
          exact ma.trans (qk_acceptPart w1 y p)
        · rename_i w1 hw1
          rw [hw1] at ma
          exact ma
      · exact QK.refl _
    · -- gate
      split
      · exact QK.refl _
      · split
        · exact QK.refl _
        · have g1 : QK x w (w.addHist p y) := qk_addHist ..
          have := hl ((w.addHist p y).sortedDown y) (w.addHist p y) p
          split
          · rename_i w2 hw2; rw [hw2] at this
            exact g1.trans this
          · rename_i w2 hw2; rw [hw2] at this
            exact (g1.trans this).trans (qk_dropHist ..)
    · -- ginput
      split
      · exact QK.refl _
      · exact hl (w.sortedDown y) w p
    · -- gpath
      split
      · exact QK.refl _
      · have g1 : QK x w
            ((w.modPart p (fun r => { r with stack := r.stack ++ [y] })).addHist p y) :=
          (qk_modPart ..).trans (qk_addHist ..)
        have := ih ((w.modPart p (fun r => { r with stack := r.stack ++ [y] })).addHist p y)
          ((((w.modPart p (fun r => { r with stack := r.stack ++ [y] })).addHist p y).groups.getD
            (w.dev y).group default).input) p
        split
        · rename_i w2 hw2
          rw [hw2] at this
          exact g1.trans this
        · rename_i w2 hw2
          rw [hw2] at this
          exact (g1.trans this).trans ((qk_modPart ..).trans (qk_dropHist ..))
    · -- goutput
      split
      · exact qk_setErr ..
      · rename_i g hg
        have g1 : QK x w (w.modPart p (fun r => { r with stack := r.stack.dropLast })) :=
          qk_modPart ..
        have := hl ((w.modPart p (fun r => { r with stack := r.stack.dropLast })).sortedDown g)
          (w.modPart p (fun r => { r with stack := r.stack.dropLast })) p
        split
        · rename_i w2 hw2; rw [hw2] at this
          exact g1.trans this
        · rename_i w2 hw2; rw [hw2] at this
          dsimp only at this ⊢
          exact (g1.trans this).trans (qk_modPart ..)

theorem qk_tryGive (w : World) (l : List Nat) (p : Nat) : QK x w (tryList givePart w l p).1 :=
  qk_tryList givePart (fun w y p => qk_give w.fuel w y p) l w p

theorem qk_passHandler (w : World) (y : Nat) : QK x w (w.passHandler y) := by
  unfold World.passHandler
  simp only []
  split
  · exact QK.refl _
  · split
    · exact QK.refl _
    · rename_i p _
      have h1 := qk_tryGive (x := x) w (w.sortedDown y) p
      split
      · rename_i w1 hw1
        rw [hw1] at h1
        dsimp only at h1
        exact (h1.trans (qk_modDev _ _ _ flg)).trans (qk_notify ..)
      · rename_i w1 hw1
        rw [hw1] at h1
        exact h1.trans (qk_modDev _ _ _ flg)

theorem qk_bufferLoop (f : Nat) : ∀ (w : World) (y : Nat), QK x w (bufferLoop f w y) := by
  induction f with
  | zero => intro w y; exact QK.refl _
  | succ f ih =>
    intro w y
    unfold bufferLoop
    simp only []
    split
    · exact QK.refl _
    · rename_i t p rest _
      split
      · exact QK.refl _
      · have h1 := qk_tryGive (x := x) w (w.sortedDown y) p
        split
        · rename_i w1 hw1
          rw [hw1] at h1
          dsimp only at h1
          refine ((h1.trans (qk_modDev _ _ _ flg)).trans (qk_addRec ..)).trans
            (ih _ y)
        · rename_i w1 hw1
          rw [hw1] at h1
          exact h1

theorem qk_passPart (w : World) (y : Nat) : QK x w (w.passPart y) := by
  unfold World.passPart
  extract_lets d rem wP wB dB wS
  have hP : QK x w wP := qk_passHandler w y
  have hop : d.kind ≠ .processor → y = x → w.operational x = true :=
    fun hk e => e ▸ op_of_kind hk
  clear_value rem
  split
  · next hk =>
    repeat' first | split | (dsimp only; split)
    all_goals first
      | with_reducible exact QK.refl _
      | with_reducible exact hP
      | (refine QK.then_finish ?_ y (hop (by rw [hk]; decide))
         refine QK.trans ?_ (qk_addRec _ _)
         exact hP.trans (qk_modDev _ _ _ flg))
  · next hk =>
    have hB : QK x w wB := qk_bufferLoop _ w y
    refine QK.trans ?_ (qk_notify ..)
    unfold wS
    split
    · exact hB
    · dsimp only
      split
      · exact hB.then_pass y _ (hop (by rw [hk]; decide))
      · exact hB.trans (qk_setDev _ _ _ flg)
  · split
    · exact hP.trans (qk_tryMove _ _)
    · exact hP
  · exact QK.refl _
  · exact hP

end C13Q
end SimProc
