/-
Machinery for `Props/C11W.lean`, part 5: shutting down, failing and restoring a device, the RELEASE
event, and the availability check preserve the closed-world invariant.
-/
import SimProc.Proofs.C11WSteps

namespace SimProc
namespace C11W
open World FloorCoreL

/-! ### shutting down -/

theorem resM_setDev_shut (w : World) (x : Nat) (d : Dev) (hd : d.resM = (w.dev x).resM) (y : Nat) :
    ((w.setDev x d).dev y).resM = (w.dev y).resM := by
  rw [dev_setDev]
  split
  · next h => obtain ⟨rfl, _⟩ := h; exact hd
  · rfl

theorem dev_setDev_envOp (w : World) (x : Nat) (d : Dev) (op : EnvOp) (y : Nat) :
    ((w.setDev x d).envOp op).dev y = if x = y ∧ x < w.devs.length then d else w.dev y :=
  dev_setDev w x y d

/-- mark `x` as shut down and pause its events (maintenance shutdown of an operational device) -/
theorem inv_shutPause (w : World) (x : Nat) (h : Inv w) (hs : (w.dev x).shutDown = false) :
    Inv ((w.setDev x { w.dev x with shutDown := true }).envOp (.pause (w.dev x).aid)) := by
  have hd : ∀ y, (((w.setDev x { w.dev x with shutDown := true }).envOp
      (.pause (w.dev x).aid)).dev y).resM = (w.dev y).resM :=
    fun y => resM_setDev_shut w x { w.dev x with shutDown := true } rfl y
  refine inv_pause w _ (w.dev x).aid h (h.r.congr rfl rfl setDev_devs_length hd) rfl rfl hd ?_ ?_
    (aid_ne_neg_one h.r.s x)
  · intro y hk ha
    have hy : y = x := Classical.byContradiction fun hne => aid_ne_of_proc h.r.s hk hne ha
    subst hy
    rw [dev_setDev_envOp, if_pos ⟨rfl, lt_of_processor hk⟩]
  · intro y
    rw [dev_setDev_envOp]
    split
    · next hxy =>
      obtain ⟨rfl, _⟩ := hxy
      exact Or.inr ⟨hs, rfl, rfl⟩
    · exact Or.inl rfl

/-- mark `x` as shut down and cancel its events (failure; a failing processor holds nothing) -/
theorem inv_shutCancel (w : World) (x : Nat) (h : Inv w)
    (hf : (w.dev x).kind = .processor → (w.dev x).reserved = none) :
    Inv ((w.setDev x { w.dev x with shutDown := true }).envOp (.cancel (w.dev x).aid)) := by
  have hd : ∀ y, (((w.setDev x { w.dev x with shutDown := true }).envOp
      (.cancel (w.dev x).aid)).dev y).resM = (w.dev y).resM :=
    fun y => resM_setDev_shut w x { w.dev x with shutDown := true } rfl y
  refine inv_cancel w _ (w.dev x).aid h (h.r.congr rfl rfl setDev_devs_length hd) rfl rfl hd ?_ ?_
    (aid_ne_neg_one h.r.s x)
  · intro y hk ha
    have hy : y = x := Classical.byContradiction fun hne => aid_ne_of_proc h.r.s hk hne ha
    subst hy
    refine ⟨hf hk, ?_⟩
    rw [dev_setDev_envOp, if_pos ⟨rfl, lt_of_processor hk⟩]
  · intro y
    rw [dev_setDev_envOp]
    split
    · next hxy =>
      obtain ⟨rfl, _⟩ := hxy
      exact Or.inr ⟨rfl, rfl⟩
    · exact Or.inl rfl

theorem inv_cancelOnly (w : World) (x : Nat) (h : Inv w) (hs : (w.dev x).shutDown = true)
    (hf : (w.dev x).kind = .processor → (w.dev x).reserved = none) :
    Inv (w.envOp (.cancel (w.dev x).aid)) := by
  have e : ({ w.dev x with shutDown := true } : Dev) = w.dev x := by rw [← hs]
  have := inv_shutCancel w x h hf
  rw [e, setDev_dev_self] at this
  exact this

/-- What `_shutdown` does after marking the device and pausing or cancelling its events: the
accounting of `x`, the idle clock, the callbacks. -/
theorem monoS_shutTail (w : World) (x : Nat) (d : Dev) (l : List Nat) (r : Nat → Res)
    (hd : d.resA = (w.dev x).resA) (hp : d.part = (w.dev x).part) :
    MonoS w (l.foldl (fun w k => w.addRes (r k)) ((w.setDev x d).setWaiting x false false)) :=
  ((monoS_setDev w x d hd fun _ => hp).trans (monoS_setWaiting _ _ _ _)).trans
    (monoS_foldl _ _ _ fun w _ => monoS_addRes w _)

/-- `_shutdown`: a failure only hits a processor that holds nothing (it has just released). -/
theorem inv_shutdownDev (w : World) (x : Nat) (isF : Bool) (lost : Option Nat) (h : Inv w)
    (hf : isF = true → (w.dev x).kind = .processor → (w.dev x).reserved = none) :
    Inv (w.shutdownDev x isF lost) := by
  unfold shutdownDev
  dsimp only
  by_cases hs : (w.dev x).shutDown = true
  · rw [if_pos hs]
    split
    · next hc =>
      simp only [Bool.and_eq_true] at hc
      exact (inv_cancelOnly w x h hs (hf hc.1)).mono
        (monoS_foldl _ _ _ (fun w k => monoS_addRes w _)).toMono
    · exact h
  · rw [if_neg hs]
    have hs' : (w.dev x).shutDown = false := by simpa using hs
    cases isF
    · simp only [Bool.false_eq_true, if_false]
      refine (inv_shutPause w x h hs').mono (monoS_shutTail _ x _ _ _ ?_ ?_).toMono <;> split <;> rfl
    · simp only [if_true]
      refine (inv_shutCancel w x h (hf rfl)).mono (monoS_shutTail _ x _ _ _ ?_ ?_).toMono <;>
        split <;> rfl

/-! ### restoring -/

theorem inv_restoreCore (w : World) (x : Nat) (h : Inv w) (hs : (w.dev x).shutDown = true) :
    Inv ((w.setDev x { w.dev x with shutDown := false, lastRestore := some w.now }).envOp
      (.unpause (w.dev x).aid)) := by
  have hd : ∀ y, (((w.setDev x { w.dev x with shutDown := false, lastRestore := some w.now }).envOp
      (.unpause (w.dev x).aid)).dev y).resM = (w.dev y).resM :=
    fun y => resM_setDev_shut w x { w.dev x with shutDown := false, lastRestore := some w.now } rfl y
  refine inv_unpause w _ (w.dev x).aid h (h.r.congr rfl rfl setDev_devs_length hd) rfl rfl hd ?_ ?_
  · intro y hk ha
    have hy : y = x := Classical.byContradiction fun hne => aid_ne_of_proc h.r.s hk hne ha
    subst hy
    rw [dev_setDev_envOp, if_pos ⟨rfl, lt_of_processor hk⟩]
  · intro y
    rw [dev_setDev_envOp]
    split
    · next hxy =>
      obtain ⟨rfl, _⟩ := hxy
      exact Or.inr ⟨hs, rfl, rfl⟩
    · exact Or.inl rfl

theorem inv_restoreDev (w : World) (x : Nat) (h : Inv w) : Inv (w.restoreDev x) := by
  unfold restoreDev
  dsimp only
  by_cases hs : (w.dev x).shutDown = true
  · simp only [hs, Bool.not_true, Bool.false_eq_true, if_false]
    -- after the core: retry the hand-over or tell upstream, restart the use clock, the callbacks
    have h2 : ∀ w : World, MonoS w (if (w.dev x).output.isSome then w.schedulePass x 0
        else if (w.dev x).part.isNone then w.notify x else w) := by
      intro w
      split
      · exact monoS_schedulePass ..
      · split
        · exact monoS_notify ..
        · exact .refl w
    have h3 : ∀ w : World, MonoS w (if (w.dev x).part.isSome then
        w.modDev x (fun d => { d with lastUseStart := some w.now }) else w) := by
      intro w
      split
      · exact monoS_modDev _ _ _ rfl fun _ => rfl
      · exact .refl w
    exact (inv_restoreCore w x h hs).mono
      (((h2 _).trans (h3 _)).trans (monoS_foldl _ _ _ fun w _ => monoS_addRes w _)).toMono
  · have hs' : (w.dev x).shutDown = false := by simpa using hs
    simp only [hs', Bool.not_false, if_true]
    exact h

/-! ### failing -/

/-- Taking the part in process away from `x` (which is about to release its reservation). -/
theorem invR_dropPart (w : World) (x : Nat) (h : Inv w) :
    InvR x (w.modDev x (fun d => { d with part := none })) := by
  have hdev : ∀ y, ((w.modDev x (fun d => { d with part := none })).dev y) =
      if x = y ∧ x < w.devs.length then { w.dev x with part := none } else w.dev y :=
    fun y => dev_modDev w x y _
  have hne : ∀ y, y ≠ x → (w.modDev x (fun d => { d with part := none })).dev y = w.dev y :=
    fun y hy => dev_modDev_ne (Ne.symm hy)
  have henv : EnvMono w (w.modDev x (fun d => { d with part := none })) := EnvMono.of_env_eq rfl
  have hrm : (w.modDev x (fun d => { d with part := none })).rm = w.rm := rfl
  have hlen : (w.modDev x (fun d => { d with part := none })).devs.length = w.devs.length :=
    modDev_devs_length
  have hscr : (w.modDev x (fun d => { d with part := none })).scripts = w.scripts := rfl
  have hee : (w.modDev x (fun d => { d with part := none })).env = w.env := rfl
  generalize w.modDev x (fun d => { d with part := none }) = W at *
  have hf : ∀ {α : Type} (g : Dev → α), (∀ d p, g { d with part := p } = g d) →
      ∀ y, g (W.dev y) = g (w.dev y) := by
    intro α g hg y
    rw [hdev]
    split
    · next hxy => obtain ⟨rfl, _⟩ := hxy; exact hg _ _
    · rfl
  have hdk : ∀ y, dk (W.dev y) = dk (w.dev y) := hf dk (fun _ _ => rfl)
  refine ⟨h.r.congr' hscr hrm hlen (hf (·.reserved) (fun _ _ => rfl)) (hf (·.resReq) (fun _ _ => rfl))
    (hf (·.waitingRes) (fun _ _ => rfl)) (hf (·.kind) (fun _ _ => rfl)) (hf (·.aid) (fun _ _ => rfl))
    ?_, ⟨?_, ?_, ?_, by rw [hee]; exact h.e.q⟩, ?_, ?_⟩
  · intro y
    rw [hdev]
    split
    · intro hp; cases hp
    · exact id
  · intro y hy hk hs hr hp
    rw [hne y hy] at hk hs hr hp ⊢
    rw [hee]
    exact h.e.relP y hk hs hr hp
  · intro y hk hs
    rw [dk_kind (hdk y)] at hk
    rw [dk_shutDown (hdk y)] at hs
    rw [hee]
    exact h.e.noRun y hk hs
  · intro e he y hk ha
    rw [dk_kind (hdk y)] at hk
    rw [dk_aid (hdk y)]
    rw [hee] at he
    exact h.e.evA e he y hk ha
  · exact h.pend.step henv (by rw [hrm]; exact id)
  · intro y hy
    refine (h.rel y).step (hdk y) henv ?_
    intro _ _ hr hp
    rw [hne y hy] at hr hp
    exact Or.inl ⟨hr, hp⟩

theorem inv_failDev (w : World) (x : Nat) (h : Inv w) : Inv (w.failDev x) := by
  unfold failDev
  dsimp only
  have key : ∀ w0 : World, Inv w0 → ∀ lost,
      Inv ((((w0.modDev x (fun d => { d with part := none })).releaseReserved x).addRec
        (.failure x ((w0.modDev x (fun d => { d with part := none })).releaseReserved x).now
          lost)).shutdownDev x true lost) := by
    intro w0 h0 lost
    have h1 := invR_dropPart w0 x h0
    have hp : ((w0.modDev x (fun d => { d with part := none })).dev x).kind = .processor →
        ((w0.modDev x (fun d => { d with part := none })).dev x).part = none := by
      intro hk
      have hk0 : (w0.dev x).kind = .processor :=
        (modDev_dev_field (fun d => d.kind) w0 x _ rfl x).symm.trans hk
      rw [dev_modDev_same (lt_of_processor hk0)]
    have h2 := invR_releaseReserved _ x h1 hp
    have h3 := h2.mono (monoS_addRec _ (.failure x
      ((w0.modDev x (fun d => { d with part := none })).releaseReserved x).now lost)).toMono
    refine inv_shutdownDev _ x true lost h3 ?_
    intro _ _
    exact releaseReserved_reserved _ x
  split
  · refine key _ ?_ _
    refine h.mono (MonoS.toMono ?_)
    exact MonoS.of_eq rfl rfl rfl rfl
  · exact key _ h _

/-! ### the RELEASE event -/

/-- Running `_release_resources_if_idle` of `x` when everything but `Rel x` holds (the RELEASE
event has just been taken from the queue) and `x` is not a shut-down processor. -/
theorem invX_releaseIfIdle (w : World) (x : Nat) (h : InvX x w)
    (hop : (w.dev x).kind = .processor → (w.dev x).shutDown = false) : Inv (w.releaseIfIdle x) := by
  unfold releaseIfIdle
  have hopr : w.operational x = true := by
    by_cases hk : (w.dev x).kind = .processor
    · unfold operational; simp [hk, hop hk]
    · exact operational_nonproc hk
  cases hp : (w.dev x).part with
  | none =>
    simp only [hopr, Option.isNone_none, Bool.not_true, Bool.false_or, if_true]
    exact invX_releaseReserved w x h (fun _ => hp)
  | some p =>
    simp only [hopr, Option.isNone_some, Bool.not_true, Bool.or_false, Bool.false_eq_true,
      if_false]
    refine ⟨h.r, h.e, h.pend, fun y => ?_⟩
    by_cases hy : y = x
    · subst hy; intro _ _ _ hpp; rw [hp] at hpp; cases hpp
    · exact h.rel y hy


/-! ### the availability check -/

/-- The state of `_check_pending_requests` between two iterations: everything but `Pend`, and the
entries the scan has passed do not fit. -/
structure ScanI (w : World) (i : Nat) : Prop where
  r : RInv w
  e : EInv w
  rel : ∀ x, Rel w x
  passed : ∀ j e, j < i → w.rm.waiting[j]? = some e → w.rm.canFulfill e.1 = false

theorem canFulfill_congr {a b : RM} (h : a.pools = b.pools) (req : Req) :
    a.canFulfill req = b.canFulfill req := C10.canFulfill_pools a b h req

/-- One callback of the scan: the waiting processor at index `i` is told and removed. -/
theorem scanI_call (w : World) (i x : Nat) (req : Req) (h : ScanI w i)
    (hi : w.rm.waiting[i]? = some (req, Cb.proc x)) :
    ScanI (scanOps.erase (scanOps.call w (Cb.proc x) req) i) i := by
  show ScanI ({ (w.procResourceCb x) with
    rm := { (w.procResourceCb x).rm with waiting := (w.procResourceCb x).rm.waiting.eraseIdx i } }) i
  unfold procResourceCb
  have hm : MonoS (w.modDev x (fun d => { d with waitingRes := false }))
      ((w.modDev x (fun d => { d with waitingRes := false })).notify x) := monoS_notify _ x
  have hdev : ∀ {α : Type} (g : Dev → α), (∀ d b, g { d with waitingRes := b } = g d) →
      ∀ y, g ((w.modDev x (fun d => { d with waitingRes := false })).dev y) = g (w.dev y) :=
    fun g hg y => modDev_dev_field g w x _ (hg _ _) y
  have hwr : ∀ y, y ≠ x →
      ((w.modDev x (fun d => { d with waitingRes := false })).dev y).waitingRes =
        (w.dev y).waitingRes := fun y hy => by rw [dev_modDev_ne (Ne.symm hy)]
  have hlen0 : (w.modDev x (fun d => { d with waitingRes := false })).devs.length = w.devs.length :=
    modDev_devs_length
  have henv0 : (w.modDev x (fun d => { d with waitingRes := false })).env = w.env := rfl
  have hrm0 : (w.modDev x (fun d => { d with waitingRes := false })).rm = w.rm := rfl
  have hscr0 : (w.modDev x (fun d => { d with waitingRes := false })).scripts = w.scripts := rfl
  generalize w.modDev x (fun d => { d with waitingRes := false }) = wa at *
  have hrm1 : (wa.notify x).rm = w.rm := hm.m0.rm.trans hrm0
  generalize wa.notify x = w1 at *
  have hdk : ∀ y, dk (w1.dev y) = dk (w.dev y) := fun y => (hm.m0.dk y).trans (hdev dk (fun _ _ => rfl) y)
  have hres : ∀ y, (w1.dev y).reserved = (w.dev y).reserved :=
    fun y => (hm.m0.reserved y).trans (hdev (·.reserved) (fun _ _ => rfl) y)
  have hreq : ∀ y, (w1.dev y).resReq = (w.dev y).resReq :=
    fun y => (hm.m0.resReq y).trans (hdev (·.resReq) (fun _ _ => rfl) y)
  have hpart : ∀ y, (w.dev y).kind = .processor → (w1.dev y).part = (w.dev y).part := by
    intro y hk
    rw [hm.same y (by rw [hdev (·.kind) (fun _ _ => rfl)]; exact hk)]
    exact hdev (·.part) (fun _ _ => rfl) y
  have henv : EnvMono w w1 := hm.m0.env.congr_left henv0 (hdev dk (fun _ _ => rfl))
  have hil : i < w.rm.waiting.length := (List.getElem?_eq_some_iff.1 hi).1
  have hwait : Wait ({ w1 with rm := { w1.rm with waiting := w1.rm.waiting.eraseIdx i } } : World) := by
    unfold Wait
    show ((w1.rm.waiting.eraseIdx i).map (·.2)).Nodup ∧ ∀ e ∈ w1.rm.waiting.eraseIdx i, ∃ x', _ ∧
      (w1.dev x').waitingRes = true
    rw [hrm1]
    constructor
    · exact h.r.wait.1.sublist ((List.eraseIdx_sublist _ _).map _)
    · intro e he
      obtain ⟨j, hj, hje⟩ := List.mem_eraseIdx_iff_getElem?.1 he
      obtain ⟨x', hx', hwx⟩ := h.r.wait.2 e (List.mem_of_getElem? hje)
      refine ⟨x', hx', ?_⟩
      have hne : x' ≠ x := by
        intro e'
        subst e'
        have hjl : j < w.rm.waiting.length := (List.getElem?_eq_some_iff.1 hje).1
        have h1 : (w.rm.waiting.map (·.2))[j]'(by simpa using hjl) = Cb.proc x' := by
          simp [(List.getElem?_eq_some_iff.1 hje).2, hx']
        have h2 : (w.rm.waiting.map (·.2))[i]'(by simpa using hil) = Cb.proc x' := by
          simp [(List.getElem?_eq_some_iff.1 hi).2]
        exact hj ((List.getElem_inj h.r.wait.1).1 (h1.trans h2.symm))
      rw [hm.m0.waitingRes, hwr x' hne]
      exact hwx
  refine ⟨h.r.congrW (hm.m0.scr.trans hscr0) ?_ ?_ ?_ (hm.m0.len.trans hlen0) hres hreq
      (fun y => dk_kind (hdk y)) (fun y => dk_aid (hdk y)) ?_ hwait, ?_, ?_, ?_⟩
  · show C09.Inv { w1.rm with waiting := w1.rm.waiting.eraseIdx i }
    rw [hrm1]
    exact ⟨h.r.rmI.poolKeys, h.r.rmI.resvIds, h.r.rmI.heldKeys, h.r.rmI.heldPos, h.r.rmI.heldKnown,
      h.r.rmI.usageEq, h.r.rmI.capNonneg⟩
  · show w1.rm.inited = true
    rw [hrm1]; exact h.r.ini
  · show w1.rm.resv = w.rm.resv
    rw [hrm1]
  · intro y hk hp
    have hp' : ((w1.dev y).part).isSome = true := hp
    rw [hpart y hk] at hp'; exact hp'
  · refine h.e.step ⟨hdk, henv.congr_right rfl, ?_⟩
    intro y hk _ hr hp
    exact ⟨by rw [← hres]; exact hr, by rw [← hpart y hk]; exact hp⟩
  · intro y
    refine (h.rel y).step (hdk y) (henv.congr_right rfl) ?_
    intro hk _ hr hp
    exact Or.inl ⟨by rw [← hres]; exact hr, by rw [← hpart y hk]; exact hp⟩
  · intro j e hj he
    have he' : (w1.rm.waiting.eraseIdx i)[j]? = some e := he
    rw [List.getElem?_eraseIdx_of_lt hj, hrm1] at he'
    show ({ w1.rm with waiting := w1.rm.waiting.eraseIdx i } : RM).canFulfill e.1 = false
    rw [canFulfill_congr (b := w.rm) (by rw [hrm1])]
    exact h.passed j e hj he'

theorem scanI_skip (w : World) (i : Nat) (req : Req) (cb : Cb) (h : ScanI w i)
    (hi : w.rm.waiting[i]? = some (req, cb)) (hc : ¬ w.rm.canFulfill req = true) :
    ScanI w (i + 1) := by
  refine ⟨h.r, h.e, h.rel, ?_⟩
  intro j e hj he
  by_cases hji : j = i
  · subst hji
    rw [hi] at he
    cases he
    simpa using hc
  · exact h.passed j e (by omega) he

theorem inv_scan (f : Nat) : ∀ (w : World) (i : Nat), ScanI w i →
    w.rm.waiting.length + 1 ≤ f + i → Inv (scanWaiting scanOps f w i) := by
  induction f with
  | zero =>
    intro w i h hf
    show Inv w
    refine ⟨h.r, h.e, ?_, h.rel⟩
    intro ⟨e, he, hc⟩
    obtain ⟨j, hj⟩ := List.mem_iff_getElem?.1 he
    have hjl : j < w.rm.waiting.length := (List.getElem?_eq_some_iff.1 hj).1
    have := h.passed j e (by omega) hj
    rw [this] at hc; cases hc
  | succ f ih =>
    intro w i h hf
    unfold scanWaiting
    cases hi : (scanOps.rm w).waiting[i]? with
    | none =>
      simp only
      refine ⟨h.r, h.e, ?_, h.rel⟩
      intro ⟨e, he, hc⟩
      obtain ⟨j, hj⟩ := List.mem_iff_getElem?.1 he
      have hjl : j < w.rm.waiting.length := (List.getElem?_eq_some_iff.1 hj).1
      have hil : w.rm.waiting.length ≤ i := List.getElem?_eq_none_iff.1 hi
      have := h.passed j e (by omega) hj
      rw [this] at hc; cases hc
    | some ent =>
      obtain ⟨req, cb⟩ := ent
      simp only
      have hi' : w.rm.waiting[i]? = some (req, cb) := hi
      have hil : i < w.rm.waiting.length := (List.getElem?_eq_some_iff.1 hi').1
      split
      · obtain ⟨x, hx, _⟩ := h.r.wait.2 (req, cb) (List.mem_of_getElem? hi')
        simp only at hx
        subst hx
        have h2 := scanI_call w i x req h hi'
        refine ih _ i h2 ?_
        show (w.procResourceCb x).rm.waiting.eraseIdx i |>.length |>.succ |> (· ≤ f + i)
        have hrm : (w.procResourceCb x).rm = w.rm := by
          unfold procResourceCb
          exact (monoS_notify _ x).m0.rm
        rw [hrm, List.length_eraseIdx_of_lt hil]
        omega
      · next hc => exact ih w (i + 1) (scanI_skip w i req cb h hi' hc) (by omega)

/-- all waiting processors are distinct devices, so there are at most as many as devices -/
theorem wait_length_le {w : World} (h : Wait w) : w.rm.waiting.length ≤ w.devs.length := by
  have h1 : (w.rm.waiting.map (·.2)).length ≤ ((List.range w.devs.length).map Cb.proc).length := by
    apply List.Nodup.length_le_of_subset h.1
    intro cb hcb
    obtain ⟨e, he, rfl⟩ := List.mem_map.1 hcb
    obtain ⟨x, hx, hw⟩ := h.2 e he
    rw [hx]
    refine List.mem_map.2 ⟨x, List.mem_range.2 ?_, rfl⟩
    apply Nat.lt_of_not_le
    intro hle
    rw [dev_of_length_le hle] at hw
    cases hw
  simpa using h1

/-- `_check_pending_requests` (the event whose pending witness has just been consumed). -/
theorem inv_rmCheck (w : World) (hr : RInv w) (he : EInv w) (hrel : ∀ x, Rel w x) : Inv w.rmCheck := by
  unfold rmCheck
  refine inv_scan 10000 w 0 ⟨hr, he, hrel, fun j e hj => absurd hj (Nat.not_lt_zero j)⟩ ?_
  have := wait_length_le hr.wait
  have := hr.s.len
  omega

end C11W
end SimProc
