/-
C06W (closed-world timer invariant), part 5: the hand-over of a part: `give`, `tryList`,
`passHandler`, `bufferLoop`, `passPart`.
-/
import SimProc.Proofs.C06WFloor
import SimProc.Proofs.FloorPass
namespace SimProc
namespace C06W
open World FloorCoreL
open C02V (Reach st GiveOK)

theorem Good.refl {w : World} (h : FI w) : Good w w := ⟨h, Keep.refl w⟩

theorem Good.fr {w w' w'' : World} (h : Good w w') (f : Fr None_ w' w'') : Good w w'' :=
  h.trans (f.good h.1)

/-- The state part of `_can_accept_part` of a timing device: empty slots, operational. -/
theorem canAccept_T {w : World} {x p : Nat} (hT : isT (w.dev x).kind = true)
    (h : w.canAcceptBasic x p = true) :
    (w.dev x).part = none ∧ (w.dev x).output = none ∧ w.operational x = true := by
  unfold World.canAcceptBasic at h
  cases hk : (w.dev x).kind <;> simp_all [isT, Option.isNone_iff_eq_none]

theorem reach_self {w : World} {y : Nat} (hl : isHandlerLike (w.dev y).kind = true) :
    Reach (st w) y y := Reach.self y (by rw [C02V.st_kind]; exact hl)

theorem good_tryList (g : World → Nat → Nat → World × Bool)
    (hg : ∀ w y p, FI w → (∀ z, Reach (st w) y z → z < w.devs.length) → Good w (g w y p).1)
    (hst : ∀ w y p, st (g w y p).1 = st w) (l : List Nat) :
    ∀ (w : World) (p : Nat), FI w → (∀ y ∈ l, ∀ z, Reach (st w) y z → z < w.devs.length) →
      Good w (tryList g w l p).1 := by
  induction l with
  | nil => intro w p h _; exact Good.refl h
  | cons y ys ih =>
    intro w p h hr
    unfold tryList
    have h1 := hg w y p h (hr y (List.mem_cons_self ..))
    have h2 := hst w y p
    cases hgy : g w y p with
    | mk w' b =>
      rw [hgy] at h1 h2
      cases b with
      | true => exact h1
      | false =>
        simp only [] at h1 h2 ⊢
        refine h1.trans (ih w' p h1.1 ?_)
        intro y' hy' z hz
        rw [h2] at hz
        rw [h1.2.len]
        exact hr y' (List.mem_cons_of_mem _ hy') z hz

theorem good_give (f : Nat) : ∀ (w : World) (y p : Nat), FI w →
    (∀ z, Reach (st w) y z → z < w.devs.length) → Good w (give f w y p).1 := by
  induction f with
  | zero => intro w y p h _; exact (fr_setErr (X := None_) w "fuel" (by decide)).good h
  | succ f ih =>
    intro w y p h hr
    have hl := good_tryList (give f) ih (C02V.st_give f)
    unfold give
    simp only []
    split
    iterate 5
      rename_i hk
      split
      · rename_i hc
        have hlk : isHandlerLike (w.dev y).kind = true := by rw [hk]; rfl
        dsimp only
        exact good_acceptPart h p (hr y (reach_self hlk)) hlk (fun hT => canAccept_T hT hc)
      · exact Good.refl h
    · -- processor
      rename_i hk
      have hlk : isHandlerLike (w.dev y).kind = true := by rw [hk]; rfl
      have hT : isT (w.dev y).kind = true := by rw [hk]; rfl
      split
      · rename_i hc
        obtain ⟨hp, ho, hop⟩ := canAccept_T hT hc
        have fa := fr_procAcquire (X := None_) w y
        split
        · rename_i w1 hw1
          rw [hw1] at fa
          have e := fa.tdm_eq y
          have hT1 : isT (w1.dev y).kind = true := by rw [fa.kind]; exact hT
          dsimp only at fa ⊢
          refine (fa.good h).trans (good_acceptPart (fa.good h).1 p (fa.len ▸ hr y (reach_self hlk))
            (by rw [fa.kind]; exact hlk) (fun _ => ⟨?_, ?_, ?_⟩))
          · rw [← tdm_part hT1, e, tdm_part hT]; exact hp
          · rw [← tdm_output hT1, e, tdm_output hT]; exact ho
          · rw [operational_eq, e, ← operational_eq]; exact hop
        · rename_i w1 hw1
          rw [hw1] at fa
          dsimp only at fa ⊢
          exact fa.good h
      · exact Good.refl h
    · -- gate
      rename_i hk
      split
      · exact Good.refl h
      · split
        · exact Good.refl h
        · have f1 := fr_addHist (X := None_) w p y
          have hs1 : st (w.addHist p y) = st w := C02V.st_addHist ..
          have := hl ((w.addHist p y).sortedDown y) (w.addHist p y) p (f1.good h).1 (by
            intro z hz u hu
            rw [hs1] at hu
            rw [f1.len]
            refine hr u (Reach.gate y z u (Or.inl ?_) ?_ hu)
            · rw [C02V.st_kind]; exact hk
            · rw [C02V.st_down]
              have := (C02V.mem_sortedDown ..).1 hz
              have e : ((w.addHist p y).dev y).down = (w.dev y).down := by rw [dev_addHist]
              rw [← e]; exact this)
          split
          · rename_i w2 hw2; rw [hw2] at this
            exact (f1.good h).trans this
          · rename_i w2 hw2; rw [hw2] at this
            exact ((f1.good h).trans this).fr (fr_dropHist _ _)
    · -- ginput
      rename_i hk
      split
      · exact Good.refl h
      · refine hl (w.sortedDown y) w p h ?_
        intro z hz u hu
        refine hr u (Reach.gate y z u (Or.inr ?_) ?_ hu)
        · rw [C02V.st_kind]; exact hk
        · rw [C02V.st_down]; exact (C02V.mem_sortedDown ..).1 hz
    · -- gpath
      rename_i hk
      split
      · exact Good.refl h
      · have f1 : Fr None_ w ((w.modPart p (fun r => { r with stack := r.stack ++ [y] })).addHist p y) :=
          (fr_modPart _ _ _).trans (fr_addHist _ _ _)
        have hs1 : st ((w.modPart p (fun r => { r with stack := r.stack ++ [y] })).addHist p y) = st w := by
          rw [C02V.st_addHist]; rfl
        have := ih ((w.modPart p (fun r => { r with stack := r.stack ++ [y] })).addHist p y)
          ((((w.modPart p (fun r => { r with stack := r.stack ++ [y] })).addHist p y).groups.getD
            (w.dev y).group default).input) p (f1.good h).1 (by
            intro u hu
            rw [hs1] at hu
            rw [f1.len]
            refine hr u (Reach.gpath y u ?_ ?_)
            · rw [C02V.st_kind]; exact hk
            · rw [C02V.st_gin, C02V.st_group]
              have e : ((w.modPart p (fun r => { r with stack := r.stack ++ [y] })).addHist p y).groups =
                  w.groups := by
                have := congrArg World.groups (addHist_noParts (w.modPart p (fun r => { r with stack := r.stack ++ [y] })) p y)
                exact this
              rw [e] at hu
              exact hu)
        split
        · rename_i w2 hw2
          rw [hw2] at this
          exact (f1.good h).trans this
        · rename_i w2 hw2
          rw [hw2] at this
          exact (((f1.good h).trans this).fr (fr_modPart _ _ _)).fr (fr_dropHist _ _)
    · -- goutput
      rename_i hk
      split
      · exact (fr_setErr (X := None_) w "no-group-path" (by decide)).good h
      · rename_i g hg
        have f1 : Fr None_ w (w.modPart p (fun r => { r with stack := r.stack.dropLast })) :=
          fr_modPart _ _ _
        have := hl ((w.modPart p (fun r => { r with stack := r.stack.dropLast })).sortedDown g)
          (w.modPart p (fun r => { r with stack := r.stack.dropLast })) p (f1.good h).1 (by
            intro z hz u hu
            refine hr u (Reach.goutput y g z u ?_ ?_ hu)
            · rw [C02V.st_kind]; exact hk
            · rw [C02V.st_down]
              exact (C02V.mem_sortedDown (w.modPart p (fun r => { r with stack := r.stack.dropLast })) g z).1 hz)
        split
        · rename_i w2 hw2; rw [hw2] at this
          exact (f1.good h).trans this
        · rename_i w2 hw2; rw [hw2] at this
          dsimp only at this ⊢
          exact ((f1.good h).trans this).fr (fr_modPart _ _ _)

theorem good_tryGive (w : World) (l : List Nat) (p : Nat) (h : FI w)
    (hr : ∀ y ∈ l, ∀ z, Reach (st w) y z → z < w.devs.length) : Good w (tryList givePart w l p).1 :=
  good_tryList givePart (fun w y p h hr => good_give w.fuel w y p h hr) C02V.st_givePart l w p h hr

/-- Emptying the output slot of a device. -/
theorem loc_clearOutput {w : World} (h : FI w) (x : Nat) :
    Loc w (w.modDev x (fun d => { d with output := none })) x := by
  refine ⟨(fr_at x _).toL (fun _ h => h), fun hk => ?_, fun _ => Or.inl rfl⟩
  have ht := h.timer x hk
  show TimerAt w.env x _
  by_cases hx : x < w.devs.length
  · rw [dev_modDev_same hx]
    have e : tdm ({ w.dev x with output := none } : Dev) = { tdm (w.dev x) with output := none } := by
      simp [tdm]
    rw [e]
    exact ⟨ht.asset, ht.idle, fun p hp => ⟨rfl, (ht.busy p hp).2⟩, ht.up⟩
  · rw [modDev_out_of_range (Nat.le_of_not_lt hx)]; exact ht

theorem good_passHandler (w : World) (x : Nat) (h : FI w) (hg : GiveOK w x) :
    Good w (w.passHandler x) := by
  unfold World.passHandler
  simp only []
  split
  · exact Good.refl h
  · split
    · exact Good.refl h
    · rename_i p _
      have h1 := good_tryGive w (w.sortedDown x) p h
        (fun y hy z hz => hg y ((C02V.mem_sortedDown ..).1 hy) z hz)
      split
      · rename_i w1 hw1
        rw [hw1] at h1
        exact (h1.trans ((loc_clearOutput h1.1 x).good h1.1)).fr (fr_notify _ _)
      · rename_i w1 hw1
        rw [hw1] at h1
        exact h1.fr (fr_modDev_same _ _ _ rfl)

theorem good_bufferLoop (f : Nat) : ∀ (w : World) (x : Nat), FI w → GiveOK w x →
    Good w (bufferLoop f w x) := by
  induction f with
  | zero => intro w x h _; exact Good.refl h
  | succ f ih =>
    intro w x h hg
    have key : ∀ w1 w2 : World, Good w w1 → Fr None_ w1 w2 → st w2 = st w →
        Good w (bufferLoop f w2 x) := by
      intro w1 w2 g1 f2 hs
      have h2 := g1.fr f2
      exact h2.trans (ih _ x h2.1 (hg.of_st hs h2.2.len))
    unfold bufferLoop
    simp only []
    split
    · exact Good.refl h
    · rename_i t p rest _
      split
      · exact Good.refl h
      · have h1 := good_tryGive w (w.sortedDown x) p h
          (fun y hy z hz => hg y ((C02V.mem_sortedDown ..).1 hy) z hz)
        have hst : st (tryList givePart w (w.sortedDown x) p).1 = st w := C02V.st_tryGive ..
        split
        · rename_i w1 hw1
          rw [hw1] at h1 hst
          dsimp only at h1 hst
          refine key _ _ h1 ?_ (by rw [C02V.st_addRec, C02V.st_setBuf, hst])
          refine Fr.trans ?_ (fr_addRec _ _)
          exact fr_modDev_same _ _ _ rfl
        · rename_i w1 hw1
          rw [hw1] at h1
          exact h1

theorem good_passPart (w : World) (x : Nat) (h : FI w) (hg : GiveOK w x) : Good w (w.passPart x) := by
  unfold World.passPart
  extract_lets d rem wP wB dB wS
  have hP : Good w wP := good_passHandler w x h hg
  clear_value rem
  split
  · next hk =>
    repeat' first | split | (dsimp only; split)
    all_goals first
      | with_reducible exact Good.refl h
      | with_reducible exact hP
      | (refine Good.fr ?_ (fr_scheduleFinish_source _ x ?_)
         · refine Good.fr ?_ (fr_addRec _ _)
           exact hP.fr (fr_modDev_same _ _ _ rfl)
         · rw [dev_addRec, dev_modDev]
           split <;> exact (hP.2.ka x).1.trans hk)
  · have hB : Good w wB := good_bufferLoop _ w x h hg
    refine Good.fr ?_ (fr_notify _ _)
    unfold wS
    split
    · exact hB
    · dsimp only
      split
      · exact hB.fr (fr_schedulePass _ _ _)
      · exact hB.fr (fr_setDev_same _ _ _ rfl)
  · next hk =>
    split
    · exact hP.fr (fr_tryMove_batcher _ x (by rw [(hP.2.ka x).1]; exact hk))
    · exact hP
  · exact Good.refl h
  · exact hP

end C06W
end SimProc
