/-
C08W, part 8: the gate predicates and the receive / finish callbacks of the devices never change
(`pcv`), for every function of the factory floor and of the closed world without `create`.
-/
import SimProc.Proofs.StaticWorld
import SimProc.Proofs.WorldWalk
namespace SimProc
namespace C08W
open World C02V

/-- What a device contributes to "does a gate accept this part now": its predicate and the callbacks
that could change value or quality of parts. -/
def pcd (d : Dev) : Pred × List PartCb × List PartCb := (d.pred, d.recvCbs, d.finCbs)

def pcv (w : World) : List (Pred × List PartCb × List PartCb) := w.devs.map pcd

theorem pcv_dev {w w' : World} (h : pcv w' = pcv w) (x : Nat) : pcd (w'.dev x) = pcd (w.dev x) := by
  have h1 : ∀ w : World, pcd (w.dev x) = (pcv w).getD x (pcd default) := by
    intro w
    simp only [pcv, World.dev, List.getD_eq_getElem?_getD, List.getElem?_map]
    cases w.devs[x]? <;> rfl
  rw [h1, h1, h]

theorem pcv_setDev_same (w : World) (x : Nat) (d : Dev) (h : pcd d = pcd (w.dev x)) :
    pcv (w.setDev x d) = pcv w := by
  simp only [pcv, World.setDev]
  rw [map_set_getD_self pcd w.devs x default d h]
theorem pcv_modDev_same (w : World) (x : Nat) (f : Dev → Dev) (h : ∀ d, pcd (f d) = pcd d) :
    pcv (w.modDev x f) = pcv w := pcv_setDev_same w x _ (h _)

theorem pcv_addRec (w : World) (r : Rec) : pcv (w.addRec r) = pcv w := rfl

/-- Nothing but `create` changes a predicate or a callback list. -/
theorem pcv_blind : Blind fun w w' => pcv w' = pcv w where
  refl := fun _ => rfl
  trans := fun h1 h2 => h2.trans h1
  tables := fun _ _ _ _ _ _ _ _ _ _ _ _ _ _ _ _ _ => rfl
  setDev := fun w x d h => pcv_setDev_same w x d (congrArg pcd h :)
  setBlockInput := fun w x _ => pcv_setDev_same w x _ rfl
  setMaxParts := fun w x _ => pcv_setDev_same w x _ rfl
  setInited := fun w x _ => pcv_setDev_same w x _ rfl
  addFinSensor := fun w x _ => pcv_setDev_same w x _ rfl
  setParams := fun _ _ _ => rfl

/-- declare a frame lemma as a rewrite step of `frame` -/
macro "cb_frame_lemma" a:ident : command =>
  `(macro_rules | `(tactic| fr_step) => `(tactic| rw [$a:ident]))

section
variable (w : World)
theorem pcv_spaceAvailable (x : Nat) : pcv (w.spaceAvailable x) = pcv w :=
  pcv_blind.floor.spaceAvailable w x
end

end C08W
end SimProc
