/-
C13Q (a down machine is QUIET), part 1: the pass-part and release events of a device `x` in the
event queue (`isQ`), the frame relation `QK x w w'` ("`w'` is `w` with the flags of `x` unchanged, the
paused list unchanged, and possibly more pending events — none of which is a pass / release event of
`x` unless it carries the asset id of `x` and `x` is operational"), its primitives and a chaining
tactic.
-/
import SimProc.Props.C13W
namespace SimProc
namespace C13Q
open World FloorCoreL C06W

/-! ### the pass-part and release events of a device -/

def passAct (x : Nat) : Nat := (Action.passPart x).toNat
def relAct (x : Nat) : Nat := (Action.releaseIfIdle x).toNat

/-- `e` is a live pass-part or release event of device `x` -/
def isQ (x : Nat) (e : Event) : Bool := e.live && (e.act == passAct x || e.act == relAct x)

theorem isQ_iff (x : Nat) (e : Event) :
    isQ x e = true ↔ e.live = true ∧ (e.act = passAct x ∨ e.act = relAct x) := by
  simp [isQ]

theorem toNat_q {a : Action} {x : Nat} (h : a.toNat = passAct x ∨ a.toNat = relAct x) :
    a = .passPart x ∨ a = .releaseIfIdle x := by
  rcases h with h | h
  · left
    cases a <;> simp only [Action.toNat, passAct] at h <;> first | omega | (congr 1; omega)
  · right
    cases a <;> simp only [Action.toNat, relAct] at h <;> first | omega | (congr 1; omega)

theorem ofNat_pass {n d : Nat} (h : Action.ofNat n = .passPart d) : n = passAct d := by
  have hlt : n % 16 < 16 := Nat.mod_lt _ (by decide)
  unfold Action.ofNat at h
  simp only [] at h
  split at h
  all_goals first
    | (split at h <;> cases h)
    | (rename_i hm
       injection h with h
       simp only [passAct, Action.toNat]; omega)
    | cases h

theorem ofNat_rel {n d : Nat} (h : Action.ofNat n = .releaseIfIdle d) : n = relAct d := by
  have hlt : n % 16 < 16 := Nat.mod_lt _ (by decide)
  unfold Action.ofNat at h
  simp only [] at h
  split at h
  all_goals first
    | (split at h <;> cases h)
    | (rename_i hm
       injection h with h
       simp only [relAct, Action.toNat]; omega)
    | cases h

theorem mem_insort {e a : Event} {l : List Event} : e ∈ insort a l ↔ e = a ∨ e ∈ l := by
  rw [(insort_perm a l).mem_iff]; simp

/-! ### the frame relation -/

structure QK (x : Nat) (w w' : World) : Prop where
  kind : (w'.dev x).kind = (w.dev x).kind
  aid : (w'.dev x).aid = (w.dev x).aid
  sd : (w'.dev x).shutDown = (w.dev x).shutDown
  mp : (w.dev x).maxParts = none → (w'.dev x).maxParts = none
  now : w'.now = w.now
  paused : w'.env.paused = w.env.paused
  sub : ∀ e ∈ w.env.events, e ∈ w'.env.events
  new : ∀ e ∈ w'.env.events, e ∈ w.env.events ∨
    (e.cancelled = false ∧ w.now ≤ e.time ∧
      (isQ x e = true → e.asset = (w.dev x).aid ∧ w.operational x = true))

variable {x : Nat}

theorem QK.op {w w' : World} (h : QK x w w') : w'.operational x = w.operational x := by
  unfold World.operational; rw [h.kind, h.sd]

theorem QK.refl (w : World) : QK x w w :=
  ⟨rfl, rfl, rfl, id, rfl, rfl, fun _ h => h, fun _ h => Or.inl h⟩

theorem QK.trans {a b c : World} (h1 : QK x a b) (h2 : QK x b c) : QK x a c where
  kind := h2.kind.trans h1.kind
  aid := h2.aid.trans h1.aid
  sd := h2.sd.trans h1.sd
  mp := fun h => h2.mp (h1.mp h)
  now := h2.now.trans h1.now
  paused := h2.paused.trans h1.paused
  sub := fun e he => h2.sub e (h1.sub e he)
  new := fun e he => by
    rcases h2.new e he with h | h
    · exact h1.new e h
    · right
      rw [h1.aid, h1.op, h1.now] at h
      exact h

theorem QK.of_eq {w w' : World} (h : w' = w) : QK x w w' := by subst h; exact QK.refl _

theorem QK.foldl {α : Type} (f : World → α → World) (l : List α) (w : World)
    (h : ∀ w a, QK x w (f w a)) : QK x w (l.foldl f w) := by
  induction l generalizing w with
  | nil => exact QK.refl w
  | cons a l ih => exact (h w a).trans (ih _)

/-- a change that touches neither the devices nor the environment -/
theorem qk_of_fields {w w' : World} (hd : w'.devs = w.devs) (he : w'.env = w.env) : QK x w w' := by
  have hdev : w'.dev x = w.dev x := dev_congr hd x
  refine ⟨by rw [hdev], by rw [hdev], by rw [hdev], by rw [hdev]; exact id,
    by unfold World.now; rw [he], by rw [he], by rw [he]; exact fun _ h => h,
    by rw [he]; exact fun _ h => Or.inl h⟩

section prim
variable (w : World)

theorem qk_setErr (m : String) : QK x w (w.setErr m) := by
  unfold World.setErr; split
  · exact QK.refl _
  · exact qk_of_fields rfl rfl

theorem qk_addRec (r : Rec) : QK x w (w.addRec r) := qk_of_fields rfl rfl
theorem qk_addRes (r : Res) : QK x w (w.addRes r) := qk_of_fields rfl rfl
theorem qk_modPart (p : Nat) (g : PartRec → PartRec) : QK x w (w.modPart p g) := qk_of_fields rfl rfl
theorem qk_newPart (r : PartRec) : QK x w (w.newPart r).1 := qk_of_fields rfl rfl

/-- Scheduling an event: a frame unless it is a pass / release event of `x` with a foreign asset id
or while `x` is down. -/
theorem qk_sched (t a : Int) (act : Action) (p : Int)
    (hq : act = .passPart x ∨ act = .releaseIfIdle x →
      a = (w.dev x).aid ∧ w.operational x = true) :
    QK x w (w.sched t a act p).1 := by
  have henv := sched_fst_env w t a act p
  have hd : (w.sched t a act p).1.devs = w.devs := sched_fst_devs ..
  have hdev : (w.sched t a act p).1.dev x = w.dev x := dev_congr hd x
  cases hs : w.env.schedule t a act.toNat p (weightOf w.seed w.wmod t a act.toNat p) with
  | none =>
    have he : (w.sched t a act p).1.env = w.env := by rw [henv]; simp [Env.apply, hs]
    exact qk_of_fields hd he
  | some s' =>
    have he : (w.sched t a act p).1.env = s' := by rw [henv]; simp [Env.apply, hs]
    obtain ⟨hge, hs'⟩ := Env.schedule_some.mp hs
    refine ⟨by rw [hdev], by rw [hdev], by rw [hdev], by rw [hdev]; exact id,
      by unfold World.now; rw [he, hs'], by rw [he, hs'], ?_, ?_⟩
    · intro e hm; rw [he, hs']; exact mem_insort.mpr (Or.inr hm)
    · intro e hm
      rw [he, hs'] at hm
      rcases mem_insort.mp hm with rfl | hm
      · right
        refine ⟨rfl, hge, ?_⟩
        intro hqe
        have := (isQ_iff x _).mp hqe
        exact hq (toNat_q this.2)
      · exact Or.inl hm

theorem qk_schedLib (t a : Int) (act : Action) (p : Int)
    (hq : act = .passPart x ∨ act = .releaseIfIdle x →
      a = (w.dev x).aid ∧ w.operational x = true) :
    QK x w (w.schedLib t a act p) := by
  have h := qk_sched (x := x) w t a act p hq
  unfold World.schedLib
  generalize w.sched t a act p = s at h ⊢
  obtain ⟨w', r⟩ := s
  cases r
  case ok => exact h
  all_goals exact h.trans (qk_setErr _ _)

theorem qk_rmEffects (recs : List ResRec) (check : Bool) : QK x w (w.rmEffects recs check) := by
  have h : QK x w (recs.foldl (fun w r => w.addRec (.resUpdate r.res w.now r.inUse r.cap)) w) :=
    QK.foldl _ _ _ (fun w r => qk_addRec w _)
  unfold World.rmEffects
  split
  · exact h.trans (qk_schedLib _ _ _ _ _ (by intro e; rcases e with e | e <;> cases e))
  · exact h

/-- Overwriting device `y`: a frame if `y` is another device, or if the flags are kept. -/
theorem qk_setDev (y : Nat) (d : Dev)
    (h : y ≠ x ∨ (d.kind = (w.dev y).kind ∧ d.aid = (w.dev y).aid ∧ d.shutDown = (w.dev y).shutDown ∧
      ((w.dev y).maxParts = none → d.maxParts = none))) :
    QK x w (w.setDev y d) := by
  have hdev : (w.setDev y d).dev x = if y = x ∧ y < w.devs.length then d else w.dev x :=
    dev_setDev w y x d
  refine ⟨?_, ?_, ?_, ?_, rfl, rfl, fun _ h => h, fun _ h => Or.inl h⟩
  all_goals
    rw [hdev]
    split
    · rename_i hc
      rcases h with h | h
      · exact absurd hc.1 h
      · obtain ⟨h1, h2, h3, h4⟩ := h
        rw [← hc.1]
        first | exact h1 | exact h2 | exact h3 | exact h4
    · first | rfl | exact id

theorem qk_modDev (y : Nat) (f : Dev → Dev)
    (h : y ≠ x ∨ ((f (w.dev y)).kind = (w.dev y).kind ∧ (f (w.dev y)).aid = (w.dev y).aid ∧
      (f (w.dev y)).shutDown = (w.dev y).shutDown ∧
      ((w.dev y).maxParts = none → (f (w.dev y)).maxParts = none))) :
    QK x w (w.modDev y f) := qk_setDev w y _ h

end prim

/-! ### the chaining tactic -/

syntax "qk_side" : tactic
macro_rules | `(tactic| qk_side) => `(tactic| first
  | exact Or.inr ⟨rfl, rfl, rfl, id⟩
  | exact Or.inr ⟨rfl, rfl, rfl, fun _ => rfl⟩
  | (apply Or.inl; assumption)
  | (apply Or.inl; apply Ne.symm; assumption))

/-- One step: close the goal, or peel the outermost call off the right-hand world.  Every
alternative unifies at reducible transparency, so that a lemma about another function fails at
once instead of unfolding the model. -/
syntax "qks" : tactic

/-- `qk_peel t` peels a call for which `t : QK _ _ (call)`; `qk_peel t with s` closes the side
condition named `?side` in `t` by the tactic `s`. -/
syntax "qk_peel " term (" with " tacticSeq)? : tactic
macro_rules
  | `(tactic| qk_peel $t) => `(tactic| with_reducible apply QK.trans (h2 := $t))
  | `(tactic| qk_peel $t with $s) =>
    `(tactic| ((with_reducible apply QK.trans (h2 := $t)); case side => $s))

macro_rules | `(tactic| qks) => `(tactic| first
  | with_reducible exact QK.refl _
  | qk_peel qk_setDev _ _ _ ?side with qk_side
  | qk_peel qk_modDev _ _ _ ?side with qk_side
  | qk_peel qk_addRec _ _
  | qk_peel qk_schedLib _ _ _ _ _ ?side with (intro e; rcases e with e | e <;> cases e)
  | qk_peel qk_setErr _ _
  | qk_peel qk_addRes _ _
  | qk_peel qk_modPart _ _ _
  | qk_peel qk_rmEffects _ _ _
  | with_reducible exact qk_of_fields rfl rfl)

/-- Where no step applies and nothing is left to split: look through the definition of the
outermost call (a change of other fields, a fold). -/
macro "qk_open" : tactic => `(tactic| first
  | exact qk_of_fields rfl rfl
  | refine QK.trans ?_ (QK.foldl _ _ _ (fun _ _ => ?_)))

macro "qk_auto" : tactic =>
  `(tactic| ((try dsimp only) <;> repeat' (first | qks | split | qk_open)))

macro "qk_lemma3" a:ident : command =>
  `(macro_rules | `(tactic| qks) => `(tactic| refine QK.trans ?_ ($a:ident _ _ _ _)))
macro "qk_lemma2" a:ident : command =>
  `(macro_rules | `(tactic| qks) => `(tactic| refine QK.trans ?_ ($a:ident _ _ _)))
macro "qk_lemma1" a:ident : command =>
  `(macro_rules | `(tactic| qks) => `(tactic| refine QK.trans ?_ ($a:ident _ _)))

end C13Q
end SimProc
