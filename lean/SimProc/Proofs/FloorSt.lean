/-
The slot-changing functions of `Model/Floor.lean` keep the static view `st`.
-/
import SimProc.Proofs.FloorFrame
namespace SimProc
namespace C02V
open World

/-! ### `genPart` -/

/-- The fold of `genPart` that creates the parts of a batch. -/
theorem genFold_eq (r : PartRec) (n : Nat) (w : World) (l : List Nat) :
    (List.range n).foldl (fun (acc : World × List Nat) _ =>
      ((acc.1.newPart r).1, acc.2 ++ [(acc.1.newPart r).2])) (w, l)
    = ({ w with parts := w.parts ++ List.replicate n r }, l ++ List.range' w.parts.length n) := by
  induction n with
  | zero => simp
  | succ n ih =>
    rw [List.range_succ, List.foldl_append, ih]
    simp only [List.foldl_cons, List.foldl_nil, World.newPart, List.length_append, List.length_replicate]
    congr 1
    · congr 1
      rw [List.append_assoc]; congr 1
      rw [List.replicate_succ']
    · rw [List.append_assoc, List.range'_concat]; simp

theorem genPart_leaf (w : World) (x : Nat) (h : ((w.dev x).genBatch == 0) = true) :
    w.genPart x = ({ w with parts := w.parts ++ [{ quality := (w.dev x).genQuality, value := (w.dev x).genValue }],
                            generated := w.generated ++ [w.parts.length] }, w.parts.length) := by
  unfold World.genPart; simp [h, World.newPart]

theorem genPart_batch (w : World) (x : Nat) (h : ((w.dev x).genBatch == 0) = false) :
    w.genPart x =
      ({ w with parts := w.parts ++ List.replicate (w.dev x).genBatch.toNat
                    { quality := (w.dev x).genQuality, value := (w.dev x).genValue } ++
                    [{ quality := 0, value := 0, kids := some (List.range' w.parts.length (w.dev x).genBatch.toNat) }],
                generated := w.generated ++ List.range' w.parts.length (w.dev x).genBatch.toNat },
        w.parts.length + (w.dev x).genBatch.toNat) := by
  unfold World.genPart
  simp only [h, Bool.false_eq_true, if_false]
  have := genFold_eq { quality := (w.dev x).genQuality, value := (w.dev x).genValue } (w.dev x).genBatch.toNat w []
  simp only [World.newPart] at this ⊢
  rw [this]
  simp

theorem st_genPart (w : World) (x : Nat) : st (w.genPart x).1 = st w := by
  cases h : ((w.dev x).genBatch == 0)
  · rw [genPart_batch w x h]; rfl
  · rw [genPart_leaf w x h]; rfl
frame_lemma1 st_genPart

/-! The static view as a relation (`Same st`): the functions below are chains of updates. -/

theorem Same.of_eq {γ : Type} {π : World → γ} {w w' : World} (h : π w' = π w) : Same π w w' := h
theorem SvSt.same_st {w w' : World} (h : SvSt w w') : Same st w w' := h.2

/-- The side condition is by default `rfl`: the written device differs from the old one in fields
that the static view does not read. -/
theorem Same.stSetDev (w : World) (x : Nat) (d : Dev) (h : tdev d = tdev (w.dev x) := by rfl) :
    Same st w (w.setDev x d) := st_setDev_same w x d h
theorem Same.stModDev (w : World) (x : Nat) (f : Dev → Dev)
    (h : ∀ d, tdev (f d) = tdev d := by intro _; rfl) : Same st w (w.modDev x f) :=
  st_modDev_same w x f h

section
variable (w : World)

theorem st_finishCycleHandler (x : Nat) : st (w.finishCycleHandler x) = st w := by
  unfold World.finishCycleHandler
  dsimp only
  refine Same.ite (.of_eq (st_setErr ..)) ?_
  split
  · exact st_setErr ..
  · exact Same.ite (.of_eq (st_setErr ..)) (.trans (.stSetDev ..) (.of_eq (st_schedulePass ..)))
frame_lemma1 st_finishCycleHandler

theorem st_finishCycle (x : Nat) : st (w.finishCycle x) = st w := by
  have hH : Same st w (w.finishCycleHandler x) := st_finishCycleHandler w x
  unfold World.finishCycle
  dsimp only
  split
  · refine Same.trans (Same.ite ?_ (.refl _)) (.of_eq (st_schedulePass ..))
    have := st_genPart w x
    revert this
    generalize w.genPart x = q
    exact fun h => (Same.trans h (.stModDev ..)).trans (.of_eq (st_addHist ..))
  · exact (hH.trans (.stModDev ..)).trans (.of_eq (st_notify ..))
  · frame
  · exact hH
frame_lemma1 st_finishCycle

theorem st_scheduleFinish (x : Nat) : st (w.scheduleFinish x) = st w := by
  unfold World.scheduleFinish
  dsimp only
  exact Same.trans (.stSetDev ..) (.ite (.of_eq (st_finishCycle ..)) (.of_eq (st_schedLib ..)))
frame_lemma1 st_scheduleFinish

end

theorem st_newPart (w : World) (r : PartRec) : st (w.newPart r).1 = st w := rfl
frame_lemma1 st_newPart

/-! ### the batcher: one iteration of `batcherLoop`, in two halves -/

/-- `_get_part_from_input` -/
def batchGet (w : World) (x p : Nat) : World × Nat :=
  match (w.part p).kids with
  | some (k :: rest) =>
    let w := w.modPart p (fun r => { r with kids := some rest })
    let w := if rest.isEmpty then w.modDev x (fun d => { d with part := none }) else w
    (w, k)
  | _ => (w.modDev x (fun d => { d with part := none }), p)

/-- the shell of the batch under construction (created on demand) -/
def batchShell (w : World) (x : Nat) : World × Nat :=
  match (w.dev x).inprog with
  | some b => (w, b)
  | none =>
    let (w, b) := w.newPart { quality := 0, value := 0, kids := some [] }
    (w.modDev x (fun d => { d with inprog := some b }), b)

/-- `_add_part_to_output` -/
def batchAdd (w : World) (x t : Nat) : World :=
  match (w.dev x).bsize with
  | none => w.modDev x (fun d => { d with output := some t })
  | some n =>
    let w1 := (batchShell w x).1
    let b := (batchShell w x).2
    let w2 := w1.modPart b (fun r => { r with kids := some ((r.kids.getD []) ++ [t]) })
    if ((w2.part b).kids.getD []).length ≥ n then
      w2.modDev x (fun d => { d with output := some b, inprog := none })
    else w2

theorem batcherLoop_succ (f : Nat) (w : World) (x : Nat) :
    batcherLoop (f + 1) w x =
      match (w.dev x).output, (w.dev x).part with
      | none, some p => batcherLoop f (batchAdd (batchGet w x p).1 x (batchGet w x p).2) x
      | _, _ => w := by
  rfl

theorem st_batchGet (w : World) (x p : Nat) : st (batchGet w x p).1 = st w := by
  unfold batchGet; frame
frame_lemma1 st_batchGet
theorem st_batchShell (w : World) (x : Nat) : st (batchShell w x).1 = st w := by
  unfold batchShell; frame
frame_lemma1 st_batchShell
theorem st_batchAdd (w : World) (x t : Nat) : st (batchAdd w x t) = st w := by
  unfold batchAdd; frame
frame_lemma1 st_batchAdd

theorem st_batcherLoop (f : Nat) : ∀ (w : World) (x : Nat), st (batcherLoop f w x) = st w := by
  induction f with
  | zero => intro w x; rfl
  | succ f ih =>
    intro w x; rw [batcherLoop_succ]
    split
    · rw [ih]; frame
    · rfl
frame_lemma1 st_batcherLoop

section
variable (w : World)

theorem st_tryMove (x : Nat) : st (w.tryMove x) = st w := by
  unfold World.tryMove; frame
frame_lemma1 st_tryMove

/-- the bookkeeping part of `onReceived` -/
def recvBook (w : World) (x p : Nat) : World :=
  let d := w.dev x
  let w := match d.kind with
    | .sink =>
      let v := w.partValue p
      w.setDev x { d with
        recvCount := d.recvCount + w.leafCount p
        recvValue := d.recvValue + v
        val := d.val.addValue lblCollected w.now v
        collected := if d.collect then d.collected ++ [p] else d.collected }
    | .buffer =>
      let w := w.setDev x { d with level := d.level + w.leafCount p }
      w.addRec (.level x w.now (w.dev x).level)
    | _ => w
  let w := w.addRec (.received x w.now p (w.part p).quality (w.partValue p))
  (w.dev x).recvCbs.foldl (fun w c => w.applyPartCb x p c) w

theorem onReceived_eq (w : World) (x p : Nat) :
    w.onReceived x p = if ((recvBook w x p).dev x).output.isNone then (recvBook w x p).tryMove x
      else recvBook w x p := rfl

theorem SvSt.recvBook (w : World) (x p : Nat) : SvSt w (recvBook w x p) := by
  have h1 : SvSt w (match (w.dev x).kind with
      | .sink => w.setDev x { w.dev x with
          recvCount := (w.dev x).recvCount + w.leafCount p
          recvValue := (w.dev x).recvValue + w.partValue p
          val := (w.dev x).val.addValue lblCollected w.now (w.partValue p)
          collected := if (w.dev x).collect then (w.dev x).collected ++ [p] else (w.dev x).collected }
      | .buffer => (w.setDev x { w.dev x with level := (w.dev x).level + w.leafCount p }).addRec
          (.level x (w.setDev x { w.dev x with level := (w.dev x).level + w.leafCount p }).now
            ((w.setDev x { w.dev x with level := (w.dev x).level + w.leafCount p }).dev x).level)
      | _ => w) := by
    split
    · exact .setDev ..
    · exact (SvSt.setDev ..).trans (.addRec ..)
    · exact .refl _
  exact (h1.trans (.addRec ..)).trans (.foldl _ (fun _ _ => .applyPartCb ..) _ _)

theorem sv_recvBook (w : World) (x p : Nat) : sv (recvBook w x p) = sv w := (SvSt.recvBook w x p).1

theorem st_onReceived (x p : Nat) : st (w.onReceived x p) = st w := by
  rw [onReceived_eq]
  exact Same.ite (.trans (SvSt.recvBook w x p).same_st (.of_eq (st_tryMove ..))) (SvSt.recvBook w x p).same_st
frame_lemma1 st_onReceived

theorem st_acceptPart (x p : Nat) : st (w.acceptPart x p) = st w := by
  have h0 : Same st w (if (w.dev x).kind == .sink then
      { w with delivered := w.delivered ++ w.leavesOf p } else w) := Same.ite rfl (.refl _)
  unfold World.acceptPart
  exact ((((h0).trans (.stModDev ..)).trans (.of_eq (st_addHist ..))).trans
    (.of_eq (st_setWaiting ..))).trans (.of_eq (st_onReceived ..))
frame_lemma1 st_acceptPart

end

/-! ### `give` -/

/-- Transport along the equation a `split` leaves for a pair-valued call. -/
theorem proj_of_fst_eq {α γ : Type} {π : World → γ} {w w' : World} {e : World × α} {b : α}
    (he : π e.1 = π w) (heq : e = (w', b)) : π w' = π w := by
  subst heq; exact he

theorem tryList_proj {γ : Type} (π : World → γ) (g : World → Nat → Nat → World × Bool)
    (hg : ∀ w y p, π (g w y p).1 = π w) (l : List Nat) : ∀ (w : World) (p : Nat),
    π (tryList g w l p).1 = π w := by
  induction l with
  | nil => intro w p; rfl
  | cons y ys ih =>
    intro w p
    rw [tryList]
    split
    · rename_i heq; exact proj_of_fst_eq (hg w y p) heq
    · rename_i heq; exact (ih _ _).trans (proj_of_fst_eq (hg w y p) heq)

/-- `give` keeps every projection that the functions it calls keep.  After splitting, each branch is
a chain of those calls; the result of a pair-valued call comes in through `proj_of_fst_eq`. -/
theorem give_proj {γ : Type} (π : World → γ)
    (hAccept : ∀ w x p, π (acceptPart w x p) = π w)
    (hAcq : ∀ w x, π (procAcquire w x).1 = π w)
    (hErr : ∀ w m, π (setErr w m) = π w)
    (hAdd : ∀ w p x, π (addHist w p x) = π w)
    (hDrop : ∀ w p, π (dropHist w p) = π w)
    (hMod : ∀ w p f, π (modPart w p f) = π w) :
    ∀ (f : Nat) (w : World) (x p : Nat), π (give f w x p).1 = π w := by
  intro f
  induction f with
  | zero => intro w x p; exact hErr _ _
  | succ f ih =>
    intro w x p
    have hl : ∀ (w : World) (l : List Nat), π (tryList (give f) w l p).1 = π w :=
      fun w l => tryList_proj π (give f) ih l w p
    rw [give]
    dsimp only
    repeat' split
    all_goals try dsimp only
    all_goals repeat' first
      | with_reducible rfl
      | with_reducible rw [hAccept]
      | with_reducible rw [hErr]
      | with_reducible rw [hDrop]
      | with_reducible rw [hMod]
      | with_reducible rw [hAdd]
      | exact hl _ _
      | (rename_i heq; with_reducible refine Eq.trans (proj_of_fst_eq (hl _ _) heq) ?_)
      | (rename_i heq; with_reducible refine Eq.trans (proj_of_fst_eq (ih _ _ _) heq) ?_)
      | (rename_i heq; with_reducible refine Eq.trans (proj_of_fst_eq (hAcq _ _) heq) ?_)

theorem st_give (f : Nat) (w : World) (x p : Nat) : st (give f w x p).1 = st w :=
  give_proj st st_acceptPart st_procAcquire st_setErr st_addHist st_dropHist st_modPart f w x p
theorem st_givePart (w : World) (x p : Nat) : st (givePart w x p).1 = st w := st_give ..
theorem st_tryGive (w : World) (l : List Nat) (p : Nat) : st (tryList givePart w l p).1 = st w :=
  tryList_proj st _ st_givePart l w p

theorem passHandler_proj {γ : Type} (π : World → γ)
    (hT : ∀ w l p, π (tryList givePart w l p).1 = π w)
    (hMo : ∀ w x, π (modDev w x (fun d => { d with output := none })) = π w)
    (hMw : ∀ w x, π (modDev w x (fun d => { d with waitingDS := true })) = π w)
    (hN : ∀ w x, π (notify w x) = π w)
    (w : World) (x : Nat) : π (w.passHandler x) = π w := by
  unfold World.passHandler
  dsimp only
  repeat' split
  · rfl
  · rfl
  · rename_i heq; rw [hN, hMo]; exact proj_of_fst_eq (hT _ _ _) heq
  · rename_i heq; rw [hMw]; exact proj_of_fst_eq (hT _ _ _) heq

theorem st_passHandler (w : World) (x : Nat) : st (w.passHandler x) = st w :=
  passHandler_proj st st_tryGive (fun _ _ => st_modDev_same _ _ _ (fun _ => rfl))
    (fun _ _ => st_modDev_same _ _ _ (fun _ => rfl)) st_notify w x

theorem bufferLoop_proj {γ : Type} (π : World → γ)
    (hT : ∀ w l p, π (tryList givePart w l p).1 = π w)
    (hMod : ∀ w x (n : Nat), π (modDev w x (fun d => { d with level := d.level - n, buf := d.buf.drop 1 })) = π w)
    (hR : ∀ w r, π (addRec w r) = π w)
    (f : Nat) : ∀ (w : World) (x : Nat), π (bufferLoop f w x) = π w := by
  induction f with
  | zero => intro w x; rfl
  | succ f ih =>
    intro w x
    rw [bufferLoop]
    dsimp only
    repeat' split
    · rfl
    · rfl
    · rename_i heq; rw [ih, hR, hMod]; exact proj_of_fst_eq (hT _ _ _) heq
    · rename_i heq; exact proj_of_fst_eq (hT _ _ _) heq

theorem st_bufferLoop (f : Nat) (w : World) (x : Nat) : st (bufferLoop f w x) = st w :=
  bufferLoop_proj st st_tryGive (fun _ _ _ => st_modDev_same _ _ _ (fun _ => rfl)) st_addRec f w x
frame_lemma1 st_passHandler
frame_lemma1 st_bufferLoop

section
variable (w : World)

theorem st_failDev (x : Nat) : st (w.failDev x) = st w := by
  have h0 : Same st w (match (w.dev x).part with
      | some p => { w with lost := w.lost ++ w.leavesOf p }
      | none => w) := by split <;> rfl
  unfold World.failDev
  exact (((h0.trans (.stModDev ..)).trans (.of_eq (st_releaseReserved ..))).trans
    (.of_eq (st_addRec ..))).trans (.of_eq (st_shutdownDev ..))
frame_lemma1 st_failDev

theorem st_initDev (x : Nat) : st (w.initDev x) = st w := by
  have h0 : Same st w (w.modDev x fun d => { d with inited := true, val := d.val.reset }) :=
    .stModDev ..
  unfold World.initDev
  dsimp only
  refine h0.trans ?_
  split
  · exact .refl _
  · exact .refl _
  · exact .refl _
  · exact .refl _
  · exact .trans (.of_eq (st_setWaiting ..)) (.stModDev ..)
  · exact .trans (.of_eq (st_setWaiting ..)) (.of_eq (st_scheduleFinish ..))
  · exact .of_eq (st_setWaiting ..)
frame_lemma1 st_initDev

end
end C02V
end SimProc
