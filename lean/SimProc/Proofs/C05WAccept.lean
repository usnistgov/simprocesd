/-
C05W / C17W machinery, part 2: what `acceptPart` does to the auxiliary view (only the accepting
device changes) and to the `kids` column of the part table (only a batcher changes it, and only for
the part it has just accepted and its shell under construction).
-/
import SimProc.Proofs.C05WViews
import SimProc.Proofs.C17Lemmas
import SimProc.Proofs.C08Lemmas
namespace SimProc
namespace C05W
open World C02V

/-! ### the auxiliary view with one device masked -/

def BDev.dflt : BDev := ⟨0, [], none, 0, none, none⟩

/-- The auxiliary view without device `z`. -/
def maskB (z : Nat) (b : List BDev × Int) : List BDev × Int := (b.1.set z BDev.dflt, b.2)

theorem maskB_setDev (w : World) (z : Nat) (d : Dev) : maskB z (bv (w.setDev z d)) = maskB z (bv w) := by
  simp [maskB, bv, World.setDev, List.map_set, List.set_set]

theorem maskB_modDev (w : World) (z : Nat) (f : Dev → Dev) :
    maskB z (bv (w.modDev z f)) = maskB z (bv w) := maskB_setDev w z _

/-- Only device `z` (if any) differs in the auxiliary view. -/
def BO (z : Nat) (w w' : World) : Prop := maskB z (bv w') = maskB z (bv w)

theorem BO.refl (z : Nat) (w : World) : BO z w w := rfl
theorem BO.trans {z : Nat} {a b c : World} (h1 : BO z a b) (h2 : BO z b c) : BO z a c :=
  Eq.trans h2 h1
theorem BO.of_bv {z : Nat} {w w' : World} (h : bv w' = bv w) : BO z w w' := by unfold BO; rw [h]

theorem BO.now {z : Nat} {w w' : World} (h : BO z w w') : w'.now = w.now := congrArg Prod.snd h

theorem BO.len {z : Nat} {w w' : World} (h : BO z w w') : w'.devs.length = w.devs.length := by
  have h1 := congrArg (fun b => b.1.length) h
  simpa [maskB, bv] using h1

theorem BO.bdev_eq {z : Nat} {w w' : World} (h : BO z w w') {y : Nat} (hy : y ≠ z) :
    C05W.bdev (w'.dev y) = C05W.bdev (w.dev y) := by
  have h1 := congrArg (fun b => b.1.getD y (C05W.bdev default)) h
  simp only [maskB, bv, List.getD_eq_getElem?_getD, List.getElem?_set_ne (Ne.symm hy),
    List.getElem?_map] at h1
  simp only [World.dev, List.getD_eq_getElem?_getD]
  cases h' : w'.devs[y]? <;> cases h'' : w.devs[y]? <;> simp_all

macro_rules | `(tactic| fr_step) => `(tactic| first
  | rw [maskB_setDev] | rw [maskB_modDev])

/-! ### the batcher loop -/

theorem bo_batchGet (w : World) (x p : Nat) : maskB x (bv (batchGet w x p).1) = maskB x (bv w) := by
  unfold batchGet; frame
theorem bo_batchShell (w : World) (x : Nat) : maskB x (bv (batchShell w x).1) = maskB x (bv w) := by
  unfold batchShell; frame
frame_lemma1 bo_batchGet
frame_lemma1 bo_batchShell
theorem bo_batchAdd (w : World) (x t : Nat) : maskB x (bv (batchAdd w x t)) = maskB x (bv w) := by
  unfold batchAdd; frame
frame_lemma1 bo_batchAdd

theorem bo_batcherLoop (f : Nat) : ∀ (w : World) (x : Nat),
    maskB x (bv (batcherLoop f w x)) = maskB x (bv w) := by
  induction f with
  | zero => intro w x; rfl
  | succ f ih =>
    intro w x; rw [C02V.batcherLoop_succ]
    split
    · rw [ih]; frame
    · rfl
frame_lemma1 bo_batcherLoop

theorem bo_tryMove (w : World) (x : Nat) : maskB x (bv (w.tryMove x)) = maskB x (bv w) := by
  unfold World.tryMove; frame
frame_lemma1 bo_tryMove
theorem bo_recvBook (w : World) (x p : Nat) : maskB x (bv (recvBook w x p)) = maskB x (bv w) := by
  unfold recvBook
  extract_lets d v wb w1 w2
  have h1 : maskB x (bv w1) = maskB x (bv w) := by
    dsimp only [w1]
    split
    · exact maskB_setDev w x _
    · exact maskB_setDev w x _
    · rfl
  exact (congrArg (maskB x) (foldl_proj bv _ _ _ fun w c => bv_applyPartCb w x p c)).trans h1
theorem bo_onReceived (w : World) (x p : Nat) : maskB x (bv (w.onReceived x p)) = maskB x (bv w) := by
  rw [onReceived_eq]
  split
  · exact (bo_tryMove _ x).trans (bo_recvBook w x p)
  · exact bo_recvBook w x p
frame_lemma1 bo_onReceived
theorem bo_acceptPart (w : World) (x p : Nat) : BO x w (w.acceptPart x p) := by
  unfold BO World.acceptPart; frame

/-! ### devices that are neither buffers nor batchers do not change the auxiliary view at all -/

theorem bv_tryMove_plain (w : World) (x : Nat) (h1 : (w.dev x).kind ≠ .buffer)
    (h2 : (w.dev x).kind ≠ .batcher) : bv (w.tryMove x) = bv w := by
  unfold World.tryMove
  simp only []
  split
  · rename_i h; exact absurd h h1
  · rename_i h; exact absurd h h2
  · frame
  · frame

theorem bv_acceptPre (w : World) (x p : Nat) : bv (acceptPre w x p) = bv w := by
  unfold acceptPre
  extract_lets w0 w1 w2
  have h0 : bv w0 = bv w := by
    dsimp only [w0]
    split <;> rfl
  exact (bv_setWaiting _ _ _ _).trans
    ((bv_addHist _ _ _).trans ((bv_modDev_same _ _ _ fun _ => by rfl).trans h0))
theorem st_acceptPre (w : World) (x p : Nat) : st (acceptPre w x p) = st w := by
  unfold acceptPre
  extract_lets w0 w1 w2
  have h0 : st w0 = st w := by
    dsimp only [w0]
    split <;> rfl
  exact (st_setWaiting _ _ _ _).trans
    ((st_addHist _ _ _).trans ((st_modDev_same _ _ _ fun _ => by rfl).trans h0))

/-- The bookkeeping by kind (`w1`), then the `received` record and the call-backs. -/
theorem bv_recvBook_plain (w : World) (x p : Nat) (h1 : (w.dev x).kind ≠ .buffer) :
    bv (recvBook w x p) = bv w := by
  unfold recvBook
  extract_lets d v wb w1 w2
  have h1 : bv w1 = bv w := by
    dsimp only [w1]
    split
    · exact bv_setDev_same w x _ rfl
    · rename_i h; exact absurd h h1
    · rfl
  exact (foldl_proj bv _ _ _ fun w c => bv_applyPartCb w x p c).trans h1
theorem st_recvBook (w : World) (x p : Nat) : st (recvBook w x p) = st w := by
  unfold recvBook
  extract_lets d v wb w1 w2
  have h1 : st w1 = st w := by
    dsimp only [w1]
    split
    · exact st_setDev_same w x _ rfl
    · exact st_setDev_same w x _ rfl
    · rfl
  exact (foldl_proj st _ _ _ fun w c => st_applyPartCb w x p c).trans h1

theorem bv_acceptPart_plain (w : World) (x p : Nat) (h1 : (w.dev x).kind ≠ .buffer)
    (h2 : (w.dev x).kind ≠ .batcher) : bv (w.acceptPart x p) = bv w := by
  rw [acceptPart_eq, onReceived_eq]
  have k1 : ((acceptPre w x p).dev x).kind = (w.dev x).kind := kind_of_st (st_acceptPre w x p) x
  have k2 : ((recvBook (acceptPre w x p) x p).dev x).kind = (w.dev x).kind :=
    (kind_of_st (st_recvBook _ x p) x).trans k1
  have e1 : bv (recvBook (acceptPre w x p) x p) = bv w := by
    rw [bv_recvBook_plain _ x p (by rw [k1]; exact h1), bv_acceptPre]
  split
  · rw [bv_tryMove_plain _ x (by rw [k2]; exact h1) (by rw [k2]; exact h2), e1]
  · exact e1

/-! ### the `kids` column -/

/-- Outside the set `S`, the parts of `w` keep their `kids` in `w'` (and no part disappears). -/
def KOx (S : Nat → Prop) (w w' : World) : Prop :=
  w.parts.length ≤ w'.parts.length ∧
    ∀ q, q < w.parts.length → ¬ S q → (w'.part q).kids = (w.part q).kids

/-- All parts of `w` keep their `kids`. -/
abbrev KO (w w' : World) : Prop := KOx (fun _ => False) w w'

theorem KOx.refl (S : Nat → Prop) (w : World) : KOx S w w := ⟨Nat.le_refl _, fun _ _ _ => rfl⟩

theorem KOx.trans {S : Nat → Prop} {a b c : World} (h1 : KOx S a b) (h2 : KOx S b c) : KOx S a c :=
  ⟨Nat.le_trans h1.1 h2.1, fun q hq hs =>
    (h2.2 q (Nat.lt_of_lt_of_le hq h1.1) hs).trans (h1.2 q hq hs)⟩

theorem KOx.mono {S T : Nat → Prop} {a b : World} (h : KOx S a b) (hst : ∀ q, S q → T q) : KOx T a b :=
  ⟨h.1, fun q hq hs => h.2 q hq (fun h' => hs (hst q h'))⟩

theorem KO.of_parts {w w' : World} (h : w'.parts = w.parts) : KO w w' :=
  ⟨by rw [h]; exact Nat.le_refl _, fun q _ _ => by rw [part_congr h]⟩

theorem kids_of_sv {w w' : World} (h : sv w' = sv w) (q : Nat) : (w'.part q).kids = (w.part q).kids := by
  rw [← kids_get, ← kids_get, h]

theorem KO.of_sv {w w' : World} (h : sv w' = sv w) : KO w w' :=
  ⟨by rw [parts_len_of_sv h]; exact Nat.le_refl _, fun q _ _ => kids_of_sv h q⟩

theorem KOx.right_sv {S : Nat → Prop} {a b c : World} (h : sv c = sv b) (h1 : KOx S a b) : KOx S a c :=
  h1.trans ((KO.of_sv h).mono (fun _ h => h.elim))

theorem KOx.right_parts {S : Nat → Prop} {a b c : World} (h : c.parts = b.parts) (h1 : KOx S a b) :
    KOx S a c := h1.trans ((KO.of_parts h).mono (fun _ h => h.elim))

theorem KO.leafCount {w w' : World} (h : KO w w') {q : Nat} (hq : q < w.parts.length) :
    w'.leafCount q = w.leafCount q := by
  unfold World.leafCount; rw [h.2 q hq (fun h => h)]

theorem KO.foldl {α} (g : World → α → World) (hg : ∀ w a, KO w (g w a)) (l : List α) (w : World) :
    KO w (l.foldl g w) := by
  induction l generalizing w with
  | nil => exact KOx.refl _ _
  | cons a l ih => exact (hg w a).trans (ih _)

theorem ko_genPart (w : World) (x : Nat) : KO w (w.genPart x).1 := by
  cases h : ((w.dev x).genBatch == 0)
  · rw [genPart_batch w x h]
    refine ⟨by simp, fun q hq _ => ?_⟩
    simp only [World.part, List.getD_eq_getElem?_getD]
    rw [List.append_assoc, List.getElem?_append_left hq]
  · rw [genPart_leaf w x h]
    refine ⟨by simp, fun q hq _ => ?_⟩
    simp only [World.part, List.getD_eq_getElem?_getD]
    rw [List.getElem?_append_left hq]

theorem ko_finishCycleHandler (w : World) (x : Nat) : KO w (w.finishCycleHandler x) :=
  KO.of_parts (C08L.finishCycleHandler_parts w x)

theorem ko_finishCycle (w : World) (x : Nat) : KO w (w.finishCycle x) := by
  unfold World.finishCycle
  simp only []
  split
  · -- source
    refine KOx.right_sv (sv_schedulePass ..) ?_
    split
    · refine KOx.right_sv (sv_addHist ..) ?_
      exact KOx.right_parts rfl (ko_genPart w x)
    · exact KOx.refl _ _
  · -- sink
    refine KOx.right_sv (sv_notify ..) ?_
    exact KOx.right_parts rfl (ko_finishCycleHandler w x)
  · -- processor
    have h0 : ∀ (a b : World), b.parts = (w.finishCycleHandler x).parts → KO w b := fun a b hb =>
      KOx.right_parts hb (ko_finishCycleHandler w x)
    split
    · split
      · exact KOx.right_sv (sv_schedLib ..) (h0 w _ rfl)
      · exact h0 w _ rfl
    · refine KOx.right_sv (sv_addRec ..) ?_
      refine KOx.trans ?_ (KO.foldl _ (fun w s => KO.of_sv (sv_senseOutput w s _)) _ _)
      refine KOx.trans ?_ (KO.foldl _ (fun w c => KO.of_sv (sv_applyPartCb w x _ c)) _ _)
      split
      · exact KOx.right_sv (sv_schedLib ..) (h0 w _ rfl)
      · exact h0 w _ rfl
  · exact ko_finishCycleHandler w x

theorem ko_scheduleFinish (w : World) (x : Nat) : KO w (w.scheduleFinish x) := by
  rcases scheduleFinish_cases w x with h | h
  · rw [h]; refine KOx.trans ?_ (ko_finishCycle _ x); exact KO.of_parts rfl
  · exact KO.of_sv h

theorem ko_tryMove_nonbatcher (w : World) (x : Nat) (h : (w.dev x).kind ≠ .batcher) :
    KO w (w.tryMove x) := by
  unfold World.tryMove
  simp only []
  split
  · split
    · exact KOx.refl _ _
    · split
      · exact KOx.right_sv (sv_schedulePass ..) (KOx.right_sv (sv_notify ..) (KO.of_parts rfl))
      · exact KOx.right_sv (sv_notify ..) (KO.of_parts rfl)
  · rename_i hk; exact absurd hk h
  · split
    · refine KOx.trans ?_ (ko_scheduleFinish _ x); exact KO.of_parts rfl
    · exact KOx.refl _ _
  · split
    · exact ko_scheduleFinish _ x
    · exact KOx.refl _ _

/-- `tryMove` on any device: only the `kids` of its input part and of its shell under construction
may change. -/
theorem kox_tryMove (w : World) (x : Nat) :
    KOx (fun q => (w.dev x).part = some q ∨ (w.dev x).inprog = some q) w (w.tryMove x) := by
  by_cases hk : (w.dev x).kind = .batcher
  · rcases C17.tryMove_batcher hk with ⟨e, _⟩ | ⟨p, _, _, _, e⟩ | ⟨p, _, _, _, e⟩
    · rw [e]; exact KOx.refl _ _
    · rw [e]; exact (KO.of_parts rfl).mono (fun _ h => h.elim)
    · rw [e]
      have hl : KOx (fun q => (w.dev x).part = some q ∨ (w.dev x).inprog = some q) w
          (batcherLoop (w.leafCount p + 2) w x) :=
        ⟨(C17.batcherLoop_frame _ w x).parts_le, fun q hq hs => by
          rw [(C17.batcherLoop_frame _ w x).parts_old q hq (fun h => hs (Or.inl h)) (fun h => hs (Or.inr h))]⟩
      split
      · exact KOx.right_sv (sv_schedulePass ..) hl
      · exact hl
  · exact (ko_tryMove_nonbatcher w x hk).mono (fun _ h => h.elim)

theorem parts_acceptPre (w : World) (x p : Nat) :
    (acceptPre w x p).parts.length = w.parts.length ∧
      ∀ q, ((acceptPre w x p).part q).kids = (w.part q).kids := by
  have h : sv (acceptPre w x p) = accept (sv w) x p (sdev (w.dev x)) := sv_acceptPre w x p
  constructor
  · have := congrArg (fun a => a.kids.length) h
    simpa [sv, accept] using this
  · intro q
    rw [← kids_get, ← kids_get, h]; rfl

theorem dev_acceptPre (w : World) (x p : Nat) (hx : x < w.devs.length) :
    sdev ((acceptPre w x p).dev x) = { sdev (w.dev x) with part := some p } := by
  have := congrArg (fun a => a.dev x) (sv_acceptPre w x p)
  simp only [sv_dev] at this
  rw [this]
  simp [accept, SV.dev, sv, hx]

/-- Stated for devices as variables: read off a device given by model functions, the two
projections are compared by unfolding those functions. -/
theorem part_inprog_of_sdev {d d' : Dev} {p : Option Nat} (h : sdev d' = { sdev d with part := p }) :
    d'.part = p ∧ d'.inprog = d.inprog := ⟨congrArg SDev.part h, congrArg SDev.inprog h⟩

/-- `acceptPart` on any device `x`: only the `kids` of the accepted part and of the shell under
construction of `x` may change. -/
theorem kox_acceptPart (w : World) (x p : Nat) (hx : x < w.devs.length) :
    KOx (fun q => q = p ∨ (w.dev x).inprog = some q) w (w.acceptPart x p) := by
  rw [acceptPart_eq, onReceived_eq]
  obtain ⟨hl, hk⟩ := parts_acceptPre w x p
  have hs : sv (recvBook (acceptPre w x p) x p) = sv (acceptPre w x p) := sv_recvBook ..
  have h0 : KOx (fun q => q = p ∨ (w.dev x).inprog = some q) w (recvBook (acceptPre w x p) x p) :=
    ⟨by rw [parts_len_of_sv hs, hl]; exact Nat.le_refl _, fun q _ _ => by rw [kids_of_sv hs, hk]⟩
  have hd : sdev ((recvBook (acceptPre w x p) x p).dev x) = { sdev (w.dev x) with part := some p } := by
    rw [sdev_of_sv hs, dev_acceptPre w x p hx]
  split
  · refine h0.trans ((kox_tryMove _ x).mono ?_)
    intro q hq
    obtain ⟨h1, h2⟩ := part_inprog_of_sdev hd
    rw [h1, h2] at hq
    rcases hq with hq | hq
    · left; exact (Option.some.inj hq).symm
    · right; exact hq
  · exact h0

theorem ko_acceptPart_nonbatcher (w : World) (x p : Nat) (h : (w.dev x).kind ≠ .batcher) :
    KO w (w.acceptPart x p) := by
  rw [acceptPart_eq, onReceived_eq]
  obtain ⟨hl, hk⟩ := parts_acceptPre w x p
  have hs : sv (recvBook (acceptPre w x p) x p) = sv (acceptPre w x p) := sv_recvBook ..
  have h0 : KO w (recvBook (acceptPre w x p) x p) :=
    ⟨by rw [parts_len_of_sv hs, hl]; exact Nat.le_refl _, fun q _ _ => by rw [kids_of_sv hs, hk]⟩
  have k2 : ((recvBook (acceptPre w x p) x p).dev x).kind = (w.dev x).kind :=
    (kind_of_st (st_recvBook _ x p) x).trans (kind_of_st (st_acceptPre w x p) x)
  split
  · exact h0.trans (ko_tryMove_nonbatcher _ x (by rw [k2]; exact h))
  · exact h0

end C05W
end SimProc
