/-
C03Z, part 4: the typed-stacks invariant along the event loop (`tinv_exec`, `tinv_step`,
`tinv_simulateInit`), and the condition `GC w` under which the machinery of C03W works with
SEVERAL groups: there is one group only (`OneGrp`, the old scope), or the world is typed by group
contexts (`Typed cl w`, scripts do not re-wire) and the typed-stacks invariant holds.
`GC.cs`: either way every group output an offer of a held part can reach owns the innermost group
path of the part (`consS`) — which is all the machinery needs (`Proofs/C03WAcc.lean`:
`same_give_ctrl`; `Proofs/C03XRes.lean`: `real_of_R_of`).
-/
import SimProc.Proofs.C03ZFloor
import SimProc.Proofs.C03XSwv
import SimProc.Proofs.FloorSt

namespace SimProc
namespace C03Z
open World C02V C08L C08W C03W C02V.SVBatchAux FloorCoreL

variable {cl : List (List Nat)}

/-! ### the static side conditions -/

/-- what the preservation of `TInv` needs of the typing: the wiring respects the contexts; every
batcher stands at nesting depth ≤ 1 -/
structure TSt (cl : List (List Nat)) (w : World) : Prop where
  typ : TypT (topo w) (cx cl)
  nb : BatS cl w

theorem TSt.of_tv {w w' : World} (h : TSt cl w) (e : tv w' = tv w) : TSt cl w' :=
  ⟨h.typ.of_topo (topo_of_tv e), h.nb.of_tv e⟩

theorem TSt.of_st {w w' : World} (h : TSt cl w) (e : st w' = st w) : TSt cl w' :=
  h.of_tv (tv_of_st e)

theorem Typed.tst {w : World} (h : Typed cl w) : TSt cl w :=
  ⟨h.typT, fun x hk => h.2.at x hk⟩

/-! ### events -/

/-- Every admissible event action preserves the typed-stacks invariant (in a world whose scripts
neither rewire nor create devices). -/
theorem tinv_exec (w : World) (a : Action) (hI : InvW w) (hR : TInv cl w) (hS : TSt cl w)
    (hs : ScriptsStatic w) (ha : ActOK w a) : TInv cl (w.exec a) := by
  cases a with
  | terminate => exact hR
  | script k => exact hR.of_rf (rf_runScript w k hs)
  | finishCycle d => exact tinv_finishCycle w d hI hR hS.nb
  | passPart d => exact tinv_passPart w d hI hR hS.typ hS.nb ha
  | fail d => exact tinv_failDev w d hR
  | releaseIfIdle d =>
    exact hR.of_rf (RF.of_st (sv_releaseIfIdle w d) (st_releaseIfIdle w d) (parts_releaseIfIdle w d)
      (scr_floor.releaseIfIdle w d) (pcv_blind.floor.releaseIfIdle w d))
  | rmCheck => exact hR.of_rf (rf_rmCheck w hs)
  | startWork m o => exact hR.of_rf (rf_startWork w m o hs)
  | finishWork m o => exact hR.of_rf (rf_finishWork w m o hs)
  | schedUpdate s =>
    exact hR.of_rf (RF.of_st (sv_schedUpdate w s true) (st_schedUpdate w s true) (parts_schedUpdate w s true)
      (scr_schedUpdate w s true) (pcv_blind.schedUpdate w s true))
  | periodicSense s =>
    exact hR.of_rf (RF.of_st (sv_periodicSense w s) (st_periodicSense w s) (parts_periodicSense w s)
      (scr_periodicSense w s) (pcv_blind.periodicSense w s))
  | unknown n =>
    exact hR.of_rf (RF.of_st (sv_setErr ..) (st_setErr ..) (setErr_parts ..) (scr_setErr ..) (pcv_blind.setErr ..))

/-- **One step of the event loop of a statically well-formed world preserves the typed-stacks
invariant.** -/
theorem tinv_step (w w' : World) (e : Event) (hI : InvW w) (hR : TInv cl w) (hS : TSt cl w)
    (hs : Static w) (hst : w.step = some (e, w')) :
    InvW w' ∧ TInv cl w' ∧ Static w' ∧ TSt cl w' := by
  have h0 := static_step w w' e hI hs hst
  have htv := tv_step w w' e hs hst
  refine ⟨h0.1, ?_, h0.2, hS.of_tv htv.1⟩
  unfold World.step at hst
  split at hst
  · cases hst
  · rename_i e' env' henv
    simp only [Option.some.injEq, Prod.mk.injEq] at hst
    obtain ⟨rfl, rfl⟩ := hst
    have h1 := static_pop w e' env' hs henv
    have hR1 : TInv cl ({ w with env := env' } : World) := hR.of_frame rfl rfl rfl
    have hI1 : InvW ({ w with env := env' } : World) := hI.of_sv rfl
    have hS1 : TSt cl ({ w with env := env' } : World) := hS.of_tv rfl
    split
    · exact tinv_exec _ _ hI1 hR1 hS1 h1.1 (static_actOK w e' env' hs henv)
    · exact hR1

/-! ### initialisation -/

theorem tinv_initDev (w : World) (x : Nat) (hI : InvW w) (hR : TInv cl w) (hD : BatS cl w) :
    TInv cl (w.initDev x) := by
  have hR0 : TInv cl (initFlag w x) := hR.of_frame_st (sv_initFlag w x) (st_initFlag w x) rfl
  have hI0 : InvW (initFlag w x) := hI.of_sv (sv_initFlag w x)
  rw [initDev_eq]
  split
  · exact hR0
  · exact hR0
  · exact hR0
  · exact hR0
  · refine hR0.of_frame_st ?_ ?_ ?_
    · rw [sv_modDev_same, sv_setWaiting]; intro _; rfl
    · rw [st_modDev_same, st_setWaiting]; intro _; rfl
    · rw [modDev_parts, setWaiting_parts]
  · refine tinv_scheduleFinish _ x (hI0.of_sv (sv_setWaiting ..)) ?_ ?_
    · exact hR0.of_frame_st (sv_setWaiting ..) (st_setWaiting ..) (setWaiting_parts ..)
    · exact hD.of_st (by rw [st_setWaiting, st_initFlag])
  · exact hR0.of_frame_st (sv_setWaiting ..) (st_setWaiting ..) (setWaiting_parts ..)

theorem tinv_initAsset (w : World) (a : AssetRef) (hI : InvW w) (hR : TInv cl w) (hD : BatS cl w) :
    TInv cl (w.initAsset a) := by
  by_cases h : ∃ d, a = .dev d
  · obtain ⟨d, rfl⟩ := h
    exact tinv_initDev w d hI hR hD
  · have h' : ∀ d, a ≠ .dev d := fun d e => h ⟨d, e⟩
    exact hR.of_frame_st (sv_initAsset_nondev w a h') (st_initAsset w a) (parts_initAsset_nondev w a h')

theorem tinv_simulateInit (w : World) (hI : InvW w) (hR : TInv cl w) (hD : BatS cl w) :
    TInv cl w.simulateInit := by
  unfold World.simulateInit
  split
  · exact hR
  · simp only []
    have key : ∀ (l : List AssetRef) (w0 : World), InvW w0 → TInv cl w0 → BatS cl w0 →
        InvW (l.foldl (fun w a => w.initAsset a) w0) ∧ TInv cl (l.foldl (fun w a => w.initAsset a) w0) := by
      intro l
      induction l with
      | nil => intro w0 h1 h2 _; exact ⟨h1, h2⟩
      | cons a l ih =>
        intro w0 h1 h2 h3
        exact ih _ (pres_initAsset closed_inv w0 a h1) (tinv_initAsset w0 a h1 h2 h3)
          (h3.of_st (st_initAsset w0 a))
    refine TInv.of_frame (w := List.foldl _ _ _) ?_ rfl rfl rfl
    refine (key _ _ ?_ ?_ ?_).2
    · apply InvW.of_sv _ (sv_rmEffects ..)
      exact hI.of_sv rfl
    · apply TInv.of_frame_st _ (sv_rmEffects ..) (st_rmEffects ..) (rmEffects_parts ..)
      exact hR.of_frame rfl rfl rfl
    · exact hD.of_st (by rw [st_rmEffects]; rfl)

/-- A world in which no device holds anything satisfies the invariant. -/
theorem tinv_of_empty (w : World) (h : ∀ d ∈ w.devs, (sdev d).held = []) : TInv cl w := by
  have key : ∀ (z : Nat) (d : SDev) (q : Nat), (sv w).devs[z]? = some d → q ∈ d.held → False := by
    intro z d q hz hq
    have hm := List.mem_of_getElem? hz
    simp only [sv, List.mem_map] at hm
    obtain ⟨d', hd', rfl⟩ := hm
    rw [h d' hd'] at hq; cases hq
  exact ⟨fun z d q hz _ hq => (key z d q hz hq).elim, fun z d q l k hz _ hq _ _ => (key z d q hz hq).elim,
    fun z d b hz _ hb => (key z d b hz (mem_held_inprog hb)).elim⟩

theorem tinv_runBegin (w : World) (d : Int) (hR : TInv cl w) : TInv cl (w.runBegin d).1 :=
  hR.of_rf (rf_runBegin w d)

/-! ### one group, or typed stacks -/

/-- **The condition under which the machinery of C03W works**: there is ONE group (the scope of
stage C), or the world is typed by group contexts, its scripts do not re-wire, and the typed-stacks
invariant holds (several groups: in sequence, re-entrant, nested). -/
def GC (w : World) : Prop := OneGrp w ∨ ∃ cl, NR w ∧ Typed cl w ∧ TInv cl w

/-- With one group every group output an offer can reach owns the innermost group path of the
part. -/
theorem consS_of_one {w : World} (h1 : OneGrp w) : ∀ f x stk,
    ((∀ x, (w.dev x).kind ≠ .goutput) ∨ ∀ g ∈ stk, (w.dev g).kind = .gpath) →
    consS f w x stk = true := by
  intro f
  induction f with
  | zero => intro x stk _; rfl
  | succ f ih =>
    intro x stk hstk
    unfold consS
    cases hk : (w.dev x).kind <;> simp only []
    case gate => exact List.all_eq_true.mpr (fun y _ => ih y stk hstk)
    case ginput => exact List.all_eq_true.mpr (fun y _ => ih y stk hstk)
    case gpath =>
      refine ih _ _ (hstk.imp id (fun hstk g hg => ?_))
      rcases List.mem_append.mp hg with hg | hg
      · exact hstk g hg
      · rw [List.mem_singleton] at hg; rw [hg]; exact hk
    case goutput =>
      cases hl : stk.getLast? with
      | none => rfl
      | some g =>
        simp only []
        have hstk : ∀ g ∈ stk, (w.dev g).kind = .gpath := hstk.resolve_left (fun h0 => h0 x hk)
        have hg : (w.dev g).kind = .gpath := hstk g (List.mem_of_getLast? hl)
        rw [hg, h1.out hg hk]
        simp only [beq_self_eq_true, Bool.true_and]
        exact List.all_eq_true.mpr (fun y _ => ih y _ (Or.inr (fun g' hg' =>
          hstk g' (List.dropLast_subset _ hg'))))

/-- **Consistent stacks**: for every part a device (not a sink) holds, every group output an offer
to a downstream neighbour can reach owns the innermost group path of the part at that point. -/
theorem GC.cs {w : World} (h : GC w) (hst : StkOK w) {d p : Nat} (hd : d < w.devs.length)
    (hk : (w.dev d).kind ≠ .sink) (hp : p ∈ heldL (w.dev d)) {y : Nat} (hy : y ∈ (w.dev d).down)
    (f : Nat) : consS f w y (w.part p).stack = true := by
  rcases h with h1 | ⟨cl, _, ht, hi⟩
  · exact consS_of_one h1 f y _ (hst.part p)
  · have h0 : TS (topo w) (cx cl) (cx cl d) (skOf w p) :=
      hi.top d (sdev (w.dev d)) p (sv_get w d hd) hk hp
    rw [← (ht.at d).1 y hy] at h0
    exact consS_of_ts ht f y _ h0

/-- the static world from the projection `swv` and the scripts -/
theorem sw_of_swv {w w' : World} (h : swv w' = swv w) (hs : w'.scripts = w.scripts) : sw w' = sw w := by
  have h1 : w'.devs.map stat1 = w.devs.map stat1 := congrArg Prod.fst h
  have h2 : w'.targets.map (·.dev) = w.targets.map (·.dev) := congrArg (fun t => t.2.1) h
  have h3 : w'.groups = w.groups := congrArg (fun t => t.2.2) h
  unfold sw
  rw [h1, hs, h3]
  have : ∀ l : List Target, l.map (fun t => ({ dev := t.dev } : Target)) =
      (l.map (·.dev)).map (fun d => ({ dev := d } : Target)) := by
    intro l; rw [List.map_map]; rfl
  rw [this, this w.targets, h2]

theorem Typed.of_sw {w w' : World} (h : Typed cl w) (e : sw w' = sw w) : Typed cl w' :=
  h.congr (sw_len e) (sw_kind e) (sw_down e) (sw_group e) (sw_groups e)

theorem nr_of_sw {w w' : World} (h : NR w) (e : sw w' = sw w) : NR w' := by
  have hs : w'.scripts = w.scripts := by
    have := congrArg World.scripts e; exact this
  intro l hl op hop
  rw [hs] at hl
  exact h l hl op hop

/-- `GC` along a transition that keeps the static world, given the preservation of the typed-stacks
invariant -/
theorem GC.of_sw {w w' : World} (h : GC w) (e : sw w' = sw w)
    (ht : ∀ cl, Typed cl w → TInv cl w → TInv cl w') : GC w' := by
  rcases h with h1 | ⟨cl, hn, hty, hi⟩
  · exact Or.inl (h1.of_sw e)
  · exact Or.inr ⟨cl, nr_of_sw hn e, hty.of_sw e, ht cl hty hi⟩

/-- a frame: static world, slots and parts table unchanged -/
theorem GC.frame {w w' : World} (h : GC w) (e : sw w' = sw w) (h1 : sv w' = sv w)
    (h3 : w'.parts = w.parts) : GC w' :=
  h.of_sw e (fun _ _ hi => hi.of_frame h1 (by
    unfold topo
    have hg := sw_groups e
    congr 1
    · funext x; exact sw_kind e x
    · funext x; exact sw_down e x
    · funext x; exact sw_group e x
    · funext g; rw [hg]) h3)

/-- the general transition lemma -/
theorem GC.trans {w w' : World} (h : GC w) (ho : OneGrp w → OneGrp w')
    (ht : ¬ OneGrp w → ∀ cl, NR w → Typed cl w → TInv cl w → NR w' ∧ Typed cl w' ∧ TInv cl w') :
    GC w' := by
  by_cases h1 : OneGrp w
  · exact Or.inl (ho h1)
  · rcases h with h0 | ⟨cl, hn, hty, hi⟩
    · exact absurd h0 h1
    · exact Or.inr ⟨cl, ht h1 cl hn hty hi⟩

/-- the invariant reads kinds and group ids of the devices, the slots and the parts table only (not
the wiring) -/
theorem TInv.of_kinds {w w' : World} (h : TInv cl w) (h1 : sv w' = sv w)
    (hk : ∀ x, (w'.dev x).kind = (w.dev x).kind) (hg : ∀ x, (w'.dev x).group = (w.dev x).group)
    (h3 : w'.parts = w.parts) : TInv cl w' := by
  unfold TInv at *
  have e2 : skOf w' = skOf w := by funext q; unfold skOf; rw [part_congr h3]
  rw [h1, e2]
  have key : ∀ cz s, TS (topo w') (cx cl) cz s ↔ TS (topo w) (cx cl) cz s :=
    ts_congr (t := topo w) (t' := topo w') hk hg
  exact ⟨fun z d q hz hks hq => (key _ _).mpr (h.top z d q hz hks hq),
    fun z d q l k hz hks hq hl hkl => (key _ _).mpr (h.kid z d q l k hz hks hq hl hkl), h.prog⟩

/-- `GC` along a transition that keeps kinds, group ids, group table, slots and parts (a
re-wiring), given that the new wiring is typed again -/
theorem GC.of_kinds {w w' : World} (h : GC w) (hl : w'.devs.length = w.devs.length)
    (hk : ∀ x, (w'.dev x).kind = (w.dev x).kind) (hg : ∀ x, (w'.dev x).group = (w.dev x).group)
    (hgr : w'.groups = w.groups) (h1 : sv w' = sv w) (h3 : w'.parts = w.parts)
    (hs : w'.scripts = w.scripts)
    (hty : ¬ OneGrp w → ∀ cl, Typed cl w → Typed cl w') : GC w' :=
  h.trans (fun ho => ho.congr hl hk hg hgr) (fun ho cl hn hT hi =>
    ⟨fun l hl' op hop => hn l (by rw [← hs]; exact hl') op hop, hty ho cl hT,
      hi.of_kinds h1 hk hg h3⟩)

/-- without group devices there is (at most) one group -/
theorem gc_noGrp {w : World} (h : NoGrp w) : GC w := Or.inl (oneGrp_noGrp h)

/-- **One iteration of the buffer loop.** -/
theorem gc_bufferLoop (f : Nat) {w : World} {x : Nat} (h : GC w) (hI : ¬ OneGrp w → InvW w)
    (hk : (w.dev x).kind = .buffer) (hg : GiveOK w x) : GC (bufferLoop f w x) := by
  have e : sw (bufferLoop f w x) = sw w := sw_of_swv (swv_blind.floor.bufferLoop f w x) (scr_floor.bufferLoop f w x)
  exact h.trans (fun h1 => h1.of_sw e) (fun h1 cl hn hty hi =>
    ⟨nr_of_sw hn e, hty.of_sw e, tinv_bufferLoop f w x (hI h1) hi hty.tst.typ hty.tst.nb hk hg⟩)

/-- **One step of the event loop.** -/
theorem gc_step {w w' : World} {e : Event} (h : GC w) (ho : OneGrp w → OneGrp w')
    (hI : ¬ OneGrp w → InvW w ∧ Static w) (esw : NR w → sw w' = sw w)
    (hst : w.step = some (e, w')) : GC w' :=
  h.trans ho (fun h1 cl hn hty hi =>
    ⟨nr_of_sw hn (esw hn), hty.of_sw (esw hn),
      (tinv_step w w' e (hI h1).1 hi hty.tst (hI h1).2 hst).2.1⟩)

theorem gc_simulateInit {w : World} (h : GC w) (hI : ¬ OneGrp w → InvW w)
    (esw : sw w.simulateInit = sw w) : GC w.simulateInit :=
  h.trans (fun h1 => h1.of_sw esw) (fun h1 cl hn hty hi =>
    ⟨nr_of_sw hn esw, hty.of_sw esw, tinv_simulateInit w (hI h1) hi hty.tst.nb⟩)

theorem gc_runBegin {w : World} (h : GC w) (d : Int) (esw : sw (w.runBegin d).1 = sw w) :
    GC (w.runBegin d).1 :=
  h.of_sw esw (fun cl _ hi => tinv_runBegin w d hi)

/-- a typed world in which nobody holds anything -/
theorem gc_fresh {w : World} (hn : NR w) (hty : Typed cl w)
    (h : ∀ d ∈ w.devs, (sdev d).held = []) : GC w :=
  Or.inr ⟨cl, hn, hty, tinv_of_empty w h⟩

end C03Z
end SimProc
