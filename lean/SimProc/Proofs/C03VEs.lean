/-
C03V, part 2 — several groups AND re-wiring in scripts: the machinery's hand-over step
(`G.passPartG`, the only place where the condition "one group, or typed stacks" `C03Z.GC` is used)
for worlds whose scripts re-wire.

`C03Z.GC w` contains `NR w` (no script re-wires) as baggage — nothing in the machinery reads it.  The
wake-up invariant `G` does not read the scripts except for the scope `SC` (`G.esG`), and `passPart`
is blind to the scripts (`es_passPart`): the hand-over step is taken in the world WITHOUT its
scripts, `es w []`, where `NR` holds trivially (`G.passPartV`, `G.execV`, `G.stepV`).
-/
import SimProc.Proofs.C03VFrame

namespace SimProc
namespace C03V
open World C02V C03W C03 FloorCoreL

/-- putting the scripts back -/
theorem es_es (w : World) (s : List (List Op)) : es (es w s) w.scripts = w := by
  cases w; rfl

theorem wouldAcceptN_es (w : World) (s : List (List Op)) (N A : List Nat) (f y p : Nat) :
    wouldAcceptN f (es w s) N A y p = wouldAcceptN f w N A y p :=
  wouldAcceptN_congr (w := w) (w' := es w s) ⟨fun _ => rfl, fun _ => rfl, fun _ => rfl, fun _ => rfl, rfl⟩
    (fun _ => rfl) rfl (fun _ => rfl) f y

/-- **The wake-up invariant reads the scripts through the scope only.** -/
theorem G.esG {E N A : List Nat} {w : World} (h : G E N A w) (s : List (List Op))
    (hsc : SC (es w s)) : G E N A (es w s) := by
  refine ⟨hsc, h.pl, h.inv, h.now0, h.ev, h.valid, h.kv, h.stk, h.wr, h.aok, fun d p hd hdE => ?_⟩
  rcases h.wake d p hd hdE with ha | hb
  · exact Or.inl ha
  · refine Or.inr ⟨hb.1, fun y hy => ?_⟩
    have := hb.2 y hy
    rw [← wouldAcceptN_es w s] at this
    exact this

/-- **The hand-over step in a world whose scripts may re-wire.** -/
theorem G.passPartV {E N : List Nat} {w : World} {x : Nat} (h : G (x :: E) N [] w)
    (hI : InvB w) (hset : Settled w) (hgc : C03Z.GC (es w [])) : G E N [] (w.passPart x) := by
  have hI' : InvB (es w []) := fun hnb => (hI hnb).of_sv rfl
  have hset' : Settled (es w []) := hset
  have h1 := (G.esG h [] h.sc.es_nil).passPartG hI' hset' hgc
  rw [es_passPart] at h1
  have hsc : SC (w.passPart x) := h.sc.of_sw (SW.sw_eq ⟨swv_blind.floor.passPart w x, scr_floor.passPart w x⟩)
  have e : es (es (w.passPart x) []) w.scripts = w.passPart x := by
    have := es_es (w.passPart x) []
    rw [scr_floor.passPart] at this
    exact this
  have h2 := G.esG h1 w.scripts (by rw [e]; exact hsc)
  rw [e] at h2
  exact h2

/-- **Every event action preserves the invariant** (scripts may re-wire). -/
theorem G.execV {w : World} (a : Action) (h : G (exemptA a) [] [] w)
    (ha : ∀ d, a = .fail d → (w.dev d).kind = .processor) (hI : InvB w) (hset : Settled w)
    (hio : IOK w) (hgc : C03Z.GC (es w [])) : G [] [] [] (w.exec a) := by
  cases a with
  | passPart d => exact G.passPartV h hI hset hgc
  | terminate => exact h
  | script k => exact h.runScriptG hio k
  | finishCycle d => exact h.finishCycle d
  | fail d => exact h.failDevG d (ha d rfl)
  | releaseIfIdle d => exact h.releaseIfIdleG d
  | rmCheck => exact h.rmCheckG hio
  | startWork m o => exact h.startWorkG hio m o
  | finishWork m o => exact h.finishWorkG hio m o
  | schedUpdate s => exact h.schedUpdateG s true
  | periodicSense s => exact h.periodicSenseG s
  | unknown n => exact h.setErr _

/-- **One step of the event loop preserves the invariant** (scripts may re-wire). -/
theorem G.stepV {w w' : World} {e : Event} (h : G [] [] [] w) (hI : InvB w) (hset : Settled w)
    (hio : IOK w) (hgc : C03Z.GC (es w [])) (hst : w.step = some (e, w')) : G [] [] [] w' := by
  unfold World.step at hst
  split at hst
  · cases hst
  · next e0 env' henv =>
    simp only [Option.some.injEq, Prod.mk.injEq] at hst
    obtain ⟨rfl, rfl⟩ := hst
    have hpop := h.pop henv
    have hmem : e0 ∈ w.env.events := (C01.step_min h.inv henv).1
    split
    · next hl =>
      rw [exemptOf_live hl] at hpop
      refine G.execV _ hpop (fun d hd => ?_) (invB_env hI env') (settled_env hset env')
        (hio.step (istep_env w env')) (hgc.frame rfl rfl rfl)
      exact h.ev e0.act ((C02V.mem_acts _ _).mpr ⟨e0, Or.inl hmem, rfl⟩) d hd
    · next hl =>
      rw [exemptOf_dead (by simpa using hl)] at hpop
      exact hpop

end C03V
end SimProc
