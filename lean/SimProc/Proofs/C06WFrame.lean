/-
C06W (closed-world timer invariant), part 3: the frame relation `Fr` for the primitives and for the
functions of the floor that do not touch any timer.
-/
import SimProc.Proofs.C06WDefs
import SimProc.Proofs.FloorGive
namespace SimProc
namespace C06W
open World FloorCoreL

/-! ### primitives -/

section prim
variable {X : Nat → Prop} (w : World)

/-- A change of environment and error flag only. -/
theorem fr_of_env {w w' : World} (hd : w'.devs = w.devs) (htg : w'.targets = w.targets)
    (hn : w'.env.now = w.env.now) (hu : w.env.nextUid ≤ w'.env.nextUid)
    (hf : ∀ y, (w.dev y).kind ≠ .source →
      finE w'.env y = finE w.env y ∧ finP w'.env y = finP w.env y)
    (hei : EI w.env → EI w'.env) (herr : okErr w.error = true → okErr w'.error = true) :
    Fr X w w' := by
  have hdev : ∀ y, w'.dev y = w.dev y := fun y => dev_congr hd y
  refine ⟨hn, hu, by rw [hd], ?_, ?_, hf, by rw [htg], hei, herr⟩
  · intro y; rw [hdev]; exact ⟨rfl, rfl⟩
  · intro y _; rw [hdev]

theorem fr_setErr (m : String) (hm : allowedErrs.contains m = true) : Fr X w (w.setErr m) := by
  refine fr_of_env (setErr_devs w m) (setErr_targets w m) ?_ ?_ ?_ ?_ (okErr_setErr w m hm)
  all_goals rw [setErr_env]
  · exact Nat.le_refl _
  · intro _ _; exact ⟨rfl, rfl⟩
  · exact id

theorem fr_addRec (r : Rec) : Fr X w (w.addRec r) := fr_of_fields rfl rfl rfl rfl
theorem fr_addRes (r : Res) : Fr X w (w.addRes r) := fr_of_fields rfl rfl rfl rfl
theorem fr_modPart (p : Nat) (g : PartRec → PartRec) : Fr X w (w.modPart p g) :=
  fr_of_fields rfl rfl rfl rfl
theorem fr_newPart (r : PartRec) : Fr X w (w.newPart r).1 := fr_of_fields rfl rfl rfl rfl

theorem sched_fst_error (t a : Int) (act : Action) (p : Int) : (w.sched t a act p).1.error = w.error := by
  unfold World.sched; dsimp only; split <;> rfl

theorem sched_fst_env (t a : Int) (act : Action) (p : Int) :
    (w.sched t a act p).1.env =
      (w.env.apply Arith.exact (.sched t a act.toNat p (weightOf w.seed w.wmod t a act.toNat p))).1 := by
  unfold World.sched
  dsimp only
  simp only [Env.apply]
  cases w.env.schedule t a act.toNat p (weightOf w.seed w.wmod t a act.toNat p) <;> rfl

/-- Scheduling anything but the finish event of a tracked device is a frame. -/
theorem fr_sched (t a : Int) (act : Action) (p : Int)
    (hact : ∀ y, act = .finishCycle y → (w.dev y).kind = .source) :
    Fr X w (w.sched t a act p).1 := by
  have henv := sched_fst_env w t a act p
  have herr : okErr w.error = true → okErr (w.sched t a act p).1.error = true := by
    rw [sched_fst_error]; exact id
  cases hs : w.env.schedule t a act.toNat p (weightOf w.seed w.wmod t a act.toNat p) with
  | none =>
    have he : (w.sched t a act p).1.env = w.env := by rw [henv]; simp [Env.apply, hs]
    refine fr_of_env (sched_fst_devs ..) (sched_fst_targets ..) (by rw [he]) (by rw [he]; exact Nat.le_refl _)
      ?_ (by rw [he]; exact id) herr
    intro _ _; rw [he]; exact ⟨rfl, rfl⟩
  | some s' =>
    have he : (w.sched t a act p).1.env = s' := by rw [henv]; simp [Env.apply, hs]
    obtain ⟨_, hs'⟩ := Env.schedule_some.mp hs
    refine fr_of_env (sched_fst_devs ..) (sched_fst_targets ..) (by rw [he, hs'])
      (by rw [he, hs']; exact Nat.le_succ _) ?_ ?_ herr
    · intro y hk
      rw [he]
      exact fin_schedule_ne hs y (toNat_ne_finAct act y (fun e => hk (hact y e)))
    · intro hei
      rw [he]
      have := hei.apply (.sched t a act.toNat p (weightOf w.seed w.wmod t a act.toNat p))
      simpa [Env.apply, hs] using this

theorem fr_schedLib (t a : Int) (act : Action) (p : Int)
    (hact : ∀ y, act = .finishCycle y → (w.dev y).kind = .source) :
    Fr X w (w.schedLib t a act p) := by
  have h := fr_sched (X := X) w t a act p hact
  unfold World.schedLib
  generalize w.sched t a act p = s at h ⊢
  obtain ⟨w', r⟩ := s
  cases r
  case ok => exact h
  all_goals exact h.trans (fr_setErr _ _ (by decide))

theorem fr_rmEffects (recs : List ResRec) (check : Bool) : Fr X w (w.rmEffects recs check) := by
  have h : Fr X w (recs.foldl (fun w r => w.addRec (.resUpdate r.res w.now r.inUse r.cap)) w) :=
    Fr.foldl _ _ _ (fun w r => fr_addRec w _)
  unfold World.rmEffects
  split
  · exact h.trans (fr_schedLib _ _ _ _ _ (by intro y e; cases e))
  · exact h

/-- Overwriting device `x` with a record that has the same timer view (or, if `x` is exempt, the
same kind and asset id). -/
theorem fr_setDev (x : Nat) (d : Dev) (hk : d.kind = (w.dev x).kind) (ha : d.aid = (w.dev x).aid)
    (h : ¬ X x → tdm d = tdm (w.dev x)) : Fr X w (w.setDev x d) := by
  refine ⟨rfl, Nat.le_refl _, by simp, ?_, ?_, fun _ _ => ⟨rfl, rfl⟩, rfl, id, id⟩
  · intro y
    rw [dev_setDev]
    split
    · next hxy => rw [← hxy.1]; exact ⟨hk, ha⟩
    · exact ⟨rfl, rfl⟩
  · intro y hy
    rw [dev_setDev]
    split
    · next hxy => rw [← hxy.1] at hy ⊢; exact h hy
    · rfl

theorem fr_setDev_same (x : Nat) (d : Dev) (h : tdm d = tdm (w.dev x)) : Fr X w (w.setDev x d) :=
  fr_setDev w x d (congrArg TD.kind h) (congrArg TD.aid h) (fun _ => h)

theorem fr_modDev_same (x : Nat) (f : Dev → Dev) (h : tdm (f (w.dev x)) = tdm (w.dev x)) :
    Fr X w (w.modDev x f) := fr_setDev_same w x _ h

end prim

/-! ### the chaining tactic -/

/-- One step: close the goal, or peel the outermost call off the right-hand world.  Every
alternative unifies at reducible transparency, so that a lemma about another function fails at
once instead of unfolding the model. -/
syntax "frs" : tactic

/-- `fr_peel t` peels a call for which `t : Fr _ _ (call)`; `fr_peel t with s` closes the side
condition named `?side` in `t` by the tactic `s`. -/
syntax "fr_peel " term (" with " tacticSeq)? : tactic
macro_rules
  | `(tactic| fr_peel $t) => `(tactic| with_reducible apply Fr.trans (h2 := $t))
  | `(tactic| fr_peel $t with $s) =>
    `(tactic| ((with_reducible apply Fr.trans (h2 := $t)); case side => $s))

macro_rules | `(tactic| frs) => `(tactic| first
  | with_reducible exact Fr.refl _ _
  | fr_peel fr_setDev_same _ _ _ ?side with exact rfl
  | fr_peel fr_modDev_same _ _ _ ?side with exact rfl
  | fr_peel fr_addRec _ _
  | fr_peel fr_schedLib _ _ _ _ _ ?side with (intro y e; cases e)
  | fr_peel fr_setErr _ _ ?side with decide
  | fr_peel fr_addRes _ _
  | fr_peel fr_modPart _ _ _
  | fr_peel fr_rmEffects _ _ _
  | with_reducible exact fr_of_fields rfl rfl rfl rfl)

/-- split all `if`/`match` and chain frame steps -/
macro "fr_auto" : tactic => `(tactic| ((try dsimp only) <;> repeat' (first | frs | split)))

/-- declare a frame lemma (with three explicit arguments after the world) as a step of `frs` -/
macro "fr_lemma3" a:ident : command =>
  `(macro_rules | `(tactic| frs) => `(tactic| refine Fr.trans ?_ ($a:ident _ _ _ _)))
macro "fr_lemma2" a:ident : command =>
  `(macro_rules | `(tactic| frs) => `(tactic| refine Fr.trans ?_ ($a:ident _ _ _)))
macro "fr_lemma1" a:ident : command =>
  `(macro_rules | `(tactic| frs) => `(tactic| refine Fr.trans ?_ ($a:ident _ _)))

section comp
variable {X : Nat → Prop} (w : World)

theorem fr_setWaiting (x : Nat) (a b : Bool) : Fr X w (w.setWaiting x a b) := by
  unfold World.setWaiting; fr_auto
macro_rules | `(tactic| frs) => `(tactic| fr_peel fr_setWaiting _ _ _ _)

theorem fr_schedulePass (x : Nat) (o : Int) : Fr X w (w.schedulePass x o) := by
  unfold World.schedulePass; fr_auto
macro_rules | `(tactic| frs) => `(tactic| fr_peel fr_schedulePass _ _ _)

theorem fr_notify_aux (f : Nat) :
    ∀ (w : World) (x : Nat), Fr X w (notifyUp f w x) ∧ Fr X w (spaceAvail f w x) := by
  induction f with
  | zero =>
    intro w x
    exact ⟨by unfold notifyUp; exact fr_setErr _ _ (by decide),
      by unfold spaceAvail; exact fr_setErr _ _ (by decide)⟩
  | succ f ih =>
    intro w x
    have hup : ∀ (w : World) (l : List Nat), Fr X w (l.foldl (fun w u => spaceAvail f w u) w) :=
      fun w l => Fr.foldl _ l w (fun w a => (ih w a).2)
    have hnu : ∀ (w : World) (l : List Nat), Fr X w (l.foldl (fun w u => notifyUp f w u) w) :=
      fun w l => Fr.foldl _ l w (fun w a => (ih w a).1)
    have h1 : Fr X w (notifyUp (f + 1) w x) := by
      unfold notifyUp
      simp only []
      repeat' split
      all_goals first
        | exact Fr.refl _ _ | exact (fr_setWaiting ..).trans (hup ..) | exact hnu .. | exact hup ..
    refine ⟨h1, ?_⟩
    unfold spaceAvail
    simp only []
    repeat' split
    all_goals first
      | exact Fr.refl _ _ | exact (ih w x).1 | exact (ih _ _).2 | exact fr_schedulePass ..

theorem fr_notifyUp (f : Nat) (x : Nat) : Fr X w (notifyUp f w x) := (fr_notify_aux f w x).1
theorem fr_spaceAvail (f : Nat) (x : Nat) : Fr X w (spaceAvail f w x) := (fr_notify_aux f w x).2
theorem fr_notify (x : Nat) : Fr X w (w.notify x) := fr_notifyUp w _ x
theorem fr_spaceAvailable (x : Nat) : Fr X w (w.spaceAvailable x) := fr_spaceAvail w _ x
macro_rules | `(tactic| frs) => `(tactic| fr_peel fr_notify _ _)
macro_rules | `(tactic| frs) => `(tactic| fr_peel fr_spaceAvailable _ _)

macro_rules | `(tactic| frs) => `(tactic|
  fr_peel Fr.foldl _ _ _ ?side with (intro _ _; fr_auto; done))

/-- A booking with the resource manager: its state, the records it logs, one flag of the device. -/
theorem fr_book (rm : RM) (recs : List ResRec) (c : Bool) (x : Nat) (f : Dev → Dev)
    (hf : ∀ d, tdm (f d) = tdm d) :
    Fr X w ((({ w with rm := rm } : World).rmEffects recs c).modDev x f) :=
  ((fr_of_fields (w := w) (w' := { w with rm := rm }) rfl rfl rfl rfl).trans (fr_rmEffects _ _ _)).trans
    (fr_modDev_same _ _ _ (hf _))

theorem fr_releaseReserved (x : Nat) : Fr X w (w.releaseReserved x) := by
  unfold World.releaseReserved
  split
  · exact Fr.refl _ _
  · exact fr_book w _ _ _ x _ (fun _ => by exact rfl)
macro_rules | `(tactic| frs) => `(tactic| fr_peel fr_releaseReserved _ _)

theorem fr_procAcquire (x : Nat) : Fr X w (w.procAcquire x).1 := by
  unfold World.procAcquire; fr_auto
macro_rules | `(tactic| frs) => `(tactic| fr_peel fr_procAcquire _ _)

theorem fr_applyPartCb (x p : Nat) (c : PartCb) : Fr X w (w.applyPartCb x p c) := by
  rw [applyPartCb_eq]; unfold cbDev; fr_auto
macro_rules | `(tactic| frs) => `(tactic| fr_peel fr_applyPartCb _ _ _ _)

theorem fr_addHist (p d : Nat) : Fr X w (w.addHist p d) := by
  unfold World.addHist; fr_auto
macro_rules | `(tactic| frs) => `(tactic| fr_peel fr_addHist _ _ _)

theorem fr_dropHist (p : Nat) : Fr X w (w.dropHist p) := by
  unfold World.dropHist; fr_auto
macro_rules | `(tactic| frs) => `(tactic| fr_peel fr_dropHist _ _)

theorem fr_senseOutput (s p : Nat) : Fr X w (w.senseOutput s p) := by
  unfold World.senseOutput; fr_auto
macro_rules | `(tactic| frs) => `(tactic| fr_peel fr_senseOutput _ _ _)

theorem fr_setBlock (x : Nat) (b : Bool) : Fr X w (w.setBlock x b) := by
  unfold World.setBlock; fr_auto
macro_rules | `(tactic| frs) => `(tactic| fr_peel fr_setBlock _ _ _)

theorem fr_adjustParts (x : Nat) (v : Int) : Fr X w (w.adjustParts x v) := by
  unfold World.adjustParts; fr_auto
macro_rules | `(tactic| frs) => `(tactic| fr_peel fr_adjustParts _ _ _)

theorem fr_procResourceCb (x : Nat) : Fr X w (w.procResourceCb x) := by
  unfold World.procResourceCb; fr_auto
macro_rules | `(tactic| frs) => `(tactic| fr_peel fr_procResourceCb _ _)

theorem fr_releaseIfIdle (x : Nat) : Fr X w (w.releaseIfIdle x) := by
  unfold World.releaseIfIdle; fr_auto
macro_rules | `(tactic| frs) => `(tactic| fr_peel fr_releaseIfIdle _ _)

/-- An update of a device that does not time its work, keeping kind, asset id and the processor
flags. -/
theorem fr_setDev_mask (x : Nat) (d : Dev) (hk : isT (w.dev x).kind = false)
    (hf : d.kind = (w.dev x).kind ∧ d.aid = (w.dev x).aid ∧ d.shutDown = (w.dev x).shutDown ∧
      d.lastRestore = (w.dev x).lastRestore ∧ d.lastUseStart = (w.dev x).lastUseStart) :
    Fr X w (w.setDev x d) := by
  apply fr_setDev_same
  obtain ⟨h1, h2, h3, h4, h5⟩ := hf
  simp [tdm, h1, h2, h3, h4, h5, hk]

theorem fr_modDev_mask (x : Nat) (f : Dev → Dev) (hk : isT (w.dev x).kind = false)
    (hf : ∀ d, (f d).kind = d.kind ∧ (f d).aid = d.aid ∧ (f d).shutDown = d.shutDown ∧
      (f d).lastRestore = d.lastRestore ∧ (f d).lastUseStart = d.lastUseStart) :
    Fr X w (w.modDev x f) := fr_setDev_mask w x _ hk (hf _)

theorem Fr.kind {w w' : World} (h : Fr X w w') (y : Nat) : (w'.dev y).kind = (w.dev y).kind := (h.ka y).1

theorem fr_genPart (x : Nat) : Fr X w (w.genPart x).1 := by
  cases h : ((w.dev x).genBatch == 0)
  · rw [C02V.genPart_batch w x h]; exact fr_of_fields rfl rfl rfl rfl
  · rw [C02V.genPart_leaf w x h]; exact fr_of_fields rfl rfl rfl rfl

theorem finishCycle_source_eq (x : Nat) (hk : (w.dev x).kind = .source) :
    w.finishCycle x =
      (if (w.dev x).output.isNone then
        ((w.genPart x).1.modDev x (fun d => { d with output := some (w.genPart x).2 })).addHist
          (w.genPart x).2 x
       else w).schedulePass x 0 := by
  unfold World.finishCycle
  simp only [hk]

theorem fr_finishCycle_source (x : Nat) (hk : (w.dev x).kind = .source) : Fr X w (w.finishCycle x) := by
  rw [finishCycle_source_eq w x hk]
  refine Fr.trans ?_ (fr_schedulePass _ _ _)
  split
  · have h1 : Fr X w (w.genPart x).1 := fr_genPart w x
    generalize w.genPart x = g at h1 ⊢
    obtain ⟨w1, p⟩ := g
    have hT : isT (w1.dev x).kind = false := by rw [h1.kind, hk]; rfl
    have h2 : Fr X w1 (w1.modDev x (fun d => { d with output := some p })) :=
      fr_modDev_mask w1 x _ hT (fun _ => ⟨rfl, rfl, rfl, rfl, rfl⟩)
    exact (h1.trans h2).trans (fr_addHist _ _ _)
  · exact Fr.refl _ _

theorem fr_scheduleFinish_source (x : Nat) (hk : (w.dev x).kind = .source) :
    Fr X w (w.scheduleFinish x) := by
  have h1 : Fr X w (w.setDev x { w.dev x with offset := 0 }) := fr_setDev_same _ _ _ rfl
  by_cases hc : 0 < w.finishDelay x
  · rw [scheduleFinish_pos w x hc]
    refine h1.trans (fr_schedLib _ _ _ _ _ ?_)
    intro y e
    cases e
    rw [h1.kind]; exact hk
  · rw [scheduleFinish_nonpos w x (Int.not_lt.1 hc)]
    exact h1.trans (fr_finishCycle_source _ x (by rw [h1.kind]; exact hk))

/-! ### the batcher and the buffer: their slots are masked -/

/-- peel a masked `modDev`/`setDev` off the right-hand world: leaves the prefix and the kind goal -/
macro "mask_hf" : tactic => `(tactic| first
  | exact fun _ => ⟨rfl, rfl, rfl, rfl, rfl⟩
  | exact ⟨rfl, rfl, rfl, rfl, rfl⟩
  | (refine ⟨?_, rfl, rfl, rfl, rfl⟩; symm; assumption))
macro "mask_peel" : tactic => `(tactic| (
  (first
    | refine Fr.trans ?_ (fr_modDev_mask _ _ _ ?_ ?hf)
    | refine Fr.trans ?_ (fr_setDev_mask _ _ _ ?_ ?hf))
  (case hf => mask_hf)))

theorem fr_batchGet (x p : Nat) (hk : isT (w.dev x).kind = false) : Fr X w (C02V.batchGet w x p).1 := by
  unfold C02V.batchGet
  split
  · dsimp only
    split
    · mask_peel
      · exact fr_modPart w _ _
      · exact hk
    · exact fr_modPart w _ _
  · dsimp only
    mask_peel
    · exact Fr.refl _ _
    · exact hk

theorem fr_batchShell (x : Nat) (hk : isT (w.dev x).kind = false) : Fr X w (C02V.batchShell w x).1 := by
  unfold C02V.batchShell
  split
  · exact Fr.refl _ _
  · dsimp only [World.newPart]
    mask_peel
    · exact fr_of_fields rfl rfl rfl rfl
    · exact hk

theorem fr_batchAdd (x t : Nat) (hk : isT (w.dev x).kind = false) : Fr X w (C02V.batchAdd w x t) := by
  unfold C02V.batchAdd
  split
  · mask_peel
    · exact Fr.refl _ _
    · exact hk
  · have h1 := fr_batchShell (X := X) w x hk
    have hk1 : isT ((C02V.batchShell w x).1.dev x).kind = false := by rw [h1.kind]; exact hk
    dsimp only
    split
    · mask_peel
      · exact h1.trans (fr_modPart _ _ _)
      · exact hk1
    · exact h1.trans (fr_modPart _ _ _)

theorem fr_batcherLoop (f : Nat) : ∀ (w : World) (x : Nat), isT (w.dev x).kind = false →
    Fr X w (batcherLoop f w x) := by
  induction f with
  | zero => intro w x _; exact Fr.refl _ _
  | succ f ih =>
    intro w x hk
    rw [C02V.batcherLoop_succ]
    split
    · rename_i p _ _
      have h1 := fr_batchGet (X := X) w x p hk
      have hk1 : isT ((C02V.batchGet w x p).1.dev x).kind = false := by rw [h1.kind]; exact hk
      have h2 := fr_batchAdd (X := X) (C02V.batchGet w x p).1 x (C02V.batchGet w x p).2 hk1
      have hk2 : isT ((C02V.batchAdd (C02V.batchGet w x p).1 x (C02V.batchGet w x p).2).dev x).kind = false := by
        rw [h2.kind]; exact hk1
      exact (h1.trans h2).trans (ih _ x hk2)
    · exact Fr.refl _ _

theorem fr_tryMove_buffer (x : Nat) (hk : (w.dev x).kind = .buffer) : Fr X w (w.tryMove x) := by
  have hT : isT (w.dev x).kind = false := by rw [hk]; rfl
  unfold World.tryMove
  simp only [hk]
  split
  · exact Fr.refl _ _
  · split
    · refine Fr.trans ?_ (fr_schedulePass _ _ _)
      refine Fr.trans ?_ (fr_notify _ _)
      mask_peel
      · exact Fr.refl _ _
      · exact hT
    · refine Fr.trans ?_ (fr_notify _ _)
      mask_peel
      · exact Fr.refl _ _
      · exact hT

theorem fr_tryMove_batcher (x : Nat) (hk : (w.dev x).kind = .batcher) : Fr X w (w.tryMove x) := by
  have hT : isT (w.dev x).kind = false := by rw [hk]; rfl
  unfold World.tryMove
  simp only [hk]
  repeat' split
  all_goals first
    | with_reducible exact Fr.refl _ _
    | with_reducible exact fr_batcherLoop _ _ _ hT
    | (with_reducible refine Fr.trans ?_ (fr_schedulePass _ _ _)
       exact fr_batcherLoop _ _ _ hT)
    | (mask_peel
       · exact Fr.refl _ _
       · exact hT)

end comp
end C06W
end SimProc
