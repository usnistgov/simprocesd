/-
C18D — machinery, part 2: the world invariant `WD C A w` (anchors `A`), the relation `FrD C w w'`
("`w'` keeps the invariant of `w`, the anchors of the existing schedulers are kept, schedulers
appended meanwhile are anchored at the clock") and `FrD C w (f w)` for every function that can run
inside an event action, `create (.sched …)` included.

Method: the frame lemmas `Fr` of C18W need scripts that create nothing (`Stat`).  They are applied to
the twin world WITHOUT scripts (`noScr w`): the floor functions are blind to the scripts
(`Proofs/C03YEs*.lean`), and the tracked key of the twin is the tracked key of `w` with its scripts
erased.  The registry facts (asset id = registration index + 1, every scheduler registered, the
registry only grows) are those of C20W (`Reg`, `Pv`, `Same`).
-/
import SimProc.Proofs.C18DInv
import SimProc.Proofs.C03YEsWorld
import SimProc.Props.C20W

namespace SimProc
namespace C18D
open World FloorCoreL C18W C19W
open C03W (es noScr)

/-! ### the class of operations -/

/-- What the invariant is relative to: the parameters of the sensors' invariant (their anchor, the
initial registry), the asset ids of the initial schedulers and sensors, the length of the initial
registry. -/
structure Ctx where
  P : Par
  ta0 : List Int
  bound : Nat

/-- `pause` / `unpause` / `cancel` of an id that is neither an initial scheduler / sensor id nor an
id a later constructor call can hand out. -/
def idOK (ta0 : List Int) (bound : Nat) (a : Int) : Bool := !ta0.contains a && decide (a ≤ (bound : Int))

/-- **`schedNew`**: the payload of a scheduler constructed while running — no negative duration.
(Position 0, no current state, no registered object and a fresh asset id are what the constructor
`AssetSpec.sched tt cyc` produces by itself.) -/
def schedNew (tt : List (Int × Int)) : Bool := tt.all (fun p => decide (0 ≤ p.1))

/-- Operations of the dynamic class: as in C18W, plus constructor calls for schedulers (`schedNew`),
maintainers and cms. -/
def opD (ta0 : List Int) (bound : Nat) : Op → Bool
  | .pause a => idOK ta0 bound a
  | .unpause a => idOK ta0 bound a
  | .cancel a => idOK ta0 bound a
  | .create (.sched tt _) => schedNew tt
  | .create (.maint _ _) => true
  | .create .cms => true
  | .create _ => false
  | _ => true

/-- **The world invariant.** -/
structure WD (C : Ctx) (A : Nat → Int) (w : World) : Prop where
  gd : GD C.P A w.env (tk (noScr w))
  inv : C01.Inv w.env
  reg : C20W.Reg w
  started : w.started = true
  scr : ∀ l ∈ w.scripts, ∀ op ∈ l, opD C.ta0 C.bound op = true
  tab : ∀ a ∈ (tk w).ta, a ∈ C.ta0 ∨ (C.bound : Int) < a
  bnd : C.bound ≤ w.assets.length

/-- the anchors after something happened in `w`: existing schedulers keep theirs, new ones are
anchored at the clock -/
def ext (A : Nat → Int) (w : World) : Nat → Int := fun s => if s < w.scheds.length then A s else w.now

def FrD (C : Ctx) (w w' : World) : Prop :=
  ∀ A, WD C A w → WD C (ext A w) w' ∧ w'.now = w.now ∧ w.scheds.length ≤ w'.scheds.length

theorem WD.congrA {C : Ctx} {A A' : Nat → Int} {w : World} (h : WD C A w)
    (hA : ∀ s, s < w.scheds.length → A' s = A s) : WD C A' w :=
  ⟨h.gd.congrA hA, h.inv, h.reg, h.started, h.scr, h.tab, h.bnd⟩

theorem FrD.refl (C : Ctx) (w : World) : FrD C w w := fun A h =>
  ⟨h.congrA (fun s hs => by simp [ext, hs]), rfl, Nat.le_refl _⟩

theorem ext_ext (A : Nat → Int) {w w1 : World} (hn : w1.now = w.now)
    (hl : w.scheds.length ≤ w1.scheds.length) : ext (ext A w) w1 = ext A w := by
  funext s
  unfold ext
  by_cases h1 : s < w1.scheds.length
  · simp [h1]
  · have h2 : ¬ s < w.scheds.length := by omega
    simp [h1, h2, hn]

theorem FrD.trans {C : Ctx} {a b c : World} (h1 : FrD C a b) (h2 : FrD C b c) : FrD C a c := by
  intro A h
  obtain ⟨g1, n1, l1⟩ := h1 A h
  obtain ⟨g2, n2, l2⟩ := h2 _ g1
  rw [ext_ext A n1 l1] at g2
  exact ⟨g2, n2.trans n1, Nat.le_trans l1 l2⟩

theorem FrD.with {C : Ctx} {w w' : World} (h : ∀ A, WD C A w → FrD C w w') : FrD C w w' :=
  fun A hw => h A hw A hw

/-- A frame of the script-less twin that keeps the registry invariant and the scripts. -/
theorem FrD.prim {C : Ctx} {w w' : World} (h1 : Fr (noScr w) (noScr w')) (h2 : C20W.Pv w w')
    (h3 : w'.scripts = w.scripts) : FrD C w w' := by
  intro A hw
  obtain ⟨g, i, n, l, t⟩ := GD.fr (w := noScr w) (w' := noScr w') hw.gd hw.inv h1
  obtain ⟨r, st, pf⟩ := h2 hw.reg
  have l' : w'.scheds.length = w.scheds.length := l
  refine ⟨⟨g.congrA (fun s hs => ?_), i, r, st.trans hw.started, ?_, ?_, ?_⟩, n, Nat.le_of_eq l'.symm⟩
  · have : s < w.scheds.length := by rw [← l']; exact hs
    simp [ext, this]
  · rw [h3]; exact hw.scr
  · intro a ha
    have t' : (tk w').ta = (tk w).ta := t
    rw [t'] at ha
    exact hw.tab a ha
  · exact Nat.le_trans hw.bnd pf.length_le

theorem FrD.same {C : Ctx} {w w' : World} (h1 : Fr (noScr w) (noScr w')) (h2 : C20W.Same w w') :
    FrD C w w' := FrD.prim h1 (C20W.Pv.of_same h2) h2.scripts

/-- Functions that are blind to the scripts. -/
theorem FrD.blind {C : Ctx} {f : World → World} (hb : ∀ w s, f (es w s) = es (f w) s)
    (hf : ∀ w, Fr w (f w)) (hs : ∀ w, C20W.Same w (f w)) (w : World) : FrD C w (f w) := by
  refine FrD.same ?_ (hs w)
  show Fr (es w []) (es (f w) [])
  rw [← hb]
  exact hf _

theorem FrD.foldl {C : Ctx} {α} (g : World → α → World) (l : List α) (w : World)
    (h : ∀ w a, FrD C w (g w a)) : FrD C w (l.foldl g w) := by
  induction l generalizing w with
  | nil => exact FrD.refl C w
  | cons a l ih => exact (h w a).trans (ih _)

/-! ### primitives -/

theorem FrD_addRes {C : Ctx} (w : World) (r : Res) (h : trackedRes r = false) : FrD C w (w.addRes r) :=
  FrD.same (Fr.of_view (view_addRes (noScr w) r h)) (C20W.Same.of_eq rfl)

theorem FrD_addRec {C : Ctx} (w : World) (r : Rec) (h : trackedRec r = false) : FrD C w (w.addRec r) :=
  FrD.same (Fr.of_view (view_addRec (noScr w) r h)) (C20W.Same.of_eq rfl)

theorem FrD_setErr {C : Ctx} (w : World) (m : String) : FrD C w (w.setErr m) :=
  FrD.blind (fun w s => C03W.es_setErr w s m) (fun w => Fr.of_view (view_setErr w m))
    (fun w => C20W.Same.of_eq (C20W.RK_setErr w m)) w

theorem FrD_modMaint {C : Ctx} (w : World) (m : Nat) (f : Maint → Maint) : FrD C w (w.modMaint m f) :=
  FrD.same (Fr.of_view rfl) (C20W.Same.of_eq (by
    unfold modMaint
    exact C20W.RK_setMaint w m _ rfl))

theorem FrD_schedLib {C : Ctx} (w : World) (t a : Int) (act : Action) (p : Int)
    (h : isTrackedAct act = false) : FrD C w (w.schedLib t a act p) :=
  FrD.blind (fun w s => C03W.es_schedLib w s t a act p) (fun w => Fr_schedLib w t a act p h)
    (fun w => C20W.Same.of_eq (C20W.RK_schedLib w t a act p)) w

theorem FrD_shutdownDev {C : Ctx} (w : World) (x : Nat) (f : Bool) (lost : Option Nat) :
    FrD C w (w.shutdownDev x f lost) :=
  FrD.blind (fun w s => C03W.es_shutdownDev w s x f lost) (fun w => Fr.floor.shutdownDev w x f lost)
    (fun w => C20W.Same.floor.shutdownDev w x f lost) w

theorem FrD_restoreDev {C : Ctx} (w : World) (x : Nat) : FrD C w (w.restoreDev x) :=
  FrD.blind (fun w s => C03W.es_restoreDev w s x) (fun w => Fr.floor.restoreDev w x)
    (fun w => C20W.Same.floor.restoreDev w x) w

/-! ### scripted operations -/

theorem es_self (w : World) : es w w.scripts = w := by cases w; rfl

theorem applyOp_scripts (w : World) (op : Op) (h : ∀ sp, op ≠ .create sp) :
    (w.applyOp op).1.scripts = w.scripts := by
  have := C03W.es_applyOp w w.scripts op h
  rw [es_self] at this
  rw [this]
  rfl

theorem not_mem_ta {C : Ctx} {A : Nat → Int} {w : World} (hw : WD C A w) {a : Int}
    (h : idOK C.ta0 C.bound a = true) : (!(tk (noScr w)).ta.contains a) = true := by
  simp only [idOK, Bool.and_eq_true, Bool.not_eq_true', decide_eq_true_eq] at h
  simp only [Bool.not_eq_true', List.contains_eq_mem, decide_eq_false_iff_not]
  intro hm
  rcases hw.tab a hm with h1 | h1
  · have : C.ta0.contains a = true := by simpa using h1
    rw [h.1] at this; cases this
  · omega

theorem FrD_applyOp_nc {C : Ctx} (w : World) (op : Op) (h : opD C.ta0 C.bound op = true)
    (hnc : ∀ sp, op ≠ .create sp) : FrD C w (w.applyOp op).1 := by
  refine FrD.with fun A hw => ?_
  have hok : opOK (tk (noScr w)).ta op = true := by
    cases op
    case pause a => exact not_mem_ta hw h
    case unpause a => exact not_mem_ta hw h
    case cancel a => exact not_mem_ta hw h
    case create sp => exact absurd rfl (hnc sp)
    all_goals rfl
  have hfresh : C20W.opFresh op = true := by
    cases op
    case create sp => exact absurd rfl (hnc sp)
    all_goals rfl
  refine FrD.prim ?_ (C20W.Pv_applyOp w op hfresh) (applyOp_scripts w op hnc)
  have := Fr_applyOp (es w []) op hok
  rw [C03W.es_applyOp w [] op hnc] at this
  exact this

/-- every device id is at most the length of the registry -/
theorem reg_dev_aid_le {w : World} (r : C20W.Reg w) : ∀ d ∈ w.devs, d.aid ≤ (w.assets.length : Int) := by
  intro d hd
  obtain ⟨j, hj, rfl⟩ := List.getElem_of_mem hd
  have hm := C20W.dev_registered r j hj
  obtain ⟨i, hi, he⟩ := List.getElem_of_mem hm
  have := C20W.aid_is_index_dev r i j (by rw [List.getElem?_eq_getElem hi, he])
  have e : w.dev j = w.devs[j] := by
    simp [World.dev, List.getD_eq_getElem?_getD, hj]
  rw [e] at this
  omega

/-- the scheduler a constructor call builds -/
def newSched (w : World) (tt : List (Int × Int)) (cyc : Bool) : SchedW :=
  { s := { tt := tt, cyc := cyc }, aid := w.assets.length + 1 }

/-- registration of a scheduler -/
def regSched (w : World) (x : SchedW) : World :=
  { w with scheds := w.scheds ++ [x], assets := w.assets ++ [AssetRef.sched w.scheds.length] }

theorem addSched_eq (w : World) (tt : List (Int × Int)) (cyc : Bool) (hst : w.started = true) :
    w.addAsset (.sched tt cyc) =
      (regSched w (newSched w tt cyc)).schedUpdate w.scheds.length false := by
  unfold addAsset
  dsimp only
  split
  · rfl
  · rename_i hc; exact absurd hst hc

/-- **A scheduler constructed while the simulation runs**: the invariant is kept, the new scheduler
is anchored at the clock. -/
theorem FrD_createSched {C : Ctx} (w : World) (tt : List (Int × Int)) (cyc : Bool)
    (h : schedNew tt = true) : FrD C w (w.addAsset (.sched tt cyc)) := by
  intro A hw
  have hpv := C20W.Pv_addAsset w (.sched tt cyc) rfl hw.reg
  rw [addSched_eq w tt cyc hw.started] at hpv ⊢
  obtain ⟨x, hx⟩ : ∃ x, x = newSched w tt cyc := ⟨_, rfl⟩
  rw [← hx] at hpv ⊢
  obtain ⟨w1, hw1⟩ : ∃ w1, regSched w x = w1 := ⟨_, rfl⟩
  rw [hw1] at hpv ⊢
  have hx : newSched w tt cyc = x := hx.symm
  have htk : tk (noScr w1) = pushS (tk (noScr w)) x := by subst hw1; rfl
  have henv : w1.env = w.env := by subst hw1; rfl
  have hdur : ∀ p ∈ x.s.tt, 0 ≤ p.1 := by
    subst hx
    intro p hp
    have := List.all_eq_true.mp h p hp
    simpa using this
  have haid : x.aid ≠ 0 ∧ ∀ k ∈ (tk (noScr w)).dk, k.1 ≠ x.aid := by
    subst hx
    refine ⟨by show (w.assets.length : Int) + 1 ≠ 0; omega, fun k hk => ?_⟩
    obtain ⟨d, hd, rfl⟩ := List.mem_map.mp hk
    have := reg_dev_aid_le hw.reg d hd
    show d.aid ≠ (w.assets.length : Int) + 1
    omega
  obtain ⟨p1, p2, p3, p4, p5⟩ := hw.gd.push x (by subst hx; rfl) hdur haid rfl
  have hi : w.scheds.length < (pushS (tk (noScr w)) x).scheds.length := by
    show w.scheds.length < (w.scheds ++ [x]).length
    simp
  have ha := schedUpdate_refines (noScr w1) w.scheds.length false (by
    have := p1.dur_at w.scheds.length
    rw [← htk] at this
    exact this)
  have hes : (noScr w1).schedUpdate w.scheds.length false = noScr (w1.schedUpdate w.scheds.length false) :=
    C03W.es_schedUpdate w1 [] _ _
  rw [hes, htk] at ha
  have henv' : (noScr w1).env = w.env := henv
  rw [henv'] at ha
  have hgd : GD C.P (ext A w) (w1.schedUpdate w.scheds.length false).env
      (tk (noScr (w1.schedUpdate w.scheds.length false))) := by
    refine GD.sched_start p1 (fun s hne => ?_) p3 hi p4 p5 (by
      show (if w.scheds.length < w.scheds.length then _ else _) = _
      rw [if_neg (Nat.lt_irrefl _)]; rfl) ha
    have := p2 s hne
    unfold SchedD at this ⊢
    refine ⟨fun hc => ?_, this.2⟩
    have hlt : s < w.scheds.length := by
      have : s < (w.scheds ++ [x]).length := hc
      have hne' : s ≠ w.scheds.length := hne
      simp at this
      omega
    simp only [ext, hlt, if_true]
    exact this.1 hc
  have hfr := ha.frame
  have hsame := C20W.Same_schedUpdate w1 w.scheds.length false
  refine ⟨⟨hgd, hfr.inv hw.inv, hpv.1, hpv.2.1.trans hw.started, ?_, ?_, ?_⟩, hfr.now, ?_⟩
  · rw [hsame.scripts]; subst hw1; exact hw.scr
  · intro a ha'
    have e1 : (tk (w1.schedUpdate w.scheds.length false)).ta = (tk (noScr w1)).ta := by
      have := ta_of_sstat hfr.sstat
      rw [← htk] at this
      exact this
    rw [e1, htk] at ha'
    have : a ∈ (tk w).ta ∨ a = x.aid := by
      simp only [TK.ta, pushS, List.map_append, List.mem_append, List.mem_map, List.map_cons,
        List.map_nil, List.mem_singleton] at ha' ⊢
      rcases ha' with (ha' | ha') | ha'
      · exact Or.inl (Or.inl ha')
      · exact Or.inr ha'
      · exact Or.inl (Or.inr ha')
    rcases this with hm | rfl
    · exact hw.tab a hm
    · right
      subst hx
      have := hw.bnd
      show (C.bound : Int) < (w.assets.length : Int) + 1
      omega
  · exact Nat.le_trans hw.bnd hpv.2.2.length_le
  · rw [hsame.scheds_length]
    subst hw1
    show w.scheds.length ≤ (w.scheds ++ [x]).length
    simp

theorem FrD_applyOp {C : Ctx} (w : World) (op : Op) (h : opD C.ta0 C.bound op = true) :
    FrD C w (w.applyOp op).1 := by
  by_cases hnc : ∀ sp, op ≠ .create sp
  · exact FrD_applyOp_nc w op h hnc
  · have : ∃ sp, op = .create sp := by
      cases op
      case create sp => exact ⟨sp, rfl⟩
      all_goals exact absurd (fun sp he => by cases he) hnc
    obtain ⟨sp, rfl⟩ := this
    show FrD C w (w.addAsset sp)
    cases sp with
    | sched tt cyc => exact FrD_createSched w tt cyc h
    | maint cap v =>
      refine FrD.prim (Fr.of_view ?_) (C20W.Pv_addAsset w _ rfl) ?_
      · unfold addAsset; dsimp only; split <;> rfl
      · unfold addAsset; dsimp only; split <;> rfl
    | cms => exact FrD.prim (Fr.of_view rfl) (C20W.Pv_addAsset w _ rfl) rfl
    | dev d => cases h
    | group g a b c => cases h
    | sensor sw => cases h

theorem FrD_applyOps {C : Ctx} (w : World) (ops : List Op) (h : ∀ op ∈ ops, opD C.ta0 C.bound op = true) :
    FrD C w (w.applyOps ops) := by
  unfold applyOps
  induction ops generalizing w with
  | nil => exact FrD.refl C w
  | cons op ops ih =>
    rw [List.foldl_cons]
    refine ((FrD_applyOp w op (h op List.mem_cons_self)).trans
      (FrD_addRes _ _ (applyOp_res w op))).trans (ih _ (fun o ho => h o (List.mem_cons_of_mem _ ho)))

/-! ### scripts, resource check, maintainer events, `exec` -/

/-- `FrD`, under the world invariant (which says that the scripts are of the dynamic class),
contains what scripts, call-backs of the resource manager and work orders do. -/
theorem FrD.scripts {C : Ctx} : ScriptClosed (fun w => ∃ A, WD C A w) (FrD C) where
  refl w _ := FrD.refl C w
  trans := FrD.trans
  inv := fun ⟨A, hw⟩ r => ⟨_, (r A hw).1⟩
  applyOp := fun w op ⟨_, hw⟩ ⟨l, hl, hop⟩ => FrD_applyOp w op (hw.scr l hl op hop)
  addRes w r _ h := FrD_addRes w r (untracked_of_plain h)
  erase _ _ _ := FrD.same (Fr.of_view rfl) (C20W.Same.of_eq rfl)
  procResourceCb w _ _ d _ _ _ :=
    FrD.blind (fun w s => C03W.es_procResourceCb w s d) (fun w => Fr.floor.procResourceCb w d)
      (fun w => C20W.Same_procResourceCb w d) w
  modMaint w m f _ := FrD_modMaint w m f
  addRec w _ _ _ _ _ _ _ := FrD_addRec w _ rfl
  schedLib w t _ _ _ _ he := by cases he <;> exact FrD_schedLib w t _ _ _ rfl
  shutdownDev w _ d _ _ := FrD_shutdownDev w d _ _
  restoreDev w _ d _ _ := FrD_restoreDev w d
  setErr w m _ _ := FrD_setErr w m

/-- The action of every event other than a scheduler transition / a periodic measurement. -/
theorem FrD_exec {C : Ctx} (w : World) (a : Action) (h : isTrackedAct a = false) : FrD C w (w.exec a) := by
  unfold exec
  split
  · exact FrD.refl C _
  · exact FrD.with fun A hw => FrD.scripts.runScript _ _ ⟨A, hw⟩
  · exact FrD.blind (fun w s => C03W.es_finishCycle w s _) (fun w => Fr.floor.finishCycle w _)
      (fun w => C20W.Same.floor.finishCycle w _) w
  · exact FrD.blind (fun w s => C03W.es_passPart w s _) (fun w => Fr.floor.passPart w _)
      (fun w => C20W.Same.floor.passPart w _) w
  · exact FrD.blind (fun w s => C03W.es_failDev w s _) (fun w => Fr.floor.failDev w _)
      (fun w => C20W.Same.floor.failDev w _) w
  · exact FrD.blind (fun w s => C03W.es_releaseIfIdle w s _) (fun w => Fr.floor.releaseIfIdle w _)
      (fun w => C20W.Same.floor.releaseIfIdle w _) w
  · exact FrD.with fun A hw => FrD.scripts.rmCheck _ ⟨A, hw⟩
  · exact FrD.with fun A hw => FrD.scripts.startWork _ _ _ ⟨A, hw⟩
  · exact FrD.with fun A hw => FrD.scripts.finishWork _ _ _ ⟨A, hw⟩
  · cases h
  · cases h
  · exact FrD_setErr _ _

/-! ### the event loop -/

/-- the anchors after a step `w → w'`: schedulers constructed during the step are anchored at the
time of the step -/
def stepA (A : Nat → Int) (w w' : World) : Nat → Int :=
  fun s => if s < w.scheds.length then A s else w'.now

theorem WD.of_same {C : Ctx} {A : Nat → Int} {w w' : World} (h : WD C A w)
    (g : GD C.P A w'.env (tk (noScr w'))) (hi : C01.Inv w'.env) (hs : C20W.Same w w')
    (hta : (tk w').ta = (tk w).ta) : WD C (stepA A w w') w' := by
  refine ⟨g.congrA (fun s hs' => ?_), hi, ?_, hs.started.trans h.started, ?_, ?_, ?_⟩
  · have : s < w.scheds.length := by rw [← hs.scheds_length]; exact hs'
    simp [stepA, this]
  · have := h.reg; unfold C20W.Reg at *; rw [hs]; exact this
  · rw [hs.scripts]; exact h.scr
  · rw [hta]; exact h.tab
  · rw [hs.assets]; exact h.bnd

/-- **One step of the event loop keeps the invariant.** -/
theorem WD.step {C : Ctx} {A : Nat → Int} {w w' : World} {ev : Event} (h : WD C A w)
    (hst : w.step = some (ev, w')) : WD C (stepA A w w') w' ∧ w.scheds.length ≤ w'.scheds.length := by
  obtain ⟨es, he, rfl⟩ := step_cases hst
  have hi1 : C01.Inv (popEnv w.env ev es) :=
    C01.inv_step h.inv (Env.step_some.mpr ⟨es, he, rfl⟩)
  have hsame0 : C20W.Same w ({ w with env := popEnv w.env ev es } : World) := C20W.Same.of_eq rfl
  by_cases ht : tracked ev = true
  · have hown := h.gd.owner (x := ev) (by rw [he]; simp) ht
    rcases hown with ⟨s, hs, h2, _, _⟩ | ⟨s, hs, h2, h3, _, hk, _⟩
    · obtain ⟨_, hcan, _⟩ := ((h.gd.sched s).1 h2).pop he hs false
      have hlive : ev.live = true := by simp [Event.live, hcan]
      have hact : ev.act = 9 + 16 * s := by simpa [suEv] using hs
      rw [if_pos hlive, hact, ofNat_su]
      show WD C _ (({ w with env := popEnv w.env ev es } : World).schedUpdate s true) ∧ _
      have ha := schedUpdate_refines (noScr ({ w with env := popEnv w.env ev es } : World)) s true
        (h.gd.sok.dur_at s)
      rw [show (noScr ({ w with env := popEnv w.env ev es } : World)).schedUpdate s true =
        noScr (({ w with env := popEnv w.env ev es } : World).schedUpdate s true) from
        C03W.es_schedUpdate _ [] _ _] at ha
      have hsame := hsame0.trans (C20W.Same_schedUpdate ({ w with env := popEnv w.env ev es } : World) s true)
      exact ⟨h.of_same (h.gd.sched_adv h.inv he hs ha) (ha.frame.inv hi1) hsame
        (by have := ta_of_sstat ha.frame.sstat; exact this),
        Nat.le_of_eq hsame.scheds_length.symm⟩
    · have hnow : w.env.now ≤ ev.time := h.inv.future ev (by rw [he]; exact List.mem_cons_self)
      obtain ⟨_, hcan, _⟩ := (((h.gd.sens s).1 ⟨h2, h3⟩).1 hk).pop he hs hnow false
      have hlive : ev.live = true := by simp [Event.live, hcan]
      have hact : ev.act = 10 + 16 * s := by simpa [psEv] using hs
      rw [if_pos hlive, hact, ofNat_ps]
      show WD C _ (({ w with env := popEnv w.env ev es } : World).periodicSense s) ∧ _
      have ha := periodicSense_refines (noScr ({ w with env := popEnv w.env ev es } : World)) s
        (h.gd.sok.ivl_at s hk)
      rw [show (noScr ({ w with env := popEnv w.env ev es } : World)).periodicSense s =
        noScr (({ w with env := popEnv w.env ev es } : World).periodicSense s) from
        C03W.es_periodicSense _ [] _] at ha
      have hsame := hsame0.trans (C20W.Same_periodicSense ({ w with env := popEnv w.env ev es } : World) s)
      exact ⟨h.of_same (h.gd.sense_adv h.inv he hs (by rw [List.length_map]; rfl) ha) (ha.frame.inv hi1)
        hsame (by have := ta_of_sstat ha.frame.sstat; exact this), Nat.le_of_eq hsame.scheds_length.symm⟩
  · have ht' : tracked ev = false := by simpa using ht
    have h1 : WD C A ({ w with env := popEnv w.env ev es } : World) :=
      ⟨h.gd.pop_untracked h.inv he ht', hi1, h.reg, h.started, h.scr, h.tab, h.bnd⟩
    split
    · obtain ⟨g, n, l⟩ := FrD_exec (C := C) _ _ (isTrackedAct_ofNat ht') A h1
      refine ⟨?_, l⟩
      have : stepA A w (({ w with env := popEnv w.env ev es } : World).exec (Action.ofNat ev.act)) =
          ext A ({ w with env := popEnv w.env ev es } : World) := by
        funext s
        simp only [stepA, ext, n]
      rw [this]; exact g
    · exact ⟨h1.congrA (fun s hs => by simp [stepA] at hs ⊢; intro hc; omega), Nat.le_refl _⟩

/-- the anchors after the loop of `Environment.run` -/
def runA : Nat → (Nat → Int) → World → (Nat → Int)
  | 0, A, _ => A
  | f + 1, A, w =>
    if w.env.running then
      match w.step with
      | none => A
      | some (_, w') => runA f (stepA A w w') w'
    else A

theorem WD.runLoop {C : Ctx} (n : Nat) : ∀ {A : Nat → Int} {w : World}, WD C A w →
    WD C (runA n A w) (runLoop n w) ∧ (∀ s, s < w.scheds.length → runA n A w s = A s) ∧
    w.scheds.length ≤ (runLoop n w).scheds.length := by
  induction n with
  | zero =>
    intro A w h
    obtain ⟨g, _, l⟩ := FrD_setErr (C := C) w "fuel" A h
    exact ⟨g.congrA (fun s hs => by
      have : s < w.scheds.length := by
        have e : (w.setErr "fuel").scheds.length = w.scheds.length :=
          (C20W.Same.of_eq (C20W.RK_setErr w "fuel")).scheds_length
        rw [← e]; exact hs
      simp [runA, ext, this]), fun _ _ => rfl, l⟩
  | succ n ih =>
    intro A w h
    rw [World.runLoop, runA]
    split
    · cases hst : w.step with
      | none => exact ⟨h, fun _ _ => rfl, Nat.le_refl _⟩
      | some q =>
        obtain ⟨e, w'⟩ := q
        obtain ⟨g, l⟩ := h.step hst
        obtain ⟨g2, a2, l2⟩ := ih g
        refine ⟨g2, fun s hs => ?_, Nat.le_trans l l2⟩
        show runA n (stepA A w w') w' s = A s
        rw [a2 s (by omega)]
        simp [stepA, hs]
    · exact ⟨h, fun _ _ => rfl, Nat.le_refl _⟩

theorem WD.runBegin {C : Ctx} {A : Nat → Int} {w : World} (h : WD C A w) (d : Int) :
    WD C A (w.runBegin d).1 := by
  have hsame := C20W.Same_runBegin w d
  have key : GD C.P A (w.runBegin d).1.env (tk (noScr (w.runBegin d).1)) ∧ C01.Inv (w.runBegin d).1.env ∧
      (tk (w.runBegin d).1).ta = (tk w).ta := by
    unfold World.runBegin
    dsimp only
    split
    · exact ⟨h.gd, h.inv, rfl⟩
    · rename_i e hs
      unfold Env.runBegin at hs
      obtain ⟨_, rfl⟩ := Env.schedule_some.mp hs
      have hinv : C01.Inv (Env.withEvent { w.env with terminated := false } (Arith.exact.add w.env.now d)
          (-1) terminateAct prioTerminate
          (weightOf w.seed w.wmod (w.env.now + d) (-1) terminateAct pTerminate)) :=
        C01.inv_runBegin Arith.exact h.inv (by unfold Env.runBegin; exact hs)
      refine ⟨h.gd.env ?_ rfl (Int.le_refl _), hinv, rfl⟩
      exact C06W.filter_insort_neg _ _ _ rfl
  exact (h.of_same key.1 key.2.1 hsame key.2.2).congrA (fun s hs => by
    have : s < w.scheds.length := by rw [← hsame.scheds_length]; exact hs
    simp [stepA, this])

/-- outside operations of the dynamic class -/
theorem WD.applyOps {C : Ctx} {A : Nat → Int} {w : World} (h : WD C A w) (ops : List Op)
    (hops : ∀ op ∈ ops, opD C.ta0 C.bound op = true) :
    WD C (ext A w) (w.applyOps ops) ∧ (w.applyOps ops).now = w.now ∧
    w.scheds.length ≤ (w.applyOps ops).scheds.length := FrD_applyOps w ops hops A h

/-! ### initialisation -/

/-- the context of a world -/
def ctxOf (w0 : World) : Ctx := ⟨⟨w0.now, w0.assets⟩, (tk w0).ta, w0.assets.length⟩

theorem fresh_noScr {w : World} (hf : C18W.Fresh w) : C18W.Fresh (noScr w) :=
  ⟨hf.notStarted, hf.queue, hf.noTracked, hf.idx, hf.unreg, hf.noFin, hf.recs, hf.results⟩

theorem wd_init {w0 : World} (hs : C18W.Static (noScr w0)) (hf : C18W.Fresh w0) (hr : C20W.Reg w0)
    (hscr : ∀ l ∈ w0.scripts, ∀ op ∈ l, opD (tk w0).ta w0.assets.length op = true) :
    WD (ctxOf w0) (fun _ => w0.now) w0.simulateInit := by
  have hg := ginit_simulateInit hs (fresh_noScr hf)
  rw [show (noScr w0).simulateInit = noScr w0.simulateInit from C03W.es_simulateInit w0 []] at hg
  have hl := hg.lengths
  have hlen : w0.simulateInit.scheds.length = w0.scheds.length := by
    have := hl.1
    simp only [sstat, List.length_map] at this
    exact this
  have hscripts : w0.simulateInit.scripts = w0.scripts := by
    have := C03W.es_simulateInit w0 w0.scripts
    rw [es_self] at this
    rw [this]; rfl
  have hassets : w0.simulateInit.assets = w0.assets := by
    have := congrArg C20W.RKey.assets (C20W.RK_simulateInit w0 hf.notStarted)
    simpa [C20W.RK] using this
  refine ⟨GD.of_gi hg.gi (fun s hs' => ?_), hg.inv, C20W.reg_simulateInit w0 hr,
    C20W.simulateInit_started w0, ?_, ?_, ?_⟩
  · exact C20W.sched_registered hr s (by rw [← hlen]; exact hs')
  · rw [hscripts]; exact hscr
  · intro a ha
    left
    have := ta_of_sstat hg.ss
    have e : (tk w0.simulateInit).ta = (tk w0).ta := this
    rw [e] at ha
    exact ha
  · rw [hassets]; exact Nat.le_refl _

end C18D
end SimProc
