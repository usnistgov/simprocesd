/-
Helper lemmas for `SimProc/Props/C05.lean` (buffers).

* `World.clockRecs`: the clock and the data log; the flow-only primitives (`setErr`, `sched`,
  `schedLib`, `setWaiting`, `schedulePass`, `notifyUp`, `spaceAvail`, `notify`) change neither.
  (The frame library's `core` projection erases both, so they need their own frame lemmas.)
* `World.bufView`: the fields of a device a buffer's behaviour depends on.
* effect of a fold of `applyPartCb`, of `tryMove` / `onReceived` / `acceptPart` on a buffer.
-/
import SimProc.Model.World
import SimProc.Proofs.FloorCore2
import SimProc.Proofs.FloorWalk

namespace SimProc
open FloorCoreL

theorem Env.apply_sched_now (ar : Arith) (s : Env) (t a : Int) (act : Nat) (p : Int) (wt : Nat) :
    (s.apply ar (.sched t a act p wt)).1.now = s.now := by
  simp only [Env.apply, Env.schedule]
  by_cases h : t < s.now <;> simp [h]

namespace World

/-! ### clock and data log -/

/-- The clock and the data log of a world. -/
def clockRecs (w : World) : Int × List Rec := (w.env.now, w.recs)

theorem clockRecs_now {w w' : World} (h : w'.clockRecs = w.clockRecs) : w'.now = w.now :=
  congrArg Prod.fst h

theorem clockRecs_recs {w w' : World} (h : w'.clockRecs = w.clockRecs) : w'.recs = w.recs :=
  congrArg Prod.snd h

@[simp] theorem setErr_clockRecs (w : World) (m : String) : (w.setErr m).clockRecs = w.clockRecs := by
  unfold setErr; split <;> rfl

@[simp] theorem setDev_clockRecs (w : World) (x : Nat) (d : Dev) :
    (w.setDev x d).clockRecs = w.clockRecs := rfl

@[simp] theorem modDev_clockRecs (w : World) (x : Nat) (f : Dev → Dev) :
    (w.modDev x f).clockRecs = w.clockRecs := rfl

@[simp] theorem addRes_clockRecs (w : World) (r : Res) : (w.addRes r).clockRecs = w.clockRecs := rfl

@[simp] theorem sched_fst_clockRecs (w : World) (t a : Int) (act : Action) (p : Int) :
    (w.sched t a act p).1.clockRecs = w.clockRecs := by
  unfold sched
  dsimp only
  split
  · next e h =>
    have := Env.apply_sched_now Arith.exact w.env t a act.toNat p
      (weightOf w.seed w.wmod t a act.toNat p)
    rw [h] at this
    have this : e.now = w.env.now := this
    simp only [clockRecs, this]
  · rfl

@[simp] theorem schedLib_clockRecs (w : World) (t a : Int) (act : Action) (p : Int) :
    (w.schedLib t a act p).clockRecs = w.clockRecs := by
  have h := sched_fst_clockRecs w t a act p
  unfold schedLib
  generalize w.sched t a act p = s at h ⊢
  obtain ⟨w', r⟩ := s
  cases r <;> simp_all

@[simp] theorem setWaiting_clockRecs (w : World) (x : Nat) (a b : Bool) :
    (w.setWaiting x a b).clockRecs = w.clockRecs := by
  unfold setWaiting
  dsimp only
  repeat' split
  all_goals rfl

@[simp] theorem schedulePass_clockRecs (w : World) (x : Nat) (o : Int) :
    (w.schedulePass x o).clockRecs = w.clockRecs := by
  unfold schedulePass
  dsimp only
  split
  · rfl
  · rw [schedLib_clockRecs]; rfl

theorem foldl_clockRecs {α} (g : World → α → World) (l : List α) (w : World)
    (h : ∀ w a, (g w a).clockRecs = w.clockRecs) : (l.foldl g w).clockRecs = w.clockRecs :=
  foldl_preserve clockRecs g l w h

theorem notifyUp_spaceAvail_clockRecs (n : Nat) :
    ∀ w x, (notifyUp n w x).clockRecs = w.clockRecs ∧ (spaceAvail n w x).clockRecs = w.clockRecs :=
  notify_walk (R := fun w w' => w'.clockRecs = w.clockRecs) (fun _ => rfl) (fun h1 h2 => h2.trans h1)
    (setErr_clockRecs · _) (fun w x _ => setWaiting_clockRecs w x _ _)
    (fun w x _ _ => schedulePass_clockRecs w x _) n

@[simp] theorem notify_clockRecs (w : World) (x : Nat) : (w.notify x).clockRecs = w.clockRecs :=
  (notifyUp_spaceAvail_clockRecs _ w x).1

@[simp] theorem applyPartCb_clockRecs (w : World) (x p : Nat) (c : PartCb) :
    (w.applyPartCb x p c).clockRecs = w.clockRecs := by
  simp only [clockRecs, applyPartCb_env, applyPartCb_recs]

@[simp] theorem addHist_clockRecs (w : World) (p d : Nat) :
    (w.addHist p d).clockRecs = w.clockRecs := by
  simp only [clockRecs, addHist_env, addHist_recs]

/-! ### the buffer's view of a device -/

/-- The fields of a device the behaviour of a buffer depends on (everything except the flow flags
and the cycle-time fields, which a buffer ignores). -/
structure BufView where
  kind : Kind
  cap : Option Nat
  delay : Int
  buf : List (Int × Nat)
  level : Nat
  part : Option Nat
  output : Option Nat
  blockInput : Bool
  recvCbs : List PartCb

def _root_.SimProc.Dev.bufView (d : Dev) : BufView :=
  ⟨d.kind, d.cap, d.delay, d.buf, d.level, d.part, d.output, d.blockInput, d.recvCbs⟩

@[simp] theorem bufView_kind (d : Dev) : d.bufView.kind = d.kind := rfl
@[simp] theorem bufView_cap (d : Dev) : d.bufView.cap = d.cap := rfl
@[simp] theorem bufView_delay (d : Dev) : d.bufView.delay = d.delay := rfl
@[simp] theorem bufView_buf (d : Dev) : d.bufView.buf = d.buf := rfl
@[simp] theorem bufView_level (d : Dev) : d.bufView.level = d.level := rfl
@[simp] theorem bufView_part (d : Dev) : d.bufView.part = d.part := rfl
@[simp] theorem bufView_output (d : Dev) : d.bufView.output = d.output := rfl
@[simp] theorem bufView_blockInput (d : Dev) : d.bufView.blockInput = d.blockInput := rfl
@[simp] theorem bufView_recvCbs (d : Dev) : d.bufView.recvCbs = d.recvCbs := rfl

/-- Two devices with the same view agree on the viewed fields. -/
theorem bufView_fields {d d' : Dev} (h : d'.bufView = d.bufView) :
    d'.kind = d.kind ∧ d'.cap = d.cap ∧ d'.delay = d.delay ∧ d'.buf = d.buf ∧ d'.level = d.level ∧
    d'.part = d.part ∧ d'.output = d.output ∧ d'.blockInput = d.blockInput := by
  have h1 := congrArg BufView.kind h; have h2 := congrArg BufView.cap h
  have h3 := congrArg BufView.delay h; have h4 := congrArg BufView.buf h
  have h5 := congrArg BufView.level h; have h6 := congrArg BufView.part h
  have h7 := congrArg BufView.output h; have h8 := congrArg BufView.blockInput h
  simp only [bufView_kind, bufView_cap, bufView_delay, bufView_buf, bufView_level, bufView_part,
    bufView_output, bufView_blockInput] at h1 h2 h3 h4 h5 h6 h7 h8
  exact ⟨h1, h2, h3, h4, h5, h6, h7, h8⟩

/-- The viewed fields of a device whose view is an update of another device's view. -/
theorem bufView_fields_upd {d d' : Dev} {lv : Nat} {bf : List (Int × Nat)} {pt : Option Nat}
    (h : d'.bufView = { d.bufView with level := lv, buf := bf, part := pt }) :
    d'.kind = d.kind ∧ d'.cap = d.cap ∧ d'.delay = d.delay ∧ d'.buf = bf ∧ d'.level = lv ∧
    d'.part = pt ∧ d'.output = d.output ∧ d'.blockInput = d.blockInput := by
  have h1 := congrArg BufView.kind h; have h2 := congrArg BufView.cap h
  have h3 := congrArg BufView.delay h; have h4 := congrArg BufView.buf h
  have h5 := congrArg BufView.level h; have h6 := congrArg BufView.part h
  have h7 := congrArg BufView.output h; have h8 := congrArg BufView.blockInput h
  simp only [bufView_kind, bufView_cap, bufView_delay, bufView_buf, bufView_level, bufView_part,
    bufView_output, bufView_blockInput] at h1 h2 h3 h4 h5 h6 h7 h8
  exact ⟨h1, h2, h3, h4, h5, h6, h7, h8⟩

theorem core_eq_bufView {w w' : World} (h : w'.core = w.core) (x : Nat) :
    (w'.dev x).bufView = (w.dev x).bufView :=
  core_eq_field Dev.bufView (fun _ => rfl) h x

/-- The receive callbacks of a device do not touch what a buffer looks at. -/
theorem foldl_applyPartCb (cbs : List PartCb) (w : World) (x p : Nat) :
    let w' := cbs.foldl (fun w c => w.applyPartCb x p c) w
    (∀ y, (w'.dev y).bufView = (w.dev y).bufView) ∧ w'.clockRecs = w.clockRecs ∧
    w'.devs.length = w.devs.length ∧ ∀ q, w'.leafCount q = w.leafCount q := by
  refine ⟨fun y => ?_, ?_, ?_, fun q => ?_⟩
  · exact foldl_preserve (fun w => (w.dev y).bufView) _ cbs w
      (fun w c => applyPartCb_dev_field Dev.bufView (fun _ _ _ => rfl) w x p c y)
  · exact foldl_preserve clockRecs _ cbs w (fun w c => applyPartCb_clockRecs w x p c)
  · exact foldl_preserve (fun w => w.devs.length) _ cbs w (fun w c => applyPartCb_devs_length w x p c)
  · exact foldl_preserve (fun w => w.leafCount q) _ cbs w (fun w c => applyPartCb_leafCount w x p c q)

/-! ### `tryMove` on a buffer -/

/-- `tryMove` on a buffer that holds `p` in its input slot: `p` goes to the end of the queue with the
current time; everything else is notification and scheduling. -/
theorem tryMove_buffer (w : World) (x p : Nat) (hk : (w.dev x).kind = .buffer)
    (hp : (w.dev x).part = some p) :
    (w.tryMove x).core =
      (w.setDev x { w.dev x with buf := (w.dev x).buf ++ [(w.now, p)], part := none }).core ∧
    (w.tryMove x).clockRecs = w.clockRecs := by
  unfold tryMove
  simp only [hk, hp]
  split
  · exact ⟨by rw [schedulePass_core, notify_core], by rw [schedulePass_clockRecs, notify_clockRecs]; rfl⟩
  · exact ⟨by rw [notify_core], by rw [notify_clockRecs]; rfl⟩

/-! ### `onReceived` and `acceptPart` on a buffer -/

/-- The common tail of `onReceived`: run the receive callbacks, then `tryMove`. -/
def recvTail (w : World) (x p : Nat) : World :=
  let w := (w.dev x).recvCbs.foldl (fun w c => w.applyPartCb x p c) w
  if (w.dev x).output.isNone then w.tryMove x else w

theorem recvTail_buffer (w : World) (x p : Nat) (hx : x < w.devs.length)
    (hk : (w.dev x).kind = .buffer) (hp : (w.dev x).part = some p)
    (ho : (w.dev x).output = none) :
    ((w.recvTail x p).dev x).bufView =
      { (w.dev x).bufView with buf := (w.dev x).buf ++ [(w.now, p)], part := none } ∧
    (∀ y, y ≠ x → ((w.recvTail x p).dev y).bufView = (w.dev y).bufView) ∧
    (w.recvTail x p).clockRecs = w.clockRecs ∧
    (w.recvTail x p).devs.length = w.devs.length ∧
    ∀ q, (w.recvTail x p).leafCount q = w.leafCount q := by
  unfold recvTail
  obtain ⟨hv, hc, hl, hq⟩ := foldl_applyPartCb (w.dev x).recvCbs w x p
  generalize (w.dev x).recvCbs.foldl (fun w c => w.applyPartCb x p c) w = w3 at hv hc hl hq
  dsimp only at hv hc hl hq ⊢
  have hvx := hv x
  have hk3 : (w3.dev x).kind = .buffer := (congrArg BufView.kind hvx).trans hk
  have hp3 : (w3.dev x).part = some p := (congrArg BufView.part hvx).trans hp
  have ho3 : (w3.dev x).output = none := (congrArg BufView.output hvx).trans ho
  have hnow : w3.now = w.now := clockRecs_now hc
  rw [ho3]
  simp only [Option.isNone_none, if_true]
  obtain ⟨hcore, hcr⟩ := tryMove_buffer w3 x p hk3 hp3
  have hx3 : x < w3.devs.length := by omega
  refine ⟨?_, fun y hy => ?_, hcr.trans hc, ?_, fun q => ?_⟩
  · rw [core_eq_bufView hcore x, dev_setDev_same hx3, hnow]
    show ({ (w3.dev x).bufView with buf := (w3.dev x).buf ++ [(w.now, p)], part := none } : BufView) = _
    rw [hvx]
    have : (w3.dev x).buf = (w.dev x).buf := congrArg BufView.buf hvx
    rw [this]
  · rw [core_eq_bufView hcore y, dev_setDev_ne (Ne.symm hy), hv y]
  · rw [core_eq_devs_length hcore, setDev_devs_length, hl]
  · rw [core_eq_leafCount hcore]
    exact hq q

/-- `onReceived` on a buffer whose input slot holds the received part and whose output slot is
empty: the level rises by the number of parts, a `level` record and the `received` record are
written (in this order, nothing else), and the part goes to the end of the queue. -/
theorem onReceived_buffer (w : World) (x p : Nat) (hx : x < w.devs.length)
    (hk : (w.dev x).kind = .buffer) (hp : (w.dev x).part = some p)
    (ho : (w.dev x).output = none) :
    ((w.onReceived x p).dev x).bufView =
      { (w.dev x).bufView with
        level := (w.dev x).level + w.leafCount p
        buf := (w.dev x).buf ++ [(w.now, p)], part := none } ∧
    (∀ y, y ≠ x → ((w.onReceived x p).dev y).bufView = (w.dev y).bufView) ∧
    (w.onReceived x p).recs = w.recs ++
      [.level x w.now ((w.dev x).level + w.leafCount p),
       .received x w.now p (w.part p).quality (w.partValue p)] ∧
    (w.onReceived x p).now = w.now ∧
    (w.onReceived x p).devs.length = w.devs.length ∧
    ∀ q, (w.onReceived x p).leafCount q = w.leafCount q := by
  have hon : w.onReceived x p =
      (((w.setDev x { w.dev x with level := (w.dev x).level + w.leafCount p }).addRec
          (.level x w.now ((w.dev x).level + w.leafCount p))).addRec
          (.received x w.now p (w.part p).quality (w.partValue p))).recvTail x p := by
    unfold onReceived recvTail
    simp only [hk]
    rw [dev_addRec, dev_setDev_same hx]
    rfl
  rw [hon]
  generalize hw2 : ((w.setDev x { w.dev x with level := (w.dev x).level + w.leafCount p }).addRec
          (.level x w.now ((w.dev x).level + w.leafCount p))).addRec
          (.received x w.now p (w.part p).quality (w.partValue p)) = w2
  have hd2 : w2.dev x = { w.dev x with level := (w.dev x).level + w.leafCount p } := by
    rw [← hw2, dev_addRec, dev_addRec, dev_setDev_same hx]
  have hdy : ∀ y, y ≠ x → w2.dev y = w.dev y := by
    intro y hy; rw [← hw2, dev_addRec, dev_addRec, dev_setDev_ne (Ne.symm hy)]
  have hl2 : w2.devs.length = w.devs.length := by rw [← hw2]; exact setDev_devs_length
  have hnow2 : w2.now = w.now := by rw [← hw2]; rfl
  have hrecs2 : w2.recs = w.recs ++ [.level x w.now ((w.dev x).level + w.leafCount p),
       .received x w.now p (w.part p).quality (w.partValue p)] := by
    rw [← hw2]; simp [addRec]
  have hlc2 : ∀ q, w2.leafCount q = w.leafCount q := by intro q; rw [← hw2]; rfl
  obtain ⟨h1, h2, h3, h4, h5⟩ := recvTail_buffer w2 x p (by omega) (by rw [hd2]; exact hk)
    (by rw [hd2]; exact hp) (by rw [hd2]; exact ho)
  refine ⟨?_, fun y hy => ?_, ?_, ?_, ?_, fun q => ?_⟩
  · rw [h1, hd2, hnow2]; rfl
  · rw [h2 y hy, hdy y hy]
  · rw [clockRecs_recs h3, hrecs2]
  · rw [clockRecs_now h3, hnow2]
  · rw [h4, hl2]
  · rw [h5, hlc2]

/-- `acceptPart` on a buffer with an empty output slot (what `give` calls when `canAcceptBasic`
holds). -/
theorem acceptPart_buffer (w : World) (x p : Nat) (hx : x < w.devs.length)
    (hk : (w.dev x).kind = .buffer) (ho : (w.dev x).output = none) :
    ((w.acceptPart x p).dev x).bufView =
      { (w.dev x).bufView with
        level := (w.dev x).level + w.leafCount p
        buf := (w.dev x).buf ++ [(w.now, p)], part := none } ∧
    (∀ y, y ≠ x → ((w.acceptPart x p).dev y).bufView = (w.dev y).bufView) ∧
    (w.acceptPart x p).recs = w.recs ++
      [.level x w.now ((w.dev x).level + w.leafCount p),
       .received x w.now p (w.part p).quality (w.partValue p)] ∧
    (w.acceptPart x p).now = w.now ∧
    (w.acceptPart x p).devs.length = w.devs.length ∧
    ∀ q, (w.acceptPart x p).leafCount q = w.leafCount q := by
  unfold acceptPart
  have hns : ((w.dev x).kind == Kind.sink) = false := by rw [hk]; rfl
  simp only [hns, Bool.false_eq_true, if_false]
  generalize hw1 : ((w.modDev x (fun d => { d with part := some p })).addHist p x).setWaiting x false false = w1
  have hd1 : w1.dev x = { w.dev x with part := some p, since := none } := by
    rw [← hw1]
    unfold setWaiting
    simp only [Bool.not_false, if_true]
    rw [dev_setDev_same (by simp [hx]), dev_addHist, dev_modDev_same hx]
  have hdy : ∀ y, y ≠ x → w1.dev y = w.dev y := by
    intro y hy
    rw [← hw1]
    unfold setWaiting
    simp only [Bool.not_false, if_true]
    rw [dev_setDev_ne (Ne.symm hy), dev_addHist, dev_modDev_ne (Ne.symm hy)]
  have hl1 : w1.devs.length = w.devs.length := by rw [← hw1]; simp
  have hcr1 : w1.clockRecs = w.clockRecs := by rw [← hw1]; simp
  have hlc1 : ∀ q, w1.leafCount q = w.leafCount q := by
    intro q; rw [← hw1, core_eq_leafCount (setWaiting_core _ _ _ _), addHist_leafCount]; rfl
  have hq1 : (w1.part p).quality = (w.part p).quality := by
    rw [← hw1, core_eq_part (setWaiting_core _ _ _ _), addHist_part_quality]; rfl
  have hv1 : w1.partValue p = w.partValue p := by
    rw [← hw1, core_eq_partValue (setWaiting_core _ _ _ _), addHist_partValue]; rfl
  obtain ⟨h1, h2, h3, h4, h5, h6⟩ := onReceived_buffer w1 x p (by omega) (by rw [hd1]; exact hk)
    (by rw [hd1]) (by rw [hd1]; exact ho)
  refine ⟨?_, fun y hy => ?_, ?_, ?_, ?_, fun q => ?_⟩
  · rw [h1, hd1, clockRecs_now hcr1, hlc1]; rfl
  · rw [h2 y hy, hdy y hy]
  · rw [h3, hd1, clockRecs_now hcr1, clockRecs_recs hcr1, hlc1, hq1, hv1]
  · rw [h4, clockRecs_now hcr1]
  · rw [h5, hl1]
  · rw [h6, hlc1]

/-! ### frame of a hand-over to a machine, sink or buffer other than `x`

`Same x w w'`: going from `w` to `w'` changed nothing a buffer `x` depends on: the non-flow fields
of device `x`, the number of devices, the clock, the batch structure of the parts, and the kinds of
all devices. -/

structure Same (x : Nat) (w w' : World) : Prop where
  dev : (w'.dev x).core = (w.dev x).core
  len : w'.devs.length = w.devs.length
  now : w'.now = w.now
  kids : ∀ q, (w'.part q).kids = (w.part q).kids
  kind : ∀ z, (w'.dev z).kind = (w.dev z).kind

/-- The fields of a device that its core determines (those a buffer's contract mentions). -/
theorem core_fields {d d' : Dev} (h : d'.core = d.core) :
    d'.buf = d.buf ∧ d'.level = d.level ∧ d'.delay = d.delay ∧ d'.cap = d.cap ∧
    d'.down = d.down ∧ d'.kind = d.kind := by
  have h1 := congrArg Dev.buf h; have h2 := congrArg Dev.level h
  have h3 := congrArg Dev.delay h; have h4 := congrArg Dev.cap h
  have h5 := congrArg Dev.down h; have h6 := congrArg Dev.kind h
  exact ⟨h1, h2, h3, h4, h5, h6⟩

theorem Same.refl (x : Nat) (w : World) : Same x w w := ⟨rfl, rfl, rfl, fun _ => rfl, fun _ => rfl⟩

theorem Same.trans {x : Nat} {w w' w'' : World} (h : Same x w w') (h' : Same x w' w'') :
    Same x w w'' :=
  ⟨h'.dev.trans h.dev, h'.len.trans h.len, h'.now.trans h.now,
    fun q => (h'.kids q).trans (h.kids q), fun z => (h'.kind z).trans (h.kind z)⟩

theorem Same.leafCount {x : Nat} {w w' : World} (h : Same x w w') (q : Nat) :
    w'.leafCount q = w.leafCount q := by
  unfold World.leafCount; rw [h.kids q]

/-- Flow-only steps. -/
theorem Same.of_core {x : Nat} {w w' : World} (hc : w'.core = w.core) (hn : w'.now = w.now) :
    Same x w w' :=
  ⟨core_eq_dev hc x, core_eq_devs_length hc, hn, fun q => by rw [core_eq_part hc],
    fun z => core_eq_dev_kind hc z⟩

theorem same_setErr (x : Nat) (w : World) (m : String) : Same x w (w.setErr m) :=
  .of_core (setErr_core w m) (clockRecs_now (setErr_clockRecs w m))

theorem same_addRec (x : Nat) (w : World) (r : Rec) : Same x w (w.addRec r) :=
  .of_core rfl rfl

theorem same_addRes (x : Nat) (w : World) (r : Res) : Same x w (w.addRes r) :=
  .of_core rfl rfl

theorem same_schedLib (x : Nat) (w : World) (t a : Int) (act : Action) (p : Int) :
    Same x w (w.schedLib t a act p) :=
  .of_core (schedLib_core ..) (clockRecs_now (schedLib_clockRecs ..))

theorem same_setWaiting (x : Nat) (w : World) (y : Nat) (a b : Bool) :
    Same x w (w.setWaiting y a b) :=
  .of_core (setWaiting_core ..) (clockRecs_now (setWaiting_clockRecs ..))

theorem same_schedulePass (x : Nat) (w : World) (y : Nat) (o : Int) :
    Same x w (w.schedulePass y o) :=
  .of_core (schedulePass_core ..) (clockRecs_now (schedulePass_clockRecs ..))

theorem same_notify (x : Nat) (w : World) (y : Nat) : Same x w (w.notify y) :=
  .of_core (notify_core ..) (clockRecs_now (notify_clockRecs ..))

/-- Overwriting another device with a device of the same kind. -/
theorem same_setDev {x y : Nat} (w : World) (d : Dev) (hy : y ≠ x)
    (hk : d.kind = (w.dev y).kind) : Same x w (w.setDev y d) := by
  refine ⟨by rw [dev_setDev_ne hy], setDev_devs_length, rfl, fun _ => rfl, fun z => ?_⟩
  rw [dev_setDev]; split
  · next h => rw [hk, h.1]
  · rfl

theorem same_modDev {x y : Nat} (w : World) (f : Dev → Dev) (hy : y ≠ x)
    (hk : (f (w.dev y)).kind = (w.dev y).kind) : Same x w (w.modDev y f) :=
  same_setDev w _ hy hk

theorem same_applyPartCb {x y : Nat} (w : World) (p : Nat) (c : PartCb) (hy : y ≠ x) :
    Same x w (w.applyPartCb y p c) :=
  ⟨by rw [applyPartCb_dev_ne w p c (Ne.symm hy)], applyPartCb_devs_length ..,
    by unfold World.now; rw [applyPartCb_env], fun q => applyPartCb_part_kids ..,
    fun z => applyPartCb_dev_field Dev.kind (fun _ _ _ => rfl) w y p c z⟩

theorem same_foldl {α} {x : Nat} (g : World → α → World) (l : List α) (w : World)
    (h : ∀ w a, Same x w (g w a)) : Same x w (l.foldl g w) := by
  induction l generalizing w with
  | nil => exact .refl x w
  | cons a l ih => exact (h w a).trans (ih (g w a))

theorem same_addHist (x : Nat) (w : World) (p d : Nat) : Same x w (w.addHist p d) :=
  ⟨by rw [dev_addHist], by rw [addHist_devs], by unfold World.now; rw [addHist_env],
    fun q => addHist_part_kids .., fun z => by rw [dev_addHist]⟩

theorem rmEffects_now (w : World) (recs : List ResRec) (check : Bool) :
    (w.rmEffects recs check).now = w.now := by
  have h : ∀ w : World, (recs.foldl (fun w r => w.addRec (.resUpdate r.res w.now r.inUse r.cap)) w).now
      = w.now := fun w => foldl_preserve World.now _ recs w (fun _ _ => rfl)
  unfold rmEffects
  split
  · rw [clockRecs_now (schedLib_clockRecs ..)]; exact h w
  · exact h w

theorem procAcquire_now (w : World) (y : Nat) : (w.procAcquire y).1.now = w.now := by
  unfold procAcquire
  dsimp only
  repeat' split
  all_goals first
    | rfl
    | exact clockRecs_now (setErr_clockRecs _ _)
    | (dsimp only; exact (rmEffects_now _ _ _).trans rfl)

theorem same_procAcquire {x y : Nat} (w : World) (hy : y ≠ x) : Same x w (w.procAcquire y).1 :=
  ⟨by rw [procAcquire_dev_ne w (Ne.symm hy)], procAcquire_devs_length .., procAcquire_now ..,
    fun q => by rw [part_procAcquire],
    fun z => procAcquire_dev_field Dev.kind (fun _ _ _ => rfl) w y z⟩

/-- Steps that touch neither devices, parts nor the environment. -/
theorem Same.of_triple {x : Nat} {w w' : World}
    (h : (w'.devs, w'.parts, w'.env) = (w.devs, w.parts, w.env)) : Same x w w' := by
  have hd : w'.devs = w.devs := congrArg (·.1) h
  have hp : w'.parts = w.parts := congrArg (·.2.1) h
  have he : w'.env = w.env := congrArg (·.2.2) h
  exact ⟨by rw [dev_congr hd], by rw [hd], by unfold World.now; rw [he],
    fun q => by rw [part_congr hp], fun z => by rw [dev_congr hd]⟩

theorem same_senseOutput (x : Nat) (w : World) (s p : Nat) : Same x w (w.senseOutput s p) := by
  unfold senseOutput
  dsimp only
  split
  · exact Same.of_triple
      (foldl_preserve (fun w : World => (w.devs, w.parts, w.env)) _ _ _ (fun _ _ => rfl))
  · exact ⟨rfl, rfl, rfl, fun _ => rfl, fun _ => rfl⟩

/-- Kinds of devices a buffer may feed directly in the corollary `bufferLoop_release_simple`:
machines, sinks and buffers. -/
def plainKind (k : Kind) : Prop := k = .handler ∨ k = .processor ∨ k = .sink ∨ k = .buffer

theorem same_with_delivered (x : Nat) (w : World) (l : List Nat) :
    Same x w { w with delivered := l } := ⟨rfl, rfl, rfl, fun _ => rfl, fun _ => rfl⟩

/-- Peel the outermost primitive off the final world of a `Same` goal.  The lemma is matched
against the goal without unfolding anything, so that an alternative that does not apply fails at
once; the side condition on the kind is closed afterwards. -/
local macro "same_peel" : tactic => `(tactic| first
  | with_reducible exact Same.refl _ _
  | with_reducible refine Same.trans ?_ (same_schedulePass _ _ _ _)
  | with_reducible refine Same.trans ?_ (same_notify _ _ _)
  | with_reducible refine Same.trans ?_ (same_setWaiting _ _ _ _ _)
  | with_reducible refine Same.trans ?_ (same_schedLib _ _ _ _ _ _)
  | with_reducible refine Same.trans ?_ (same_setErr _ _ _)
  | with_reducible refine Same.trans ?_ (same_addRec _ _ _)
  | with_reducible refine Same.trans ?_ (same_addRes _ _ _)
  | with_reducible refine Same.trans ?_ (same_addHist _ _ _ _)
  | ((with_reducible refine Same.trans ?_ (same_setDev _ _ (by assumption) ?kind)); case kind => rfl)
  | ((with_reducible refine Same.trans ?_ (same_modDev _ _ (by assumption) ?kind)); case kind => rfl)
  | with_reducible refine Same.trans ?_ (same_foldl _ _ _ (fun w c => same_applyPartCb w _ c (by assumption)))
  | with_reducible refine Same.trans ?_ (same_foldl _ _ _ (fun w s => same_senseOutput _ w s _)))

theorem same_finishCycleHandler {x y : Nat} (w : World) (hy : y ≠ x) :
    Same x w (w.finishCycleHandler y) := by
  unfold finishCycleHandler
  dsimp only
  repeat' split
  all_goals repeat same_peel

/-- Chain a step whose frame lemma needs the kind of `y` (which the steps so far preserved). -/
theorem Same.step {x y : Nat} {w w' w'' : World} (hk : plainKind (w.dev y).kind) (h : Same x w w')
    (h' : plainKind (w'.dev y).kind → Same x w' w'') : Same x w w'' :=
  h.trans (h' (by rw [h.kind y]; exact hk))

theorem same_finishCycle {x y : Nat} (w : World) (hy : y ≠ x) (hk : plainKind (w.dev y).kind) :
    Same x w (w.finishCycle y) := by
  unfold finishCycle
  dsimp only
  split
  · next h => rcases hk with hk | hk | hk | hk <;> rw [h] at hk <;> cases hk
  · -- sink
    repeat same_peel
    exact same_finishCycleHandler w hy
  · -- processor
    have h1 := same_finishCycleHandler (x := x) w hy
    generalize w.finishCycleHandler y = w1 at h1 ⊢
    repeat' split
    all_goals repeat same_peel
    all_goals exact h1
  · exact same_finishCycleHandler w hy

theorem same_scheduleFinish {x y : Nat} (w : World) (hy : y ≠ x)
    (hk : plainKind (w.dev y).kind) : Same x w (w.scheduleFinish y) := by
  unfold scheduleFinish
  dsimp only
  repeat' split
  all_goals first
    | (refine Same.step hk ?_ (fun hk' => same_finishCycle _ hy hk'); repeat same_peel)
    | (repeat same_peel)

theorem same_tryMove {x y : Nat} (w : World) (hy : y ≠ x) (hk : plainKind (w.dev y).kind) :
    Same x w (w.tryMove y) := by
  unfold tryMove
  dsimp only
  split
  · -- buffer
    repeat' split
    all_goals repeat same_peel
  · next h => rcases hk with hk | hk | hk | hk <;> rw [h] at hk <;> cases hk
  · split
    · refine Same.step hk ?_ (fun hk' => same_scheduleFinish _ hy hk')
      repeat same_peel
    · exact .refl x w
  · split
    · exact same_scheduleFinish w hy hk
    · exact .refl x w

theorem same_onReceived {x y : Nat} (w : World) (p : Nat) (hy : y ≠ x)
    (hk : plainKind (w.dev y).kind) : Same x w (w.onReceived y p) := by
  unfold onReceived
  -- the bookkeeping by kind (`w1`), the `received` record, the call-backs (`w3`), then `tryMove`
  extract_lets d v ws wb w1 w2 w3
  have h1 : Same x w w1 := by
    dsimp only [w1]
    split
    · exact same_setDev w _ hy rfl
    · exact (same_setDev w _ hy (by rfl)).trans (same_addRec ..)
    · exact .refl x w
  have h3 : Same x w w3 :=
    (h1.trans (same_addRec ..)).trans (same_foldl _ _ _ fun w c => same_applyPartCb w p c hy)
  split
  · exact Same.step hk h3 fun hk' => same_tryMove _ hy hk'
  · exact h3

theorem same_acceptPart {x y : Nat} (w : World) (p : Nat) (hy : y ≠ x)
    (hk : plainKind (w.dev y).kind) : Same x w (w.acceptPart y p) := by
  unfold acceptPart
  extract_lets w0 w1 w2 w3
  have h0 : Same x w w0 := by
    dsimp only [w0]
    split
    · exact same_with_delivered ..
    · exact .refl x w
  have h3 : Same x w w3 :=
    ((h0.trans (same_modDev _ _ hy (by rfl))).trans (same_addHist ..)).trans (same_setWaiting ..)
  exact Same.step hk h3 fun hk' => same_onReceived _ p hy hk'

/-- `give_part` to a machine, sink or buffer other than `x`. -/
theorem same_give {x y : Nat} (f : Nat) (w : World) (p : Nat) (hy : y ≠ x)
    (hk : plainKind (w.dev y).kind) : Same x w (give (f + 1) w y p).1 := by
  rw [give]
  dsimp only
  have hk0 := hk
  rcases hk0 with hk' | hk' | hk' | hk'
  all_goals simp only [hk']
  · split
    · dsimp only; exact same_acceptPart w p hy hk
    · exact .refl x w
  · split
    · have h1 := same_procAcquire (x := x) w hy
      generalize w.procAcquire y = r at h1 ⊢
      obtain ⟨w1, b⟩ := r
      cases b
      · exact h1
      · dsimp only at h1 ⊢
        exact h1.trans (same_acceptPart w1 p hy (by rw [h1.kind y]; exact hk))
    · exact .refl x w
  · split
    · dsimp only; exact same_acceptPart w p hy hk
    · exact .refl x w
  · split
    · dsimp only; exact same_acceptPart w p hy hk
    · exact .refl x w

theorem same_givePart {x y : Nat} (w : World) (p : Nat) (hy : y ≠ x)
    (hk : plainKind (w.dev y).kind) : Same x w (w.givePart y p).1 :=
  same_give _ w p hy hk

theorem same_tryList {x : Nat} (l : List Nat) (w : World) (p : Nat)
    (hl : ∀ y ∈ l, y ≠ x ∧ plainKind (w.dev y).kind) : Same x w (tryList givePart w l p).1 := by
  induction l generalizing w with
  | nil => exact .refl x w
  | cons y ys ih =>
    rw [tryList]
    have h1 := same_givePart (x := x) w p (hl y (List.mem_cons_self ..)).1
      (hl y (List.mem_cons_self ..)).2
    generalize w.givePart y p = r at h1 ⊢
    obtain ⟨w1, b⟩ := r
    cases b
    · dsimp only
      exact h1.trans (ih w1 (fun z hz => by
        have := hl z (List.mem_cons_of_mem _ hz)
        exact ⟨this.1, by rw [h1.kind z]; exact this.2⟩))
    · exact h1

theorem mem_insertByKey {key : Nat → Option Int} {a b : Nat} {l : List Nat} :
    a ∈ insertByKey key b l → a = b ∨ a ∈ l := by
  induction l with
  | nil => simp [insertByKey]
  | cons y ys ih =>
    unfold insertByKey
    split
    · intro h
      rcases List.mem_cons.1 h with h | h
      · exact Or.inr (h ▸ List.mem_cons_self ..)
      · rcases ih h with h | h
        · exact Or.inl h
        · exact Or.inr (List.mem_cons_of_mem _ h)
    · intro h
      rcases List.mem_cons.1 h with h | h
      · exact Or.inl h
      · exact Or.inr h

theorem mem_stableSort {key : Nat → Option Int} {a : Nat} {l : List Nat} :
    a ∈ stableSort key l → a ∈ l := by
  unfold stableSort
  suffices h : ∀ acc, a ∈ l.foldl (fun acc x => insertByKey key x acc) acc → a ∈ acc ∨ a ∈ l by
    intro ha; rcases h [] ha with h | h
    · cases h
    · exact h
  induction l with
  | nil => intro acc h; exact Or.inl h
  | cons y ys ih =>
    intro acc h
    rcases ih _ h with h | h
    · rcases mem_insertByKey h with h | h
      · exact Or.inr (h ▸ List.mem_cons_self ..)
      · exact Or.inl h
    · exact Or.inr (List.mem_cons_of_mem _ h)

theorem mem_sortedDown {w : World} {x a : Nat} (h : a ∈ w.sortedDown x) : a ∈ (w.dev x).down :=
  mem_stableSort h

end World
end SimProc
