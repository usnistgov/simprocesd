/-
C12W, part 2: the static class `S`, the frame key `FK` (maintainers, targets, scripts, device asset
ids, hook results, work-order records), the frame relation `Fr w w'` ("`w'` has the frame key of
`w` and its queue is the queue of `w` after quiet operations") and the peeling tactic
(`fr_step` / `fr_auto`, in the style of `C01WBase`).
-/
import SimProc.Proofs.C12WEnv
import Lean

namespace SimProc
namespace C12W
open World FloorCoreL
open Lean Elab Tactic Meta

/-! ### the static class -/

def isHook : Res → Bool
  | .hook .. => true
  | _ => false

def isWO : Rec → Bool
  | .workOrder .. => true
  | _ => false

/-- The asset ids of the maintainers. -/
def aids (w : World) : List Int := w.maints.map (·.aid)

/-- The asset id of maintainer `m`. -/
def aidOf (w : World) (m : Nat) : Int := (w.maints.getD m default).aid

/-- Scripted operations of the class: no `create`; `pause` / `unpause` / `cancel` only of asset
ids that are not a maintainer's; work orders only for existing maintainers; durations and needed
capacities reported by targets are never negative. -/
def opOK (A : List Int) (nM : Nat) : Op → Bool
  | .create _ => false
  | .pause a => !A.contains a
  | .unpause a => !A.contains a
  | .cancel a => !A.contains a
  | .workOrder m _ _ _ => decide (m < nM)
  | .setParams _ _ dur need _ => decide (0 ≤ dur) && decide (0 ≤ need)
  | _ => true

def paramsOK (t : Target) : Bool :=
  t.params.all (fun p => decide (0 ≤ p.2.1) && decide (0 ≤ p.2.2.1))

abbrev FKey := List MaintW × List Target × List (List Op) × List Int × List Res × List Rec

/-- What the frame relation keeps exactly. -/
def FK (w : World) : FKey :=
  (w.maints, w.targets, w.scripts, w.devs.map (·.aid), w.results.filter isHook, w.recs.filter isWO)

def SK (k : FKey) : Bool :=
  k.2.2.1.all (fun l => l.all (opOK (k.1.map (·.aid)) k.1.length)) &&
  (k.1.map (·.aid)).all (fun a => a != 0 && !k.2.2.2.1.contains a) &&
  decide (k.1.length ≤ 256) &&
  k.2.1.all paramsOK

/-- **The static class.**  Scripts as in `opOK`; the asset ids of the maintainers are not asset
ids of devices (nor 0, the id of the default device a dangling target refers to); at most 256
maintainers (the action code of the model keeps the maintainer index modulo 256); targets report
non-negative durations and capacities. -/
def S (w : World) : Prop := SK (FK w) = true

instance : DecidablePred S := fun _ => inferInstanceAs (Decidable (_ = true))

theorem S.of_FK {w w' : World} (h : FK w' = FK w) (hs : S w) : S w' := by
  unfold S; rw [h]; exact hs

theorem FK_maints {w w' : World} (h : FK w' = FK w) : w'.maints = w.maints := congrArg Prod.fst h
theorem FK_targets {w w' : World} (h : FK w' = FK w) : w'.targets = w.targets :=
  congrArg (fun q => q.2.1) h
theorem FK_scripts {w w' : World} (h : FK w' = FK w) : w'.scripts = w.scripts :=
  congrArg (fun q => q.2.2.1) h
theorem FK_daids {w w' : World} (h : FK w' = FK w) :
    w'.devs.map (·.aid) = w.devs.map (·.aid) := congrArg (fun q => q.2.2.2.1) h
theorem FK_hooks {w w' : World} (h : FK w' = FK w) :
    w'.results.filter isHook = w.results.filter isHook := congrArg (fun q => q.2.2.2.2.1) h
theorem FK_wos {w w' : World} (h : FK w' = FK w) :
    w'.recs.filter isWO = w.recs.filter isWO := congrArg (fun q => q.2.2.2.2.2) h
theorem FK_aids {w w' : World} (h : FK w' = FK w) : aids w' = aids w := by
  unfold aids; rw [FK_maints h]

theorem S.scripts {w : World} (h : S w) :
    ∀ l ∈ w.scripts, ∀ op ∈ l, opOK (aids w) w.maints.length op = true := by
  unfold S SK at h
  simp only [Bool.and_eq_true, List.all_eq_true] at h
  exact h.1.1.1

theorem S.aid_ne {w : World} (h : S w) : ∀ a ∈ aids w, a ≠ 0 ∧ a ∉ w.devs.map (·.aid) := by
  unfold S SK at h
  simp only [Bool.and_eq_true, List.all_eq_true] at h
  intro a ha
  have := h.1.1.2 a ha
  simp only [bne_iff_ne, ne_eq, Bool.not_eq_true', List.contains_eq_mem, decide_eq_false_iff_not]
    at this
  exact this

theorem S.len {w : World} (h : S w) : w.maints.length ≤ 256 := by
  unfold S SK at h
  simp only [Bool.and_eq_true, List.all_eq_true, decide_eq_true_eq] at h
  exact h.1.2

theorem S.targets {w : World} (h : S w) : ∀ t ∈ w.targets, paramsOK t = true := by
  unfold S SK at h
  simp only [Bool.and_eq_true, List.all_eq_true] at h
  exact h.2

/-- No device (existing or not) carries the asset id of a maintainer. -/
theorem S.dev_aid {w : World} (h : S w) (x : Nat) : (w.dev x).aid ∉ aids w := by
  intro hm
  have := h.aid_ne _ hm
  unfold World.dev at this hm
  rw [List.getD_eq_getElem?_getD] at this hm
  cases hx : w.devs[x]? with
  | none => rw [hx] at this; exact this.1 rfl
  | some d =>
    rw [hx] at this
    exact this.2 (List.mem_map.2 ⟨d, List.mem_of_getElem? hx, rfl⟩)

/-- Targets report non-negative durations and needed capacities. -/
theorem S.params {w : World} (h : S w) (tgt : Nat) (tag : Int) :
    0 ≤ (w.targetParams tgt tag).1 ∧ 0 ≤ (w.targetParams tgt tag).2.1 := by
  unfold World.targetParams
  split
  · rename_i d n c hf
    have hm := List.mem_of_find?_eq_some hf
    rw [List.getD_eq_getElem?_getD] at hm
    cases ht : w.targets[tgt]? with
    | none =>
      rw [ht] at hm
      have hd : (default : Target).params = [] := rfl
      simp only [Option.getD_none, hd] at hm
      cases hm
    | some t =>
      rw [ht] at hm
      have := h.targets t (List.mem_of_getElem? ht)
      unfold paramsOK at this
      rw [List.all_eq_true] at this
      have := this _ hm
      simpa using this
  · simp

/-! ### the frame relation -/

/-- **The relation.**  In the class: `w'` has the frame key of `w`, and its queue is the queue of
`w` after a list of quiet operations. -/
def Fr (w w' : World) : Prop := S w → FK w' = FK w ∧ QRef (aids w) w.env w'.env

theorem Fr.refl (w : World) : Fr w w := fun _ => ⟨rfl, QRef.refl _ _⟩

theorem Fr.trans {a b c : World} (h1 : Fr a b) (h2 : Fr b c) : Fr a c := fun s =>
  have g1 := h1 s
  have g2 := h2 (s.of_FK g1.1)
  ⟨g2.1.trans g1.1, g1.2.trans (FK_aids g1.1 ▸ g2.2)⟩

theorem Fr.of_FK {w w' : World} (h : FK w' = FK w) (he : w'.env = w.env) : Fr w w' := fun _ =>
  ⟨h, QRef.of_eq he⟩

theorem Fr.trans_FK {a b c : World} (h1 : Fr a b) (h : FK c = FK b) (he : c.env = b.env) :
    Fr a c := h1.trans (Fr.of_FK h he)

theorem Fr.of_FK_trans {a b c : World} (h : FK b = FK a) (he : b.env = a.env) (h2 : Fr b c) :
    Fr a c := (Fr.of_FK h he).trans h2

/-- Use the static class of the start state while proving `Fr`. -/
theorem Fr.with_S {w w' : World} (h : S w → Fr w w') : Fr w w' := fun s => h s s

/-! ### primitives of `WorldDef` -/

theorem FK_setErr (w : World) (m : String) : FK (w.setErr m) = FK w := by
  unfold setErr; split <;> rfl
theorem env_setErr (w : World) (m : String) : (w.setErr m).env = w.env := by
  unfold setErr; split <;> rfl

theorem Fr_setErr (w : World) (m : String) : Fr w (w.setErr m) :=
  Fr.of_FK (FK_setErr w m) (env_setErr w m)

theorem FK_addRes (w : World) (r : Res) (h : isHook r = false) : FK (w.addRes r) = FK w := by
  unfold FK World.addRes
  simp [List.filter_append, h]

theorem FK_addRec (w : World) (r : Rec) (h : isWO r = false) : FK (w.addRec r) = FK w := by
  unfold FK World.addRec
  simp [List.filter_append, h]

theorem Fr_addRes (w : World) (r : Res) (h : isHook r = false) : Fr w (w.addRes r) :=
  Fr.of_FK (FK_addRes w r h) rfl
theorem Fr_addRec (w : World) (r : Rec) (h : isWO r = false) : Fr w (w.addRec r) :=
  Fr.of_FK (FK_addRec w r h) rfl
theorem Fr_modPart (w : World) (p : Nat) (f : PartRec → PartRec) : Fr w (w.modPart p f) :=
  Fr.of_FK rfl rfl

theorem FK_setDev (w : World) (x : Nat) (d : Dev) (h : d.aid = (w.dev x).aid) :
    FK (w.setDev x d) = FK w := by
  unfold FK World.setDev
  simp only
  rw [map_set_of_eq Dev.aid w.devs x d default h]

theorem Fr_setDev (w : World) (x : Nat) (d : Dev) (h : d.aid = (w.dev x).aid) :
    Fr w (w.setDev x d) := Fr.of_FK (FK_setDev w x d h) rfl

theorem Fr_modDev (w : World) (x : Nat) (f : Dev → Dev)
    (h : (f (w.dev x)).aid = (w.dev x).aid) : Fr w (w.modDev x f) := Fr_setDev w x _ h

theorem sched_FK (w : World) (t a : Int) (act : Action) (p : Int) :
    FK (w.sched t a act p).1 = FK w := by
  unfold World.sched
  simp only [Env.apply]
  cases w.env.schedule t a act.toNat p (weightOf w.seed w.wmod t a act.toNat p) <;> rfl

theorem Fr_sched (w : World) (t a : Int) (act : Action) (p : Int) (ha : actKey act = none) :
    Fr w (w.sched t a act p).1 := by
  intro _
  refine ⟨sched_FK w t a act p, ?_⟩
  rw [C01W.sched_env]
  exact QRef.one _ (actKey_toNat_none act ha)

theorem schedLib_FK (w : World) (t a : Int) (act : Action) (p : Int) :
    FK (w.schedLib t a act p) = FK w := by
  have h := sched_FK w t a act p
  unfold schedLib
  generalize w.sched t a act p = s at h
  obtain ⟨w', r⟩ := s
  cases r <;> simp only [FK_setErr] <;> exact h

theorem Fr_schedLib (w : World) (t a : Int) (act : Action) (p : Int) (ha : actKey act = none) :
    Fr w (w.schedLib t a act p) := by
  intro _
  refine ⟨schedLib_FK w t a act p, ?_⟩
  rw [C01W.schedLib_env]
  exact QRef.one _ (actKey_toNat_none act ha)

theorem Fr_envOp (w : World) (op : EnvOp) (h : QOp (aids w) op) : Fr w (w.envOp op) := fun _ =>
  ⟨rfl, QRef.one _ h⟩

/-! ### the peeling tactic -/

/-- Peel a structure update `{ w with f := v, … }` that leaves the environment and the frame key
alone. -/
elab "fr_struct" : tactic => do
  let g ← getMainGoal
  g.withContext do
    let t ← instantiateMVars (← g.getType)
    let_expr Fr a b := t.consumeMData | throwError "fr_struct: not a Fr goal"
    let b := b.consumeMData
    unless b.isAppOfArity ``World.mk 23 do throwError "fr_struct: not a structure instance"
    let r := b.getArg! 0
    let w0 ← match r with
      | .proj _ _ w0 => pure w0
      | _ =>
        if r.isAppOfArity ``World.env 1 then pure (r.getArg! 0)
        else throwError "fr_struct: the environment is changed"
    let newGoal ← mkFreshExprSyntheticOpaqueMVar (← mkAppM ``Fr #[a, w0])
    let eq ← mkEq (← mkAppM ``FK #[b]) (← mkAppM ``FK #[w0])
    let pf ← mkFreshExprMVar eq
    pf.mvarId!.refl
    let eq2 ← mkEq (← mkAppM ``World.env #[b]) (← mkAppM ``World.env #[w0])
    let pf2 ← mkFreshExprMVar eq2
    pf2.mvarId!.refl
    g.assign (mkAppN (mkConst ``Fr.trans_FK) #[a, w0, b, newGoal, pf, pf2])
    replaceMainGoal [newGoal.mvarId!]

/-- One step: close the goal, or peel the outermost function application. -/
syntax "fr_step" : tactic

/-- Peel / split until nothing is left. -/
macro "fr_auto" : tactic => `(tactic| repeat' first | fr_step | split)

macro_rules | `(tactic| fr_step) => `(tactic| fr_struct)
macro_rules | `(tactic| fr_step) => `(tactic|
  ((with_reducible apply Fr.trans (h2 := Fr_schedLib _ _ _ _ _ ?ha)); case ha => exact rfl))
macro_rules | `(tactic| fr_step) => `(tactic|
  ((with_reducible apply Fr.trans (h2 := Fr_addRes _ _ ?hr)); case hr => exact rfl))
macro_rules | `(tactic| fr_step) => `(tactic|
  ((with_reducible apply Fr.trans (h2 := Fr_addRec _ _ ?hr)); case hr => exact rfl))
macro_rules | `(tactic| fr_step) => `(tactic|
  ((with_reducible apply Fr.trans (h2 := Fr_modDev _ _ _ ?hp)); case hp => exact rfl))
macro_rules | `(tactic| fr_step) => `(tactic| with_reducible exact Fr.refl _)

end C12W
end SimProc
