/-
A source never supplies more parts than its budget.
-/
import SimProc.Proofs.FloorSt
import SimProc.Proofs.Topo
namespace SimProc
namespace C02V
open World

def BudgetW (w : World) : Prop :=
  ∀ d ∈ w.devs, d.kind = .source → ∀ m, d.maxParts = some m → d.produced ≤ m

def BudgetT (t : ST) : Prop :=
  ∀ d ∈ t.devs, d.kind = .source → ∀ m, d.maxParts = some m → d.produced ≤ m

theorem budget_iff (w : World) : BudgetW w ↔ BudgetT (st w) := by
  unfold BudgetW BudgetT st
  simp only [List.mem_map]
  constructor
  · rintro h _ ⟨d, hd, rfl⟩; exact h d hd
  · intro h d hd; exact h (tdev d) ⟨d, hd, rfl⟩

theorem BudgetW.of_st {w w' : World} (h : BudgetW w) (e : st w' = st w) : BudgetW w' := by
  rw [budget_iff] at *; rw [e]; exact h

theorem budget_setDev (w : World) (x : Nat) (d : Dev) (h : BudgetW w)
    (hd : d.kind = .source → ∀ m, d.maxParts = some m → d.produced ≤ m) : BudgetW (w.setDev x d) := by
  intro d' hd'
  rcases List.mem_or_eq_of_mem_set hd' with h' | h'
  · exact h d' h'
  · subst h'; exact hd

theorem st_passPart_nonsource (w : World) (x : Nat) (hk : (w.dev x).kind ≠ .source) :
    st (w.passPart x) = st w := by
  unfold World.passPart
  simp only []
  split
  · rename_i h; exact absurd h hk
  all_goals frame

theorem budget_incr (w : World) (x : Nat) (h : BudgetW w) (p : Nat)
    (hg : ∀ m, (w.dev x).maxParts = some m → (w.dev x).produced + 1 ≤ m) :
    BudgetW (match (w.dev x).output with
      | none => w
      | some p =>
        let v := w.partValue p
        let w1 := w.passHandler x
        if (w1.dev x).output.isNone then
          let w2 := w1.modDev x (fun d => { d with
            produced := d.produced + 1
            val := d.val.addCost lblSupplied w1.now v
            costProduced := d.costProduced + v })
          let w3 := w2.addRec (.supplied x w2.now p)
          w3.scheduleFinish x
        else w1) := by
  split
  · exact h
  · have h1 : BudgetW (w.passHandler x) := h.of_st (st_passHandler w x)
    simp only []
    split
    · refine BudgetW.of_st (w := (w.passHandler x).modDev x _) ?_ (by rw [st_scheduleFinish, st_addRec])
      apply budget_setDev _ _ _ h1
      intro _ m hm
      have ht := tdev_of_st (st_passHandler w x) x
      have e1 : ((w.passHandler x).dev x).maxParts = (w.dev x).maxParts := congrArg TDev.maxParts ht
      have e2 : ((w.passHandler x).dev x).produced = (w.dev x).produced := congrArg TDev.produced ht
      simp only [] at hm ⊢
      rw [e1] at hm; rw [e2]
      exact hg m hm
    · exact h1

theorem budget_passPart (w : World) (x : Nat) (h : BudgetW w) : BudgetW (w.passPart x) := by
  by_cases hk : (w.dev x).kind = .source
  · unfold World.passPart
    simp only [hk]
    cases hmp : (w.dev x).maxParts with
    | none =>
      simp only [Option.map_none, Bool.false_eq_true, if_false]
      exact budget_incr w x h 0 (by intro m hm; rw [hmp] at hm; cases hm)
    | some m =>
      simp only [Option.map_some]
      by_cases hr : (if m - (w.dev x).produced < 0 then (0 : Int) else m - (w.dev x).produced) < 1
      · simp only [hr, decide_true, if_true]; exact h
      · simp only [hr, decide_false, Bool.false_eq_true, if_false]
        refine budget_incr w x h 0 ?_
        intro m' hm'; rw [hmp] at hm'; cases hm'
        split at hr <;> omega
  · exact h.of_st (st_passPart_nonsource w x hk)

theorem budget_adjust (w : World) (x : Nat) (v : Int) (h : BudgetW w) : BudgetW (w.adjustParts x v) := by
  unfold World.adjustParts
  simp only []
  split
  · exact h
  · rename_i m hm
    have h1 : BudgetW (w.setDev x { w.dev x with
        maxParts := some (if m + v < (w.dev x).produced then (w.dev x).produced else m + v) }) := by
      apply budget_setDev _ _ _ h
      intro _ m' hm'
      simp only [Option.some.injEq] at hm'
      subst hm'
      simp only []
      split <;> omega
    split
    · exact h1.of_st (st_schedulePass ..)
    · exact h1

end C02V
end SimProc
