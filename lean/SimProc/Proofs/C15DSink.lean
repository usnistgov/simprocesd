/-
C15D — machinery, part 5: the per-sink invariants for ONE sink, with an offset.

Without closed wiring a sink created late may find `received_part` records under its index
(`C15D.received_per_sink_dangling_false`).  What remains true in every world: from the moment a sink
exists, its counter / collected value and the number / sum of its records move in step — the
difference is constant.  (For the sinks of the fresh world the difference is 0.)
-/
import SimProc.Proofs.C15DReach

namespace SimProc
namespace C15D
open World FloorCoreL C15 C15W RM
set_option linter.unusedSimpArgs false

variable {ph : Phase}

/-- The value collected by sink `y` is the sum of the values in its records plus `c`. -/
def RecvValAt (y : Nat) (c : Int) (k : WKey) : Prop :=
  (k.dev y).kind = .sink → (k.dev y).recvValue = recvSum k.recs y + c

theorem RecvValAt.step {y : Nat} {c : Int} {k k' : WKey} (h : KStep ph k k') (hi : RecvValAt y c k) :
    RecvValAt y c k' := recvValue_step h hi

/-- The counter of sink `y` is the number of its records plus `c`. -/
def CountAt (y : Nat) (c : Int) (k : WKey) : Prop :=
  (k.dev y).kind = .sink → (k.dev y).recvCount = countRecv k.recs y + c

theorem CountAt.step {y : Nat} {c : Int} {k k' : WKey} (h : KStep ph k k') (hl : LeafInv k)
    (hi : CountAt y c k) : CountAt y c k' := recvCount_step h hl hi

/-! ### lifted to worlds that create assets: the sink must exist -/

variable {P : WKey → DKey → Prop}

theorem RecvValAt.dstep {y : Nat} {c : Int} {k k' : WKey} (h : DStep P ph k k')
    (hi : y < k.devs.length ∧ RecvValAt y c k) : y < k'.devs.length ∧ RecvValAt y c k' := by
  refine h.lift (I := fun k => y < k.devs.length ∧ RecvValAt y c k)
    (fun h hi => ⟨by rw [(KStep.static h).1]; exact hi.1, RecvValAt.step h hi.2⟩) ?_
    (fun _ _ _ hi => hi) hi
  intro k d _ hi
  refine ⟨by simp; omega, ?_⟩
  unfold RecvValAt
  rw [dev_newDev, if_neg (Nat.ne_of_lt hi.1)]
  exact hi.2

theorem CountAt.dstep (hP : ∀ k d, P k d → d.genBatch = 0 ∧ d.bsize = none) {y : Nat} {c : Int}
    {k k' : WKey} (h : DStep P ph k k')
    (hi : LeafInv k ∧ y < k.devs.length ∧ CountAt y c k) :
    LeafInv k' ∧ y < k'.devs.length ∧ CountAt y c k' := by
  refine h.lift (I := fun k => LeafInv k ∧ y < k.devs.length ∧ CountAt y c k)
    (fun h hi => ⟨LeafInv.step h hi.1, by rw [(KStep.static h).1]; exact hi.2.1,
      CountAt.step h hi.1 hi.2.2⟩) ?_ (fun _ _ _ hi => hi) hi
  intro k d hp hi
  refine ⟨LeafInv.dstep hP (DStep.newDev (ph := ph) k d hp) hi.1, by simp; omega, ?_⟩
  unfold CountAt
  rw [dev_newDev, if_neg (Nat.ne_of_lt hi.2.1)]
  exact hi.2.2

end C15D
end SimProc
