/-
C10W — machinery for the fuel theorems.

* The relation `W w w'` ("the waiting list and the scripts are unchanged") for every function that
  a scripted operation other than `register` can reach; hence a callback script without `register`
  (`quietScript`) and the resource callback of a processor leave the waiting list alone (`W_call`).
* `scanDone_of_quiet`: if every waiting callback is quiet (`CbQuiet`), the scan started at index `i`
  reaches the end of the list within `length − i + 1` iterations.
* The static class `RegQuiet` ("callbacks do not register") and the invariant `QInv` it yields in
  every state (`QInv.step`, `QInv.scan`, `QInv.applyOp`, …), from the `RegBy` clause of `U.wapp`.
-/
import SimProc.Proofs.C10WUWorld

namespace SimProc
namespace C10W
open World FloorCoreL

/-- What `W` observes of a world. -/
def KW (w : World) : List (Req × Cb) × List (List Op) := (w.rm.waiting, w.scripts)

/-- The waiting list and the scripts are unchanged. -/
def W (w w' : World) : Prop := KW w' = KW w

theorem W.refl (w : World) : W w w := rfl
theorem W.trans {a b c : World} (h1 : W a b) (h2 : W b c) : W a c := Eq.trans h2 h1
theorem W.of_KW {w w' : World} (h : KW w' = KW w) : W w w' := h
theorem W.trans_KW {a b c : World} (h1 : W a b) (h : KW c = KW b) : W a c := h1.trans h
theorem W.of_KW_trans {a b c : World} (h : KW b = KW a) (h2 : W b c) : W a c := W.trans h h2

theorem W.foldl {α} (g : World → α → World) (l : List α) (w : World)
    (h : ∀ w a, W w (g w a)) : W w (l.foldl g w) := by
  induction l generalizing w with
  | nil => exact W.refl w
  | cons a l ih => exact (h w a).trans (ih _)

theorem KW_foldl {α} (g : World → α → World) (l : List α) (w : World)
    (h : ∀ w a, KW (g w a) = KW w) : KW (l.foldl g w) = KW w :=
  foldl_preserve KW g l w h

@[simp] theorem KW_setErr (w : World) (m : String) : KW (w.setErr m) = KW w := by
  unfold setErr; split <;> rfl
@[simp] theorem KW_addRec (w : World) (r : Rec) : KW (w.addRec r) = KW w := rfl
@[simp] theorem KW_addRes (w : World) (r : Res) : KW (w.addRes r) = KW w := rfl
@[simp] theorem KW_modPart (w : World) (p : Nat) (f : PartRec → PartRec) :
    KW (w.modPart p f) = KW w := rfl
@[simp] theorem KW_newPart (w : World) (r : PartRec) : KW (w.newPart r).1 = KW w := rfl
@[simp] theorem KW_setDev (w : World) (x : Nat) (d : Dev) : KW (w.setDev x d) = KW w := rfl
@[simp] theorem KW_modDev (w : World) (x : Nat) (f : Dev → Dev) : KW (w.modDev x f) = KW w := rfl
@[simp] theorem KW_envOp (w : World) (op : EnvOp) : KW (w.envOp op) = KW w := rfl

theorem KW_of_KU {w w' : World} (h : KU w' = KU w) : KW w' = KW w := by
  unfold KW; rw [KU_rm h, KU_scr h]

theorem KW_sched (w : World) (t a : Int) (act : Action) (p : Int) :
    KW (w.sched t a act p).1 = KW w := KW_of_KU (KU_sched w t a act p)
theorem KW_schedLib (w : World) (t a : Int) (act : Action) (p : Int) :
    KW (w.schedLib t a act p) = KW w := KW_of_KU (KU_schedLib w t a act p)
theorem KW_rmEffects (w : World) (recs : List ResRec) (chk : Bool) :
    KW (w.rmEffects recs chk) = KW w := KW_of_KU (KU_rmEffects w recs chk)

theorem W_rmSet (w : World) (rm' : RM) (h : rm'.waiting = w.rm.waiting) :
    W w { w with rm := rm' } := by
  show (rm'.waiting, w.scripts) = _
  rw [h]; rfl

syntax "w_step" : tactic
macro "w_auto" : tactic => `(tactic| repeat' first | w_step | split | dsimp only)

macro_rules | `(tactic| w_step) => `(tactic| peel_struct W.trans_KW)
macro_rules | `(tactic| w_step) => `(tactic|
  ((with_reducible apply W.trans (h2 := W.foldl _ _ _ ?hs)); case hs => (intro _ _; w_auto; done)))
macro_rules | `(tactic| w_step) => `(tactic| with_reducible apply W.trans_KW (h := KW_rmEffects _ _ _))
macro_rules | `(tactic| w_step) => `(tactic| with_reducible apply W.trans_KW (h := KW_envOp _ _))
macro_rules | `(tactic| w_step) => `(tactic| with_reducible apply W.trans_KW (h := KW_schedLib _ _ _ _ _))
macro_rules | `(tactic| w_step) => `(tactic| with_reducible apply W.trans_KW (h := KW_sched _ _ _ _ _))
macro_rules | `(tactic| w_step) => `(tactic| with_reducible apply W.trans_KW (h := KW_setErr _ _))
macro_rules | `(tactic| w_step) => `(tactic| with_reducible apply W.trans_KW (h := KW_addRes _ _))
macro_rules | `(tactic| w_step) => `(tactic| with_reducible apply W.trans_KW (h := KW_addRec _ _))
macro_rules | `(tactic| w_step) => `(tactic| with_reducible apply W.trans_KW (h := KW_modPart _ _ _))
macro_rules | `(tactic| w_step) => `(tactic| with_reducible apply W.trans_KW (h := KW_newPart _ _))
macro_rules | `(tactic| w_step) => `(tactic| with_reducible apply W.trans_KW (h := KW_modDev _ _ _))
macro_rules | `(tactic| w_step) => `(tactic| with_reducible apply W.trans_KW (h := KW_setDev _ _ _))
macro_rules | `(tactic| w_step) => `(tactic| with_reducible exact W.refl _)

/-! ### notifications -/

theorem W_setWaiting (w : World) (x : Nat) (a b : Bool) : W w (w.setWaiting x a b) := by
  unfold setWaiting
  dsimp only
  w_auto

macro_rules | `(tactic| w_step) => `(tactic| with_reducible apply W.trans (h2 := W_setWaiting _ _ _ _))

theorem W_schedulePass (w : World) (x : Nat) (o : Int) : W w (w.schedulePass x o) := by
  unfold schedulePass
  dsimp only
  w_auto

macro_rules | `(tactic| w_step) => `(tactic| with_reducible apply W.trans (h2 := W_schedulePass _ _ _))

theorem W_notify_aux (n : Nat) : ∀ w x, W w (notifyUp n w x) ∧ W w (spaceAvail n w x) :=
  World.notify_walk W.refl W.trans (KW_setErr · _) (fun w x _ => W_setWaiting w x _ _)
    (fun w x _ _ => W_schedulePass w x _) n

theorem W_notify (w : World) (x : Nat) : W w (w.notify x) :=
  (W_notify_aux _ w x).1
theorem W_spaceAvailable (w : World) (x : Nat) : W w (w.spaceAvailable x) :=
  (W_notify_aux _ w x).2

macro_rules | `(tactic| w_step) => `(tactic| with_reducible apply W.trans (h2 := W_notify _ _))
macro_rules | `(tactic| w_step) => `(tactic| with_reducible apply W.trans (h2 := W_spaceAvailable _ _))

/-! ### parts, callbacks -/

theorem W_addHist (w : World) (p d : Nat) : W w (w.addHist p d) := by
  unfold addHist
  dsimp only
  w_auto

theorem W_dropHist (w : World) (p : Nat) : W w (w.dropHist p) := by
  unfold dropHist
  dsimp only
  w_auto

theorem W_applyPartCb (w : World) (x p : Nat) (c : PartCb) : W w (w.applyPartCb x p c) := by
  unfold applyPartCb
  dsimp only
  w_auto

theorem W_senseOutput (w : World) (s p : Nat) : W w (w.senseOutput s p) :=
  World.senseOutput_walk W.refl W.trans (fun _ _ => rfl) (fun _ _ _ => rfl) w s p

theorem W_finishCycleHandler (w : World) (x : Nat) : W w (w.finishCycleHandler x) := by
  unfold finishCycleHandler
  dsimp only
  w_auto

macro_rules | `(tactic| w_step) => `(tactic| with_reducible apply W.trans (h2 := W_addHist _ _ _))
macro_rules | `(tactic| w_step) => `(tactic| with_reducible apply W.trans (h2 := W_dropHist _ _))
macro_rules | `(tactic| w_step) => `(tactic| with_reducible apply W.trans (h2 := W_applyPartCb _ _ _ _))
macro_rules | `(tactic| w_step) => `(tactic| with_reducible apply W.trans (h2 := W_senseOutput _ _ _))
macro_rules | `(tactic| w_step) => `(tactic| with_reducible apply W.trans (h2 := W_finishCycleHandler _ _))

theorem W_genPart (w : World) (x : Nat) : W w (w.genPart x).1 :=
  World.genPart_walk W.refl W.trans KW_newPart (fun _ _ => rfl) w x

macro_rules | `(tactic| w_step) => `(tactic| with_reducible apply W.trans (h2 := W_genPart _ _))

/-! ### finishing a cycle -/

theorem W_finishCycle (w : World) (x : Nat) : W w (w.finishCycle x) := by
  unfold finishCycle
  dsimp only
  split
  · -- source
    w_step
    split
    · w_step
      w_step
      have := W_genPart w x
      revert this
      generalize w.genPart x = q
      intro this
      exact this
    · exact W.refl _
  · w_auto
  · -- processor
    split
    · w_auto
    · w_auto
  · w_auto

macro_rules | `(tactic| w_step) => `(tactic| with_reducible apply W.trans (h2 := W_finishCycle _ _))

theorem W_scheduleFinish (w : World) (x : Nat) : W w (w.scheduleFinish x) := by
  unfold scheduleFinish
  dsimp only
  w_auto

macro_rules | `(tactic| w_step) => `(tactic| with_reducible apply W.trans (h2 := W_scheduleFinish _ _))

/-! ### processors: failure, shutdown, restore -/

theorem W_shutdownDev (w : World) (x : Nat) (f : Bool) (lost : Option Nat) :
    W w (w.shutdownDev x f lost) := by
  unfold shutdownDev
  dsimp only
  w_auto

theorem W_restoreDev (w : World) (x : Nat) : W w (w.restoreDev x) := by
  unfold restoreDev
  dsimp only
  w_auto

macro_rules | `(tactic| w_step) => `(tactic| with_reducible apply W.trans (h2 := W_shutdownDev _ _ _ _))
macro_rules | `(tactic| w_step) => `(tactic| with_reducible apply W.trans (h2 := W_restoreDev _ _))

/-! ### scripted operations on devices -/

theorem W_setBlock (w : World) (x : Nat) (b : Bool) : W w (w.setBlock x b) := by
  unfold setBlock
  dsimp only
  w_auto

theorem W_adjustParts (w : World) (x : Nat) (v : Int) : W w (w.adjustParts x v) := by
  unfold adjustParts
  dsimp only
  w_auto

theorem W_rewire (w : World) (x : Nat) (ups : List Nat) : W w (w.rewire x ups) := by
  unfold rewire
  dsimp only
  w_auto

theorem W_initDev (w : World) (x : Nat) : W w (w.initDev x) := by
  unfold initDev
  dsimp only
  w_auto

macro_rules | `(tactic| w_step) => `(tactic| with_reducible apply W.trans (h2 := W_setBlock _ _ _))
macro_rules | `(tactic| w_step) => `(tactic| with_reducible apply W.trans (h2 := W_adjustParts _ _ _))
macro_rules | `(tactic| w_step) => `(tactic| with_reducible apply W.trans (h2 := W_rewire _ _ _))
macro_rules | `(tactic| w_step) => `(tactic| with_reducible apply W.trans (h2 := W_initDev _ _))

@[simp] theorem KW_modMaint (w : World) (m : Nat) (f : Maint → Maint) :
    KW (w.modMaint m f) = KW w := rfl
@[simp] theorem KW_setVar (w : World) (h : Nat) (v : Option Nat) : KW (w.setVar h v) = KW w := rfl

macro_rules | `(tactic| w_step) => `(tactic| with_reducible apply W.trans_KW (h := KW_modMaint _ _ _))
macro_rules | `(tactic| w_step) => `(tactic| with_reducible apply W.trans_KW (h := KW_setVar _ _ _))

theorem W_startOrders (w : World) (m : Nat) (st : List Order) : W w (w.startOrders m st) := by
  unfold startOrders
  w_auto

macro_rules | `(tactic| w_step) => `(tactic| with_reducible apply W.trans (h2 := W_startOrders _ _ _))

theorem W_schedUpdate (w : World) (s : Nat) (advance : Bool) :
    W w (w.schedUpdate s advance) := by
  unfold schedUpdate
  dsimp only
  w_auto

macro_rules | `(tactic| w_step) => `(tactic| with_reducible apply W.trans (h2 := W_schedUpdate _ _ _))

theorem W_initAsset (w : World) (a : AssetRef) : W w (w.initAsset a) := by
  unfold initAsset
  split <;> (try dsimp only) <;> w_auto

macro_rules | `(tactic| w_step) => `(tactic| with_reducible apply W.trans (h2 := W_initAsset _ _))

/-! ### constructors -/

theorem W_addDev (w : World) (d : Dev) : W w (w.addDev d) := by
  unfold addDev
  dsimp only
  w_auto

macro_rules | `(tactic| w_step) => `(tactic| with_reducible apply W.trans (h2 := W_addDev _ _))

theorem W_addAsset (w : World) (spec : AssetSpec) : W w (w.addAsset spec) := by
  unfold addAsset
  split <;> (try dsimp only)
  all_goals w_auto

macro_rules | `(tactic| w_step) => `(tactic| with_reducible apply W.trans (h2 := W_addAsset _ _))

/-! ### scripted operations -/


/-- A `register` operation. -/
def isReg : Op → Bool
  | .register _ _ => true
  | _ => false

theorem apply_waiting_same (rm : RM) (op : RMOp) (h : ∀ req cb, op ≠ .register req cb) :
    (rm.apply op).1.waiting = rm.waiting := by
  cases op with
  | init => rfl
  | add r amt =>
    simp only [RM.apply]
    rcases C10.add_cases rm r amt with ⟨h, _⟩ | ⟨_, _, _, v, hv⟩
    · rw [h]
    · rw [hv]; simp
  | reserve req => simp [RM.apply, (C10.reserve_spec rm req).1]
  | release id part =>
    simp only [RM.apply]
    rcases C10.release_cases rm id part with ⟨h, _⟩ | ⟨_, _, hw, _⟩
    · rw [h]
    · exact hw
  | merge a b => simp [RM.apply, (C10.merge_spec rm a b).1]
  | register req cb => exact absurd rfl (h req cb)

/-- A scripted operation other than `register` leaves the waiting list alone. -/
theorem W_applyOp (w : World) (op : Op) (hop : isReg op = false) : W w (w.applyOp op).1 := by
  cases op with
  | sched t a k p => exact W.of_KW (KW_sched _ _ _ _ _)
  | schedRel dt a k p => exact W.of_KW (KW_sched _ _ _ _ _)
  | pause a => exact W.of_KW rfl
  | unpause a => exact W.of_KW rfl
  | cancel a => exact W.of_KW rfl
  | addRes r amt =>
    have h := apply_waiting_same w.rm (.add r amt) (fun _ _ h => by cases h)
    simp only [applyOp]
    rcases hr : w.rm.add r amt with ⟨rm, res, recs, chk⟩
    have h' : rm.waiting = w.rm.waiting := by
      have : (w.rm.apply (.add r amt)).1 = rm := by show (w.rm.add r amt).1 = rm; rw [hr]
      rw [← this]; exact h
    dsimp only
    w_step
    exact W_rmSet w rm h'
  | reserve hd req =>
    have h := apply_waiting_same w.rm (.reserve req) (fun _ _ h => by cases h)
    simp only [applyOp]
    rcases hr : w.rm.reserve req with ⟨rm, res, id, recs⟩
    have h' : rm.waiting = w.rm.waiting := by
      have : (w.rm.apply (.reserve req)).1 = rm := by show (w.rm.reserve req).1 = rm; rw [hr]
      rw [← this]; exact h
    dsimp only
    split
    · exact W.refl _
    · w_step
      w_step
      exact W_rmSet w rm h'
  | release hd part =>
    simp only [applyOp]
    cases w.getVar hd with
    | none => exact W.refl _
    | some id =>
      dsimp only
      w_step
      exact W_rmSet w _ (apply_waiting_same w.rm (.release id part) (fun _ _ h => by cases h))
  | merge h1 h2 =>
    simp only [applyOp]
    cases w.getVar h1 with
    | none => exact W.refl _
    | some a =>
      cases w.getVar h2 with
      | none => exact W.refl _
      | some b =>
        dsimp only
        exact W_rmSet w _ (apply_waiting_same w.rm (.merge a b) (fun _ _ h => by cases h))
  | register k req => cases hop
  | schedFail d t => simp only [applyOp]; w_auto
  | schedFailRel d dt => simp only [applyOp]; w_auto
  | shutdown d => simp only [applyOp]; w_auto
  | restore d => simp only [applyOp]; w_auto
  | block d b => simp only [applyOp]; w_auto
  | adjust d n => simp only [applyOp]; w_auto
  | setCycle d c => simp only [applyOp]; w_auto
  | offsetNext d o => simp only [applyOp]; w_auto
  | rewire d ups => simp only [applyOp]; w_auto
  | workOrder m tgt tag info => simp only [applyOp]; w_auto
  | setParams tgt tag dur need cost => simp only [applyOp]; w_auto
  | regObj s obj ovr => simp only [applyOp]; w_auto
  | unregObj s obj => simp only [applyOp]; w_auto
  | setVar k v => simp only [applyOp]; w_auto
  | addSensor c s => simp only [applyOp]; w_auto
  | create spec => simp only [applyOp]; w_auto

theorem W_applyOps (w : World) (ops : List Op) (h : ∀ op ∈ ops, isReg op = false) :
    W w (w.applyOps ops) := by
  unfold applyOps
  induction ops generalizing w with
  | nil => exact W.refl _
  | cons op ops ih =>
    rw [List.foldl_cons]
    refine W.trans ?_ (ih _ (fun o ho => h o (List.mem_cons_of_mem _ ho)))
    exact (W_applyOp w op (h op List.mem_cons_self)).trans_KW (KW_addRes _ _)

/-- Script `k` contains no `register` operation. -/
def quietScript (w : World) (k : Nat) : Prop := ∀ op ∈ w.scripts.getD k [], isReg op = false

instance (w : World) (k : Nat) : Decidable (quietScript w k) := by
  unfold quietScript; infer_instance

theorem W_runScript (w : World) (k : Nat) (h : quietScript w k) : W w (w.runScript k) :=
  W_applyOps _ _ h

theorem W_procResourceCb (w : World) (x : Nat) : W w (w.procResourceCb x) := by
  unfold procResourceCb
  dsimp only
  w_auto

/-! ### the fuel of the model's scan -/

/-- The callback, if it is a script, contains no `register` operation. -/
def quietCb (w : World) : Cb → Prop
  | .script k => quietScript w k
  | .proc _ => True

instance (w : World) (cb : Cb) : Decidable (quietCb w cb) := by
  cases cb <;> unfold quietCb <;> infer_instance

/-- Every script that is waiting for a callback contains no `register` operation. -/
def CbQuiet (w : World) : Prop := ∀ e ∈ w.rm.waiting, quietCb w e.2

instance (w : World) : Decidable (CbQuiet w) := by unfold CbQuiet; infer_instance

theorem W_call (w : World) (cb : Cb) (req : Req) (h : quietCb w cb) :
    W w (scanOps.call w cb req) := by
  cases cb with
  | script k =>
    have hq : quietScript (w.addRes (.cb k)) k := h
    exact W.trans (W.of_KW (KW_addRes w _)) (W_runScript _ k hq)
  | proc d => exact W_procResourceCb w d

/-- **Fuel.**  If no waiting callback script registers again, the scan started at index `i` reaches
the end of the list within `length − i + 1` iterations. -/
theorem scanDone_of_quiet (f : Nat) (w : World) (i : Nat) (hq : CbQuiet w)
    (hf : w.rm.waiting.length - i < f) : C10.scanDone scanOps f w i = true := by
  induction f generalizing w i with
  | zero => omega
  | succ f ih =>
    cases hw : w.rm.waiting[i]? with
    | none =>
      have hw' : (scanOps.rm w).waiting[i]? = none := hw
      simp [C10.scanDone, hw']
    | some e =>
      obtain ⟨req, cb⟩ := e
      have hw' : (scanOps.rm w).waiting[i]? = some (req, cb) := hw
      obtain ⟨hi, hget⟩ := List.getElem?_eq_some_iff.mp hw
      by_cases hc : (scanOps.rm w).canFulfill req = true
      · simp only [C10.scanDone, hw', hc, if_true]
        have hmem : (req, cb) ∈ w.rm.waiting := List.mem_of_getElem? hw
        have hW := W_call w cb req (hq _ hmem)
        have h1 : (scanOps.call w cb req).rm.waiting = w.rm.waiting := congrArg Prod.fst hW
        have h2 : (scanOps.call w cb req).scripts = w.scripts := congrArg Prod.snd hW
        have h3 : (scanOps.erase (scanOps.call w cb req) i).rm.waiting = w.rm.waiting.eraseIdx i := by
          show (scanOps.call w cb req).rm.waiting.eraseIdx i = _
          rw [h1]
        refine ih _ _ ?_ ?_
        · intro e he
          rw [h3] at he
          have := hq e ((List.eraseIdx_sublist _ _).subset he)
          cases hcb : e.2 with
          | proc d => trivial
          | script k =>
            rw [hcb] at this
            show ∀ op ∈ (scanOps.call w cb req).scripts.getD k [], _
            rw [h2]; exact this
        · rw [h3, List.length_eraseIdx_of_lt hi]
          omega
      · simp only [C10.scanDone, hw', hc]
        exact ih _ _ hq (by omega)

/-! ### the static class of quiet callbacks -/

/-- A `register` operation names a quiet callback script. -/
def regQuietOp (w : World) : Op → Prop
  | .register k _ => quietScript w k
  | _ => True

instance (w : World) (op : Op) : Decidable (regQuietOp w op) := by
  cases op <;> unfold regQuietOp <;> infer_instance

/-- **Callbacks do not register**: every script that some script registers as a callback contains
no `register` operation (static, decidable). -/
def RegQuiet (w : World) : Prop := ∀ s ∈ w.scripts, ∀ op ∈ s, regQuietOp w op

instance (w : World) : Decidable (RegQuiet w) := by unfold RegQuiet; infer_instance

theorem RegQuiet.of_regBy {w : World} (h : RegQuiet w) {k : Nat} (hk : RegBy w k) :
    quietScript w k := by
  obtain ⟨s, hs, req, hm⟩ := hk
  exact h s hs _ hm

/-- The quiet class together with its consequence for the waiting list. -/
structure QInv (w : World) : Prop where
  cb : CbQuiet w
  reg : RegQuiet w

theorem QInv.of_eq {w w' : World} (h : QInv w) (hw : w'.rm.waiting = w.rm.waiting)
    (hs : w'.scripts = w.scripts) : QInv w' := by
  refine ⟨?_, ?_⟩
  · intro e he
    rw [hw] at he
    have := h.cb e he
    cases hcb : e.2 with
    | proc d => trivial
    | script k =>
      rw [hcb] at this
      show ∀ op ∈ w'.scripts.getD k [], _
      rw [hs]; exact this
  · intro s hs' op hop
    rw [hs] at hs'
    have := h.reg s hs' op hop
    cases op <;> first | trivial | (show ∀ o ∈ w'.scripts.getD _ [], _; rw [hs]; exact this)

theorem QInv.step_U {w w' : World} (h : QInv w) (u : U w w') : QInv w' := by
  obtain ⟨l, hl, hq⟩ := u.wapp
  have h1 : QInv ({ w with rm := { w.rm with waiting := w'.rm.waiting } } : World) := by
    refine ⟨?_, fun s hs op hop => h.reg s hs op hop⟩
    intro e he
    have he' : e ∈ w.rm.waiting ++ l := by rw [← hl]; exact he
    rcases List.mem_append.1 he' with he' | he'
    · exact h.cb e he'
    · cases hcb : e.2 with
      | proc d => trivial
      | script k => exact h.reg.of_regBy (hq e he' k hcb)
  exact h1.of_eq rfl u.scr

theorem QInv.erase {w : World} (h : QInv w) (i : Nat) : QInv (scanOps.erase w i) :=
  ⟨fun e he => h.cb e ((List.eraseIdx_sublist _ _).subset he), h.reg⟩

theorem QInv.serve {w : World} (h : QInv w) (i : Nat) (req : Req) (cb : Cb) :
    QInv (scanOps.erase (scanOps.call w cb req) i) := by
  refine QInv.erase ?_ i
  cases cb with
  | script k =>
    have h0 : QInv (w.addRes (.cb k)) := h.of_eq rfl rfl
    exact h0.step_U (U_runScript _ k)
  | proc d => exact h.step_U (U.floor.procResourceCb w d)

theorem scan_induct' {σ : Type} (o : ScanOps σ) (I : σ → Prop)
    (hstep : ∀ s i req cb, I s → I (o.erase (o.call s cb req) i))
    (f : Nat) (s : σ) (i : Nat) (h : I s) : I (scanWaiting o f s i) := by
  induction f generalizing s i with
  | zero => exact h
  | succ f ih =>
    rw [scanWaiting]
    split
    · exact h
    · split
      · exact ih _ _ (hstep s i _ _ h)
      · exact ih _ _ h

theorem QInv.scan {w : World} (h : QInv w) (f i : Nat) : QInv (scanWaiting scanOps f w i) :=
  scan_induct' scanOps QInv (fun _ i req cb h => h.serve i req cb) f w i h

theorem QInv.exec {w : World} (h : QInv w) (a : Action) : QInv (w.exec a) := by
  by_cases ha : a = .rmCheck
  · subst ha; exact h.scan 10000 0
  · exact h.step_U (U_exec w a ha)

theorem QInv.step {w w' : World} {e : Event} (h : QInv w) (hst : w.step = some (e, w')) :
    QInv w' := by
  obtain ⟨env1, _, _, hdead, hlive⟩ := C01W.step_via hst
  have h0 : QInv ({ w with env := env1 } : World) := h.of_eq rfl rfl
  cases hl : e.live with
  | true => rw [hlive hl]; exact h0.exec _
  | false => rw [hdead hl]; exact h0

theorem QInv.runLoop (n : Nat) : ∀ {w : World}, QInv w → QInv (World.runLoop n w) := by
  induction n with
  | zero => intro w h; exact h.step_U (U.of_KU (KU_setErr _ _))
  | succ n ih =>
    intro w h
    unfold World.runLoop
    split
    · split
      · exact h
      · rename_i e w' hst
        exact ih (h.step hst)
    · exact h

theorem QInv.runBegin {w : World} (h : QInv w) (d : Int) : QInv (w.runBegin d).1 :=
  h.step_U (U_runBegin w d)

theorem QInv.simulateInit {w : World} (h : QInv w) : QInv w.simulateInit :=
  h.step_U (U_simulateInit w)

/-- An operation issued from outside that registers only a quiet callback. -/
theorem QInv.applyOp {w : World} (h : QInv w) (o : Op) (ho : regQuietOp w o) :
    QInv (w.applyOp o).1 := by
  by_cases hr : ∃ k req, o = .register k req
  · obtain ⟨k, req, rfl⟩ := hr
    have u := U0_applyOp w (.register k req)
    have hk := KU_rmEffects ({ w with rm := (w.rm.register req (.script k)).1 } : World) []
      (w.rm.register req (.script k)).2
    have hw : (w.applyOp (.register k req)).1.rm.waiting = w.rm.waiting ++ [(req, .script k)] := by
      simp only [World.applyOp]
      rw [KU_rm hk]; rfl
    have h1 : QInv ({ w with rm := { w.rm with waiting := (w.applyOp (.register k req)).1.rm.waiting } } : World) := by
      refine ⟨?_, fun s hs op hop => h.reg s hs op hop⟩
      intro e he
      have he' : e ∈ w.rm.waiting ++ [(req, .script k)] := by rw [← hw]; exact he
      rcases List.mem_append.1 he' with he' | he'
      · exact h.cb e he'
      · have : e = (req, .script k) := by simpa using he'
        subst this
        exact ho
    exact h1.of_eq rfl u.scr
  · exact h.step_U (U_applyOp w o (fun k req hk => absurd ⟨k, req, hk⟩ hr))

end C10W
end SimProc
