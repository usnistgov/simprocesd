/-
C13W, part 2: the floor functions that act on ONE device `y` leave the machine view of every other
device `x` alone.
-/
import SimProc.Proofs.C13WView
import SimProc.Proofs.C06WFrame
namespace SimProc
namespace C13W
open World FloorCoreL

section floor
variable (x : Nat) (w : World)

theorem pv_releaseReserved (y : Nat) (hy : y ≠ x) : pvw x (w.releaseReserved y) = pvw x w := by
  unfold World.releaseReserved; pv_auto

theorem pv_procAcquire (y : Nat) (hy : y ≠ x) : pvw x (w.procAcquire y).1 = pvw x w := by
  unfold World.procAcquire; pv_auto

theorem pv_finishCycleHandler (y : Nat) (hy : y ≠ x) : pvw x (w.finishCycleHandler y) = pvw x w := by
  unfold World.finishCycleHandler; pv_auto

theorem pv_finishCycle (y : Nat) (hy : y ≠ x) : pvw x (w.finishCycle y) = pvw x w := by
  cases hk : (w.dev y).kind
  case source =>
    rw [C06W.finishCycle_source_eq w y hk, pv_schedulePass]
    split
    · rw [pv_addHist, pv_modDev _ _ _ _ (Or.inl hy), pv_genPart]
    · rfl
  case sink =>
    unfold World.finishCycle
    simp only [hk]
    rw [pv_notify, pv_modDev _ _ _ _ (Or.inl hy), pv_finishCycleHandler _ _ _ hy]
  case processor =>
    rw [finishCycle_proc w hk]
    unfold World.finishCbs World.finishBook
    dsimp only
    have h0 := pv_finishCycleHandler x w y hy
    split
    · split
      · rw [pv_schedLib, pv_setDev _ _ _ _ (Or.inl hy)]; exact h0
      · rw [pv_setDev _ _ _ _ (Or.inl hy)]; exact h0
    · rw [pv_addRec _ _ _ rfl, pv_foldl_senseOutput, pv_foldl_applyPartCb]
      split
      · rw [pv_schedLib, pv_setDev _ _ _ _ (Or.inl hy)]; exact h0
      · rw [pv_setDev _ _ _ _ (Or.inl hy)]; exact h0
  all_goals
    unfold World.finishCycle
    simp only [hk]
    exact pv_finishCycleHandler x w y hy

theorem pv_scheduleFinish (y : Nat) (hy : y ≠ x) : pvw x (w.scheduleFinish y) = pvw x w := by
  by_cases hc : 0 < w.finishDelay y
  · rw [scheduleFinish_pos w y hc, pv_schedLib, pv_setDev _ _ _ _ (Or.inl hy)]
  · rw [scheduleFinish_nonpos w y (Int.not_lt.1 hc), pv_finishCycle _ _ _ hy,
      pv_setDev _ _ _ _ (Or.inl hy)]

theorem pv_batchGet (y p : Nat) (hy : y ≠ x) : pvw x (C02V.batchGet w y p).1 = pvw x w := by
  unfold C02V.batchGet; pv_auto

theorem pv_batchShell (y : Nat) (hy : y ≠ x) : pvw x (C02V.batchShell w y).1 = pvw x w := by
  unfold C02V.batchShell
  split
  · rfl
  · dsimp only [World.newPart]
    rw [pv_modDev _ _ _ _ (Or.inl hy)]; rfl

theorem pv_batchAdd (y t : Nat) (hy : y ≠ x) : pvw x (C02V.batchAdd w y t) = pvw x w := by
  unfold C02V.batchAdd
  split
  · rw [pv_modDev _ _ _ _ (Or.inl hy)]
  · dsimp only
    split
    · rw [pv_modDev _ _ _ _ (Or.inl hy), pv_modPart, pv_batchShell _ _ _ hy]
    · rw [pv_modPart, pv_batchShell _ _ _ hy]

theorem pv_batcherLoop (f : Nat) : ∀ (w : World) (y : Nat), y ≠ x →
    pvw x (batcherLoop f w y) = pvw x w := by
  induction f with
  | zero => intro w y _; rfl
  | succ f ih =>
    intro w y hy
    rw [C02V.batcherLoop_succ]
    split
    · rw [ih _ _ hy, pv_batchAdd _ _ _ _ hy, pv_batchGet _ _ _ _ hy]
    · rfl

theorem pv_tryMove (y : Nat) (hy : y ≠ x) : pvw x (w.tryMove y) = pvw x w := by
  unfold World.tryMove
  dsimp only
  repeat' split
  all_goals first
    | rfl
    | (rw [pv_schedulePass, pv_notify, pv_setDev _ _ _ _ (Or.inl hy)])
    | (rw [pv_notify, pv_setDev _ _ _ _ (Or.inl hy)])
    | (rw [pv_setDev _ _ _ _ (Or.inl hy)])
    | (rw [pv_schedulePass, pv_batcherLoop _ _ _ _ hy])
    | (rw [pv_batcherLoop _ _ _ _ hy])
    | (rw [pv_scheduleFinish _ _ _ hy, pv_setDev _ _ _ _ (Or.inl hy)])
    | (rw [pv_scheduleFinish _ _ _ hy])

/-- the second half of `_on_received_new_part` -/
def recvTail (w1 : World) (y p : Nat) : World :=
  let w := w1.addRec (.received y w1.now p (w1.part p).quality (w1.partValue p))
  let w := (w.dev y).recvCbs.foldl (fun w c => w.applyPartCb y p c) w
  if (w.dev y).output.isNone then w.tryMove y else w

/-- the first half -/
def recvHead (w : World) (y p : Nat) : World :=
  match (w.dev y).kind with
  | .sink =>
    w.setDev y { w.dev y with
      recvCount := (w.dev y).recvCount + w.leafCount p
      recvValue := (w.dev y).recvValue + w.partValue p
      val := (w.dev y).val.addValue lblCollected w.now (w.partValue p)
      collected := if (w.dev y).collect then (w.dev y).collected ++ [p] else (w.dev y).collected }
  | .buffer =>
    (w.setDev y { w.dev y with level := (w.dev y).level + w.leafCount p }).addRec
      (.level y (w.setDev y { w.dev y with level := (w.dev y).level + w.leafCount p }).now
        ((w.setDev y { w.dev y with level := (w.dev y).level + w.leafCount p }).dev y).level)
  | _ => w

theorem onReceived_eq (y p : Nat) : w.onReceived y p = recvTail (recvHead w y p) y p := rfl

theorem pv_recvTail (y p : Nat) (hy : y ≠ x) : pvw x (recvTail w y p) = pvw x w := by
  unfold recvTail
  dsimp only
  split
  · rw [pv_tryMove _ _ _ hy, pv_foldl_applyPartCb, pv_addRec _ _ _ rfl]
  · rw [pv_foldl_applyPartCb, pv_addRec _ _ _ rfl]

theorem pv_recvHead (y p : Nat) (hy : y ≠ x) : pvw x (recvHead w y p) = pvw x w := by
  unfold recvHead
  split
  · rw [pv_setDev _ _ _ _ (Or.inl hy)]
  · rw [pv_addRec _ _ _ rfl, pv_setDev _ _ _ _ (Or.inl hy)]
  · rfl

theorem pv_onReceived (y p : Nat) (hy : y ≠ x) : pvw x (w.onReceived y p) = pvw x w := by
  rw [onReceived_eq, pv_recvTail _ _ _ _ hy, pv_recvHead _ _ _ _ hy]

theorem pv_acceptPart (y p : Nat) (hy : y ≠ x) : pvw x (w.acceptPart y p) = pvw x w := by
  unfold World.acceptPart
  dsimp only
  rw [pv_onReceived _ _ _ _ hy, pv_setWaiting, pv_addHist, pv_modDev _ _ _ _ (Or.inl hy)]
  split <;> rfl

theorem pv_shutdownDev (y : Nat) (f : Bool) (l : Option Nat) (hy : y ≠ x) :
    pvw x (w.shutdownDev y f l) = pvw x w := by
  unfold World.shutdownDev
  dsimp only
  split
  · split
    · rw [pv_foldl x _ _ _ (fun w k => pv_addRes x w _)]; rfl
    · rfl
  · rw [pv_foldl x _ _ _ (fun w k => pv_addRes x w _), pv_setWaiting, pv_setDev _ _ _ _ (Or.inl hy)]
    split
    · rw [pv_cancel, pv_setDev _ _ _ _ (Or.inl hy)]
    · rw [pv_pause, pv_setDev _ _ _ _ (Or.inl hy)]

theorem pv_restoreDev (y : Nat) (hy : y ≠ x) : pvw x (w.restoreDev y) = pvw x w := by
  unfold World.restoreDev
  extract_lets d w1 w2 w3 w4
  split
  · rfl
  · have h2 : pvw x w2 = pvw x w := (pv_unpause x w1 _).trans (pv_setDev x w y _ (Or.inl hy))
    have h3 : pvw x w3 = pvw x w := by
      unfold w3
      split
      · exact (pv_schedulePass x w2 y 0).trans h2
      · split
        · exact (pv_notify x w2 y).trans h2
        · exact h2
    have h4 : pvw x w4 = pvw x w := by
      unfold w4
      split
      · exact (pv_modDev x w3 y _ (Or.inl hy)).trans h3
      · exact h3
    exact (pv_foldl x _ _ _ (fun w k => pv_addRes x w _)).trans h4

theorem pv_releaseIfIdle (y : Nat) (hy : y ≠ x) : pvw x (w.releaseIfIdle y) = pvw x w := by
  unfold World.releaseIfIdle
  split
  · exact pv_releaseReserved x w y hy
  · rfl

end floor

end C13W
end SimProc
