/-
C08S — the idle clock is exact.  Part 4: `Clk` for scripted operations and event actions
(`applyOp`, `runScript`, `rmCheck`, the maintainer hooks, `exec`), the pop of an event, and the
initialisation phase.
-/
import SimProc.Proofs.C08SPass
import SimProc.Proofs.WorldExec

namespace SimProc
namespace C08S
open World FloorCoreL

/-! ### the static class: scripts neither re-wire nor construct -/

def opOK : Op → Bool
  | .rewire _ _ => false
  | .create _ => false
  | _ => true

/-- No script re-wires or constructs assets (`rewire` restarts a running idle clock, `create`
builds devices with arbitrary slot contents). -/
def ScriptsOK (w : World) : Prop := ∀ l ∈ w.scripts, ∀ op ∈ l, opOK op = true

instance (w : World) : Decidable (ScriptsOK w) := by unfold ScriptsOK; infer_instance

theorem ScriptsOK.of_eq {w w' : World} (h : w'.scripts = w.scripts) (hs : ScriptsOK w) :
    ScriptsOK w' := by
  unfold ScriptsOK; rw [h]; exact hs

/-- every device is exempt from the `keep` clause -/
abbrev All : Nat → Prop := fun _ => True
/-- no device is exempt -/
abbrev None_ : Nat → Prop := fun _ => False

section world
variable {X : Nat → Prop} (w : World)

theorem Clk_setVar (k : Nat) (v : Option Nat) : Clk X w (w.setVar k v) := Clk.of_devs rfl rfl
clk_lemma2 Clk_setVar

theorem Clk_modMaint (m : Nat) (f : Maint → Maint) : Clk X w (w.modMaint m f) := Clk.of_devs rfl rfl
clk_lemma2 Clk_modMaint

theorem Clk_startOrders (m : Nat) (l : List Order) : Clk X w (w.startOrders m l) := by
  unfold World.startOrders; clk_auto
clk_lemma2 Clk_startOrders

theorem Clk_schedUpdate (s : Nat) (b : Bool) : Clk X w (w.schedUpdate s b) := by
  unfold World.schedUpdate; clk_auto
clk_lemma2 Clk_schedUpdate

theorem Clk_periodicSense (s : Nat) : Clk X w (w.periodicSense s) := by
  unfold World.periodicSense; clk_auto
clk_lemma1 Clk_periodicSense

end world

/-! ### scripted operations -/

theorem Clk_applyOp (w : World) (op : Op) (hok : opOK op = true) : Clk All w (w.applyOp op).1 := by
  cases op
  case rewire => cases hok
  case create => cases hok
  case sched => exact Clk_sched _ _ _ _ _
  case schedRel => exact Clk_sched _ _ _ _ _
  case schedFail =>
    simp only [World.applyOp]
    split
    · exact Clk.refl _ _
    · exact Clk_sched _ _ _ _ _
  case schedFailRel =>
    simp only [World.applyOp]
    split
    · exact Clk.refl _ _
    · exact Clk_sched _ _ _ _ _
  case shutdown d =>
    simp only [World.applyOp]
    split
    · exact Clk.refl _ _
    · exact Clk_shutdownDev _ _ _ _ (fun _ => trivial)
  case restore d =>
    simp only [World.applyOp]
    split
    · exact Clk.refl _ _
    · exact Clk_restoreDev _ _
  all_goals
    simp only [World.applyOp]
    clk_auto

theorem Clk_applyOps (ops : List Op) : ∀ (w : World), (∀ op ∈ ops, opOK op = true) →
    Clk All w (w.applyOps ops) := by
  induction ops with
  | nil => intro w _; exact Clk.refl _ _
  | cons op ops ih =>
    intro w hok
    unfold World.applyOps
    simp only [List.foldl_cons]
    have h1 : Clk All w ((w.applyOp op).1.addRes (w.applyOp op).2) :=
      (Clk_applyOp w op (hok op List.mem_cons_self)).trans (Clk_addRes _ _)
    exact h1.trans (ih _ (fun o ho => hok o (List.mem_cons_of_mem _ ho)))

theorem Clk_runScript (w : World) (k : Nat) (hs : ScriptsOK w) : Clk All w (w.runScript k) := by
  unfold World.runScript
  apply Clk_applyOps
  intro op hop
  by_cases hk : k < w.scripts.length
  · have : w.scripts.getD k [] = w.scripts[k] := by simp [List.getD_eq_getElem?_getD, hk]
    rw [this] at hop
    exact hs _ (List.getElem_mem hk) op hop
  · have : w.scripts.getD k [] = [] := by simp [List.getD_eq_getElem?_getD, Nat.le_of_not_lt hk]
    rw [this] at hop; cases hop

theorem Clk_scan (n : Nat) : ∀ (w : World) (i : Nat), ScriptsOK w →
    Clk All w (scanWaiting scanOps n w i) := by
  induction n with
  | zero => intro w i _; exact Clk.refl _ _
  | succ n ih =>
    intro w i hs
    unfold scanWaiting
    split
    · exact Clk.refl _ _
    · split
      · rename_i req cb _ _
        cases cb with
        | script k =>
          have h1 : Clk All w ((w.addRes (.cb k)).runScript k) :=
            (Clk_addRes w _).trans (Clk_runScript _ k (hs.of_eq rfl))
          have hs1 : ScriptsOK ((w.addRes (.cb k)).runScript k) :=
            hs.of_eq (by rw [C02V.scr_runScript]; rfl)
          have h2 : Clk All w (scanOps.erase (scanOps.call w (Cb.script k) req) i) :=
            h1.trans (Clk.of_devs rfl rfl)
          exact h2.trans (ih _ _ (hs1.of_eq rfl))
        | proc d =>
          have h1 : Clk All w (w.procResourceCb d) := Clk_procResourceCb w d
          have hs1 : ScriptsOK (w.procResourceCb d) := hs.of_eq (C02V.scr_floor.procResourceCb w d)
          have h2 : Clk All w (scanOps.erase (scanOps.call w (Cb.proc d) req) i) :=
            h1.trans (Clk.of_devs rfl rfl)
          exact h2.trans (ih _ _ (hs1.of_eq rfl))
      · exact ih _ _ hs

theorem Clk_rmCheck (w : World) (hs : ScriptsOK w) : Clk All w w.rmCheck := Clk_scan _ _ _ hs

theorem Clk_hookStart (w : World) (tgt : Nat) (tag : Int) (hs : ScriptsOK w) :
    Clk All w (w.hookStart tgt tag) := by
  unfold World.hookStart
  simp only []
  split
  · exact (Clk_addRes w _).trans (Clk_shutdownDev _ _ _ _ (fun _ => trivial))
  · split
    · exact (Clk_addRes w _).trans (Clk_runScript _ _ (hs.of_eq rfl))
    · exact Clk_addRes w _

theorem Clk_hookEnd (w : World) (tgt : Nat) (tag : Int) (hs : ScriptsOK w) :
    Clk All w (w.hookEnd tgt tag) := by
  unfold World.hookEnd
  simp only []
  split
  · exact (Clk_addRes w _).trans (Clk_restoreDev _ _)
  · split
    · exact (Clk_addRes w _).trans (Clk_runScript _ _ (hs.of_eq rfl))
    · exact Clk_addRes w _

theorem Clk_startWork (w : World) (m seq : Nat) (hs : ScriptsOK w) : Clk All w (w.startWork m seq) := by
  have key : ∀ w' : World, Clk All w w' → w'.scripts = w.scripts → ∀ t g a b c d,
      Clk All w ((w'.hookStart t g).schedLib a b c d) := fun w' h e t g a b c d =>
    (h.trans (Clk_hookStart w' t g (hs.of_eq e))).trans (Clk_schedLib _ _ _ _ _)
  unfold World.startWork
  split
  · exact Clk_setErr _ _
  · simp only []
    refine key _ ?_ ?_ _ _ _ _ _ _
    · exact (Clk_addRec w _).trans (Clk_modMaint _ _ _)
    · rfl

theorem Clk_finishWork (w : World) (m seq : Nat) (hs : ScriptsOK w) : Clk All w (w.finishWork m seq) := by
  unfold World.finishWork
  split
  · exact Clk_setErr _ _
  · simp only []
    rename_i o _
    refine (Clk_hookEnd w o.target o.tag hs).trans ?_
    clk_auto

/-! ### the action of an event -/

/-- The devices an event action may disturb beyond starting clocks and filling slots: the device
that passes a part on or fails; anything for actions that run scripts or maintenance hooks. -/
def exempt : Action → Nat → Prop
  | .passPart d => fun y => y = d
  | .fail d => fun y => y = d
  | .script _ => All
  | .rmCheck => All
  | .startWork _ _ => All
  | .finishWork _ _ => All
  | _ => None_

theorem Clk_exec (w : World) (a : Action) (hs : ScriptsOK w) : Clk (exempt a) w (w.exec a) := by
  cases a with
  | terminate => exact Clk.refl _ _
  | script k => exact Clk_runScript w k hs
  | finishCycle d => exact Clk_finishCycle w d
  | passPart d => exact Clk_passPart w d (fun _ => rfl)
  | fail d => exact Clk_failDev w d (fun _ => rfl)
  | releaseIfIdle d => exact Clk_releaseIfIdle w d
  | rmCheck => exact Clk_rmCheck w hs
  | startWork m o => exact Clk_startWork w m o hs
  | finishWork m o => exact Clk_finishWork w m o hs
  | schedUpdate s => exact Clk_schedUpdate w s true
  | periodicSense s => exact Clk_periodicSense w s
  | unknown n => exact Clk_setErr _ _

end C08S
end SimProc
