/-
C18W / C19W — machinery, part 6: the global invariant `GI` (every initialised scheduler satisfies
`SI`, every initialised periodic sensor `PI`, every initialised output-part sensor `OI`, the others
`SU` / `SensU`; the `.act` results are one block per `.schedUpdate` record, `AI`) and its preservation by frames
(`Fr`), by taking an event from the queue, by the transitions of schedulers and sensors.
-/
import SimProc.Proofs.C19WInv
import SimProc.Proofs.C15Lemmas
import SimProc.Proofs.WorldPres

namespace SimProc
namespace C19W
open World FloorCoreL C18W

/-! ### static conditions on a key -/

/-- Static conditions: `StatC`, durations and intervals are not negative. -/
structure SOK (c : TK) : Prop where
  statc : StatC c
  dur : ∀ sw ∈ c.scheds, ∀ p ∈ sw.s.tt, 0 ≤ p.1
  ivl : ∀ sw ∈ c.sensors, sw.s.kind = .periodic → 0 ≤ sw.s.interval

theorem SOK.of_sstat {a b : TK} (h : sstat b = sstat a) (hs : SOK a) : SOK b := by
  have h1 : b.scheds.map schedS = a.scheds.map schedS := congrArg (·.1) h
  have h2 : b.sensors.map sensS = a.sensors.map sensS := congrArg (·.2.1) h
  refine ⟨hs.statc.of_sstat h, ?_, ?_⟩
  · intro sw hsw p hp
    have : schedS sw ∈ a.scheds.map schedS := by rw [← h1]; exact List.mem_map_of_mem hsw
    obtain ⟨sw', hsw', he⟩ := List.mem_map.mp this
    have htt : sw'.s.tt = sw.s.tt := congrArg (·.2.1) he
    exact hs.dur sw' hsw' p (by rw [htt]; exact hp)
  · intro sw hsw hk
    have : sensS sw ∈ a.sensors.map sensS := by rw [← h2]; exact List.mem_map_of_mem hsw
    obtain ⟨sw', hsw', he⟩ := List.mem_map.mp this
    have hk' : sw'.s.kind = sw.s.kind := congrArg (·.2.2.2.2.1) he
    have hi' : sw'.s.interval = sw.s.interval := congrArg (·.2.2.2.2.2.1) he
    rw [← hi']
    exact hs.ivl sw' hsw' (by rw [hk']; exact hk)

theorem getD_mem {α} [Inhabited α] (l : List α) (i : Nat) (h : i < l.length) : l.getD i default ∈ l := by
  rw [List.getD_eq_getElem?_getD, List.getElem?_eq_getElem h]
  exact List.getElem_mem h

theorem SOK.dur_at {c : TK} (h : SOK c) (s : Nat) :
    ∀ p ∈ (c.scheds.getD s default).s.tt, 0 ≤ p.1 := by
  by_cases hs : s < c.scheds.length
  · exact h.dur _ (getD_mem _ _ hs)
  · rw [List.getD_eq_getElem?_getD, List.getElem?_eq_none (Nat.le_of_not_lt hs)]
    intro p hp
    cases hp

theorem SOK.ivl_at {c : TK} (h : SOK c) (s : Nat)
    (hk : (c.sensors.getD s default).s.kind = .periodic) :
    0 ≤ (c.sensors.getD s default).s.interval := by
  by_cases hs : s < c.sensors.length
  · exact h.ivl _ (getD_mem _ _ hs) hk
  · rw [List.getD_eq_getElem?_getD, List.getElem?_eq_none (Nat.le_of_not_lt hs)]
    decide

theorem lengths_of_sstat {a b : TK} (h : sstat b = sstat a) :
    b.scheds.length = a.scheds.length ∧ b.sensors.length = a.sensors.length ∧
    b.dk.length = a.dk.length := by
  have h1 : b.scheds.map schedS = a.scheds.map schedS := congrArg (·.1) h
  have h2 : b.sensors.map sensS = a.sensors.map sensS := congrArg (·.2.1) h
  have h3 : b.dk.map (·.1) = a.dk.map (·.1) := congrArg (·.2.2.1) h
  have := congrArg List.length h1
  have := congrArg List.length h2
  have := congrArg List.length h3
  simp only [List.length_map] at *
  exact ⟨by assumption, by assumption, by assumption⟩

theorem sensS_of_sstat {a b : TK} (h : sstat b = sstat a) (s : Nat) :
    sensS (b.sensors.getD s default) = sensS (a.sensors.getD s default) := by
  have h2 : b.sensors.map sensS = a.sensors.map sensS := congrArg (·.2.1) h
  rw [← getD_map sensS, ← getD_map sensS, h2]

theorem kind_of_sstat {a b : TK} (h : sstat b = sstat a) (s : Nat) :
    (b.sensors.getD s default).s.kind = (a.sensors.getD s default).s.kind :=
  congrArg (·.2.2.2.2.1) (sensS_of_sstat h s)

/-! ### the global invariant -/

/-- Parameters: initialisation time, the assets initialised so far. -/
structure Par where
  t0 : Int
  done : List AssetRef

def SchedInv (P : Par) (e : Env) (c : TK) (s : Nat) : Prop :=
  (s < c.scheds.length ∧ AssetRef.sched s ∈ P.done → SI P.t0 e c s) ∧
  (¬ (s < c.scheds.length ∧ AssetRef.sched s ∈ P.done) → SU e c s)

def SensInv (P : Par) (e : Env) (c : TK) (s : Nat) : Prop :=
  (s < c.sensors.length ∧ AssetRef.sensor s ∈ P.done →
    ((c.sensors.getD s default).s.kind = .periodic → PI P.t0 e c s) ∧
    ((c.sensors.getD s default).s.kind = .output → OI e c s)) ∧
  (¬ (s < c.sensors.length ∧ AssetRef.sensor s ∈ P.done) → SensU e c s)

/-- The `.act` results of scheduler `s` are one block per `.schedUpdate` record `(t, state)`: for
some list of objects `(obj, override)` — the objects registered at that moment — one result
`.act s obj t state override` per object, in order. -/
def AI (c : TK) (s : Nat) : Prop :=
  ∃ regs : List (List (Nat × Option Nat)), regs.length = (schedLog c.recsT s).length ∧
    actLog c.resT s = (regs.zip (schedLog c.recsT s)).flatMap
      (fun x => x.1.map (fun p => Res.act s p.1 x.2.1 x.2.2 p.2))

theorem AI.congr {c c' : TK} {s : Nat} (h : AI c s) (h1 : schedLog c'.recsT s = schedLog c.recsT s)
    (h2 : actLog c'.resT s = actLog c.resT s) : AI c' s := by
  unfold AI
  rw [h1, h2]
  exact h

theorem actLog_act_self (l : List (Nat × Option Nat)) (s : Nat) (t st : Int) :
    actLog (l.map (fun p => Res.act s p.1 t st p.2)) s = l.map (fun p => Res.act s p.1 t st p.2) := by
  unfold actLog
  apply List.filter_eq_self.mpr
  intro r hr
  obtain ⟨c, _, rfl⟩ := List.mem_map.mp hr
  simp

theorem AI.asched {e : Env} {c : TK} {s' : Nat} {adv : Bool} {e' : Env} {c' : TK}
    (ha : ASched e c s' adv e' c') {s : Nat} (h : AI c s) : AI c' s := by
  by_cases hne : s = s'
  · subst hne
    cases ha with
    | none s2 hu => exact h.congr rfl rfl
    | some s2 st objs dur wt hu _ =>
      obtain ⟨regs, h1, h2⟩ := h
      refine ⟨regs ++ [objs], ?_, ?_⟩
      · show _ = (schedLog (c.recsT ++ _) s).length
        rw [schedLog_append]
        simp [schedLog, h1]
      · show actLog (c.resT ++ _) s = (List.zip _ (schedLog (c.recsT ++ _) s)).flatMap _
        rw [schedLog_append, actLog_append, actLog_act_self, h2]
        have hs1 : schedLog [Rec.schedUpdate s e.now st] s = [(e.now, st)] := by simp [schedLog]
        rw [hs1, List.zip_append h1, List.flatMap_append]
        simp
  · have hfr := ha.frame
    refine h.congr ?_ ?_
    · obtain ⟨l, hl, hr⟩ := hfr.recs
      rw [hl, schedLog_append]
      have : schedLog l s = [] := by
        unfold schedLog
        apply List.filterMap_eq_nil_iff.mpr
        intro r hm
        obtain ⟨t, st, rfl⟩ := hr r hm
        simp [Ne.symm hne]
      rw [this, List.append_nil]
    · obtain ⟨l, hl, hr⟩ := hfr.res
      rw [hl, actLog_append]
      have : actLog l s = [] := by
        unfold actLog
        apply filter_eq_nil_of_forall
        intro r hm
        obtain ⟨o, t, st, ovr, rfl⟩ := hr r hm
        simp [Ne.symm hne]
      rw [this, List.append_nil]

theorem AI.sensFrame {s' : Nat} {e : Env} {c : TK} {e' : Env} {c' : TK}
    (hfr : SensFrame s' e c e' c') {s : Nat} (h : AI c s) : AI c' s := by
  refine h.congr (by rw [hfr.recs]) ?_
  obtain ⟨l, hl, hr⟩ := hfr.res
  rw [hl, actLog_append]
  have : actLog l s = [] := by
    unfold actLog
    apply filter_eq_nil_of_forall
    intro r hm
    obtain ⟨cb, t, vals, rfl⟩ := hr r hm
    rfl
  rw [this, List.append_nil]

structure GI (P : Par) (e : Env) (c : TK) : Prop where
  sok : SOK c
  sched : ∀ s, SchedInv P e c s
  sens : ∀ s, SensInv P e c s
  acts : ∀ s, AI c s

/-! ### congruence -/

theorem SI.congr {t0 : Int} {e e' : Env} {c c' : TK} {s : Nat} (h : SI t0 e c s)
    (hsw : c'.scheds.getD s default = c.scheds.getD s default)
    (hlog : schedLog c'.recsT s = schedLog c.recsT s)
    (hev : e'.events.filter (suEv s) = e.events.filter (suEv s))
    (hpa : e'.paused.filter (suEv s) = e.paused.filter (suEv s)) (hnow : e.now ≤ e'.now) :
    SI t0 e' c' s := by
  unfold SI at h ⊢
  rw [hsw, hlog, hev, hpa]
  exact h.mono hnow

theorem SU.congr {e e' : Env} {c c' : TK} {s : Nat} (h : SU e c s)
    (hsw : c'.scheds.getD s default = c.scheds.getD s default)
    (hlog : schedLog c'.recsT s = schedLog c.recsT s)
    (hev : e'.events.filter (suEv s) = e.events.filter (suEv s))
    (hpa : e'.paused.filter (suEv s) = e.paused.filter (suEv s)) : SU e' c' s :=
  ⟨by rw [hsw]; exact h.idx, hlog.trans h.log, hev.trans h.ev, hpa.trans h.pa⟩

theorem SchedInv.congr {P : Par} {e e' : Env} {c c' : TK} {s : Nat} (h : SchedInv P e c s)
    (hlen : c'.scheds.length = c.scheds.length)
    (hsw : c'.scheds.getD s default = c.scheds.getD s default)
    (hlog : schedLog c'.recsT s = schedLog c.recsT s)
    (hev : e'.events.filter (suEv s) = e.events.filter (suEv s))
    (hpa : e'.paused.filter (suEv s) = e.paused.filter (suEv s)) (hnow : e.now ≤ e'.now) :
    SchedInv P e' c' s := by
  unfold SchedInv
  rw [hlen]
  exact ⟨fun hc => SI.congr (h.1 hc) hsw hlog hev hpa hnow, fun hc => SU.congr (h.2 hc) hsw hlog hev hpa⟩

theorem SensInv.congr {P : Par} {e e' : Env} {c c' : TK} {s : Nat} (h : SensInv P e c s)
    (hlen : c'.sensors.length = c.sensors.length)
    (hsw : c'.sensors.getD s default = c.sensors.getD s default)
    (hlog : senseLog c'.resT s = senseLog c.resT s)
    (hprod : ∀ x, prodLog c'.recsT x = prodLog c.recsT x)
    (hev : e'.events.filter (psEv s) = e.events.filter (psEv s))
    (hpa : e'.paused.filter (psEv s) = e.paused.filter (psEv s)) (hnow : e.now ≤ e'.now)
    (hfin : ∀ x, (c'.finS x).count s = (c.finS x).count s) (hdk : c'.dk.length = c.dk.length) :
    SensInv P e' c' s := by
  unfold SensInv
  rw [hlen, hsw]
  refine ⟨fun hc => ⟨fun hk => ((h.1 hc).1 hk).congr hsw hlog hev hpa hnow hfin,
    fun hk => ((h.1 hc).2 hk).congr hsw hlog (hprod _) hev hpa hfin hdk⟩,
    fun hc => (h.2 hc).congr (by rw [hsw]) hlog hev hpa hfin⟩

/-- The invariant looks at the queue only through the tracked events; the clock may advance. -/
theorem GI.env {P : Par} {e e' : Env} {c : TK} (h : GI P e c)
    (hev : e'.events.filter tracked = e.events.filter tracked)
    (hpa : e'.paused.filter tracked = e.paused.filter tracked) (hnow : e.now ≤ e'.now) :
    GI P e' c :=
  ⟨h.sok,
    fun s => (h.sched s).congr rfl rfl rfl (filter_sub_congr (fun _ => suEv_tracked) hev)
      (filter_sub_congr (fun _ => suEv_tracked) hpa) hnow,
    fun s => (h.sens s).congr rfl rfl rfl (fun _ => rfl) (filter_sub_congr (fun _ => psEv_tracked) hev)
      (filter_sub_congr (fun _ => psEv_tracked) hpa) hnow (fun _ => rfl) rfl, h.acts⟩

/-! ### abstract steps -/

theorem GI.cstep {P : Par} {e : Env} {a b : TK} (h : GI P e a) (hs : CStep a b) : GI P e b := by
  have hss := sstat_of_cstat hs.cstat
  obtain ⟨l1, l2, _⟩ := lengths_of_sstat hss
  refine ⟨h.sok.of_sstat hss, fun s => ?_, fun s => ?_,
    fun s => (h.acts s).congr (hs.sched_logs s).1 (hs.sched_logs s).2⟩
  · have hst := schedStat_of_cstat hs.cstat s
    unfold SchedInv
    rw [l1]
    exact ⟨fun hc => (h.sched s).1 hc |>.frame rfl rfl (Int.le_refl _) hst (hs.sched_logs s).1,
      fun hc => (h.sched s).2 hc |>.frame rfl rfl hst (hs.sched_logs s).1⟩
  · unfold SensInv
    rw [l2, kind_of_sstat hss s]
    refine ⟨fun hc => ⟨fun hk => CStep.pi hs hc.1 (((h.sens s).1 hc).1 hk),
      fun hk => CStep.oi hs hc.1 (((h.sens s).1 hc).2 hk)⟩, fun hc => CStep.sensU hs ((h.sens s).2 hc)⟩

theorem GI.crun {P : Par} {e : Env} {a b : TK} (h : GI P e a) (hs : CRun a b) : GI P e b :=
  CRun.preserve (P := GI P e) (fun hs h => h.cstep hs) hs h

/-! ### from the invariant to the static conditions of the frame relation -/

theorem mem_ta_sched {c : TK} {s : Nat} (h : s < c.scheds.length) :
    (c.scheds.getD s default).aid ∈ c.ta :=
  List.mem_append.mpr (Or.inl (List.mem_map_of_mem (getD_mem _ _ h)))

theorem mem_ta_sensor {c : TK} {s : Nat} (h : s < c.sensors.length) :
    (c.sensors.getD s default).aid ∈ c.ta :=
  List.mem_append.mpr (Or.inr (List.mem_map_of_mem (getD_mem _ _ h)))

theorem tracked_cases {x : Event} (h : tracked x = true) :
    suEv (x.act / 16) x = true ∨ psEv (x.act / 16) x = true := by
  simp only [tracked, trackedNat, Bool.or_eq_true, beq_iff_eq] at h
  rcases h with h | h
  · left; simp only [suEv, beq_iff_eq]; omega
  · right; simp only [psEv, beq_iff_eq]; omega

/-- Every tracked event in the queue (or paused) is the pending event of an initialised scheduler
or periodic sensor. -/
theorem GI.owner {P : Par} {e : Env} {c : TK} (h : GI P e c) {x : Event}
    (hx : x ∈ e.events ++ e.paused) (ht : tracked x = true) :
    (∃ s, suEv s x = true ∧ s < c.scheds.length ∧ AssetRef.sched s ∈ P.done ∧ x ∈ e.events ∧
      x.asset = (c.scheds.getD s default).aid) ∨
    (∃ s, psEv s x = true ∧ s < c.sensors.length ∧ AssetRef.sensor s ∈ P.done ∧ x ∈ e.events ∧
      (c.sensors.getD s default).s.kind = .periodic ∧ x.asset = (c.sensors.getD s default).aid) := by
  have hmem : ∀ p : Event → Bool, p x = true →
      x ∈ e.events.filter p ∨ x ∈ e.paused.filter p := by
    intro p hp
    rcases List.mem_append.mp hx with h1 | h1
    · exact Or.inl (List.mem_filter.mpr ⟨h1, hp⟩)
    · exact Or.inr (List.mem_filter.mpr ⟨h1, hp⟩)
  rcases tracked_cases ht with hs | hs
  · left
    refine ⟨x.act / 16, hs, ?_⟩
    by_cases hc : x.act / 16 < c.scheds.length ∧ AssetRef.sched (x.act / 16) ∈ P.done
    · have hsi := (h.sched _).1 hc
      unfold SI at hsi
      by_cases hlt : (c.scheds.getD (x.act / 16) default).s.idx <
          (c.scheds.getD (x.act / 16) default).s.tt.length
      · obtain ⟨_, _, _, ⟨e0, h1, _, _, h4, _⟩, h6⟩ := hsi.running hlt
        rcases hmem _ hs with hm | hm
        · rw [h1] at hm
          simp only [List.mem_singleton] at hm
          subst hm
          have : x ∈ e.events.filter (suEv (x.act / 16)) := by rw [h1]; simp
          exact ⟨hc.1, hc.2, (List.mem_filter.mp this).1, h4⟩
        · rw [h6] at hm; cases hm
      · obtain ⟨h1, h2, _⟩ := hsi.ended (Nat.le_of_not_lt hlt)
        rcases hmem _ hs with hm | hm
        · rw [h1] at hm; cases hm
        · rw [h2] at hm; cases hm
    · have hsu := (h.sched _).2 hc
      rcases hmem _ hs with hm | hm
      · rw [hsu.ev] at hm; cases hm
      · rw [hsu.pa] at hm; cases hm
  · right
    refine ⟨x.act / 16, hs, ?_⟩
    by_cases hc : x.act / 16 < c.sensors.length ∧ AssetRef.sensor (x.act / 16) ∈ P.done
    · cases hk : (c.sensors.getD (x.act / 16) default).s.kind with
      | periodic =>
        obtain ⟨log, _, _, _, _, _, _, ⟨e0, h1, _, _, h4, _⟩, h6⟩ := (((h.sens _).1 hc).1 hk).ex
        rcases hmem _ hs with hm | hm
        · rw [h1] at hm
          simp only [List.mem_singleton] at hm
          subst hm
          have : x ∈ e.events.filter (psEv (x.act / 16)) := by rw [h1]; simp
          exact ⟨hc.1, hc.2, (List.mem_filter.mp this).1, rfl, h4⟩
        · rw [h6] at hm; cases hm
      | output =>
        have hoi := ((h.sens _).1 hc).2 hk
        rcases hmem _ hs with hm | hm
        · rw [hoi.ev] at hm; cases hm
        · rw [hoi.pa] at hm; cases hm
    · have hsu := (h.sens _).2 hc
      rcases hmem _ hs with hm | hm
      · rw [hsu.ev] at hm; cases hm
      · rw [hsu.pa] at hm; cases hm

theorem GI.qi {P : Par} {e : Env} {c : TK} (h : GI P e c) : QI c.ta e := by
  intro x hx ht
  rcases h.owner hx ht with ⟨s, _, h2, _, _, h5⟩ | ⟨s, _, h2, _, _, _, h6⟩
  · rw [h5]; exact mem_ta_sched h2
  · rw [h6]; exact mem_ta_sensor h2

theorem GI.stat {P : Par} {w : World} (h : GI P w.env (tk w)) : Stat w := ⟨h.sok.statc, h.qi⟩

/-- **Frames keep the invariant.** -/
theorem GI.fr {P : Par} {w w' : World} (h : GI P w.env (tk w)) (hi : C01.Inv w.env) (hf : Fr w w') :
    GI P w'.env (tk w') ∧ C01.Inv w'.env ∧ w'.now = w.now := by
  obtain ⟨he, hc⟩ := hf h.stat
  obtain ⟨f1, f2, _⟩ := he.filters h.qi
  have hn : w'.env.now = w.env.now := he.now
  exact ⟨(h.env f1 f2 (by rw [hn]; exact Int.le_refl _)).crun hc, he.inv hi, hn⟩

/-! ### action codes -/

theorem ofNat_su (s : Nat) : Action.ofNat (9 + 16 * s) = .schedUpdate s := by
  have h1 : (9 + 16 * s) % 16 = 9 := by omega
  have h2 : (9 + 16 * s) / 16 = s := by omega
  simp [Action.ofNat, h1, h2]

theorem ofNat_ps (s : Nat) : Action.ofNat (10 + 16 * s) = .periodicSense s := by
  have h1 : (10 + 16 * s) % 16 = 10 := by omega
  have h2 : (10 + 16 * s) / 16 = s := by omega
  simp [Action.ofNat, h1, h2]

theorem isTrackedAct_ofNat {n : Nat} (h : trackedNat n = false) : isTrackedAct (Action.ofNat n) = false := by
  have hlt : n % 16 < 16 := Nat.mod_lt _ (by decide)
  simp only [trackedNat, Bool.or_eq_false_iff, beq_eq_false_iff_ne, ne_eq] at h
  unfold Action.ofNat
  simp only []
  split <;> first | rfl | (split <;> rfl) | omega

/-! ### taking an event from the queue -/

/-- the queue after `Env.step` -/
def popEnv (e : Env) (ev : Event) (es : List Event) : Env :=
  { e with now := ev.time, events := es,
           terminated := e.terminated || (ev.live && ev.act == terminateAct) }

theorem filter_pop {e : Env} {ev : Event} {es : List Event} (he : e.events = ev :: es)
    (p : Event → Bool) (hp : p ev = false) :
    (popEnv e ev es).events.filter p = e.events.filter p := by
  rw [he, List.filter_cons]
  simp [hp, popEnv]

theorem GI.pop_untracked {P : Par} {e : Env} {c : TK} (h : GI P e c) (hi : C01.Inv e)
    {ev : Event} {es : List Event} (he : e.events = ev :: es) (ht : tracked ev = false) :
    GI P (popEnv e ev es) c :=
  h.env (filter_pop he _ ht) rfl (hi.future ev (by rw [he]; exact List.mem_cons_self))


theorem suEv_ne {s s' : Nat} (hne : s' ≠ s) {x : Event} (h : suEv s x = true) : suEv s' x = false := by
  have h1 : x.act = 9 + 16 * s := by simpa [suEv] using h
  simp only [suEv, h1, beq_eq_false_iff_ne, ne_eq]
  omega

/-- A scheduler transition: the head of the queue is the event of scheduler `s`. -/
theorem GI.sched_adv {P : Par} {e : Env} {c : TK} (h : GI P e c) (hi : C01.Inv e)
    {ev : Event} {es : List Event} (he : e.events = ev :: es) {s : Nat} (hs : suEv s ev = true)
    {e' : Env} {c' : TK} (ha : ASched (popEnv e ev es) c s true e' c') : GI P e' c' := by
  have hnow : e.now ≤ ev.time := hi.future ev (by rw [he]; exact List.mem_cons_self)
  have hown := h.owner (x := ev) (by rw [he]; simp) (suEv_tracked hs)
  have hc : s < c.scheds.length ∧ AssetRef.sched s ∈ P.done := by
    rcases hown with ⟨s', h1, h2, h3, _⟩ | ⟨s', h1, _⟩
    · have : s' = s := by
        have a1 : ev.act = 9 + 16 * s := by simpa [suEv] using hs
        have a2 : ev.act = 9 + 16 * s' := by simpa [suEv] using h1
        omega
      subst this; exact ⟨h2, h3⟩
    · rw [suEv_not_psEv h1] at hs; cases hs
  obtain ⟨hmid, _, _⟩ := ((h.sched s).1 hc).pop he hs (e.terminated || (ev.live && ev.act == terminateAct))
  have hfr := ha.frame
  obtain ⟨l1, l2, l3⟩ := lengths_of_sstat hfr.sstat
  refine ⟨h.sok.of_sstat hfr.sstat, fun s' => ?_, fun s' => ?_, fun s' => (h.acts s').asched ha⟩
  · by_cases hne : s' = s
    · subst hne
      unfold SchedInv
      rw [l1]
      exact ⟨fun _ => SI_advance hmid hc.1 (h.sok.dur_at s') ha, fun hn => absurd hc hn⟩
    · have h1 : SchedInv P (popEnv e ev es) c s' :=
        (h.sched s').congr rfl rfl rfl (filter_pop he _ (suEv_ne hne hs)) rfl hnow
      unfold SchedInv at h1 ⊢
      rw [l1]
      exact ⟨fun hc' => hfr.si hne (h1.1 hc'), fun hc' => hfr.su hne (h1.2 hc')⟩
  · have h1 : SensInv P (popEnv e ev es) c s' :=
      (h.sens s').congr rfl rfl rfl (fun _ => rfl) (filter_pop he _ (psEv_not_suEv hs)) rfl hnow
        (fun _ => rfl) rfl
    unfold SensInv at h1 ⊢
    rw [l2, hfr.sensors]
    exact ⟨fun hc' => ⟨fun hk => schedFrame_pi hfr ((h1.1 hc').1 hk),
      fun hk => schedFrame_oi hfr ((h1.1 hc').2 hk)⟩, fun hc' => schedFrame_sensU hfr (h1.2 hc')⟩

/-- A periodic measurement: the head of the queue is the event of sensor `s`. -/
theorem GI.sense_adv {P : Par} {e : Env} {c : TK} (h : GI P e c) (hi : C01.Inv e)
    {ev : Event} {es : List Event} (he : e.events = ev :: es) {s : Nat} (hs : psEv s ev = true)
    {vals : List Int} (hv : vals.length = (c.sensors.getD s default).vars.length)
    {e' : Env} {c' : TK} (ha : APSense (popEnv e ev es) c s vals e' c') : GI P e' c' := by
  have hnow : e.now ≤ ev.time := hi.future ev (by rw [he]; exact List.mem_cons_self)
  have hown := h.owner (x := ev) (by rw [he]; simp) (psEv_tracked hs)
  have hc : s < c.sensors.length ∧ AssetRef.sensor s ∈ P.done ∧
      (c.sensors.getD s default).s.kind = .periodic := by
    rcases hown with ⟨s', h1, _⟩ | ⟨s', h1, h2, h3, _, h5, _⟩
    · rw [psEv_not_suEv h1] at hs; cases hs
    · have : s' = s := by
        have a1 : ev.act = 10 + 16 * s := by simpa [psEv] using hs
        have a2 : ev.act = 10 + 16 * s' := by simpa [psEv] using h1
        omega
      subst this; exact ⟨h2, h3, h5⟩
  obtain ⟨hmid, _, _⟩ := (((h.sens s).1 ⟨hc.1, hc.2.1⟩).1 hc.2.2).pop he hs hnow
    (e.terminated || (ev.live && ev.act == terminateAct))
  have hfr := ha.frame
  obtain ⟨l1, l2, l3⟩ := lengths_of_sstat hfr.sstat
  refine ⟨h.sok.of_sstat hfr.sstat, fun s' => ?_, fun s' => ?_, fun s' => (h.acts s').sensFrame hfr⟩
  · have h1 : SchedInv P (popEnv e ev es) c s' :=
      (h.sched s').congr rfl rfl rfl (filter_pop he _ (suEv_not_psEv hs)) rfl hnow
    unfold SchedInv at h1 ⊢
    rw [l1]
    exact ⟨fun hc' => hfr.si (h1.1 hc'), fun hc' => hfr.su (h1.2 hc')⟩
  · by_cases hne : s' = s
    · subst hne
      unfold SensInv
      rw [l2, kind_of_sstat hfr.sstat s']
      exact ⟨fun _ => ⟨fun _ => PI_advance hmid hc.1 hv ha, fun hk => by rw [hc.2.2] at hk; cases hk⟩,
        fun hn => absurd ⟨hc.1, hc.2.1⟩ hn⟩
    · have h1 : SensInv P (popEnv e ev es) c s' :=
        (h.sens s').congr rfl rfl rfl (fun _ => rfl) (filter_pop he _ (psEv_ne hne hs)) rfl hnow
          (fun _ => rfl) rfl
      unfold SensInv at h1 ⊢
      rw [l2, hfr.sensors s' hne]
      exact ⟨fun hc' => ⟨fun hk => hfr.pi hne ((h1.1 hc').1 hk),
        fun hk => hfr.oi hne ((h1.1 hc').2 hk)⟩, fun hc' => hfr.sensU hne (h1.2 hc')⟩

/-! ### initialisation writes no `produced` record -/

theorem scheduleFinish_recs (w : World) (x : Nat) (hk : (w.dev x).kind ≠ .processor) :
    (w.scheduleFinish x).recs = w.recs := by
  have hst : ∀ d : Dev, d.kind = (w.dev x).kind → d.down = (w.dev x).down → d.group = (w.dev x).group →
      d.maxParts = (w.dev x).maxParts → d.produced = (w.dev x).produced →
      ((w.setDev x d).dev x).kind ≠ .processor := by
    intro d h1 h2 h3 h4 h5
    rw [C02V.kind_of_st (C02V.st_setDev_same _ _ _ (by simp [C02V.tdev, h1, h2, h3, h4, h5]))]
    exact hk
  unfold scheduleFinish
  dsimp only
  repeat' split
  all_goals first
    | (refine (C15.finishCycle_other_recs _ _ ?_).trans rfl; exact hst _ rfl rfl rfl rfl rfl)
    | exact C15.RN_recs (by rw [C15.RN_schedLib]; rfl)

theorem initDev_recs (w : World) (x : Nat) : (w.initDev x).recs = w.recs := by
  rw [C02V.initDev_eq]
  split
  · rfl
  · rfl
  · rfl
  · rfl
  · exact C15.RN_recs (by simp [C02V.initFlag])
  · rename_i hk
    rw [scheduleFinish_recs]
    · exact C15.RN_recs (by simp [C02V.initFlag])
    · rw [C02V.kind_of_st (C02V.st_setWaiting ..), hk]
      decide
  · exact C15.RN_recs (by simp [C02V.initFlag])

/-! ### initialisation -/

/-- No part has been produced yet. -/
def NoProd (c : TK) : Prop := ∀ x, prodLog c.recsT x = []

theorem mem_done_append {a b : AssetRef} {l : List AssetRef} (h : a ≠ b) :
    a ∈ l ++ [b] ↔ a ∈ l := by
  simp [h]

/-- Marking an asset that is neither an existing scheduler nor an existing sensor as initialised
changes nothing. -/
theorem GI.add_done {P : Par} {e : Env} {c : TK} (h : GI P e c) (a : AssetRef)
    (h1 : ∀ s, a = .sched s → c.scheds.length ≤ s) (h2 : ∀ s, a = .sensor s → c.sensors.length ≤ s) :
    GI { P with done := P.done ++ [a] } e c := by
  refine ⟨h.sok, fun s => ?_, fun s => ?_, h.acts⟩
  · unfold SchedInv
    dsimp only
    by_cases ha : a = .sched s
    · have := h1 s ha
      have hn : ¬ (s < c.scheds.length ∧ AssetRef.sched s ∈ P.done) := fun hc => by omega
      exact ⟨fun hc => by omega, fun _ => (h.sched s).2 hn⟩
    · rw [mem_done_append (Ne.symm ha)]
      exact h.sched s
  · unfold SensInv
    dsimp only
    by_cases ha : a = .sensor s
    · have := h2 s ha
      have hn : ¬ (s < c.sensors.length ∧ AssetRef.sensor s ∈ P.done) := fun hc => by omega
      exact ⟨fun hc => by omega, fun _ => (h.sens s).2 hn⟩
    · rw [mem_done_append (Ne.symm ha)]
      exact h.sens s

/-- Initialisation of scheduler `s`. -/
theorem GI.sched_start {P : Par} {e : Env} {c : TK} (h : GI P e c) {s : Nat}
    (hs : s < c.scheds.length) (hn : AssetRef.sched s ∉ P.done) (ht : P.t0 = e.now)
    {e' : Env} {c' : TK} (ha : ASched e c s false e' c') :
    GI { P with done := P.done ++ [.sched s] } e' c' := by
  have hfr := ha.frame
  obtain ⟨l1, l2, l3⟩ := lengths_of_sstat hfr.sstat
  refine ⟨h.sok.of_sstat hfr.sstat, fun s' => ?_, fun s' => ?_, fun s' => (h.acts s').asched ha⟩
  · unfold SchedInv
    dsimp only
    rw [l1]
    by_cases hne : s' = s
    · subst hne
      have hsu := (h.sched s').2 (fun hc => hn hc.2)
      refine ⟨fun _ => ?_, fun hc => absurd ⟨hs, by simp⟩ hc⟩
      rw [ht]
      exact SI_start hsu hs ha
    · have : AssetRef.sched s' ≠ AssetRef.sched s := fun he => hne (by injection he)
      rw [mem_done_append this]
      exact ⟨fun hc => hfr.si hne ((h.sched s').1 hc), fun hc => hfr.su hne ((h.sched s').2 hc)⟩
  · unfold SensInv
    dsimp only
    have : AssetRef.sensor s' ≠ AssetRef.sched s := fun he => by cases he
    rw [mem_done_append this, l2, hfr.sensors]
    exact ⟨fun hc => ⟨fun hk => schedFrame_pi hfr (((h.sens s').1 hc).1 hk),
      fun hk => schedFrame_oi hfr (((h.sens s').1 hc).2 hk)⟩,
      fun hc => schedFrame_sensU hfr ((h.sens s').2 hc)⟩

/-- Initialisation of sensor `s`. -/
theorem GI.sens_start {P : Par} {e : Env} {c : TK} (h : GI P e c) {s : Nat}
    (hs : s < c.sensors.length) (hn : AssetRef.sensor s ∉ P.done) (ht : P.t0 = e.now)
    (hp : NoProd c) {e' : Env} {c' : TK} (ha : AInitSens e c s e' c') :
    GI { P with done := P.done ++ [.sensor s] } e' c' := by
  have hfr := ha.frame
  obtain ⟨l1, l2, l3⟩ := lengths_of_sstat hfr.sstat
  refine ⟨h.sok.of_sstat hfr.sstat, fun s' => ?_, fun s' => ?_, fun s' => (h.acts s').sensFrame hfr⟩
  · unfold SchedInv
    dsimp only
    have : AssetRef.sched s' ≠ AssetRef.sensor s := fun he => by cases he
    rw [mem_done_append this, l1]
    exact ⟨fun hc => hfr.si ((h.sched s').1 hc), fun hc => hfr.su ((h.sched s').2 hc)⟩
  · unfold SensInv
    dsimp only
    rw [l2]
    by_cases hne : s' = s
    · subst hne
      have hsu := (h.sens s').2 (fun hc => hn hc.2)
      rw [kind_of_sstat hfr.sstat s']
      refine ⟨fun _ => ⟨fun hk => ?_, fun hk => ?_⟩, fun hc => absurd ⟨hs, by simp⟩ hc⟩
      · rw [ht]; exact PI_start hsu hs hk ha
      · exact OI_start hsu hs hk (hp _) ha
    · have : AssetRef.sensor s' ≠ AssetRef.sensor s := fun he => hne (by injection he)
      rw [mem_done_append this, hfr.sensors s' hne]
      exact ⟨fun hc => ⟨fun hk => hfr.pi hne (((h.sens s').1 hc).1 hk),
        fun hk => hfr.oi hne (((h.sens s').1 hc).2 hk)⟩, fun hc => hfr.sensU hne ((h.sens s').2 hc)⟩


/-! ### the world: initialisation -/

theorem prodLog_tk (w : World) (x : Nat) : prodLog (tk w).recsT x = prodLog w.recs x :=
  prodLog_filter w.recs x

theorem noProd_of_recs {w w' : World} (h : w'.recs = w.recs) (hp : NoProd (tk w)) : NoProd (tk w') := by
  intro x
  rw [prodLog_tk, h, ← prodLog_tk]
  exact hp x

theorem prodLog_stamp (t : Int) (recs : List ResRec) (x : Nat) : prodLog (C15.stamp t recs) x = [] := by
  unfold prodLog C15.stamp
  apply List.filterMap_eq_nil_iff.mpr
  intro r hr
  obtain ⟨a, _, rfl⟩ := List.mem_map.mp hr
  rfl

/-- The type of the static part of a key. -/
abbrev SStat := List (Int × List (Int × Int) × Bool) ×
  List (Int × List Nat × Nat × List Nat × SensorKind × Int × Option Nat × Nat) × List Int × List (List Op)

/-- The invariant of the initialisation phase. -/
structure GInit (S0 : SStat) (P : Par) (w : World) : Prop where
  gi : GI P w.env (tk w)
  inv : C01.Inv w.env
  np : NoProd (tk w)
  now : P.t0 = w.now
  ss : sstat (tk w) = S0

theorem sstat_of_fr {w w' : World} (g : Stat w) (hf : Fr w w') : sstat (tk w') = sstat (tk w) :=
  sstat_of_cstat (hf g).2.cstat

theorem GInit.fr {S0 : SStat} {P : Par} {w w' : World} (h : GInit S0 P w) (hf : Fr w w')
    (hr : NoProd (tk w')) : GInit S0 P w' := by
  obtain ⟨h1, h2, h3⟩ := h.gi.fr h.inv hf
  exact ⟨h1, h2, hr, by rw [h3]; exact h.now, (sstat_of_fr h.gi.stat hf).trans h.ss⟩

/-- One `initialize` call of `System.simulate`. -/
theorem GInit.initAsset {S0 : SStat} {P : Par} {w : World} (h : GInit S0 P w) (a : AssetRef)
    (hn : a ∉ P.done) (h1 : ∀ s, a = .sched s → s < w.scheds.length)
    (h2 : ∀ s, a = .sensor s → s < w.sensors.length) :
    GInit S0 { P with done := P.done ++ [a] } (w.initAsset a) := by
  have hadd : ∀ w' : World, GInit S0 P w' → (∀ s, a ≠ .sched s) → (∀ s, a ≠ .sensor s) →
      GInit S0 { P with done := P.done ++ [a] } w' := by
    intro w' h' n1 n2
    exact ⟨h'.gi.add_done a (fun s he => absurd he (n1 s)) (fun s he => absurd he (n2 s)), h'.inv,
      h'.np, h'.now, h'.ss⟩
  cases a with
  | dev d =>
    refine hadd _ (h.fr (Fr.floor.initDev w d) (noProd_of_recs (initDev_recs w d) h.np))
      (fun s he => by cases he) (fun s he => by cases he)
  | maint m =>
    refine hadd _ (h.fr (Fr.of_view rfl) (noProd_of_recs rfl h.np))
      (fun s he => by cases he) (fun s he => by cases he)
  | cms c =>
    exact hadd _ h (fun s he => by cases he) (fun s he => by cases he)
  | sched s =>
    have hs : s < (tk w).scheds.length := h1 s rfl
    have ha := schedUpdate_refines w s false (h.gi.sok.dur_at s)
    have hfr := ha.frame
    refine ⟨h.gi.sched_start hs hn h.now ha, hfr.inv h.inv, ?_, ?_, hfr.sstat.trans h.ss⟩
    · intro x
      show prodLog (tk (w.schedUpdate s false)).recsT x = []
      rw [schedFrame_prodLog hfr]; exact h.np x
    · show P.t0 = (w.schedUpdate s false).env.now
      rw [hfr.now]; exact h.now
  | sensor s =>
    have hs : s < (tk w).sensors.length := h2 s rfl
    have ha := initSensor_refines w s (fun hk => h.gi.sok.ivl_at s hk)
    have hfr := ha.frame
    refine ⟨h.gi.sens_start hs hn h.now h.np ha, hfr.inv h.inv, ?_, ?_, hfr.sstat.trans h.ss⟩
    · intro x
      rw [hfr.recs]; exact h.np x
    · show P.t0 = (w.initAsset (.sensor s)).env.now
      rw [hfr.now]; exact h.now

theorem GInit.lengths {S0 : SStat} {P : Par} {w : World} (h : GInit S0 P w) :
    w.scheds.length = S0.1.length ∧ w.sensors.length = S0.2.1.length := by
  have h1 : (tk w).scheds.map schedS = S0.1 := congrArg (·.1) h.ss
  have h2 : (tk w).sensors.map sensS = S0.2.1 := congrArg (·.2.1) h.ss
  have := congrArg List.length h1
  have := congrArg List.length h2
  simp only [List.length_map] at *
  exact ⟨by assumption, by assumption⟩

/-- The loop over the registered assets. -/
theorem GInit.foldl {S0 : SStat} (l : List AssetRef) : ∀ (P : Par) (w : World), GInit S0 P w →
    l.Nodup → (∀ a ∈ l, a ∉ P.done) → (∀ s, AssetRef.sched s ∈ l → s < S0.1.length) →
    (∀ s, AssetRef.sensor s ∈ l → s < S0.2.1.length) →
    GInit S0 { P with done := P.done ++ l } (l.foldl (fun w a => w.initAsset a) w) := by
  induction l with
  | nil => intro P w h _ _ _ _; simpa using h
  | cons a l ih =>
    intro P w h hnd hn h1 h2
    rw [List.foldl_cons]
    have hl := h.lengths
    have hstep := h.initAsset a (hn a List.mem_cons_self)
      (fun s he => by rw [hl.1]; exact h1 s (by rw [he]; exact List.mem_cons_self))
      (fun s he => by rw [hl.2]; exact h2 s (by rw [he]; exact List.mem_cons_self))
    have hnd' := List.nodup_cons.mp hnd
    have := ih _ _ hstep hnd'.2 ?_ (fun s hs => h1 s (List.mem_cons_of_mem _ hs))
      (fun s hs => h2 s (List.mem_cons_of_mem _ hs))
    · simpa [List.append_assoc] using this
    · intro b hb hm
      rcases List.mem_append.mp hm with hm | hm
      · exact hn b (List.mem_cons_of_mem _ hb) hm
      · simp only [List.mem_singleton] at hm
        subst hm
        exact hnd'.1 hb


end C19W

/-! ### the static class, fresh worlds, reachable worlds -/

namespace C18W
open World FloorCoreL

/-- A registered asset refers to an existing scheduler / sensor. -/
def refOK (w : World) : AssetRef → Bool
  | .sched s => decide (s < w.scheds.length)
  | .sensor s => decide (s < w.sensors.length)
  | _ => true

/-- **The static class.**  The asset ids of schedulers and sensors differ from 0 and from every
device id; the scripts neither pause / resume / cancel those ids nor create assets; durations in
timetables and intervals of periodic sensors are not negative; every asset is registered once
and scheduler / sensor entries refer to existing schedulers / sensors. -/
structure Static (w : World) : Prop where
  aids : ∀ a ∈ (tk w).ta, a ≠ 0 ∧ ∀ d ∈ w.devs, d.aid ≠ a
  scr : ∀ l ∈ w.scripts, ∀ op ∈ l, opOK (tk w).ta op = true
  dur : ∀ sw ∈ w.scheds, ∀ p ∈ sw.s.tt, 0 ≤ p.1
  ivl : ∀ sw ∈ w.sensors, sw.s.kind = .periodic → 0 ≤ sw.s.interval
  nodup : w.assets.Nodup
  refs : ∀ a ∈ w.assets, refOK w a = true

/-- **A fresh world**: not started, a consistent event queue without events of schedulers or
sensors, schedulers at position 0, sensors not yet registered with their machines, no
`.schedUpdate` / `produced` records and no `.act` / `.sense` results yet. -/
structure Fresh (w : World) : Prop where
  notStarted : w.started = false
  queue : C01.Inv w.env
  noTracked : ∀ e ∈ w.env.events ++ w.env.paused, tracked e = false
  idx : ∀ sw ∈ w.scheds, sw.s.idx = 0
  unreg : ∀ sw ∈ w.sensors, sw.registered = false
  noFin : ∀ d ∈ w.devs, d.finSensors = []
  recs : ∀ r ∈ w.recs, trackedRec r = false
  results : ∀ r ∈ w.results, trackedRes r = false

/-- The states reachable from `w0`: initialise, then any sequence of steps of the event loop,
whole runs and scripted operations of the static class issued from outside. -/
inductive Reachable (w0 : World) : World → Prop where
  | init : Reachable w0 w0.simulateInit
  | step {w w' : World} {e : Event} : Reachable w0 w → w.step = some (e, w') → Reachable w0 w'
  | run {w : World} (n : Nat) : Reachable w0 w → Reachable w0 (runLoop n w)
  | runBegin {w : World} (d : Int) : Reachable w0 w → Reachable w0 (w.runBegin d).1
  | ops {w : World} (ops : List Op) : Reachable w0 w →
      (∀ op ∈ ops, opOK (tk w0).ta op = true) → Reachable w0 (w.applyOps ops)

end C18W

namespace C19W
open World FloorCoreL C18W

theorem filter_nil_of_untracked {l : List Event} (h : ∀ e ∈ l, tracked e = false) {p : Event → Bool}
    (hp : ∀ e, p e = true → tracked e = true) : l.filter p = [] := by
  apply filter_eq_nil_of_forall
  intro e he
  cases hpe : p e with
  | false => rfl
  | true =>
    have h1 := h e he
    rw [hp e hpe] at h1
    cases h1

theorem SOK.of_static {w : World} (h : Static w) : SOK (tk w) := by
  refine ⟨⟨?_, h.scr⟩, h.dur, h.ivl⟩
  intro a ha
  refine ⟨(h.aids a ha).1, fun k hk => ?_⟩
  obtain ⟨d, hd, rfl⟩ := List.mem_map.mp hk
  exact (h.aids a ha).2 d hd

theorem getD_mem_or_default {α} [Inhabited α] (l : List α) (i : Nat) :
    l.getD i default ∈ l ∨ l.getD i default = default := by
  by_cases h : i < l.length
  · exact Or.inl (getD_mem l i h)
  · right
    rw [List.getD_eq_getElem?_getD, List.getElem?_eq_none (Nat.le_of_not_lt h)]
    rfl

/-- The invariant holds in a fresh world of the static class (nothing initialised). -/
theorem gi_fresh {w : World} (hs : Static w) (hf : Fresh w) : GI ⟨w.now, []⟩ w.env (tk w) := by
  have hev : ∀ e ∈ w.env.events, tracked e = false :=
    fun e he => hf.noTracked e (List.mem_append.mpr (Or.inl he))
  have hpa : ∀ e ∈ w.env.paused, tracked e = false :=
    fun e he => hf.noTracked e (List.mem_append.mpr (Or.inr he))
  have hlog0 : ∀ s, schedLog (tk w).recsT s = [] := by
    intro s
    rw [show (tk w).recsT = w.recs.filter trackedRec from rfl, schedLog_filter]
    unfold schedLog
    apply List.filterMap_eq_nil_iff.mpr
    intro r hr
    have := hf.recs r hr
    cases r <;> simp [trackedRec] at this ⊢
  have hact0 : ∀ s, actLog (tk w).resT s = [] := by
    intro s
    rw [show (tk w).resT = w.results.filter trackedRes from rfl, actLog_filter]
    unfold actLog
    apply filter_eq_nil_of_forall
    intro r hr
    have := hf.results r hr
    cases r <;> simp [trackedRes] at this ⊢
  refine ⟨SOK.of_static hs, fun s => ⟨fun hc => by simp at hc, fun _ => ?_⟩,
    fun s => ⟨fun hc => by simp at hc, fun _ => ?_⟩,
    fun s => ⟨[], by rw [hlog0]; rfl, by rw [hlog0, hact0]; rfl⟩⟩
  · refine ⟨?_, ?_, filter_nil_of_untracked hev (fun _ => suEv_tracked),
      filter_nil_of_untracked hpa (fun _ => suEv_tracked)⟩
    · rcases getD_mem_or_default w.scheds s with h | h
      · exact hf.idx _ h
      · show (w.scheds.getD s default).s.idx = 0
        rw [h]; rfl
    · rw [show (tk w).recsT = w.recs.filter trackedRec from rfl, schedLog_filter]
      unfold schedLog
      apply List.filterMap_eq_nil_iff.mpr
      intro r hr
      have := hf.recs r hr
      cases r <;> simp [trackedRec] at this ⊢
  · refine ⟨filter_nil_of_untracked hev (fun _ => psEv_tracked),
      filter_nil_of_untracked hpa (fun _ => psEv_tracked), ?_, ?_, ?_⟩
    · rw [show (tk w).resT = w.results.filter trackedRes from rfl, senseLog_filter]
      unfold senseLog
      apply filter_eq_nil_of_forall
      intro r hr
      have := hf.results r hr
      cases r <;> simp [trackedRes] at this ⊢
    · rcases getD_mem_or_default w.sensors s with h | h
      · exact hf.unreg _ h
      · show (w.sensors.getD s default).registered = false
        rw [h]; rfl
    · intro x
      rw [finS_tk]
      rcases getD_mem_or_default w.devs x with h | h
      · rw [show w.dev x = w.devs.getD x default from rfl, hf.noFin _ h]; rfl
      · rw [show w.dev x = w.devs.getD x default from rfl, h]; rfl

theorem noProd_fresh {w : World} (hf : Fresh w) : NoProd (tk w) := by
  intro x
  rw [prodLog_tk]
  unfold prodLog
  apply List.filterMap_eq_nil_iff.mpr
  intro r hr
  have := hf.recs r hr
  cases r <;> simp [trackedRec] at this ⊢

theorem refs_of_static {w : World} (hs : Static w) :
    (∀ s, AssetRef.sched s ∈ w.assets → s < w.scheds.length) ∧
    (∀ s, AssetRef.sensor s ∈ w.assets → s < w.sensors.length) := by
  constructor
  · intro s h
    have := hs.refs _ h
    simpa [refOK] using this
  · intro s h
    have := hs.refs _ h
    simpa [refOK] using this

theorem GInit.of_view {S0 : SStat} {P : Par} {w w' : World} (h : GInit S0 P w)
    (hv : view w' = view w) : GInit S0 P w' := by
  have he : w'.env = w.env := view_env hv
  have ht : tk w' = tk w := view_tk hv
  refine ⟨?_, ?_, ?_, ?_, ?_⟩
  · rw [he, ht]; exact h.gi
  · rw [he]; exact h.inv
  · rw [ht]; exact h.np
  · show P.t0 = w'.env.now
    rw [he]; exact h.now
  · rw [ht]; exact h.ss

theorem simulateInit_eq (w : World) (h : w.started = false) :
    w.simulateInit =
      { (({ w with rm := w.rm.init.1 } : World).rmEffects w.rm.init.2.1 w.rm.init.2.2).assets.foldl
          (fun w a => w.initAsset a)
          (({ w with rm := w.rm.init.1 } : World).rmEffects w.rm.init.2.1 w.rm.init.2.2) with
        started := true } := by
  unfold simulateInit
  rw [h]
  rfl

/-- **`System.simulate`'s initialisation establishes the invariant** with every registered
scheduler and sensor initialised at the current time. -/
theorem ginit_simulateInit {w : World} (hs : Static w) (hf : Fresh w) :
    GInit (sstat (tk w)) ⟨w.now, w.assets⟩ w.simulateInit := by
  rw [simulateInit_eq w hf.notStarted, World.rmEffects_assets]
  have h0 : GInit (sstat (tk w)) ⟨w.now, []⟩ w :=
    { gi := gi_fresh hs hf, inv := hf.queue, np := noProd_fresh hf, now := rfl, ss := rfl }
  have h1 : GInit (sstat (tk w)) ⟨w.now, []⟩
      (({ w with rm := w.rm.init.1 } : World).rmEffects w.rm.init.2.1 w.rm.init.2.2) := by
    have hv : view ({ w with rm := w.rm.init.1 } : World) = view w := rfl
    refine h0.fr ((Fr.of_view hv).trans (Fr_rmEffects _ _ _)) ?_
    intro x
    rw [prodLog_tk, C15.rmEffects_recs', prodLog_append, prodLog_stamp, List.append_nil]
    have := noProd_fresh hf x
    rw [prodLog_tk] at this
    exact this
  obtain ⟨r1, r2⟩ := refs_of_static hs
  have hl := h0.lengths
  have h2 := GInit.foldl w.assets _ _ h1 hs.nodup (fun a _ hm => by cases hm)
    (fun s hm => by rw [← hl.1]; exact r1 s hm) (fun s hm => by rw [← hl.2]; exact r2 s hm)
  exact GInit.of_view h2 rfl


/-! ### the world: the event loop -/

/-- The closed-world invariant of schedulers and sensors. -/
structure WI (S0 : SStat) (P : Par) (w : World) : Prop where
  gi : GI P w.env (tk w)
  inv : C01.Inv w.env
  ss : sstat (tk w) = S0

theorem GInit.wi {S0 : SStat} {P : Par} {w : World} (h : GInit S0 P w) : WI S0 P w :=
  ⟨h.gi, h.inv, h.ss⟩

theorem WI.fr {S0 : SStat} {P : Par} {w w' : World} (h : WI S0 P w) (hf : Fr w w') : WI S0 P w' := by
  obtain ⟨h1, h2, _⟩ := h.gi.fr h.inv hf
  exact ⟨h1, h2, (sstat_of_fr h.gi.stat hf).trans h.ss⟩

theorem step_cases {w w' : World} {ev : Event} (h : w.step = some (ev, w')) :
    ∃ es, w.env.events = ev :: es ∧
      w' = if ev.live then ({ w with env := popEnv w.env ev es } : World).exec (Action.ofNat ev.act)
           else { w with env := popEnv w.env ev es } := by
  unfold World.step at h
  split at h
  · cases h
  · rename_i e0 env' hs
    obtain ⟨es, he, rfl⟩ := Env.step_some.mp hs
    simp only [Option.some.injEq, Prod.mk.injEq] at h
    obtain ⟨rfl, rfl⟩ := h
    exact ⟨es, he, rfl⟩

/-- **One step of the event loop keeps the invariant.** -/
theorem WI.step {S0 : SStat} {P : Par} {w w' : World} {ev : Event} (h : WI S0 P w)
    (hst : w.step = some (ev, w')) : WI S0 P w' := by
  obtain ⟨es, he, rfl⟩ := step_cases hst
  have hi1 : C01.Inv (popEnv w.env ev es) :=
    C01.inv_step h.inv (Env.step_some.mpr ⟨es, he, rfl⟩)
  by_cases ht : tracked ev = true
  · have hown := h.gi.owner (x := ev) (by rw [he]; simp) ht
    rcases hown with ⟨s, hs, h2, h3, _, _⟩ | ⟨s, hs, h2, h3, _, hk, _⟩
    · -- a scheduler transition
      obtain ⟨_, hcan, _⟩ := ((h.gi.sched s).1 ⟨h2, h3⟩).pop he hs false
      have hlive : ev.live = true := by simp [Event.live, hcan]
      have hact : ev.act = 9 + 16 * s := by simpa [suEv] using hs
      rw [if_pos hlive, hact, ofNat_su]
      show WI S0 P (({ w with env := popEnv w.env ev es } : World).schedUpdate s true)
      have ha := schedUpdate_refines ({ w with env := popEnv w.env ev es } : World) s true
        (h.gi.sok.dur_at s)
      exact ⟨h.gi.sched_adv h.inv he hs ha, ha.frame.inv hi1, ha.frame.sstat.trans h.ss⟩
    · -- a periodic measurement
      have hnow : w.env.now ≤ ev.time := h.inv.future ev (by rw [he]; exact List.mem_cons_self)
      obtain ⟨_, hcan, _⟩ := (((h.gi.sens s).1 ⟨h2, h3⟩).1 hk).pop he hs hnow false
      have hlive : ev.live = true := by simp [Event.live, hcan]
      have hact : ev.act = 10 + 16 * s := by simpa [psEv] using hs
      rw [if_pos hlive, hact, ofNat_ps]
      show WI S0 P (({ w with env := popEnv w.env ev es } : World).periodicSense s)
      have ha := periodicSense_refines ({ w with env := popEnv w.env ev es } : World) s
        (h.gi.sok.ivl_at s hk)
      exact ⟨h.gi.sense_adv h.inv he hs (by rw [List.length_map]; rfl) ha, ha.frame.inv hi1, ha.frame.sstat.trans h.ss⟩
  · have ht' : tracked ev = false := by simpa using ht
    have h1 : WI S0 P ({ w with env := popEnv w.env ev es } : World) :=
      ⟨h.gi.pop_untracked h.inv he ht', hi1, h.ss⟩
    split
    · exact h1.fr (Fr_exec _ _ (isTrackedAct_ofNat ht'))
    · exact h1

theorem WI.of_view {S0 : SStat} {P : Par} {w w' : World} (h : WI S0 P w) (hv : view w' = view w) :
    WI S0 P w' := h.fr (Fr.of_view hv)

theorem WI.runLoop {S0 : SStat} {P : Par} (n : Nat) : ∀ {w : World}, WI S0 P w → WI S0 P (runLoop n w) := by
  induction n with
  | zero => intro w h; exact h.of_view (view_setErr _ _)
  | succ n ih =>
    intro w h
    rw [World.runLoop]
    split
    · split
      · exact h
      · rename_i hs; exact ih (h.step hs)
    · exact h

theorem WI.runBegin {S0 : SStat} {P : Par} {w : World} (h : WI S0 P w) (d : Int) :
    WI S0 P (w.runBegin d).1 := by
  unfold World.runBegin
  dsimp only
  split
  · exact h
  · rename_i e hs
    unfold Env.runBegin at hs
    obtain ⟨_, rfl⟩ := Env.schedule_some.mp hs
    have hinv : C01.Inv (Env.withEvent { w.env with terminated := false } (Arith.exact.add w.env.now d)
        (-1) terminateAct prioTerminate
        (weightOf w.seed w.wmod (w.env.now + d) (-1) terminateAct pTerminate)) :=
      C01.inv_runBegin Arith.exact h.inv (by unfold Env.runBegin; exact hs)
    refine ⟨h.gi.env ?_ rfl (Int.le_refl _), hinv, h.ss⟩
    exact C06W.filter_insort_neg _ _ _ rfl

theorem WI.applyOps {S0 : SStat} {P : Par} {w : World} (h : WI S0 P w) (ops : List Op)
    (hops : ∀ op ∈ ops, opOK (tk w).ta op = true) : WI S0 P (w.applyOps ops) :=
  h.fr (Fr_applyOps w ops hops)

theorem ta_of_ss {S0 : SStat} {P : Par} {w w' : World} (h : WI S0 P w) (h' : sstat (tk w') = S0) :
    (tk w).ta = (tk w').ta := ta_of_sstat (h.ss.trans h'.symm)

/-- **The invariant holds in every reachable state.** -/
theorem wi_reachable {w0 w : World} (hs : Static w0) (hf : Fresh w0) (hr : Reachable w0 w) :
    WI (sstat (tk w0)) ⟨w0.now, w0.assets⟩ w := by
  induction hr with
  | init => exact (ginit_simulateInit hs hf).wi
  | step _ hst ih => exact ih.step hst
  | run n _ ih => exact ih.runLoop n
  | runBegin d _ ih => exact ih.runBegin d
  | ops ops _ hops ih =>
    refine ih.applyOps ops ?_
    rw [ta_of_ss ih rfl]
    exact hops

end C19W
end SimProc
