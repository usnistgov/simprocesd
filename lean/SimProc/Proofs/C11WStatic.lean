/-
Machinery for `Props/C11W.lean`, part 8: the class `S` is preserved by every event of a world of
the class, unconditionally (no invariant needed): nothing but `create` ever changes the kind, the
asset id or the declared requirement of a device, nothing changes the scripts, and the scripts of the
class do not `create`.
-/
import SimProc.Proofs.C11WBase
import SimProc.Proofs.Views
import SimProc.Proofs.WorldWalk

namespace SimProc
namespace C02V
open World C11W

/-- the static data of the devices -/
def sd (w : World) : List (Kind × Int × Option Req) := w.devs.map statD

theorem sd_setDev_same (w : World) (x : Nat) (d : Dev) (h : statD d = statD (w.dev x)) :
    sd (w.setDev x d) = sd w := by
  simp only [sd, World.setDev]
  rw [map_set_getD_self statD w.devs x default d h]

/-- Nothing but `create` changes the kind, the asset id or the declared requirement of a device. -/
theorem sd_blind : Blind fun w w' => sd w' = sd w where
  refl := fun _ => rfl
  trans := fun h1 h2 => h2.trans h1
  tables := fun _ _ _ _ _ _ _ _ _ _ _ _ _ _ _ _ _ => rfl
  setDev := fun w x d h => sd_setDev_same w x d (congrArg statD h :)
  setBlockInput := fun w x _ => sd_setDev_same w x _ rfl
  setMaxParts := fun w x _ => sd_setDev_same w x _ rfl
  setInited := fun w x _ => sd_setDev_same w x _ rfl
  addFinSensor := fun w x _ => sd_setDev_same w x _ rfl
  setParams := fun _ _ _ => rfl

section
variable (w : World)
theorem sd_spaceAvailable (x : Nat) : sd (w.spaceAvailable x) = sd w :=
  sd_blind.floor.spaceAvailable w x
end

/-- the scripts of the class -/
def ScrOK (w : World) : Prop := ∀ l ∈ w.scripts, ∀ op ∈ l, opOK (w.devs.map (·.aid)) op = true

/-- static data and scripts are unchanged -/
def SS (w w' : World) : Prop := sd w' = sd w ∧ w'.scripts = w.scripts

theorem SS.refl (w : World) : SS w w := ⟨rfl, rfl⟩

theorem aids_of_sd {w w' : World} (h : sd w' = sd w) : w'.devs.map (·.aid) = w.devs.map (·.aid) := by
  have := congrArg (List.map (fun a : Kind × Int × Option Req => a.2.1)) h
  simpa [sd, statD, List.map_map, Function.comp_def] using this

theorem ScrOK.of_ss {w w' : World} (h : ScrOK w) (r : SS w w') : ScrOK w' := by
  intro l hl op hop
  rw [r.2] at hl
  rw [aids_of_sd r.1]
  exact h l hl op hop

theorem opOK_not_rewire {aids : List Int} {op : Op} (h : opOK aids op = true) :
    (∀ d ups, op ≠ .rewire d ups) ∧ (∀ s, op ≠ .create s) := by
  constructor
  · intro d ups e; subst e; simp [opOK] at h
  · intro s e; subst e; simp [opOK] at h

theorem SS.blind : Blind SS := sd_blind.and blind_scripts

/-- The events of a world of the class. -/
theorem SS.events : RunClosed ScrOK SS :=
  SS.blind.events ScrOK.of_ss fun w op h ⟨l, hl, hop⟩ =>
    have hn := opOK_not_rewire (h l hl op hop)
    SS.blind.applyOp w op hn.2 fun d ups e => absurd e (hn.1 d ups)

theorem ss_simulateInit (w : World) : SS w w.simulateInit := SS.blind.simulateInit w

end C02V

namespace C11W
open World C02V

theorem S.scrOK {w : World} (h : S w) : ScrOK w := h.scripts

theorem S.of_ss {w w' : World} (h : S w) (r : SS w w') : S w' := h.of_eq r.2 r.1

/-- **The class `S` is preserved by every event** (no invariant needed). -/
theorem S_step_uncond (w w' : World) (e : Event) (h : S w) (hst : w.step = some (e, w')) : S w' :=
  h.of_ss (SS.events.step h.scrOK hst)

theorem S_runLoop_uncond (n : Nat) : ∀ (w : World), S w → S (runLoop n w) :=
  fun w h => h.of_ss (SS.events.runLoop n w h.scrOK)

theorem S_simulateInit_uncond (w : World) (h : S w) : S w.simulateInit :=
  h.of_ss (ss_simulateInit w)

end C11W
end SimProc
