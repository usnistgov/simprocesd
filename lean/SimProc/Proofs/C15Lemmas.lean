/-
C15 — helper lemmas: the data log is append-only, the clock does not move inside an event.

`RN w = (w.recs, w.now)` is the observable "log and clock".  Functions that write no record
preserve `RN`; all the others satisfy `ExtN w (f w)`: same clock, the log is extended.  `ExtN`
contains the atoms of the floor (`ExtN.floor`), so for the functions of `Model/Floor.lean` this is
the walk of `Proofs/FloorWalk.lean`.  The finer relations `ExtF`, `ExtL`, `ExtV` (no
`supplied_new_part` record and no counter moves; no `level` record and no level moves; every level
change is logged) are not closed under an arbitrary write to a device; `Frame` lists what they do
contain and is walked through the floor here.
-/
import SimProc.Model.World
import SimProc.Proofs.FloorCore2
import SimProc.Proofs.ResourceLemmas
import SimProc.Proofs.WorldWalk

namespace SimProc
namespace C15
open World FloorCoreL

/-- The log and the clock. -/
def RN (w : World) : List Rec × Int := (w.recs, w.now)

/-- `w'` extends the log of `w`: nothing was removed or rewritten. -/
def Ext (w w' : World) : Prop := ∃ l, w'.recs = w.recs ++ l

/-- `w'` extends the log of `w` and has the same clock. -/
structure ExtN (w w' : World) : Prop where
  now_eq : w'.now = w.now
  ext : Ext w w'

theorem Ext.refl (w : World) : Ext w w := ⟨[], by simp⟩

theorem Ext.trans {a b c : World} (h1 : Ext a b) (h2 : Ext b c) : Ext a c := by
  obtain ⟨l1, h1⟩ := h1; obtain ⟨l2, h2⟩ := h2
  exact ⟨l1 ++ l2, by rw [h2, h1, List.append_assoc]⟩

theorem ExtN.refl (w : World) : ExtN w w := ⟨rfl, Ext.refl w⟩

theorem ExtN.trans {a b c : World} (h1 : ExtN a b) (h2 : ExtN b c) : ExtN a c :=
  ⟨h2.1.trans h1.1, h1.2.trans h2.2⟩

theorem RN_recs {w w' : World} (h : RN w' = RN w) : w'.recs = w.recs := congrArg Prod.fst h
theorem RN_now {w w' : World} (h : RN w' = RN w) : w'.now = w.now := congrArg Prod.snd h

theorem ExtN.of_RN {w w' : World} (h : RN w' = RN w) : ExtN w w' :=
  ⟨RN_now h, ⟨[], by simp [RN_recs h]⟩⟩

theorem ExtN.of_RN_trans {a b c : World} (h : RN b = RN a) (h2 : ExtN b c) : ExtN a c :=
  (ExtN.of_RN h).trans h2

theorem ExtN.trans_RN {a b c : World} (h1 : ExtN a b) (h : RN c = RN b) : ExtN a c :=
  h1.trans (ExtN.of_RN h)

theorem RN_foldl {α} (g : World → α → World) (l : List α) (w : World)
    (h : ∀ w a, RN (g w a) = RN w) : RN (l.foldl g w) = RN w :=
  foldl_preserve RN g l w h

/-! ### primitives of `WorldDef` -/

@[simp] theorem RN_setErr (w : World) (m : String) : RN (w.setErr m) = RN w := by
  unfold setErr; split <;> rfl

@[simp] theorem RN_addRes (w : World) (r : Res) : RN (w.addRes r) = RN w := rfl
@[simp] theorem RN_setDev (w : World) (d : Nat) (x : Dev) : RN (w.setDev d x) = RN w := rfl
@[simp] theorem RN_modDev (w : World) (d : Nat) (f : Dev → Dev) : RN (w.modDev d f) = RN w := rfl
@[simp] theorem RN_modPart (w : World) (p : Nat) (f : PartRec → PartRec) :
    RN (w.modPart p f) = RN w := rfl
@[simp] theorem RN_newPart (w : World) (r : PartRec) : RN (w.newPart r).1 = RN w := rfl

theorem env_schedule_now {s s' : Env} {t a : Int} {act : Nat} {p : Int} {k : Nat}
    (h : s.schedule t a act p k = some s') : s'.now = s.now := by
  unfold Env.schedule at h
  split at h
  · cases h
  · cases h; rfl

@[simp] theorem RN_sched (w : World) (t a : Int) (act : Action) (p : Int) :
    RN (w.sched t a act p).1 = RN w := by
  unfold World.sched
  dsimp only
  split
  · rename_i e heq
    simp only [Env.apply] at heq
    split at heq
    · cases heq
    · rename_i s' hs
      cases heq
      simp only [RN, World.now]
      rw [env_schedule_now hs]
  · rfl

@[simp] theorem RN_schedLib (w : World) (t a : Int) (act : Action) (p : Int) :
    RN (w.schedLib t a act p) = RN w := by
  have h := RN_sched w t a act p
  unfold schedLib
  generalize w.sched t a act p = s at h ⊢
  obtain ⟨w', r⟩ := s
  cases r <;> simp_all

@[simp] theorem RN_envOp_pause (w : World) (a : Int) : RN (w.envOp (.pause a)) = RN w := rfl
@[simp] theorem RN_envOp_unpause (w : World) (a : Int) : RN (w.envOp (.unpause a)) = RN w := rfl
@[simp] theorem RN_envOp_cancel (w : World) (a : Int) : RN (w.envOp (.cancel a)) = RN w := rfl

@[simp] theorem addRec_recs (w : World) (r : Rec) : (w.addRec r).recs = w.recs ++ [r] := rfl
@[simp] theorem addRec_now (w : World) (r : Rec) : (w.addRec r).now = w.now := rfl

theorem ExtN_addRec (w : World) (r : Rec) : ExtN w (w.addRec r) := ⟨rfl, ⟨[r], rfl⟩⟩

/-- The stamped form of the records of a resource-manager call. -/
def stamp (t : Int) (recs : List ResRec) : List Rec :=
  recs.map (fun r => Rec.resUpdate r.res t r.inUse r.cap)

theorem foldl_addRec_resUpdate (recs : List ResRec) (w : World) :
    RN (recs.foldl (fun w r => w.addRec (.resUpdate r.res w.now r.inUse r.cap)) w)
      = (w.recs ++ stamp w.now recs, w.now) := by
  induction recs generalizing w with
  | nil => simp [RN, stamp]
  | cons r recs ih =>
    rw [List.foldl_cons, ih]
    simp [stamp]

theorem rmEffects_RN (w : World) (recs : List ResRec) (chk : Bool) :
    RN (w.rmEffects recs chk) = (w.recs ++ stamp w.now recs, w.now) := by
  unfold rmEffects
  dsimp only
  split
  · rw [RN_schedLib, foldl_addRec_resUpdate]
  · rw [foldl_addRec_resUpdate]

theorem rmEffects_recs' (w : World) (recs : List ResRec) (chk : Bool) :
    (w.rmEffects recs chk).recs = w.recs ++ stamp w.now recs :=
  congrArg Prod.fst (rmEffects_RN w recs chk)

@[simp] theorem rmEffects_now (w : World) (recs : List ResRec) (chk : Bool) :
    (w.rmEffects recs chk).now = w.now :=
  congrArg Prod.snd (rmEffects_RN w recs chk)

/-- Replacing the resource manager does not touch log or clock. -/
@[simp] theorem RN_with_rm (w : World) (rm : RM) : RN { w with rm := rm } = RN w := rfl

@[simp] theorem RN_with_lost (w : World) (v : List Nat) : RN { w with lost := v } = RN w := rfl
@[simp] theorem RN_with_delivered (w : World) (v : List Nat) : RN { w with delivered := v } = RN w := rfl
@[simp] theorem RN_with_generated (w : World) (v : List Nat) : RN { w with generated := v } = RN w := rfl
@[simp] theorem RN_with_sensors (w : World) (v : List SensorW) : RN { w with sensors := v } = RN w := rfl
@[simp] theorem RN_with_maints (w : World) (v : List MaintW) : RN { w with maints := v } = RN w := rfl
@[simp] theorem RN_with_scheds (w : World) (v : List SchedW) : RN { w with scheds := v } = RN w := rfl
@[simp] theorem RN_with_targets (w : World) (v : List Target) : RN { w with targets := v } = RN w := rfl
@[simp] theorem RN_with_svars (w : World) (v : List Int) : RN { w with svars := v } = RN w := rfl
@[simp] theorem RN_with_cmsSensors (w : World) (v : List (List Nat)) : RN { w with cmsSensors := v } = RN w := rfl
@[simp] theorem RN_with_assets (w : World) (v : List AssetRef) : RN { w with assets := v } = RN w := rfl
@[simp] theorem RN_with_devs (w : World) (v : List Dev) : RN { w with devs := v } = RN w := rfl
@[simp] theorem RN_with_groups (w : World) (v : List Group) : RN { w with groups := v } = RN w := rfl
@[simp] theorem RN_with_started (w : World) (v : Bool) : RN { w with started := v } = RN w := rfl
@[simp] theorem RN_with_vars (w : World) (v : List (Option Nat)) : RN { w with vars := v } = RN w := rfl
@[simp] theorem RN_with_parts (w : World) (v : List PartRec) : RN { w with parts := v } = RN w := rfl

/-- `ExtN` does not look at devices, parts, results, the error flag or the event queue (beyond
the clock): it contains every atom of the floor, a record being appended by `addRec` only. -/
theorem ExtN.floor : FloorClosed.Ops ExtN where
  toFloorClosed := .ofAtoms ExtN.refl ExtN.trans
    (fun _ _ => .of_RN (RN_setErr _ _)) (fun w r _ => ExtN_addRec w r) (fun _ _ _ => .of_RN rfl)
    (fun _ _ _ _ => .of_RN rfl) (fun _ _ _ => .of_RN rfl)
    (fun _ _ _ _ _ _ => .of_RN (RN_schedLib _ _ _ _ _))
    (fun _ _ h => by cases h <;> exact .of_RN rfl)
    (fun _ _ => .of_RN rfl) (fun _ _ => .of_RN rfl) (fun _ _ => .of_RN rfl)
    (fun _ _ => .of_RN rfl) (fun _ _ => .of_RN rfl) (fun _ _ => .of_RN rfl)
  setBlockInput := fun _ _ _ => .of_RN rfl
  setMaxParts := fun _ _ _ => .of_RN rfl
  setWiring := fun _ _ _ _ => .of_RN rfl
  setInited := fun _ _ _ => .of_RN rfl
  clearWaitingRes := fun _ _ => .of_RN rfl

/-! ### Floor: functions that write no record -/

@[simp] theorem RN_setWaiting (w : World) (x : Nat) (a b : Bool) :
    RN (w.setWaiting x a b) = RN w := by
  unfold setWaiting
  simp only [apply_ite RN, RN_setDev, ite_self]

@[simp] theorem RN_schedulePass (w : World) (x : Nat) (o : Int) :
    RN (w.schedulePass x o) = RN w := by
  unfold schedulePass
  dsimp only
  split
  · rfl
  · rw [RN_schedLib]; rfl

/-- The two notification functions write nothing. -/
theorem RN_notifyUp_spaceAvail (n : Nat) :
    ∀ w x, RN (notifyUp n w x) = RN w ∧ RN (spaceAvail n w x) = RN w :=
  World.notify_walk (R := fun w w' => RN w' = RN w) (fun _ => rfl) (fun h1 h2 => h2.trans h1)
    (RN_setErr · _) (fun w x _ => RN_setWaiting w x _ _) (fun w x _ _ => RN_schedulePass w x _) n

@[simp] theorem RN_notifyUp (n : Nat) (w : World) (x : Nat) : RN (notifyUp n w x) = RN w :=
  (RN_notifyUp_spaceAvail n w x).1
@[simp] theorem RN_spaceAvail (n : Nat) (w : World) (x : Nat) : RN (spaceAvail n w x) = RN w :=
  (RN_notifyUp_spaceAvail n w x).2
@[simp] theorem RN_notify (w : World) (x : Nat) : RN (w.notify x) = RN w := RN_notifyUp _ _ _
@[simp] theorem RN_spaceAvailable (w : World) (x : Nat) : RN (w.spaceAvailable x) = RN w :=
  RN_spaceAvail _ _ _

@[simp] theorem RN_applyPartCb (w : World) (x p : Nat) (c : PartCb) :
    RN (w.applyPartCb x p c) = RN w :=
  (congrArg RN (applyPartCb_noDevsParts w x p c) :)

theorem RN_foldl_applyPartCb (w : World) (x p : Nat) (l : List PartCb) :
    RN (l.foldl (fun w c => w.applyPartCb x p c) w) = RN w :=
  RN_foldl _ _ _ (fun _ _ => RN_applyPartCb _ _ _ _)

@[simp] theorem RN_senseOutput (w : World) (s p : Nat) : RN (w.senseOutput s p) = RN w := by
  unfold senseOutput
  dsimp only
  split
  · rw [RN_foldl _ _ _ (fun _ _ => RN_addRes _ _)]; rfl
  · rfl

theorem RN_foldl_senseOutput (w : World) (p : Nat) (l : List Nat) :
    RN (l.foldl (fun w s => w.senseOutput s p) w) = RN w :=
  RN_foldl _ _ _ (fun _ _ => RN_senseOutput _ _ _)

@[simp] theorem RN_finishCycleHandler (w : World) (x : Nat) :
    RN (w.finishCycleHandler x) = RN w := by
  unfold finishCycleHandler
  dsimp only
  repeat' split
  all_goals first
    | exact RN_setErr _ _
    | (rw [RN_schedulePass]; rfl)

@[simp] theorem RN_addHist (w : World) (p d : Nat) : RN (w.addHist p d) = RN w :=
  (congrArg RN (addHist_noParts w p d) :)

@[simp] theorem RN_dropHist (w : World) (p : Nat) : RN (w.dropHist p) = RN w :=
  (congrArg RN (dropHist_noParts w p) :)

/-- `genPart` writes the part table and the ghost log of generated parts only. -/
theorem genPart_keep {β} (P : World → β) (hN : ∀ w r, P (w.newPart r).1 = P w)
    (hG : ∀ (w : World) l, P { w with generated := l } = P w) (w : World) (x : Nat) :
    P (w.genPart x).1 = P w := by
  unfold genPart
  dsimp only
  split
  · exact (hG _ _).trans (hN _ _)
  · have hf : ∀ (l : List Nat) (acc : World × List Nat), P (l.foldl
        (fun (acc : World × List Nat) _ =>
          let (w', k) := acc.1.newPart
            { quality := (w.dev x).genQuality, value := (w.dev x).genValue }
          (w', acc.2 ++ [k])) acc).1 = P acc.1 := by
      intro l
      induction l with
      | nil => exact fun _ => rfl
      | cons a l ih => exact fun acc => (ih _).trans (hN _ _)
    exact (hN _ _).trans ((hG _ _).trans (hf _ _))

@[simp] theorem RN_genPart (w : World) (x : Nat) : RN (w.genPart x).1 = RN w :=
  genPart_keep RN (fun _ _ => rfl) (fun _ _ => rfl) w x

theorem genPart_devs (w : World) (x : Nat) : (w.genPart x).1.devs = w.devs :=
  genPart_keep World.devs (fun _ _ => rfl) (fun _ _ => rfl) w x

@[simp] theorem RN_batcherLoop (n : Nat) (w : World) (x : Nat) :
    RN (batcherLoop n w x) = RN w := by
  induction n generalizing w with
  | zero => rfl
  | succ n ih =>
    rw [batcherLoop]
    split
    · split
      rename_i w1 t heq
      rw [ih]
      have h1 : RN (w1, t).1 = RN w := by
        rw [← heq]
        repeat' split
        all_goals rfl
      rw [← h1]
      split
      · rfl
      · split
        rename_i w2 b heq2
        have h2 : RN (w2, b).1 = RN w1 := by
          rw [← heq2]
          repeat' split
          all_goals first
            | rfl
            | (rename_i h; have := congrArg (fun q => RN q.1) h; simpa using this.symm)
        rw [← h2]
        dsimp only
        split <;> rfl
    · rfl

@[simp] theorem RN_shutdownDev (w : World) (x : Nat) (f : Bool) (lost : Option Nat) :
    RN (w.shutdownDev x f lost) = RN w := by
  unfold shutdownDev
  simp only [apply_ite RN, RN_foldl _ _ _ (fun _ _ => RN_addRes _ _), RN_setWaiting, RN_setDev,
    RN_envOp_cancel, RN_envOp_pause, ite_self]

@[simp] theorem RN_restoreDev (w : World) (x : Nat) : RN (w.restoreDev x) = RN w := by
  unfold restoreDev
  simp only [apply_ite RN, RN_foldl _ _ _ (fun _ _ => RN_addRes _ _), RN_modDev, RN_schedulePass,
    RN_notify, RN_envOp_unpause, RN_setDev, ite_self]

@[simp] theorem RN_procResourceCb (w : World) (x : Nat) : RN (w.procResourceCb x) = RN w :=
  RN_notify _ _

@[simp] theorem RN_setBlock (w : World) (x : Nat) (b : Bool) : RN (w.setBlock x b) = RN w := by
  unfold setBlock
  simp only [apply_ite RN, RN_notify, RN_modDev, ite_self]

@[simp] theorem RN_adjustParts (w : World) (x : Nat) (v : Int) :
    RN (w.adjustParts x v) = RN w := by
  unfold adjustParts
  dsimp only
  split
  · rfl
  · simp only [apply_ite RN, RN_schedulePass, RN_setDev, ite_self]

@[simp] theorem RN_rewire (w : World) (x : Nat) (ups : List Nat) :
    RN (w.rewire x ups) = RN w := by
  unfold rewire
  dsimp only
  rw [RN_foldl, RN_modDev, RN_foldl]
  · simp only [apply_ite RN, RN_setWaiting, ite_self]
  · exact fun _ _ => rfl
  · intro w a
    simp only [apply_ite RN, RN_spaceAvailable, RN_modDev, ite_self]

/-- The records written by `_release_reserved_resources()`. -/
def releaseRecs (w : World) (x : Nat) : List Rec :=
  match (w.dev x).reserved with
  | none => []
  | some id => stamp w.now (w.rm.release id none).2.2.1

theorem releaseReserved_RN (w : World) (x : Nat) :
    RN (w.releaseReserved x) = (w.recs ++ releaseRecs w x, w.now) := by
  unfold releaseReserved
  split
  · rename_i h; simp [RN, releaseRecs, h]
  · rename_i id h
    dsimp only
    rw [RN_modDev, rmEffects_RN]
    simp only [releaseRecs, h]
    rfl

/-! ## The frame of the factory floor

Nothing but `Source._pass_part_downstream` writes a `supplied_new_part` record or changes a
source's counter (`ExtF`); nothing but `_on_received_new_part` of a buffer and the release loop of
`Buffer._pass_part_downstream` changes a level, and both write a `level` record (`ExtL`, `ExtV`).
The three relations are walked through the floor together: `Frame R` lists the updates that all of
them contain, `Frame.Lev R` adds the change of a level together with its record, which `ExtF` and
`ExtV` contain and `ExtL` does not. -/

def isSup : Rec → Bool
  | .supplied .. => true
  | _ => false

/-- The `produced` counters of all devices. -/
def PR (w : World) : List Int := w.devs.map (·.produced)

/-- Same clock, the log is extended by records other than `supplied_new_part`, no `produced`
counter changes. -/
structure ExtF (w w' : World) : Prop where
  now_eq : w'.now = w.now
  ext : ∃ l, w'.recs = w.recs ++ l ∧ ∀ r ∈ l, isSup r = false
  prod : PR w' = PR w

/-- Is `r` a `level` record? -/
def isLevel : Rec → Bool
  | .level .. => true
  | _ => false

/-- The levels of all devices. -/
def PL (w : World) : List Nat := w.devs.map (·.level)

/-- Same clock, the log is extended by records other than `level` records, no `level`
changes. -/
structure ExtL (w w' : World) : Prop where
  now_eq : w'.now = w.now
  ext : ∃ l, w'.recs = w.recs ++ l ∧ ∀ r ∈ l, isLevel r = false
  prod : PL w' = PL w

/-- Same clock, the log is extended by records outside the class `isK`, the field `fld` of no
device changes.  `ExtF` is the instance (`isSup`, `produced`), `ExtL` is (`isLevel`, `level`). -/
structure ExtK {α : Type} (isK : Rec → Bool) (fld : Dev → α) (w w' : World) : Prop where
  now_eq : w'.now = w.now
  ext : ∃ l, w'.recs = w.recs ++ l ∧ ∀ r ∈ l, isK r = false
  fld_eq : w'.devs.map fld = w.devs.map fld

theorem ExtF_iff {w w' : World} : ExtF w w' ↔ ExtK isSup Dev.produced w w' :=
  ⟨fun h => ⟨h.1, h.2, h.3⟩, fun h => ⟨h.1, h.2, h.3⟩⟩

theorem ExtL_iff {w w' : World} : ExtL w w' ↔ ExtK isLevel Dev.level w w' :=
  ⟨fun h => ⟨h.1, h.2, h.3⟩, fun h => ⟨h.1, h.2, h.3⟩⟩

namespace ExtK
variable {α : Type} {isK : Rec → Bool} {fld : Dev → α}

theorem trans {a b c : World} (h1 : ExtK isK fld a b) (h2 : ExtK isK fld b c) :
    ExtK isK fld a c := by
  obtain ⟨n1, ⟨l1, e1, s1⟩, p1⟩ := h1
  obtain ⟨n2, ⟨l2, e2, s2⟩, p2⟩ := h2
  refine ⟨n2.trans n1, ⟨l1 ++ l2, by rw [e2, e1, List.append_assoc], ?_⟩, p2.trans p1⟩
  intro r hr
  rcases List.mem_append.1 hr with h | h
  · exact s1 r h
  · exact s2 r h

theorem of_RN {w w' : World} (h : RN w' = RN w) (hp : w'.devs.map fld = w.devs.map fld) :
    ExtK isK fld w w' :=
  ⟨RN_now h, ⟨[], by simp [RN_recs h], by simp⟩, hp⟩

theorem addRec (w : World) (r : Rec) (hp : isK r = false) : ExtK isK fld w (w.addRec r) :=
  ⟨rfl, ⟨[r], rfl, by simpa using hp⟩, rfl⟩

theorem setDev (w : World) (x : Nat) (d : Dev) (hp : fld d = fld (w.dev x)) :
    ExtK isK fld w (w.setDev x d) :=
  of_RN rfl (map_set_of_eq fld w.devs x d default hp)

end ExtK

theorem ExtF.extN {a b : World} (h : ExtF a b) : ExtN a b :=
  ⟨h.now_eq, by obtain ⟨l, e, _⟩ := h.ext; exact ⟨l, e⟩⟩

theorem ExtL.extN {a b : World} (h : ExtL a b) : ExtN a b :=
  ⟨h.now_eq, by obtain ⟨l, e, _⟩ := h.ext; exact ⟨l, e⟩⟩

/-- A transitive relation that contains every update which keeps the clock, the log, the
`produced` counters and the levels, and the writing of a record that is neither a
`supplied_new_part` nor a `level` record. -/
structure Frame (R : World → World → Prop) : Prop where
  trans : ∀ {a b c}, (h1 : R a b) → (h2 : R b c) → R a c
  quiet : ∀ {w w'}, RN w' = RN w → PR w' = PR w → PL w' = PL w → R w w'
  addRec : ∀ w r, isSup r = false → isLevel r = false → R w (w.addRec r)

/-- On top of that, the change of the level of a device followed by a `level` record that shows
the new level. -/
structure Frame.Lev (R : World → World → Prop) : Prop extends Frame R where
  levelStep : ∀ w x d t, d.produced = (w.dev x).produced →
    R w ((w.setDev x d).addRec (.level x t ((w.setDev x d).dev x).level))

theorem ExtK.frame {α : Type} {isK : Rec → Bool} {fld : Dev → α}
    (hK : ∀ r, isSup r = false → isLevel r = false → isK r = false)
    (hf : ∀ {w w' : World}, PR w' = PR w → PL w' = PL w → w'.devs.map fld = w.devs.map fld) :
    Frame (ExtK isK fld) :=
  ⟨ExtK.trans, fun h hp hl => .of_RN h (hf hp hl), fun w r hs hl => .addRec w r (hK r hs hl)⟩

theorem Frame.of_iff {R R' : World → World → Prop} (h : Frame R)
    (e : ∀ {w w'}, R' w w' ↔ R w w') : Frame R' :=
  ⟨fun h1 h2 => e.2 (h.trans (e.1 h1) (e.1 h2)), fun hr hp hl => e.2 (h.quiet hr hp hl),
    fun w r hs hl => e.2 (h.addRec w r hs hl)⟩

theorem map_of_core_eq {α} (g : Dev → α) (hg : ∀ d, g d.core = g d) {w w' : World}
    (h : w'.core = w.core) : w'.devs.map g = w.devs.map g := by
  have h1 := congrArg (fun v : World => v.devs.map g) h
  simpa only [core_devs, List.map_map, Function.comp_def, hg] using h1

namespace Frame
variable {R : World → World → Prop}

theorem refl (h : Frame R) (w : World) : R w w := h.quiet rfl rfl rfl

theorem of_core (h : Frame R) {w w' : World} (hc : w'.core = w.core) (hr : RN w' = RN w) :
    R w w' :=
  h.quiet hr (map_of_core_eq _ (fun _ => rfl) hc) (map_of_core_eq _ (fun _ => rfl) hc)

theorem of_devs (h : Frame R) {w w' : World} (hd : w'.devs = w.devs) (hr : RN w' = RN w) :
    R w w' :=
  h.quiet hr (congrArg (List.map _) hd) (congrArg (List.map _) hd)

/-- For a structure update that leaves devices, log and event queue alone: the three hypotheses
hold by `with_reducible rfl`. -/
theorem of_eq (h : Frame R) {w w' : World} (hd : w'.devs = w.devs) (hr : w'.recs = w.recs)
    (he : w'.env = w.env) : R w w' :=
  h.of_devs hd (by unfold RN World.now; rw [hr, he])

theorem foldl (h : Frame R) {α} (g : World → α → World) (hg : ∀ w a, R w (g w a))
    (l : List α) (w : World) : R w (l.foldl g w) := by
  induction l generalizing w with
  | nil => exact h.refl w
  | cons a l ih => exact h.trans (hg w a) (ih _)

theorem of_fst_eq {α} {w w' : World} {e : World × α} {b : α} (he : R w e.1) (heq : e = (w', b)) :
    R w w' := by
  subst heq; exact he

/-- The two side conditions are found by `rfl` when the update does not mention the fields. -/
theorem setDev (h : Frame R) (w : World) (x : Nat) (d : Dev)
    (hp : d.produced = (w.dev x).produced := by exact rfl)
    (hl : d.level = (w.dev x).level := by exact rfl) : R w (w.setDev x d) :=
  h.quiet rfl (map_set_of_eq Dev.produced w.devs x d default hp)
    (map_set_of_eq Dev.level w.devs x d default hl)

theorem modDev (h : Frame R) (w : World) (x : Nat) (f : Dev → Dev)
    (hp : (f (w.dev x)).produced = (w.dev x).produced := by exact rfl)
    (hl : (f (w.dev x)).level = (w.dev x).level := by exact rfl) : R w (w.modDev x f) :=
  h.setDev w x _ hp hl

/-- A record that is neither a `supplied_new_part` nor a `level` record. -/
theorem addRec' (h : Frame R) (w : World) (r : Rec)
    (hs : isSup r = false := by with_unfolding_all exact rfl)
    (hl : isLevel r = false := by with_unfolding_all exact rfl) : R w (w.addRec r) :=
  h.addRec w r hs hl

theorem setErr (h : Frame R) (w : World) (m : String) : R w (w.setErr m) :=
  h.of_core (setErr_core _ _) (RN_setErr _ _)
theorem addRes (h : Frame R) (w : World) (r : Res) : R w (w.addRes r) := h.of_devs rfl rfl
theorem modPart (h : Frame R) (w : World) (p : Nat) (f : PartRec → PartRec) :
    R w (w.modPart p f) := h.of_devs rfl rfl
theorem newPart (h : Frame R) (w : World) (r : PartRec) : R w (w.newPart r).1 :=
  h.of_devs rfl rfl
theorem sched (h : Frame R) (w : World) (t a : Int) (act : Action) (p : Int) :
    R w (w.sched t a act p).1 :=
  h.of_core (sched_fst_core _ _ _ _ _) (RN_sched _ _ _ _ _)
theorem schedLib (h : Frame R) (w : World) (t a : Int) (act : Action) (p : Int) :
    R w (w.schedLib t a act p) :=
  h.of_core (schedLib_core _ _ _ _ _) (RN_schedLib _ _ _ _ _)
theorem envOp_pause (h : Frame R) (w : World) (a : Int) : R w (w.envOp (.pause a)) :=
  h.of_devs rfl rfl
theorem envOp_unpause (h : Frame R) (w : World) (a : Int) : R w (w.envOp (.unpause a)) :=
  h.of_devs rfl rfl
theorem envOp_cancel (h : Frame R) (w : World) (a : Int) : R w (w.envOp (.cancel a)) :=
  h.of_devs rfl rfl
theorem setWaiting (h : Frame R) (w : World) (x : Nat) (a b : Bool) : R w (w.setWaiting x a b) :=
  h.of_core (setWaiting_core _ _ _ _) (RN_setWaiting _ _ _ _)
theorem schedulePass (h : Frame R) (w : World) (x : Nat) (o : Int) : R w (w.schedulePass x o) :=
  h.of_core (schedulePass_core _ _ _) (RN_schedulePass _ _ _)
theorem notify (h : Frame R) (w : World) (x : Nat) : R w (w.notify x) :=
  h.of_core (notify_core _ _) (RN_notify _ _)
theorem spaceAvailable (h : Frame R) (w : World) (x : Nat) : R w (w.spaceAvailable x) :=
  h.of_core (spaceAvailable_core _ _) (RN_spaceAvailable _ _)
theorem addHist (h : Frame R) (w : World) (p d : Nat) : R w (w.addHist p d) :=
  h.of_devs (addHist_devs _ _ _) (RN_addHist _ _ _)
theorem dropHist (h : Frame R) (w : World) (p : Nat) : R w (w.dropHist p) :=
  h.of_devs (dropHist_devs _ _) (RN_dropHist _ _)
theorem genPart (h : Frame R) (w : World) (x : Nat) : R w (w.genPart x).1 :=
  h.of_devs (genPart_devs w x) (RN_genPart w x)

theorem rmEffects (h : Frame R) (w : World) (recs : List ResRec) (chk : Bool) :
    R w (w.rmEffects recs chk) := by
  unfold World.rmEffects
  have h1 := h.foldl (fun w (r : ResRec) => w.addRec (.resUpdate r.res w.now r.inUse r.cap))
    (fun w r => h.addRec w _ rfl rfl) recs w
  split
  · exact h.trans h1 (h.schedLib _ _ _ _ _)
  · exact h1

theorem applyPartCb (h : Frame R) (w : World) (x p : Nat) (c : PartCb) :
    R w (w.applyPartCb x p c) :=
  h.trans (h.modDev w x (cbDev c) rfl rfl)
    (h.of_devs (applyPartCb_devs w x p c) (RN_applyPartCb w x p c))

theorem tryList (h : Frame R) (g : World → Nat → Nat → World × Bool)
    (hg : ∀ w y p, R w (g w y p).1) (w : World) (l : List Nat) (p : Nat) :
    R w (World.tryList g w l p).1 := by
  induction l generalizing w with
  | nil => exact h.refl w
  | cons y ys ih =>
    rw [World.tryList]
    have hy := hg w y p
    split
    · rename_i heq; rw [heq] at hy; exact hy
    · rename_i heq; rw [heq] at hy; exact h.trans hy (ih _)

/-! ### the peeling tactic -/

/-- `frame_peel h t` peels a call for which `t : R _ (call)` off the goal `R w (call)`. -/
macro "frame_peel " h:term:max t:term : tactic =>
  `(tactic| with_reducible apply Frame.trans $h (h2 := $t))

/-- `frame_walk h [t₁, …, tₙ]` proves `R w (f …)` for a function whose body is built from `let`,
`if`, `match` and folds over calls `cᵢ` for which `tᵢ : R _ cᵢ`: it splits the conditionals and, in
each branch, peels the outermost call with the first `tᵢ` that fits, until `R w w` or
`R w { w with … }` is left.  After a `split` on a pair-valued call, the facts `uⱼ` of
`with [u₁, …]` are used through the equation the `split` has left. -/
syntax "frame_walk " term:max " [" term,* "]" (" with " "[" term,* "]")? : tactic
macro_rules
  | `(tactic| frame_walk $h [$ts,*]) => `(tactic| frame_walk $h [$ts,*] with [])
  | `(tactic| frame_walk $h [$ts,*] with [$us,*]) => `(tactic| repeat' first
      | with_reducible exact Frame.refl $h _
      | ((first $[| (with_reducible apply Frame.trans ?f (h2 := $ts))]* | fail); case f => exact $h)
      | ((rename_i heq;
          first $[| (with_reducible apply Frame.trans ?f (h2 := Frame.of_fst_eq $us heq))]* | fail);
         case f => exact $h)
      | ((frame_peel $h Frame.foldl $h _ ?side _ _); case side => (intro _ _; frame_walk $h [$ts,*]; done))
      | split
      | with_reducible exact Frame.of_eq $h rfl rfl rfl)

end Frame

/-- `ExtN` does not look at the devices at all. -/
theorem ExtN.frame : Frame ExtN :=
  ⟨ExtN.trans, fun h _ _ => .of_RN h, fun w r _ _ => ExtN_addRec w r⟩

/-! ### Floor: functions that may write records -/

/-- The processor's `_finish_cycle` up to (excluding) the finish callbacks. -/
def procPre (w : World) (x : Nat) : World :=
  let w := w.finishCycleHandler x
  let d := w.dev x
  let w := w.setDev x { d with timeInUse := d.timeInUse + (w.now - d.lastUseStart.getD w.now),
                               lastUseStart := none }
  if d.reserved.isSome then w.schedLib w.now d.aid (.releaseIfIdle x) pRelease else w

/-- The finish callbacks and the output-part sensors of processor `x` applied to part `p`. -/
def procCbs (w : World) (cbs : List PartCb) (sens : List Nat) (x p : Nat) : World :=
  sens.foldl (fun w s => w.senseOutput s p) (cbs.foldl (fun w c => w.applyPartCb x p c) w)

theorem finishCycle_processor_eq (w : World) (x : Nat) (h : (w.dev x).kind = .processor) :
    w.finishCycle x =
      match ((procPre w x).dev x).output with
      | none => procPre w x
      | some p =>
        let w2 := procCbs (procPre w x) ((w.finishCycleHandler x).dev x).finCbs
          ((w.finishCycleHandler x).dev x).finSensors x p
        w2.addRec (.produced x w2.now p (w2.part p).quality (w2.partValue p)) := by
  unfold finishCycle
  simp only [h]
  rfl

@[simp] theorem RN_procPre (w : World) (x : Nat) : RN (procPre w x) = RN w := by
  unfold procPre
  dsimp only
  split
  · rw [RN_schedLib, RN_setDev, RN_finishCycleHandler]
  · rw [RN_setDev, RN_finishCycleHandler]

@[simp] theorem RN_procCbs (w : World) (cbs : List PartCb) (sens : List Nat) (x p : Nat) :
    RN (procCbs w cbs sens x p) = RN w := by
  unfold procCbs
  rw [RN_foldl_senseOutput, RN_foldl_applyPartCb]

/-- The `level` record a buffer writes when it receives `p` (nothing for the other devices). -/
def recvPre (w : World) (x p : Nat) : List Rec :=
  if (w.dev x).kind = .buffer then [Rec.level x w.now ((w.dev x).level + w.leafCount p)] else []

/-- `_on_received_new_part` up to (excluding) the `received_part` record. -/
def recvHead (w : World) (x p : Nat) : World :=
  let d := w.dev x
  match d.kind with
    | .sink =>
      let v := w.partValue p
      w.setDev x { d with
        recvCount := d.recvCount + w.leafCount p
        recvValue := d.recvValue + v
        val := d.val.addValue lblCollected w.now v
        collected := if d.collect then d.collected ++ [p] else d.collected }
    | .buffer =>
      let w := w.setDev x { d with level := d.level + w.leafCount p }
      w.addRec (.level x w.now (w.dev x).level)
    | _ => w

/-- `_on_received_new_part` after the record: the receive callbacks, then the move attempt. -/
def recvTail (w : World) (x p : Nat) : World :=
  let w := (w.dev x).recvCbs.foldl (fun w c => w.applyPartCb x p c) w
  if (w.dev x).output.isNone then w.tryMove x else w

theorem onReceived_eq' (w : World) (x p : Nat) :
    w.onReceived x p =
      recvTail ((recvHead w x p).addRec
        (.received x (recvHead w x p).now p ((recvHead w x p).part p).quality
          ((recvHead w x p).partValue p))) x p := rfl

theorem recvHead_parts (w : World) (x p : Nat) : (recvHead w x p).parts = w.parts := by
  unfold recvHead
  dsimp only
  split <;> rfl

theorem partValue_congr {w w' : World} (h : w'.parts = w.parts) (p : Nat) :
    w'.partValue p = w.partValue p := by
  unfold partValue World.part
  rw [h]

theorem recvHead_now (w : World) (x p : Nat) : (recvHead w x p).now = w.now := by
  unfold recvHead
  dsimp only
  split <;> rfl

theorem onReceived_eq (w : World) (x p : Nat) :
    w.onReceived x p =
      recvTail ((recvHead w x p).addRec
        (.received x w.now p (w.part p).quality (w.partValue p))) x p := by
  rw [onReceived_eq', recvHead_now, partValue_congr (recvHead_parts w x p),
    part_congr (recvHead_parts w x p)]

theorem kind_buffer_lt {w : World} {x : Nat} (h : (w.dev x).kind = .buffer) :
    x < w.devs.length := by
  apply Classical.byContradiction
  intro hn
  rw [dev_of_length_le (Nat.le_of_not_lt hn)] at h
  cases h

theorem recvHead_RN (w : World) (x p : Nat) :
    RN (recvHead w x p) = (w.recs ++ recvPre w x p, w.now) := by
  unfold recvHead recvPre
  dsimp only
  split
  · rename_i h; simp [RN, h]; rfl
  · rename_i h
    have hx := kind_buffer_lt h
    simp [RN, h, dev_setDev_same hx]
    rfl
  · rename_i h1 h2
    have : (w.dev x).kind ≠ .buffer := fun h => h2 h
    simp [RN, this]

theorem ExtN_recvTail (w : World) (x p : Nat) : ExtN w (recvTail w x p) := by
  unfold recvTail
  dsimp only
  split
  · exact ExtN.of_RN_trans (RN_foldl_applyPartCb _ _ _ _) (ExtN.floor.tryMove _ _)
  · exact ExtN.of_RN (RN_foldl_applyPartCb _ _ _ _)

/-- `_accept_part` up to the call of `_on_received_new_part`. -/
def acceptHead (w : World) (x p : Nat) : World :=
  let w := if (w.dev x).kind == .sink then { w with delivered := w.delivered ++ w.leavesOf p } else w
  let w := w.modDev x (fun d => { d with part := some p })
  let w := w.addHist p x
  w.setWaiting x false false

theorem acceptPart_eq (w : World) (x p : Nat) :
    w.acceptPart x p = (acceptHead w x p).onReceived x p := rfl

@[simp] theorem RN_acceptHead (w : World) (x p : Nat) : RN (acceptHead w x p) = RN w := by
  unfold acceptHead
  dsimp only
  rw [RN_setWaiting, RN_addHist, RN_modDev]
  split <;> rfl

/-! ### World: scripted operations, events -/

@[simp] theorem RN_modMaint (w : World) (m : Nat) (f : Maint → Maint) : RN (w.modMaint m f) = RN w :=
  rfl

@[simp] theorem RN_startOrders (w : World) (m : Nat) (st : List Order) :
    RN (w.startOrders m st) = RN w :=
  RN_foldl _ _ _ (fun _ _ => RN_schedLib _ _ _ _ _)

@[simp] theorem RN_setVar (w : World) (h : Nat) (v : Option Nat) : RN (w.setVar h v) = RN w := rfl

/-- The record of a scheduler transition. -/
def schedRecs (w : World) (s : Nat) (advance : Bool) : List Rec :=
  match ((w.scheds.getD s default).s.update advance).2 with
  | none => []
  | some (st, _, _) => [Rec.schedUpdate s w.now st]

theorem schedUpdate_RN (w : World) (s : Nat) (advance : Bool) :
    RN (w.schedUpdate s advance) = (w.recs ++ schedRecs w s advance, w.now) := by
  unfold schedUpdate
  dsimp only
  split
  · rename_i h
    have hr : schedRecs w s advance = [] := by unfold schedRecs; rw [h]
    rw [hr, List.append_nil]; rfl
  · rename_i st objs dur h
    have hr : schedRecs w s advance = [Rec.schedUpdate s w.now st] := by unfold schedRecs; rw [h]
    rw [RN_schedLib, RN_foldl _ _ _ (fun _ _ => RN_addRes _ _), hr]
    rfl

theorem ExtN_schedUpdate (w : World) (s : Nat) (advance : Bool) :
    ExtN w (w.schedUpdate s advance) :=
  ⟨congrArg Prod.snd (schedUpdate_RN w s advance), ⟨_, congrArg Prod.fst (schedUpdate_RN w s advance)⟩⟩

theorem ExtN_initAsset (w : World) (a : AssetRef) : ExtN w (w.initAsset a) := by
  unfold initAsset
  split <;> (try dsimp only) <;>
    frame_walk ExtN.frame [ExtN.floor.initDev _ _, ExtN_schedUpdate _ _ _,
      ExtN.frame.schedLib _ _ _ _ _, ExtN.frame.modDev _ _ _]


theorem ExtN_addDev (w : World) (d : Dev) : ExtN w (w.addDev d) := by
  unfold addDev
  extract_lets i d' ups w1 w2 gr w3
  have h1 : ExtN w w1 := ExtN.of_RN rfl
  have h2 : ExtN w1 w2 := ExtN.floor.rewire _ _ _
  have h3 : ExtN w2 w3 := by
    show ExtN w2 (if _ then _ else _)
    split
    · exact ExtN.of_RN rfl
    · exact ExtN.refl _
  have h4 : ExtN w3 (if w3.started = true then w3.initAsset (AssetRef.dev i) else w3) := by
    split
    · exact ExtN_initAsset _ _
    · exact ExtN.refl _
  exact (h1.trans h2).trans (h3.trans h4)

theorem ExtN_addAsset (w : World) (spec : AssetSpec) : ExtN w (w.addAsset spec) := by
  unfold addAsset
  split <;> (try dsimp only) <;>
    frame_walk ExtN.frame [ExtN_addDev _ _, ExtN.floor.rewire _ _ _, ExtN_initAsset _ _]


theorem ExtN.plain : PlainClosed ExtN :=
  .ofFloor ExtN.floor.toFloorClosed (fun _ _ _ _ _ _ _ _ => .of_RN rfl) ExtN.floor.setBlockInput
    (fun w t a _ p => ExtN.frame.sched w t a _ p) (fun w _ _ _ _ => ExtN_addRec w _)
    (fun w t a _ _ => ExtN.frame.schedLib w t a _ _) (fun _ _ _ => .of_RN rfl)

theorem ExtN_applyOp (w : World) (op : Op) : ExtN w (w.applyOp op).1 := by
  cases op with
  | create s => exact ExtN_addAsset w s
  | pause a => exact ExtN.frame.envOp_pause w a
  | unpause a => exact ExtN.frame.envOp_unpause w a
  | cancel a => exact ExtN.frame.envOp_cancel w a
  | shutdown d =>
    rw [World.applyOp]
    split
    · exact ExtN.refl _
    · exact ExtN.floor.shutdownDev w d _ _
  | restore d =>
    rw [World.applyOp]
    split
    · exact ExtN.refl _
    · exact ExtN.floor.restoreDev w d
  | rewire d ups => exact ExtN.floor.rewire w d ups
  | _ =>
    exact ExtN.plain.applyOp w _ rfl (fun t _ _ => ExtN.frame.sched w t _ _ _)
      fun d n _ => ExtN.floor.adjustParts w d n

theorem ExtN_applyOps (w : World) (ops : List Op) : ExtN w (w.applyOps ops) := by
  unfold applyOps
  exact ExtN.floor.foldl _ (fun w op => (ExtN_applyOp w op).trans_RN (RN_addRes _ _)) _ _

theorem ExtN_runScript (w : World) (k : Nat) : ExtN w (w.runScript k) := ExtN_applyOps _ _

theorem ExtN_scanWaiting (n : Nat) (w : World) (i : Nat) : ExtN w (scanWaiting scanOps n w i) := by
  induction n generalizing w i with
  | zero => exact ExtN.refl _
  | succ n ih =>
    rw [scanWaiting]
    split
    · exact ExtN.refl _
    · split
      · refine ExtN.trans ?_ (ih _ _)
        show ExtN w (scanOps.erase (scanOps.call w _ _) i)
        unfold scanOps
        dsimp only
        refine ExtN.trans_RN ?_ (RN_with_rm _ _)
        frame_walk ExtN.frame [ExtN_runScript _ _, ExtN.frame.addRes _ _,
          ExtN.floor.procResourceCb _ _]
      · exact ih _ _

theorem ExtN_rmCheck (w : World) : ExtN w w.rmCheck := ExtN_scanWaiting _ _ _

theorem ExtN_hookStart (w : World) (tgt : Nat) (tag : Int) : ExtN w (w.hookStart tgt tag) := by
  unfold hookStart
  dsimp only
  frame_walk ExtN.frame [ExtN.floor.shutdownDev _ _ _ _, ExtN_runScript _ _, ExtN.frame.addRes _ _]

theorem ExtN_hookEnd (w : World) (tgt : Nat) (tag : Int) : ExtN w (w.hookEnd tgt tag) := by
  unfold hookEnd
  dsimp only
  frame_walk ExtN.frame [ExtN.floor.restoreDev _ _, ExtN_runScript _ _, ExtN.frame.addRes _ _]

theorem ExtN_startWork (w : World) (m seq : Nat) : ExtN w (w.startWork m seq) := by
  unfold startWork
  dsimp only
  frame_walk ExtN.frame [ExtN.frame.setErr _ _, ExtN.frame.schedLib _ _ _ _ _, ExtN_hookStart _ _ _,
    ExtN.of_RN (RN_modMaint _ _ _), ExtN_addRec _ _]

theorem ExtN_finishWork (w : World) (m seq : Nat) : ExtN w (w.finishWork m seq) := by
  unfold finishWork
  dsimp only
  frame_walk ExtN.frame [ExtN.frame.setErr _ _, ExtN.of_RN (RN_startOrders _ _ _),
    ExtN.of_RN (RN_modMaint _ _ _), ExtN_addRec _ _, ExtN_hookEnd _ _ _]

theorem ExtN_periodicSense (w : World) (s : Nat) : ExtN w (w.periodicSense s) := by
  unfold periodicSense
  dsimp only
  frame_walk ExtN.frame [ExtN.frame.schedLib _ _ _ _ _, ExtN.frame.addRes _ _]

theorem ExtN_exec (w : World) (a : Action) : ExtN w (w.exec a) := by
  unfold exec
  split
  · exact ExtN.refl _
  · exact ExtN_runScript _ _
  · exact ExtN.floor.finishCycle _ _
  · exact ExtN.floor.passPart _ _
  · exact ExtN.floor.failDev _ _
  · exact ExtN.floor.releaseIfIdle _ _
  · exact ExtN_rmCheck _
  · exact ExtN_startWork _ _ _
  · exact ExtN_finishWork _ _ _
  · exact ExtN_schedUpdate _ _ _
  · exact ExtN_periodicSense _ _
  · exact ExtN.of_RN (RN_setErr _ _)

theorem ExtN_simulateInit (w : World) : ExtN w w.simulateInit := by
  unfold simulateInit
  split
  · exact ExtN.refl _
  · dsimp only
    refine ExtN.trans_RN ?_ (RN_with_started _ _)
    refine ExtN.trans ?_ (ExtN.floor.foldl _ ExtN_initAsset _ _)
    frame_walk ExtN.frame [ExtN.floor.rmEffects _ _ _]

/-- A step of the event loop only extends the log (the clock moves). -/
theorem Ext_step {w w' : World} {e : Event} (h : w.step = some (e, w')) : Ext w w' := by
  unfold World.step at h
  split at h
  · cases h
  · cases h
    split
    · exact (ExtN_exec _ _).ext
    · exact Ext.refl _

/-! ### exact characterisations -/

/-- `_fail()` up to the release of the resources. -/
def failHead (w : World) (x : Nat) : World :=
  (match (w.dev x).part with
    | some p => { w with lost := w.lost ++ w.leavesOf p }
    | none => w).modDev x (fun d => { d with part := none })

theorem failDev_eq (w : World) (x : Nat) :
    w.failDev x =
      (((failHead w x).releaseReserved x).addRec
        (.failure x ((failHead w x).releaseReserved x).now (w.dev x).part)).shutdownDev x true
          (w.dev x).part := rfl

theorem failHead_RN (w : World) (x : Nat) : RN (failHead w x) = RN w := by
  unfold failHead
  rw [RN_modDev]
  split <;> rfl

theorem failHead_rm (w : World) (x : Nat) : (failHead w x).rm = w.rm := by
  unfold failHead
  split <;> rfl

theorem failHead_reserved (w : World) (x : Nat) :
    ((failHead w x).dev x).reserved = (w.dev x).reserved := by
  unfold failHead
  rw [dev_modDev]
  have : ∀ w0 : World, w0.devs = w.devs → (if x = x ∧ x < w0.devs.length then
      (fun d : Dev => { d with part := none }) (w0.dev x) else w0.dev x).reserved =
      (w.dev x).reserved := by
    intro w0 h
    rw [dev_congr h]
    split <;> rfl
  split
  · exact this _ rfl
  · exact this _ rfl

theorem releaseRecs_failHead (w : World) (x : Nat) :
    releaseRecs (failHead w x) x = releaseRecs w x := by
  unfold releaseRecs
  rw [failHead_reserved, failHead_rm, RN_now (failHead_RN w x)]

theorem releaseReserved_recs (w : World) (x : Nat) :
    (w.releaseReserved x).recs = w.recs ++ releaseRecs w x :=
  congrArg Prod.fst (releaseReserved_RN w x)

theorem releaseReserved_now (w : World) (x : Nat) : (w.releaseReserved x).now = w.now :=
  congrArg Prod.snd (releaseReserved_RN w x)

theorem recvHead_recs (w : World) (x p : Nat) :
    (recvHead w x p).recs = w.recs ++ recvPre w x p :=
  congrArg Prod.fst (recvHead_RN w x p)

theorem failDev_recs (w : World) (x : Nat) :
    (w.failDev x).recs =
      w.recs ++ releaseRecs w x ++ [Rec.failure x w.now (w.dev x).part] := by
  rw [failDev_eq, RN_recs (RN_shutdownDev _ _ _ _), addRec_recs]
  rw [releaseReserved_recs, releaseReserved_now, releaseRecs_failHead, RN_recs (failHead_RN w x),
    RN_now (failHead_RN w x)]

/-- Every record written by `_fail()` other than the failure record is a `resource_update`. -/
theorem releaseRecs_resUpdate (w : World) (x : Nat) :
    ∀ r ∈ releaseRecs w x, ∃ res u c, r = Rec.resUpdate res w.now u c := by
  unfold releaseRecs stamp
  split
  · simp
  · intro r hr
    obtain ⟨a, _, rfl⟩ := List.mem_map.1 hr
    exact ⟨_, _, _, rfl⟩

/-! #### `_on_received_new_part` -/

theorem onReceived_recs (w : World) (x p : Nat) :
    ∃ tail, (w.onReceived x p).recs =
      w.recs ++ recvPre w x p ++
        [Rec.received x w.now p (w.part p).quality (w.partValue p)] ++ tail := by
  rw [onReceived_eq]
  obtain ⟨tail, ht⟩ := (ExtN_recvTail ((recvHead w x p).addRec
    (.received x w.now p (w.part p).quality (w.partValue p))) x p).ext
  refine ⟨tail, ?_⟩
  rw [ht, addRec_recs, recvHead_recs]

theorem dev_recvHead_ne (w : World) {x y : Nat} (p : Nat) (h : y ≠ x) :
    (recvHead w x p).dev y = w.dev y := by
  unfold recvHead
  dsimp only
  split
  · exact dev_setDev_ne (Ne.symm h)
  · rw [dev_addRec]; exact dev_setDev_ne (Ne.symm h)
  · rfl

theorem recvHead_devs_length (w : World) (x p : Nat) :
    (recvHead w x p).devs.length = w.devs.length := by
  unfold recvHead
  dsimp only
  split
  · exact setDev_devs_length
  · exact setDev_devs_length
  · rfl

theorem recvHead_kind (w : World) (x p y : Nat) :
    ((recvHead w x p).dev y).kind = (w.dev y).kind := by
  unfold recvHead
  dsimp only
  split
  · rw [dev_setDev]; split
    · rename_i h; rw [← h.1]
    · rfl
  · rw [dev_addRec, dev_setDev]; split
    · rename_i h; rw [← h.1]
    · rfl
  · rfl

theorem kind_sink_lt {w : World} {x : Nat} (h : (w.dev x).kind = .sink) :
    x < w.devs.length := by
  apply Classical.byContradiction
  intro hn
  rw [dev_of_length_le (Nat.le_of_not_lt hn)] at h
  cases h

/-! #### device fields through the cycle of a sink / a buffer -/

section fields
variable {α : Type} (g : Dev → α)

theorem setDev_dev_field (w : World) (x y : Nat) (d : Dev) (h : g d = g (w.dev x)) :
    g ((w.setDev x d).dev y) = g (w.dev y) := by
  rw [dev_setDev]
  split
  · rename_i hc; rw [h, hc.1]
  · rfl

theorem finishCycleHandler_dev_field
    (hg : ∀ d out pt, g { d with output := out, part := pt } = g d)
    (hcore : ∀ d, g d.core = g d) (w : World) (x y : Nat) :
    g ((w.finishCycleHandler x).dev y) = g (w.dev y) := by
  unfold finishCycleHandler
  dsimp only
  repeat' split
  all_goals try (rw [dev_setErr])
  rw [← hcore, core_eq_dev (schedulePass_core _ _ _), hcore]
  exact setDev_dev_field g _ _ _ _ (hg _ _ _)

theorem sink_finishCycle_dev_field
    (hg : ∀ d out pt, g { d with output := out, part := pt } = g d)
    (hcore : ∀ d, g d.core = g d) (w : World) (x y : Nat) (h : (w.dev x).kind = .sink) :
    g ((w.finishCycle x).dev y) = g (w.dev y) := by
  unfold finishCycle
  simp only [h]
  rw [← hcore, core_eq_dev (notify_core _ _), hcore, dev_modDev]
  split
  · rename_i hc
    rw [← hc.1, hg _ none (((w.finishCycleHandler x).dev x).part)]
    · exact finishCycleHandler_dev_field g hg hcore w x x
  · exact finishCycleHandler_dev_field g hg hcore w x y

theorem sink_scheduleFinish_dev_field
    (hg : ∀ d o out pt, g { d with offset := o, output := out, part := pt } = g d)
    (hcore : ∀ d, g d.core = g d) (w : World) (x y : Nat) (h : (w.dev x).kind = .sink) :
    g ((w.scheduleFinish x).dev y) = g (w.dev y) := by
  have hx := kind_sink_lt h
  have hg1 : ∀ d out pt, g { d with output := out, part := pt } = g d := fun d out pt =>
    hg d d.offset out pt
  have hg2 : ∀ d : Dev, g { d with offset := 0 } = g d := fun d => hg d 0 d.output d.part
  unfold scheduleFinish
  dsimp only
  repeat' split
  all_goals first
    | (rw [sink_finishCycle_dev_field g hg1 hcore]
       · exact setDev_dev_field g _ _ _ _ (hg2 _)
       · rw [dev_setDev_same hx]; exact h)
    | (rw [dev_schedLib]
       exact setDev_dev_field g _ _ _ _ (hg2 _))

theorem sink_tryMove_dev_field
    (hg : ∀ d o out pt, g { d with offset := o, output := out, part := pt } = g d)
    (hcore : ∀ d, g d.core = g d) (w : World) (x y : Nat) (h : (w.dev x).kind = .sink) :
    g ((w.tryMove x).dev y) = g (w.dev y) := by
  unfold tryMove
  simp only [h]
  split
  · exact sink_scheduleFinish_dev_field g hg hcore w x y h
  · rfl

theorem foldl_applyPartCb_dev_field
    (hg : ∀ d cy o, g { d with cycle := cy, offset := o } = g d) (x p : Nat) (l : List PartCb)
    (w : World) (y : Nat) :
    g ((l.foldl (fun w c => w.applyPartCb x p c) w).dev y) = g (w.dev y) := by
  induction l generalizing w with
  | nil => rfl
  | cons c l ih => rw [List.foldl_cons, ih, applyPartCb_dev_field g hg]

theorem sink_recvTail_dev_field
    (hg : ∀ d cy o out pt, g { d with cycle := cy, offset := o, output := out, part := pt } = g d)
    (hcore : ∀ d, g d.core = g d) (w : World) (x p y : Nat) (h : (w.dev x).kind = .sink) :
    g ((recvTail w x p).dev y) = g (w.dev y) := by
  have hg1 : ∀ d cy o, g { d with cycle := cy, offset := o } = g d := fun d cy o =>
    hg d cy o d.output d.part
  have hg2 : ∀ d o out pt, g { d with offset := o, output := out, part := pt } = g d :=
    fun d o out pt => hg d d.cycle o out pt
  unfold recvTail
  dsimp only
  split
  · rw [sink_tryMove_dev_field g hg2 hcore]
    · exact foldl_applyPartCb_dev_field g hg1 _ _ _ _ _
    · rw [foldl_applyPartCb_dev_field Dev.kind (fun _ _ _ => rfl)]; exact h
  · exact foldl_applyPartCb_dev_field g hg1 _ _ _ _ _

end fields

/-- A sink counts the parts it receives. -/
theorem onReceived_sink_recvCount (w : World) (x p : Nat) (h : (w.dev x).kind = .sink) :
    ((w.onReceived x p).dev x).recvCount = (w.dev x).recvCount + w.leafCount p := by
  have hx := kind_sink_lt h
  rw [onReceived_eq, sink_recvTail_dev_field Dev.recvCount (fun _ _ _ _ _ => rfl) (fun _ => rfl)]
  · rw [dev_addRec]
    unfold recvHead
    simp only [h]
    rw [dev_setDev_same hx]
  · rw [dev_addRec, recvHead_kind]; exact h

/-! #### buffers -/

section bufferFields
variable {α : Type} (g : Dev → α)

theorem buffer_tryMove_dev_field
    (hg : ∀ d b pt, g { d with buf := b, part := pt } = g d)
    (hcore : ∀ d, g d.core = g d) (w : World) (x y : Nat) (h : (w.dev x).kind = .buffer) :
    g ((w.tryMove x).dev y) = g (w.dev y) := by
  unfold tryMove
  dsimp only
  split
  · split
    · rfl
    · split
      · rw [← hcore, core_eq_dev (schedulePass_core _ _ _), core_eq_dev (notify_core _ _), hcore]
        exact setDev_dev_field g _ _ _ _ (hg _ _ _)
      · rw [← hcore, core_eq_dev (notify_core _ _), hcore]
        exact setDev_dev_field g _ _ _ _ (hg _ _ _)
  all_goals simp_all

theorem buffer_recvTail_dev_field
    (hg : ∀ d cy o b pt, g { d with cycle := cy, offset := o, buf := b, part := pt } = g d)
    (hcore : ∀ d, g d.core = g d) (w : World) (x p y : Nat) (h : (w.dev x).kind = .buffer) :
    g ((recvTail w x p).dev y) = g (w.dev y) := by
  have hg1 : ∀ d cy o, g { d with cycle := cy, offset := o } = g d := fun d cy o =>
    hg d cy o d.buf d.part
  have hg2 : ∀ d b pt, g { d with buf := b, part := pt } = g d :=
    fun d b pt => hg d d.cycle d.offset b pt
  unfold recvTail
  dsimp only
  split
  · rw [buffer_tryMove_dev_field g hg2 hcore]
    · exact foldl_applyPartCb_dev_field g hg1 _ _ _ _ _
    · rw [foldl_applyPartCb_dev_field Dev.kind (fun _ _ _ => rfl)]; exact h
  · exact foldl_applyPartCb_dev_field g hg1 _ _ _ _ _

end bufferFields

theorem RN_tryMove_buffer (w : World) (x : Nat) (h : (w.dev x).kind = .buffer) :
    RN (w.tryMove x) = RN w := by
  unfold tryMove
  simp only [h]
  split
  · rfl
  · split
    · rw [RN_schedulePass, RN_notify]; rfl
    · rw [RN_notify]; rfl

theorem RN_recvTail_buffer (w : World) (x p : Nat) (h : (w.dev x).kind = .buffer) :
    RN (recvTail w x p) = RN w := by
  unfold recvTail
  dsimp only
  split
  · rw [RN_tryMove_buffer, RN_foldl_applyPartCb]
    rw [foldl_applyPartCb_dev_field Dev.kind (fun _ _ _ => rfl)]; exact h
  · exact RN_foldl_applyPartCb _ _ _ _

/-- A buffer that receives a part writes exactly the new level and the `received_part` record. -/
theorem onReceived_buffer_recs (w : World) (x p : Nat) (h : (w.dev x).kind = .buffer) :
    (w.onReceived x p).recs = w.recs ++
      [Rec.level x w.now ((w.dev x).level + w.leafCount p),
       Rec.received x w.now p (w.part p).quality (w.partValue p)] := by
  rw [onReceived_eq, RN_recs (RN_recvTail_buffer _ _ _ _), addRec_recs, recvHead_recs]
  · simp [recvPre, h]
  · rw [dev_addRec, recvHead_kind]; exact h

theorem onReceived_buffer_level (w : World) (x p : Nat) (h : (w.dev x).kind = .buffer) :
    ((w.onReceived x p).dev x).level = (w.dev x).level + w.leafCount p := by
  have hx := kind_buffer_lt h
  rw [onReceived_eq, buffer_recvTail_dev_field Dev.level (fun _ _ _ _ _ => rfl) (fun _ => rfl)]
  · rw [dev_addRec]
    unfold recvHead
    simp only [h]
    rw [dev_addRec, dev_setDev_same hx]
  · rw [dev_addRec, recvHead_kind]; exact h

/-! #### `_accept_part` -/

theorem leafCount_congr {w w' : World} (h : w'.parts = w.parts) (p : Nat) :
    w'.leafCount p = w.leafCount p := by
  unfold leafCount World.part
  rw [h]

theorem acceptHead_dev_field {α} (g : Dev → α) (hg : ∀ d pt, g { d with part := pt } = g d)
    (hcore : ∀ d, g d.core = g d) (w : World) (x p y : Nat) :
    g ((acceptHead w x p).dev y) = g (w.dev y) := by
  unfold acceptHead
  dsimp only
  rw [← hcore, core_eq_dev (setWaiting_core _ _ _ _), hcore, dev_addHist, dev_modDev]
  have : ∀ w0 : World, w0.devs = w.devs →
      g (if x = y ∧ x < w0.devs.length then (fun d : Dev => { d with part := some p }) (w0.dev x)
        else w0.dev y) = g (w.dev y) := by
    intro w0 h0
    rw [dev_congr h0 x, dev_congr h0 y]
    split
    · rename_i hc; rw [hg, hc.1]
    · rfl
  split
  · exact this _ rfl
  · exact this _ rfl

theorem acceptHead_part_quality (w : World) (x p q : Nat) :
    ((acceptHead w x p).part q).quality = (w.part q).quality := by
  unfold acceptHead
  dsimp only
  rw [part_setWaiting, addHist_part_quality, part_modDev]
  split <;> rfl

theorem acceptHead_partValue (w : World) (x p q : Nat) :
    (acceptHead w x p).partValue q = w.partValue q := by
  unfold acceptHead
  dsimp only
  rw [core_eq_partValue (setWaiting_core _ _ _ _), addHist_partValue]
  apply partValue_congr
  split <;> rfl

theorem acceptHead_leafCount (w : World) (x p q : Nat) :
    (acceptHead w x p).leafCount q = w.leafCount q := by
  unfold acceptHead
  dsimp only
  rw [core_eq_leafCount (setWaiting_core _ _ _ _), addHist_leafCount]
  apply leafCount_congr
  split <;> rfl

theorem recvPre_acceptHead (w : World) (x p : Nat) :
    recvPre (acceptHead w x p) x p = recvPre w x p := by
  unfold recvPre
  rw [acceptHead_dev_field Dev.kind (fun _ _ => rfl) (fun _ => rfl),
    acceptHead_dev_field Dev.level (fun _ _ => rfl) (fun _ => rfl), acceptHead_leafCount,
    RN_now (RN_acceptHead w x p)]

/-- `_accept_part`: the records start with the buffer's new level (buffers only) and exactly one
`received_part` record carrying the part's quality and value at that moment. -/
theorem acceptPart_recs (w : World) (x p : Nat) :
    ∃ tail, (w.acceptPart x p).recs =
      w.recs ++ recvPre w x p ++
        [Rec.received x w.now p (w.part p).quality (w.partValue p)] ++ tail := by
  obtain ⟨tail, ht⟩ := onReceived_recs (acceptHead w x p) x p
  refine ⟨tail, ?_⟩
  rw [acceptPart_eq, ht, recvPre_acceptHead, RN_recs (RN_acceptHead w x p),
    RN_now (RN_acceptHead w x p), acceptHead_part_quality, acceptHead_partValue]

theorem acceptPart_buffer_recs (w : World) (x p : Nat) (h : (w.dev x).kind = .buffer) :
    (w.acceptPart x p).recs = w.recs ++
      [Rec.level x w.now ((w.dev x).level + w.leafCount p),
       Rec.received x w.now p (w.part p).quality (w.partValue p)] := by
  rw [acceptPart_eq, onReceived_buffer_recs, RN_recs (RN_acceptHead w x p),
    RN_now (RN_acceptHead w x p), acceptHead_part_quality, acceptHead_partValue,
    acceptHead_leafCount, acceptHead_dev_field Dev.level (fun _ _ => rfl) (fun _ => rfl)]
  rw [acceptHead_dev_field Dev.kind (fun _ _ => rfl) (fun _ => rfl)]; exact h

theorem acceptPart_buffer_level (w : World) (x p : Nat) (h : (w.dev x).kind = .buffer) :
    ((w.acceptPart x p).dev x).level = (w.dev x).level + w.leafCount p := by
  rw [acceptPart_eq, onReceived_buffer_level, acceptHead_leafCount,
    acceptHead_dev_field Dev.level (fun _ _ => rfl) (fun _ => rfl)]
  rw [acceptHead_dev_field Dev.kind (fun _ _ => rfl) (fun _ => rfl)]; exact h

theorem acceptPart_sink_recvCount (w : World) (x p : Nat) (h : (w.dev x).kind = .sink) :
    ((w.acceptPart x p).dev x).recvCount = (w.dev x).recvCount + w.leafCount p := by
  rw [acceptPart_eq, onReceived_sink_recvCount, acceptHead_leafCount,
    acceptHead_dev_field Dev.recvCount (fun _ _ => rfl) (fun _ => rfl)]
  rw [acceptHead_dev_field Dev.kind (fun _ _ => rfl) (fun _ => rfl)]; exact h

/-! #### the processor's `_finish_cycle` -/

theorem kind_processor_lt {w : World} {x : Nat} (h : (w.dev x).kind = .processor) :
    x < w.devs.length := by
  apply Classical.byContradiction
  intro hn
  rw [dev_of_length_le (Nat.le_of_not_lt hn)] at h
  cases h

/-- The records of a processor's `_finish_cycle`: nothing but (at most) one `produced_part`
record, written last, carrying the quality and value the part has AFTER the finish callbacks. -/
theorem finishCycle_processor_recs (w : World) (x : Nat) (h : (w.dev x).kind = .processor) :
    (w.finishCycle x).recs = w.recs ++
      match ((procPre w x).dev x).output with
      | none => []
      | some p => [Rec.produced x w.now p ((w.finishCycle x).part p).quality
          ((w.finishCycle x).partValue p)] := by
  have he := finishCycle_processor_eq w x h
  cases hout : ((procPre w x).dev x).output with
  | none =>
    rw [hout] at he
    dsimp only at he ⊢
    rw [he, RN_recs (RN_procPre w x), List.append_nil]
  | some p =>
    rw [hout] at he
    dsimp only at he ⊢
    rw [he, addRec_recs, RN_recs (RN_procCbs _ _ _ _ _), RN_recs (RN_procPre w x),
      RN_now (RN_procCbs _ _ _ _ _), RN_now (RN_procPre w x)]
    rfl

/-- The handler part of `_finish_cycle` succeeds on an operational processor that holds a part
and has a free output: the part is moved to the output. -/
theorem procPre_output (w : World) (x p : Nat) (h : (w.dev x).kind = .processor)
    (hop : w.operational x = true) (hp : (w.dev x).part = some p)
    (ho : (w.dev x).output = none) : ((procPre w x).dev x).output = some p := by
  have hx := kind_processor_lt h
  have h1 : ((w.finishCycleHandler x).dev x).output = some p := by
    unfold finishCycleHandler
    simp only [hop, hp, ho, Bool.not_true, Option.isSome_none, Bool.false_eq_true, ↓reduceIte]
    rw [core_eq_dev_output (schedulePass_core _ _ _), dev_setDev_same hx]
  have hx1 : x < (w.finishCycleHandler x).devs.length := by
    unfold finishCycleHandler
    simp only [hop, hp, ho, Bool.not_true, Option.isSome_none, Bool.false_eq_true, ↓reduceIte]
    simpa using hx
  unfold procPre
  dsimp only
  split
  · rw [dev_schedLib, dev_setDev_same hx1]; exact h1
  · rw [dev_setDev_same hx1]; exact h1

/-- Exactly one `produced_part` record per finished cycle. -/
theorem finishCycle_processor_produced (w : World) (x p : Nat) (h : (w.dev x).kind = .processor)
    (hop : w.operational x = true) (hp : (w.dev x).part = some p)
    (ho : (w.dev x).output = none) :
    (w.finishCycle x).recs = w.recs ++
      [Rec.produced x w.now p ((w.finishCycle x).part p).quality
          ((w.finishCycle x).partValue p)] := by
  rw [finishCycle_processor_recs w x h]
  rw [procPre_output w x p h hop hp ho]

/-! #### the other devices' `_finish_cycle` write nothing -/

theorem finishCycle_other_recs (w : World) (x : Nat) (h : (w.dev x).kind ≠ .processor) :
    (w.finishCycle x).recs = w.recs := by
  apply RN_recs
  unfold finishCycle
  dsimp only
  split
  · rw [RN_schedulePass]
    split
    · simp
    · rfl
  · simp
  · contradiction
  · simp

/-! #### maintainer and scheduler records -/

theorem schedUpdate_recs (w : World) (s : Nat) (advance : Bool) :
    (w.schedUpdate s advance).recs = w.recs ++ schedRecs w s advance :=
  congrArg Prod.fst (schedUpdate_RN w s advance)

theorem create_order (mm : Maint) (tgt : Nat) (tag need info : Int) :
    (mm.create tgt tag need info).2.2.1 =
      if mm.requested tgt tag then none
      else some { seq := mm.nextSeq, target := tgt, tag := tag, needed := need, info := info } := by
  unfold Maint.create
  split <;> rfl

/-- `create_work_order`: one `enter_queue` record iff the request is not a duplicate. -/
theorem applyOp_workOrder_recs (w : World) (m tgt : Nat) (tag info : Int) :
    (w.applyOp (.workOrder m tgt tag info)).1.recs = w.recs ++
      if (w.maint m).requested tgt tag then [] else [Rec.workOrder 0 m w.now tgt tag info] := by
  unfold applyOp
  dsimp only
  rw [RN_recs (RN_startOrders _ _ _), create_order]
  by_cases hr : (w.maint m).requested tgt tag = true
  · rw [if_pos hr, if_pos hr, List.append_nil]; rfl
  · rw [if_neg hr, if_neg hr]; rfl

/-- `_start_work_order`: one `start` record, then whatever the target's hook writes. -/
theorem startWork_recs (w : World) (m seq : Nat) (o : Order)
    (h : (w.maint m).findActive seq = some o) :
    ∃ tail, (w.startWork m seq).recs =
      w.recs ++ [Rec.workOrder 1 m w.now o.target o.tag o.info] ++ tail := by
  unfold startWork
  simp only [h]
  rw [RN_recs (RN_schedLib _ _ _ _ _)]
  obtain ⟨tail, ht⟩ := (ExtN_hookStart ((w.addRec (Rec.workOrder 1 m w.now o.target o.tag o.info)).modMaint m
    (fun mm => mm.startCost (w.addRec (Rec.workOrder 1 m w.now o.target o.tag o.info)).now
      ((w.addRec (Rec.workOrder 1 m w.now o.target o.tag o.info)).targetParams o.target o.tag).2.2))
    o.target o.tag).ext
  exact ⟨tail, ht⟩

theorem startWork_none_recs (w : World) (m seq : Nat)
    (h : (w.maint m).findActive seq = none) : (w.startWork m seq).recs = w.recs := by
  unfold startWork
  simp only [h]
  exact RN_recs (RN_setErr _ _)

/-- `_finish_work_order`: whatever the target's hook writes, then one `finish` record, last. -/
theorem finishWork_recs (w : World) (m seq : Nat) (o : Order)
    (h : (w.maint m).findActive seq = some o) :
    ∃ pre, (w.finishWork m seq).recs =
      w.recs ++ pre ++ [Rec.workOrder 2 m w.now o.target o.tag o.info] := by
  obtain ⟨pre, hp⟩ := (ExtN_hookEnd w o.target o.tag).ext
  refine ⟨pre, ?_⟩
  unfold finishWork
  simp only [h]
  rw [RN_recs (RN_startOrders _ _ _), RN_recs (RN_modMaint _ _ _), addRec_recs,
    RN_recs (RN_modMaint _ _ _), hp]
  congr 2
  exact congrArg (fun t => Rec.workOrder 2 m t o.target o.tag o.info)
    ((RN_now (RN_modMaint _ _ _)).trans (ExtN_hookEnd w o.target o.tag).now_eq)

theorem finishWork_none_recs (w : World) (m seq : Nat)
    (h : (w.maint m).findActive seq = none) : (w.finishWork m seq).recs = w.recs := by
  unfold finishWork
  simp only [h]
  exact RN_recs (RN_setErr _ _)

/-- The default hooks (target = a processor) write nothing. -/
theorem hookStart_dev_recs (w : World) (tgt : Nat) (tag : Int) (d : Nat)
    (h : (w.targets.getD tgt default).dev = some d) : (w.hookStart tgt tag).recs = w.recs := by
  unfold hookStart
  simp only [h]
  exact RN_recs ((RN_shutdownDev _ _ _ _).trans (RN_addRes _ _))

theorem hookEnd_dev_recs (w : World) (tgt : Nat) (tag : Int) (d : Nat)
    (h : (w.targets.getD tgt default).dev = some d) : (w.hookEnd tgt tag).recs = w.recs := by
  unfold hookEnd
  simp only [h]
  exact RN_recs ((RN_restoreDev _ _).trans (RN_addRes _ _))

section rmlog
open RM
/-! ### the resource manager's records are a faithful log of its pools -/

/-- The pool of a resource: (in use, capacity). -/
def pool (rm : RM) (r : Nat) : Int × Int := (rm.usage r, rm.capacity r)

/-- The last record about resource `r`. -/
def lastFor (recs : List ResRec) (r : Nat) : Option ResRec :=
  (recs.filter (fun x => x.res == r)).getLast?

/-- `recs` is a faithful log of the transition `rm → rm'`: for every resource, the last record
about it (if any) shows its new pool, and a resource without a record has an unchanged pool. -/
def Faithful (rm rm' : RM) (recs : List ResRec) : Prop :=
  ∀ r, match lastFor recs r with
    | none => pool rm' r = pool rm r
    | some x => x = ⟨r, rm'.usage r, rm'.capacity r⟩

theorem Faithful.refl (rm : RM) : Faithful rm rm [] := by
  intro r; simp [lastFor]

theorem lastFor_append (l₁ l₂ : List ResRec) (r : Nat) :
    lastFor (l₁ ++ l₂) r = (lastFor l₂ r).or (lastFor l₁ r) := by
  unfold lastFor
  rw [List.filter_append, List.getLast?_append]

theorem Faithful.trans {a b c : RM} {l₁ l₂ : List ResRec} (h₁ : Faithful a b l₁)
    (h₂ : Faithful b c l₂) : Faithful a c (l₁ ++ l₂) := by
  intro r
  have h1 := h₁ r
  have h2 := h₂ r
  rw [lastFor_append]
  cases e2 : lastFor l₂ r with
  | some x => rw [e2] at h2; simpa using h2
  | none =>
    rw [e2] at h2
    simp only at *
    cases e1 : lastFor l₁ r with
    | some y =>
      rw [e1] at h1
      simp only at h1 h2 ⊢
      have hu : c.usage r = b.usage r := congrArg Prod.fst h2
      have hc : c.capacity r = b.capacity r := congrArg Prod.snd h2
      rw [hu, hc]; exact h1
    | none =>
      rw [e1] at h1
      simp only at h1 h2 ⊢
      exact h2.trans h1

/-- Setting one pool of an initialised manager and recording it. -/
theorem Faithful.setPool (rm : RM) (r : Nat) (v : Int × Int) (hi : rm.inited = true) :
    Faithful rm (rm.setPool r v) ((rm.setPool r v).recOf r) := by
  intro r'
  have hrec : (rm.setPool r v).recOf r =
      [⟨r, (rm.setPool r v).usage r, (rm.setPool r v).capacity r⟩] := by
    unfold RM.recOf; rw [setPool_inited, hi]; rfl
  rw [hrec]
  by_cases hr : r' = r
  · subst hr; simp [lastFor]
  · have : (r == r') = false := by simpa using fun h => hr h.symm
    simp [lastFor, this, pool, usage_setPool, capacity_setPool, hr]

theorem Faithful.take (rm : RM) (req : Req) (hi : rm.inited = true) :
    Faithful rm (rm.take req).1 (rm.take req).2 := by
  induction req generalizing rm with
  | nil => exact Faithful.refl rm
  | cons p rest ih =>
    obtain ⟨r, a⟩ := p
    rw [RM.take]
    split
    · exact ih rm hi
    · exact (Faithful.setPool rm r _ hi).trans (ih _ (by rw [setPool_inited]; exact hi))

theorem Faithful.credit (rm : RM) (req : Req) (hi : rm.inited = true) :
    Faithful rm (rm.credit req).1 (rm.credit req).2 := by
  rw [credit_eq_take]; exact Faithful.take rm _ hi

theorem Faithful.congr {a b b' : RM} {l : List ResRec} (h : Faithful a b l)
    (hp : b'.pools = b.pools) : Faithful a b' l := by
  have hu : ∀ r, b'.usage r = b.usage r := fun r => by unfold RM.usage RM.lookup; rw [hp]
  have hc : ∀ r, b'.capacity r = b.capacity r := fun r => by unfold RM.capacity RM.lookup; rw [hp]
  intro r
  have := h r
  unfold pool at *
  rw [hu, hc]; exact this

/-- `add_resources` on an initialised manager. -/
theorem Faithful.add (rm : RM) (r : Nat) (amt : Int) (hi : rm.inited = true) :
    Faithful rm (rm.add r amt).1 (rm.add r amt).2.2.1 := by
  unfold RM.add
  split
  · exact Faithful.refl rm
  · split
    · split
      · exact Faithful.refl rm
      · exact Faithful.setPool rm r _ hi
    · split
      · exact Faithful.refl rm
      · exact Faithful.setPool rm r _ hi

/-- `reserve_resources` on an initialised manager. -/
theorem Faithful.reserve (rm : RM) (req : Req) (hi : rm.inited = true) :
    Faithful rm (rm.reserve req).1 (rm.reserve req).2.2.2 := by
  rw [reserve_eq]
  split
  · exact Faithful.refl rm
  · split
    · exact (Faithful.take rm req hi).congr rfl
    · exact Faithful.refl rm

/-- `ReservedResources.release` on an initialised manager. -/
theorem Faithful.release (rm : RM) (id : Nat) (part : Option Req) (hi : rm.inited = true) :
    Faithful rm (rm.release id part).1 (rm.release id part).2.2.1 := by
  unfold RM.release
  split
  · exact Faithful.refl rm
  · split
    · exact (Faithful.credit rm _ hi).congr rfl
    · split
      · exact (Faithful.credit rm _ hi).congr rfl
      · exact Faithful.refl rm

/-- The last `resource_update` record about `r` in a piece of the log. -/
def lastResUpdate (l : List Rec) (r : Nat) : Option (Int × Int) :=
  (l.filterMap (fun x => match x with
    | .resUpdate r' _ u c => if r' = r then some (u, c) else none
    | _ => none)).getLast?

theorem lastResUpdate_stamp (t : Int) (recs : List ResRec) (r : Nat) :
    lastResUpdate (stamp t recs) r = (lastFor recs r).map (fun x => (x.inUse, x.cap)) := by
  unfold lastResUpdate lastFor stamp
  rw [← List.getLast?_map]
  congr 1
  induction recs with
  | nil => rfl
  | cons a l ih =>
    by_cases h : a.res = r
    · simp [h]
      simpa using ih
    · have : (a.res == r) = false := by simpa using h
      simp [h]
      simpa using ih

end rmlog

/-! ### the buffer's level records -/

/-- One release step of `Buffer._pass_part_downstream` after a successful hand-over. -/
def releaseStep (w : World) (x n : Nat) : World :=
  let w := w.modDev x (fun d => { d with level := d.level - n, buf := d.buf.drop 1 })
  w.addRec (.level x w.now (w.dev x).level)

theorem bufferLoop_succ (f : Nat) (w : World) (x : Nat) :
    bufferLoop (f + 1) w x =
      match (w.dev x).buf with
      | [] => w
      | (t, p) :: _ =>
        if (w.dev x).delay - (w.now - t) > 0 then w
        else match tryList givePart w (w.sortedDown x) p with
          | (w1, true) => bufferLoop f (releaseStep w1 x (w.leafCount p)) x
          | (w1, false) => w1 := by
  rw [bufferLoop]; rfl

/-- The last `level` record about device `x`. -/
def lastLevel (l : List Rec) (x : Nat) : Option Nat :=
  (l.filterMap (fun r => match r with
    | .level d _ n => if d = x then some n else none
    | _ => none)).getLast?

theorem lastLevel_append_level (l : List Rec) (x : Nat) (t : Int) (n : Nat) :
    lastLevel (l ++ [Rec.level x t n]) x = some n := by
  simp [lastLevel, List.filterMap_append]

theorem releaseStep_recs (w : World) (x n : Nat) :
    (releaseStep w x n).recs = w.recs ++ [Rec.level x w.now ((releaseStep w x n).dev x).level] :=
  rfl

theorem releaseStep_level (w : World) (x n : Nat) (hx : x < w.devs.length) :
    ((releaseStep w x n).dev x).level = (w.dev x).level - n := by
  unfold releaseStep
  dsimp only
  rw [dev_addRec, dev_modDev_same hx]

theorem releaseStep_lastLevel (w : World) (x n : Nat) :
    lastLevel (releaseStep w x n).recs x = some ((releaseStep w x n).dev x).level := by
  rw [releaseStep_recs]; exact lastLevel_append_level _ _ _ _

theorem acceptPart_buffer_lastLevel (w : World) (x p : Nat) (h : (w.dev x).kind = .buffer) :
    lastLevel (w.acceptPart x p).recs x = some ((w.acceptPart x p).dev x).level := by
  rw [acceptPart_buffer_recs w x p h, acceptPart_buffer_level w x p h]
  simp [lastLevel, List.filterMap_append]

/-! ## The frame, function by function

### the functions that change no level -/

namespace Frame
variable {R : World → World → Prop}

theorem senseOutput (h : Frame R) (w : World) (s p : Nat) : R w (w.senseOutput s p) := by
  unfold World.senseOutput
  dsimp only
  frame_walk h [h.addRes _ _]

theorem finishCycleHandler (h : Frame R) (w : World) (x : Nat) :
    R w (w.finishCycleHandler x) := by
  unfold World.finishCycleHandler
  dsimp only
  frame_walk h [h.setErr _ _, h.schedulePass _ _ _, h.setDev _ _ _]

theorem batcherLoop (h : Frame R) (n : Nat) (w : World) (x : Nat) :
    R w (World.batcherLoop n w x) := by
  induction n generalizing w with
  | zero => exact h.refl _
  | succ n ih =>
    rw [World.batcherLoop]
    split
    · -- take a part from the input (`w1`), then add it to the output or to the batch (`w2`)
      split
      rename_i w1 t heq
      refine h.trans ?_ (ih _)
      have h1 : R w (w1, t).1 := by
        rw [← heq]
        split <;> dsimp only <;> frame_walk h [h.modDev _ _ _, h.modPart _ _ _]
      refine h.trans h1 ?_
      split
      · frame_walk h [h.modDev _ _ _]
      · split
        rename_i w2 b heq2
        have h2 : R w1 (w2, b).1 := by
          rw [← heq2]
          split
          · exact h.refl _
          · dsimp only
            frame_walk h [h.modDev _ _ _, h.newPart _ _]
        refine h.trans h2 ?_
        dsimp only
        frame_walk h [h.modDev _ _ _, h.modPart _ _ _]
    · exact h.refl _

theorem releaseReserved (h : Frame R) (w : World) (x : Nat) : R w (w.releaseReserved x) := by
  unfold World.releaseReserved
  split
  · exact h.refl _
  · dsimp only
    frame_walk h [h.modDev _ _ _, h.rmEffects _ _ _]

theorem procAcquire (h : Frame R) (w : World) (x : Nat) : R w (w.procAcquire x).1 := by
  unfold World.procAcquire
  dsimp only
  frame_walk h [h.modDev _ _ _, h.rmEffects _ _ _, h.setErr _ _]

theorem finishCycle (h : Frame R) (w : World) (x : Nat) : R w (w.finishCycle x) := by
  unfold World.finishCycle
  dsimp only
  split
  · -- source
    frame_peel h (h.schedulePass _ _ _)
    split
    · frame_peel h (h.addHist _ _ _)
      frame_peel h (h.modDev _ _ _)
      have := h.genPart w x
      revert this
      generalize w.genPart x = q
      exact id
    · exact h.refl _
  · frame_walk h [h.notify _ _, h.modDev _ _ _, h.finishCycleHandler _ _]
  · frame_walk h [h.addRec' _ _, h.senseOutput _ _ _, h.applyPartCb _ _ _ _, h.schedLib _ _ _ _ _,
      h.setDev _ _ _, h.finishCycleHandler _ _]
  · exact h.finishCycleHandler _ _

theorem scheduleFinish (h : Frame R) (w : World) (x : Nat) : R w (w.scheduleFinish x) := by
  unfold World.scheduleFinish
  dsimp only
  frame_walk h [h.finishCycle _ _, h.schedLib _ _ _ _ _, h.setDev _ _ _]

theorem tryMove (h : Frame R) (w : World) (x : Nat) : R w (w.tryMove x) := by
  unfold World.tryMove
  dsimp only
  frame_walk h [h.setDev _ _ _, h.schedulePass _ _ _, h.notify _ _, h.scheduleFinish _ _,
    h.batcherLoop _ _ _]

theorem shutdownDev (h : Frame R) (w : World) (x : Nat) (f : Bool) (lost : Option Nat) :
    R w (w.shutdownDev x f lost) := by
  unfold World.shutdownDev
  dsimp only
  frame_walk h [h.addRes _ _, h.setWaiting _ _ _ _, h.setDev _ _ _, h.envOp_cancel _ _,
    h.envOp_pause _ _]

theorem restoreDev (h : Frame R) (w : World) (x : Nat) : R w (w.restoreDev x) := by
  unfold World.restoreDev
  -- the intermediate worlds stay named: inlining them makes every later `split` expensive
  extract_lets d w1 w2 w3 w4
  split
  · exact h.refl _
  · have h2 : R w w2 := h.trans (h.setDev _ _ _) (h.envOp_unpause _ _)
    have h3 : R w w3 := by
      show R w (if _ then _ else if _ then _ else _)
      frame_walk h [h.schedulePass _ _ _, h.notify _ _, h2]
    have h4 : R w w4 := by
      show R w (if _ then _ else _)
      frame_walk h [h.modDev _ _ _, h3]
    exact h.trans h4 (h.foldl _ (fun _ _ => h.addRes _ _) _ _)

theorem failDev (h : Frame R) (w : World) (x : Nat) : R w (w.failDev x) := by
  unfold World.failDev
  dsimp only
  frame_walk h [h.shutdownDev _ _ _ _, h.addRec' _ _, h.releaseReserved _ _, h.modDev _ _ _]

theorem releaseIfIdle (h : Frame R) (w : World) (x : Nat) : R w (w.releaseIfIdle x) := by
  unfold World.releaseIfIdle
  frame_walk h [h.releaseReserved _ _]

theorem initDev (h : Frame R) (w : World) (x : Nat) : R w (w.initDev x) := by
  unfold World.initDev
  dsimp only
  frame_walk h [h.modDev _ _ _, h.setWaiting _ _ _ _, h.scheduleFinish _ _]

theorem schedUpdate (h : Frame R) (w : World) (s : Nat) (advance : Bool) :
    R w (w.schedUpdate s advance) := by
  unfold World.schedUpdate
  dsimp only
  frame_walk h [h.schedLib _ _ _ _ _, h.addRes _ _, h.addRec' _ _]

theorem periodicSense (h : Frame R) (w : World) (s : Nat) : R w (w.periodicSense s) := by
  unfold World.periodicSense
  dsimp only
  frame_walk h [h.schedLib _ _ _ _ _, h.addRes _ _]

theorem recvTail (h : Frame R) (w : World) (x p : Nat) : R w (recvTail w x p) := by
  unfold C15.recvTail
  dsimp only
  frame_walk h [h.tryMove _ _, h.applyPartCb _ _ _ _]

theorem acceptHead (h : Frame R) (w : World) (x p : Nat) : R w (acceptHead w x p) := by
  unfold C15.acceptHead
  dsimp only
  frame_walk h [h.setWaiting _ _ _ _, h.addHist _ _ _, h.modDev _ _ _]

/-- A device other than a buffer receives a part. -/
theorem onReceived_other (h : Frame R) (w : World) (x p : Nat) (hk : (w.dev x).kind ≠ .buffer) :
    R w (w.onReceived x p) := by
  have h0 : R w (recvHead w x p) := by
    unfold C15.recvHead
    dsimp only
    split
    · frame_walk h [h.setDev _ _ _]
    · contradiction
    · exact h.refl _
  rw [onReceived_eq]
  exact h.trans (h.trans h0 (h.addRec _ _ rfl rfl)) (h.recvTail _ _ _)

theorem acceptPart_other (h : Frame R) (w : World) (x p : Nat) (hk : (w.dev x).kind ≠ .buffer) :
    R w (w.acceptPart x p) := by
  rw [acceptPart_eq]
  refine h.trans (h.acceptHead w x p) (h.onReceived_other _ _ _ ?_)
  rw [acceptHead_dev_field Dev.kind (fun _ _ => rfl) (fun _ => rfl)]; exact hk

end Frame

/-! ### the functions that may change a level, and log it -/

namespace Frame.Lev
variable {R : World → World → Prop}

theorem levelStep' (h : Lev R) (w : World) (x : Nat) (f : Dev → Dev) (t : Int)
    (hp : (f (w.dev x)).produced = (w.dev x).produced := by exact rfl) :
    R w ((w.modDev x f).addRec (.level x t ((w.modDev x f).dev x).level)) :=
  h.levelStep w x _ t hp

theorem onReceived (h : Lev R) (w : World) (x p : Nat) : R w (w.onReceived x p) := by
  have h0 : R w (recvHead w x p) := by
    unfold C15.recvHead
    dsimp only
    frame_walk h.toFrame [h.setDev _ _ _, h.levelStep _ _ _ _ (by exact rfl)]
  rw [onReceived_eq]
  exact h.trans (h.trans h0 (h.addRec _ _ rfl rfl)) (h.recvTail _ _ _)

theorem acceptPart (h : Lev R) (w : World) (x p : Nat) : R w (w.acceptPart x p) := by
  rw [acceptPart_eq]
  exact h.trans (h.acceptHead w x p) (h.onReceived _ _ _)

theorem give (h : Lev R) (n : Nat) : ∀ (w : World) (x p : Nat), R w (World.give n w x p).1 := by
  induction n with
  | zero => exact fun w x p => h.setErr _ _
  | succ n ih =>
    intro w x p
    have hT : ∀ w l p, R w (World.tryList (World.give n) w l p).1 := h.tryList _ ih
    rw [World.give]
    dsimp only
    frame_walk h.toFrame [h.acceptPart _ _ _, h.setErr _ _, h.addHist _ _ _, h.dropHist _ _,
      h.modPart _ _ _, hT _ _ _, ih _ _ _] with [hT _ _ _, ih _ _ _, h.procAcquire _ _]

theorem givePart (h : Lev R) (w : World) (x p : Nat) : R w (w.givePart x p).1 := h.give _ _ _ _

theorem tryList_givePart (h : Lev R) (w : World) (l : List Nat) (p : Nat) :
    R w (World.tryList World.givePart w l p).1 := h.tryList _ h.givePart _ _ _

theorem passHandler (h : Lev R) (w : World) (x : Nat) : R w (w.passHandler x) := by
  unfold World.passHandler
  dsimp only
  frame_walk h.toFrame [h.notify _ _, h.modDev _ _ _] with [h.tryList_givePart _ _ _]

theorem bufferLoop (h : Lev R) (n : Nat) (w : World) (x : Nat) :
    R w (World.bufferLoop n w x) := by
  induction n generalizing w with
  | zero => exact h.refl _
  | succ n ih =>
    rw [World.bufferLoop]
    dsimp only
    frame_walk h.toFrame [ih _, h.levelStep' _ _ _ _] with [h.tryList_givePart _ _ _]

/-- Everything `_pass_part_downstream` does on a device that is not a source. -/
theorem passPart_other (h : Lev R) (w : World) (x : Nat) (hk : (w.dev x).kind ≠ .source) :
    R w (w.passPart x) := by
  unfold World.passPart
  dsimp only
  split
  · contradiction
  all_goals frame_walk h.toFrame [h.notify _ _, h.passHandler _ _, h.tryMove _ _,
    h.schedulePass _ _ _, h.setDev _ _ _, h.bufferLoop _ _ _]

end Frame.Lev

/-! ### the three relations -/

theorem ExtL.frame : Frame ExtL :=
  (ExtK.frame (fun _ _ h => h) (fun _ h => h)).of_iff ExtL_iff

theorem ExtF.frame : Frame.Lev ExtF where
  toFrame := (ExtK.frame (fun _ h _ => h) (fun h _ => h)).of_iff ExtF_iff
  levelStep := fun w x d _ hp =>
    ExtF_iff.2 ((ExtK.setDev w x d hp).trans (ExtK.addRec _ _ rfl))

theorem ExtF_sched (w : World) (t a : Int) (act : Action) (p : Int) : ExtF w (w.sched t a act p).1 :=
  ExtF.frame.sched w t a act p

theorem ExtL_sched (w : World) (t a : Int) (act : Action) (p : Int) : ExtL w (w.sched t a act p).1 :=
  ExtL.frame.sched w t a act p

theorem ExtF_spaceAvailable (w : World) (x : Nat) : ExtF w (w.spaceAvailable x) :=
  ExtF.frame.spaceAvailable w x

theorem ExtL_spaceAvailable (w : World) (x : Nat) : ExtL w (w.spaceAvailable x) :=
  ExtL.frame.spaceAvailable w x

theorem ExtF_restoreDev (w : World) (x : Nat) : ExtF w (w.restoreDev x) :=
  ExtF.frame.restoreDev w x

theorem ExtL.of_fst_eq {α} {w w' : World} {e : World × α} {b : α} (he : ExtL w e.1)
    (h : e = (w', b)) : ExtL w w' :=
  Frame.of_fst_eq he h

/-! ### `supplied_new_part` records and the sources' counters -/

/-- Is `r` a `supplied_new_part` record of source `x`? -/
def isSupplied (x : Nat) : Rec → Bool
  | .supplied d _ _ => d == x
  | _ => false

/-- The number of `supplied_new_part` records of source `x`. -/
def countSupplied (w : World) (x : Nat) : Nat := (w.recs.filter (isSupplied x)).length

theorem isSup_of_isSupplied {x : Nat} {r : Rec} (h : isSupplied x r = true) : isSup r = true := by
  cases r <;> simp_all [isSupplied, isSup]

theorem filter_isSupplied_nosup (x : Nat) (l : List Rec) (h : ∀ r ∈ l, isSup r = false) :
    l.filter (isSupplied x) = [] := by
  rw [List.filter_eq_nil_iff]
  intro r hr hs
  have := h r hr
  rw [isSup_of_isSupplied hs] at this
  cases this

theorem produced_eq_PR (w : World) (y : Nat) : (w.dev y).produced = (PR w).getD y 0 := by
  unfold PR World.dev
  exact (getD_map Dev.produced w.devs y default).symm

theorem ExtF.produced {w w' : World} (h : ExtF w w') (y : Nat) :
    (w'.dev y).produced = (w.dev y).produced := by
  rw [produced_eq_PR, produced_eq_PR, h.prod]

theorem ExtF.countSupplied {w w' : World} (h : ExtF w w') (y : Nat) :
    countSupplied w' y = countSupplied w y := by
  obtain ⟨l, e, hs⟩ := h.ext
  unfold C15.countSupplied
  rw [e, List.filter_append, filter_isSupplied_nosup y l hs, List.append_nil]

theorem ExtF.devs_length {w w' : World} (h : ExtF w w') : w'.devs.length = w.devs.length := by
  have := congrArg List.length h.prod
  simpa [PR] using this

theorem kind_source_lt {w : World} {x : Nat} (h : (w.dev x).kind = .source) :
    x < w.devs.length := by
  apply Classical.byContradiction
  intro hn
  rw [dev_of_length_le (Nat.le_of_not_lt hn)] at h
  cases h

/-- The source's bookkeeping after a successful hand-over. -/
def bump (w : World) (x : Nat) (v : Int) : World :=
  w.modDev x (fun d => { d with
    produced := d.produced + 1
    val := d.val.addCost lblSupplied w.now v
    costProduced := d.costProduced + v })

/-- `max_produced_parts` is exhausted. -/
def srcDone (w : World) (x : Nat) : Bool :=
  match (w.dev x).maxParts.map (fun m => if m - (w.dev x).produced < 0 then 0
      else m - (w.dev x).produced) with
  | some r => decide (r < 1)
  | none => false

theorem passPart_source_eq (w : World) (x : Nat) (h : (w.dev x).kind = .source) :
    w.passPart x =
      if srcDone w x then w
      else match (w.dev x).output with
        | none => w
        | some p =>
          if ((w.passHandler x).dev x).output.isNone then
            ((bump (w.passHandler x) x (w.partValue p)).addRec
              (.supplied x (w.passHandler x).now p)).scheduleFinish x
          else w.passHandler x := by
  unfold passPart
  simp only [h]
  rfl

/-- `Source._pass_part_downstream`: either the hand-over succeeded — then exactly one
`supplied_new_part` record (current time, the part that was in the output) is written and the
counter of this source (and of no other device) goes up by one — or nothing of the kind happens. -/
theorem passPart_source_cases (w : World) (x : Nat) (h : (w.dev x).kind = .source) :
    (∃ p l₁ l₂, (w.dev x).output = some p ∧
        (w.passPart x).recs = w.recs ++ l₁ ++ [Rec.supplied x w.now p] ++ l₂ ∧
        (∀ r ∈ l₁, isSup r = false) ∧ (∀ r ∈ l₂, isSup r = false) ∧
        ((w.passPart x).dev x).produced = (w.dev x).produced + 1 ∧
        ∀ y, y ≠ x → ((w.passPart x).dev y).produced = (w.dev y).produced) ∨
      ExtF w (w.passPart x) := by
  rw [passPart_source_eq w x h]
  by_cases hd : srcDone w x = true
  · rw [if_pos hd]; exact Or.inr (ExtF.frame.refl _)
  · rw [if_neg hd]
    cases hp : (w.dev x).output with
    | none => exact Or.inr (ExtF.frame.refl _)
    | some p =>
      dsimp only
      by_cases hn : ((w.passHandler x).dev x).output.isNone = true
      · rw [if_pos hn]
        left
        have h1 := ExtF.frame.passHandler w x
        have hx : x < (w.passHandler x).devs.length := by
          rw [h1.devs_length]; exact kind_source_lt h
        have h3 := ExtF.frame.scheduleFinish ((bump (w.passHandler x) x (w.partValue p)).addRec
              (.supplied x (w.passHandler x).now p)) x
        obtain ⟨l₁, e1, s1⟩ := h1.ext
        obtain ⟨l₂, e2, s2⟩ := h3.ext
        refine ⟨p, l₁, l₂, rfl, ?_, s1, s2, ?_, ?_⟩
        · rw [e2, addRec_recs]
          show (w.passHandler x).recs ++ _ ++ _ = _
          rw [e1, h1.now_eq]
        · rw [h3.produced, dev_addRec]
          unfold bump
          rw [dev_modDev_same hx]
          show ((w.passHandler x).dev x).produced + 1 = _
          rw [h1.produced]
        · intro y hy
          rw [h3.produced, dev_addRec]
          unfold bump
          rw [dev_modDev_ne (Ne.symm hy), h1.produced]
      · rw [if_neg hn]; exact Or.inr (ExtF.frame.passHandler w x)

/-- One-step preservation of "parts produced by a source = number of its `supplied_new_part`
records", for every device `y` and every `_pass_part_downstream` event. -/
theorem passPart_supplied_count (w : World) (x y : Nat) :
    ((w.passPart x).dev y).produced - countSupplied (w.passPart x) y =
      (w.dev y).produced - countSupplied w y := by
  by_cases h : (w.dev x).kind = .source
  · rcases passPart_source_cases w x h with ⟨p, l₁, l₂, _, e, s1, s2, hx, hy⟩ | hF
    · have hc : countSupplied (w.passPart x) y =
          countSupplied w y + (if x = y then 1 else 0) := by
        unfold countSupplied
        rw [e]
        simp only [List.filter_append, filter_isSupplied_nosup y l₁ s1,
          filter_isSupplied_nosup y l₂ s2, List.append_nil, List.length_append]
        congr 1
        by_cases hxy : x = y <;> simp [isSupplied, hxy]
      by_cases hxy : y = x
      · subst hxy
        rw [hc, hx]; simp; omega
      · rw [hc, hy y hxy]
        have : ¬ x = y := fun e => hxy e.symm
        simp [this]
    · rw [hF.produced, hF.countSupplied]
  · have hF := ExtF.frame.passPart_other w x h
    rw [hF.produced, hF.countSupplied]

/-- One-step preservation of `produced − #supplied_new_part records` for every device, for the
actions of events that run no scenario script. -/
theorem exec_supplied_count (w : World) (a : Action) (y : Nat)
    (ha : match a with
      | .terminate | .finishCycle _ | .passPart _ | .fail _ | .releaseIfIdle _
      | .schedUpdate _ | .periodicSense _ | .unknown _ => True
      | _ => False) :
    ((w.exec a).dev y).produced - countSupplied (w.exec a) y =
      (w.dev y).produced - countSupplied w y := by
  cases a <;> simp only at ha <;> unfold exec <;> dsimp only
  · rw [(ExtF.frame.finishCycle w _).produced, (ExtF.frame.finishCycle w _).countSupplied]
  · exact passPart_supplied_count w _ y
  · rw [(ExtF.frame.failDev w _).produced, (ExtF.frame.failDev w _).countSupplied]
  · rw [(ExtF.frame.releaseIfIdle w _).produced, (ExtF.frame.releaseIfIdle w _).countSupplied]
  · rw [(ExtF.frame.schedUpdate w _ _).produced, (ExtF.frame.schedUpdate w _ _).countSupplied]
  · rw [(ExtF.frame.periodicSense w _).produced, (ExtF.frame.periodicSense w _).countSupplied]
  · rw [(ExtF.frame.setErr w _).produced, (ExtF.frame.setErr w _).countSupplied]

theorem level_eq_PL (w : World) (y : Nat) : (w.dev y).level = (PL w).getD y 0 := by
  unfold PL World.dev
  exact (getD_map Dev.level w.devs y default).symm

theorem ExtL.level {w w' : World} (h : ExtL w w') (y : Nat) :
    (w'.dev y).level = (w.dev y).level := by
  rw [level_eq_PL, level_eq_PL, h.prod]

/-! ### last-record invariant of the resources, one step at the level of the world -/

theorem Faithful.last {rm rm' : RM} {recs : List ResRec} (h : Faithful rm rm' recs) (t : Int)
    (r : Nat) : (lastResUpdate (stamp t recs) r).getD (pool rm r) = pool rm' r := by
  rw [lastResUpdate_stamp]
  have := h r
  cases e : lastFor recs r with
  | none => rw [e] at this; simpa using this.symm
  | some x => rw [e] at this; simp only at this; subst this; rfl

/-- `w'` extends the log of `w` by records whose last `resource_update` entry for every resource
shows the new pool; a resource without an entry is unchanged. -/
def ResStep (w w' : World) : Prop :=
  ∃ l, w'.recs = w.recs ++ l ∧
    ∀ r, (lastResUpdate l r).getD (pool w.rm r) = pool w'.rm r

theorem ResStep.of_rmEffects (w : World) (rm' : RM) (recs : List ResRec) (chk : Bool)
    (h : Faithful w.rm rm' recs) : ResStep w (({ w with rm := rm' }).rmEffects recs chk) := by
  refine ⟨_, rmEffects_recs' _ _ _, fun r => ?_⟩
  rw [rmEffects_rm]
  exact h.last _ r

theorem ResStep.refl (w : World) : ResStep w w :=
  ⟨[], by simp, fun r => by simp [lastResUpdate]⟩

theorem applyOp_addRes_resStep (w : World) (r : Nat) (amt : Int) (hi : w.rm.inited = true) :
    ResStep w (w.applyOp (.addRes r amt)).1 := by
  unfold applyOp
  exact ResStep.of_rmEffects w _ _ _ (Faithful.add w.rm r amt hi)

theorem applyOp_reserve_resStep (w : World) (h : Nat) (req : Req) (hi : w.rm.inited = true) :
    ResStep w (w.applyOp (.reserve h req)).1 := by
  unfold applyOp
  dsimp only
  split
  · exact ResStep.refl w
  · obtain ⟨l, e, hl⟩ := ResStep.of_rmEffects w _ _ false (Faithful.reserve w.rm req hi)
    exact ⟨l, e, hl⟩

theorem applyOp_release_resStep (w : World) (h : Nat) (part : Option Req)
    (hi : w.rm.inited = true) : ResStep w (w.applyOp (.release h part)).1 := by
  cases hv : w.getVar h with
  | none =>
    have e : (w.applyOp (.release h part)).1 = w := by simp only [applyOp, hv]
    rw [e]; exact ResStep.refl w
  | some id =>
    have e : (w.applyOp (.release h part)).1 =
        ({ w with rm := (w.rm.release id part).1 }).rmEffects (w.rm.release id part).2.2.1
          (w.rm.release id part).2.2.2 := by simp only [applyOp, hv]
    rw [e]; exact ResStep.of_rmEffects w _ _ _ (Faithful.release w.rm _ part hi)

theorem releaseReserved_resStep (w : World) (x : Nat) (hi : w.rm.inited = true) :
    ResStep w (w.releaseReserved x) := by
  unfold releaseReserved
  split
  · exact ResStep.refl w
  · obtain ⟨l, e, hl⟩ := ResStep.of_rmEffects w _ _ (w.rm.release _ none).2.2.2
      (Faithful.release w.rm _ none hi)
    exact ⟨l, e, hl⟩

/-! ## Level changes are always logged: the last `level` record of a buffer is its level -/

theorem lastLevel_append (l₁ l₂ : List Rec) (y : Nat) :
    lastLevel (l₁ ++ l₂) y = (lastLevel l₂ y).or (lastLevel l₁ y) := by
  unfold lastLevel
  rw [List.filterMap_append, List.getLast?_append]

theorem lastLevel_of_noLevel (l : List Rec) (h : ∀ r ∈ l, isLevel r = false) (y : Nat) :
    lastLevel l y = none := by
  unfold lastLevel
  rw [List.getLast?_eq_none_iff, List.filterMap_eq_nil_iff]
  intro r hr
  have := h r hr
  cases r <;> first | rfl | cases this

/-- `w'` extends the log of `w` (same clock) and the new piece logs every change of a level: for
every device, the last `level` record about it in the new piece shows its new level, and a device
without a new `level` record keeps its level. -/
structure ExtV (w w' : World) : Prop where
  now_eq : w'.now = w.now
  ext : ∃ l, w'.recs = w.recs ++ l ∧
    ∀ y, (lastLevel l y).getD (w.dev y).level = (w'.dev y).level

theorem ExtV.refl (w : World) : ExtV w w := ⟨rfl, ⟨[], by simp, fun y => by simp [lastLevel]⟩⟩

theorem ExtV.trans {a b c : World} (h1 : ExtV a b) (h2 : ExtV b c) : ExtV a c := by
  obtain ⟨n1, l1, e1, v1⟩ := h1
  obtain ⟨n2, l2, e2, v2⟩ := h2
  refine ⟨n2.trans n1, l1 ++ l2, by rw [e2, e1, List.append_assoc], fun y => ?_⟩
  rw [lastLevel_append]
  have := v2 y
  cases e : lastLevel l2 y with
  | some v => rw [e] at this; simpa using this
  | none => rw [e] at this; simp only [Option.getD_none] at this; rw [← this]; simpa using v1 y

theorem ExtV.of_ExtL {w w' : World} (h : ExtL w w') : ExtV w w' := by
  obtain ⟨l, e, hl⟩ := h.ext
  refine ⟨h.now_eq, l, e, fun y => ?_⟩
  rw [lastLevel_of_noLevel l hl y, h.level y]; rfl

/-- The invariant: the last `level` record of every device is its level (0 without a record). -/
def LevelInv (w : World) : Prop := ∀ y, (lastLevel w.recs y).getD 0 = (w.dev y).level

theorem ExtV.levelInv {w w' : World} (h : ExtV w w') (hi : LevelInv w) : LevelInv w' := by
  obtain ⟨l, e, v⟩ := h.ext
  intro y
  rw [e, lastLevel_append]
  have := v y
  cases el : lastLevel l y with
  | some n => rw [el] at this; simpa using this
  | none => rw [el] at this; simp only [Option.getD_none] at this; rw [← this]; simpa using hi y

/-- A change of the level of `x` followed by a `level` record showing the new level. -/
theorem ExtV_levelStep (w : World) (x : Nat) (d : Dev) (t : Int) :
    ExtV w ((w.setDev x d).addRec (.level x t ((w.setDev x d).dev x).level)) := by
  refine ⟨rfl, [_], rfl, fun y => ?_⟩
  by_cases hy : y = x
  · subst hy; simp [lastLevel]
  · have : ¬ x = y := fun e => hy e.symm
    simp only [lastLevel, List.filterMap_cons, this, if_false, List.filterMap_nil,
      List.getLast?_nil, Option.getD_none]
    rw [dev_addRec, dev_setDev_ne this]

theorem ExtV.frame : Frame.Lev ExtV where
  trans := ExtV.trans
  quiet := fun h hp hl => .of_ExtL (ExtL.frame.quiet h hp hl)
  addRec := fun w r hs hl => .of_ExtL (ExtL.frame.addRec w r hs hl)
  levelStep := fun w x d t _ => ExtV_levelStep w x d t

theorem ExtV.foldl {α} (g : World → α → World) (l : List α) (w : World)
    (h : ∀ w a, ExtV w (g w a)) : ExtV w (l.foldl g w) :=
  ExtV.frame.foldl g h l w

/-- `_pass_part_downstream` of every kind of device; a source changes no level when it counts
the part it has supplied. -/
theorem ExtV_passPart (w : World) (x : Nat) : ExtV w (w.passPart x) := by
  by_cases h : (w.dev x).kind = .source
  · rw [passPart_source_eq w x h]
    have hb : ∀ (w : World) (v : Int) (r : Rec), isLevel r = false →
        ExtV w (((bump w x v).addRec r).scheduleFinish x) := fun w v r hr =>
      .of_ExtL (ExtL.frame.trans (ExtL_iff.2 ((ExtK.setDev w x _ (by exact rfl)).trans (ExtK.addRec _ r hr)))
        (ExtL.frame.scheduleFinish _ x))
    repeat' split
    all_goals first
      | exact ExtV.refl _
      | exact (ExtV.frame.passHandler w x).trans (hb _ _ _ rfl)
      | exact ExtV.frame.passHandler w x
  · exact ExtV.frame.passPart_other w x h

/-- Every action of an event that runs no scenario script logs every level change. -/
theorem ExtV_exec (w : World) (a : Action)
    (ha : match a with
      | .terminate | .finishCycle _ | .passPart _ | .fail _ | .releaseIfIdle _
      | .schedUpdate _ | .periodicSense _ | .unknown _ => True
      | _ => False) : ExtV w (w.exec a) := by
  cases a <;> simp only at ha <;> unfold exec <;> dsimp only
  · exact ExtV.refl _
  · exact ExtV.frame.finishCycle _ _
  · exact ExtV_passPart _ _
  · exact ExtV.frame.failDev _ _
  · exact ExtV.frame.releaseIfIdle _ _
  · exact ExtV.frame.schedUpdate _ _ _
  · exact ExtV.frame.periodicSense _ _
  · exact ExtV.frame.setErr _ _

end C15
end SimProc
