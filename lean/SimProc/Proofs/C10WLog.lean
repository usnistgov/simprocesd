/-
C10W — the logs of a check: the callback records `.cb k` written to `results`, and the registration
numbers (`Tag`) through events, operations and checks.
-/
import SimProc.Proofs.C10WInv

namespace SimProc
namespace C10W
open World FloorCoreL C01W

/-! ### callback records in the action log -/

/-- The script named by a callback record. -/
def cbOf : Res → Option Nat
  | .cb k => some k
  | _ => none

/-- The script named by a callback. -/
def scriptOf : Cb → Option Nat
  | .script k => some k
  | .proc _ => none

/-- The callback records of the action log, in order. -/
def cbLog (w : World) : List Nat := w.results.filterMap cbOf

theorem cbOf_notCb {r : Res} (h : notCb r = true) : cbOf r = none := by
  cases r <;> first | rfl | cases h

theorem filterMap_cbOf_notCb (l : List Res) (h : ∀ r ∈ l, notCb r = true) :
    l.filterMap cbOf = [] :=
  List.filterMap_eq_nil_iff.2 (fun r hr => cbOf_notCb (h r hr))

/-- Nothing but a check writes callback records. -/
theorem U0.cbLog {w w' : World} (u : U0 w w') : cbLog w' = cbLog w := by
  obtain ⟨l, hl, hn⟩ := u.res
  unfold C10W.cbLog
  rw [hl, List.filterMap_append, filterMap_cbOf_notCb l hn, List.append_nil]

theorem U.cbLog {w w' : World} (u : U w w') : cbLog w' = cbLog w := u.toU0.cbLog

/-- One callback writes its record (a script) or none (a processor). -/
theorem call_cbLog (w : World) (cb : Cb) (req : Req) :
    cbLog (scanOps.call w cb req) = cbLog w ++ (scriptOf cb).toList := by
  cases cb with
  | script k =>
    have := (U_runScript (w.addRes (.cb k)) k).cbLog
    show cbLog ((w.addRes (.cb k)).runScript k) = _
    rw [this]
    unfold cbLog World.addRes
    simp [List.filterMap_append, cbOf, scriptOf]
  | proc d =>
    have := (U.floor.procResourceCb w d).cbLog
    show cbLog (w.procResourceCb d) = _
    rw [this]
    simp [scriptOf]

/-- **The callback records written by a check** are exactly the script callbacks of its call log,
in order. -/
theorem scan_cbLog (f : Nat) (w : World) (i : Nat) :
    cbLog (scanWaiting scanOps f w i) =
      cbLog w ++ (C10.scanLog scanOps f w i).2.filterMap (fun c => scriptOf c.2.1) := by
  induction f generalizing w i with
  | zero => simp [scanWaiting, C10.scanLog]
  | succ f ih =>
    cases hw : (scanOps.rm w).waiting[i]? with
    | none => simp [scanWaiting, C10.scanLog, hw]
    | some e =>
      obtain ⟨req, cb⟩ := e
      by_cases hc : (scanOps.rm w).canFulfill req = true
      · simp only [scanWaiting, C10.scanLog, hw, hc, if_true]
        rw [ih]
        have : cbLog (scanOps.erase (scanOps.call w cb req) i) = cbLog (scanOps.call w cb req) := rfl
        rw [this, call_cbLog, List.filterMap_cons]
        cases cb with
        | script k => simp [scriptOf]
        | proc d => simp [scriptOf]
      · simp only [scanWaiting, C10.scanLog, hw, hc]
        exact ih _ _

/-! ### registration numbers -/

/-- A step that is not a check: the new registrations get the next numbers. -/
theorem TagOK.of_U0 {w w' : World} {g : Tag} (h : TagOK g w.rm.waiting) (u : U0 w w') :
    TagOK (g.sync w'.rm.waiting) w'.rm.waiting := by
  obtain ⟨l, hl⟩ := u.wapp
  rw [hl]; exact h.sync l

theorem TagOK.of_U {w w' : World} {g : Tag} (h : TagOK g w.rm.waiting) (u : U w w') :
    TagOK (g.sync w'.rm.waiting) w'.rm.waiting := h.of_U0 u.toU0

theorem Tag.sync_self {g : Tag} {wl : List (Req × Cb)} (h : TagOK g wl) : g.sync wl = g := by
  have hlen : g.tw.length = wl.length := by
    have := congrArg List.length h.proj; simpa using this
  unfold Tag.sync Tag.extend
  rw [hlen, List.drop_length]
  simp

/-- The payloads of the registrations served by a check are the entries of its call log. -/
theorem served_scan {σ : Type} (o : ScanOps σ) (hl : C10.Laws o) (f : Nat) (s : σ) (i : Nat)
    (g : Tag) (h : TagOK g (o.rm s).waiting) :
    (scanTag o f s i g).served.map (·.2) =
      g.served.map (·.2) ++ (C10.scanLog o f s i).2.map (fun c => (c.1, c.2.1)) := by
  induction f generalizing s i g with
  | zero => simp [scanTag, C10.scanLog]
  | succ f ih =>
    cases hw : (o.rm s).waiting[i]? with
    | none => simp [scanTag, C10.scanLog, hw]
    | some e =>
      obtain ⟨req, cb⟩ := e
      by_cases hc : (o.rm s).canFulfill req = true
      · simp only [scanTag, C10.scanLog, hw, hc, if_true]
        obtain ⟨l, hl1⟩ := hl.call_appends s cb req
        have h1 : TagOK (g.sync (o.rm (o.call s cb req)).waiting) (o.rm (o.call s cb req)).waiting := by
          rw [hl1]; exact h.sync l
        have h2 : TagOK ((g.sync (o.rm (o.call s cb req)).waiting).serve i)
            (o.rm (o.erase (o.call s cb req) i)).waiting := by
          rw [hl.erase_spec]; exact h1.serve i
        rw [ih _ _ _ h2]
        -- the entry served
        obtain ⟨hi, hget⟩ := List.getElem?_eq_some_iff.mp hw
        have hget' : (o.rm (o.call s cb req)).waiting[i]? = some (req, cb) := by
          rw [hl1, List.getElem?_append_left hi]; exact hw
        have hp : ((g.sync (o.rm (o.call s cb req)).waiting).tw[i]?).map (·.2) = some (req, cb) := by
          rw [← List.getElem?_map, h1.proj]; exact hget'
        have hs : ((g.sync (o.rm (o.call s cb req)).waiting).serve i).served.map (·.2) =
            g.served.map (·.2) ++ [(req, cb)] := by
          have hsv : (g.sync (o.rm (o.call s cb req)).waiting).served = g.served := rfl
          simp only [Tag.serve, List.map_append, hsv]
          cases ht : (g.sync (o.rm (o.call s cb req)).waiting).tw[i]? with
          | none => rw [ht] at hp; cases hp
          | some x =>
            rw [ht] at hp
            simp only [Option.map_some, Option.some.injEq] at hp
            simp [hp]
        rw [hs]
        simp
      · simp only [scanTag, C10.scanLog, hw, hc]
        exact ih _ _ _ h

end C10W
end SimProc
