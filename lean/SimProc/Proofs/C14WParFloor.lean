/-
C14W, pass 2 — `PP w t → PP (f w) (NX f w t)` for every function of `Model/Floor.lean`.
-/
import SimProc.Proofs.C14WPar

namespace SimProc
namespace C14W
open World C01W

section
variable {Q : Env → Env → Prop} {s1 m1 s2 m2 : Nat}
local notation "PP'" => PP Q s1 m1 s2 m2

theorem sw_self (w : World) : sw w ⟨w.env, w.seed, w.wmod⟩ = w := rfl

/-- Functions that do not touch the queue. -/
theorem pp_same (G : World → World) (hE : ∀ w t, G (sw w t) = sw (G w) t)
    (hV : ∀ w, Via w (G w)) {w : World} {t : Twin} (h : PP' w t) : PP' (G w) t := by
  have h0 := hE w ⟨w.env, w.seed, w.wmod⟩
  rw [sw_self] at h0
  have hnow : (G w).env.now = w.env.now := (hV w h.good).2.now
  have henv : (G w).env = w.env := by
    have := congrArg World.env h0
    rw [this]
    show se (G w) w.env = w.env
    simp only [se, hnow]
  refine ⟨(hV w h.good).1, ?_, ?_, h.tseed, h.twmod, ?_⟩
  · rw [h0]; exact h.seed
  · rw [h0]; exact h.wmod
  · have : se (G w) t.env = se w t.env := by simp only [se, hnow]
    rw [henv, this]; exact h.q

theorem pp_setWaiting {w : World} {t : Twin} (h : PP' w t) (x : Nat) (a b : Bool) :
    PP' (w.setWaiting x a b) t :=
  pp_same (fun v => v.setWaiting x a b) (fun w t => sw_setWaiting w t x a b)
    (fun w => Via.floor.setWaiting w x a b) h

theorem pp_addHist {w : World} {t : Twin} (h : PP' w t) (p d : Nat) : PP' (w.addHist p d) t :=
  pp_same (fun v => v.addHist p d) (fun w t => sw_addHist w t p d) (fun w => Via.floor.addHist w p d) h

theorem pp_dropHist {w : World} {t : Twin} (h : PP' w t) (p : Nat) : PP' (w.dropHist p) t :=
  pp_same (fun v => v.dropHist p) (fun w t => sw_dropHist w t p) (fun w => Via.floor.dropHist w p) h

theorem pp_applyPartCb {w : World} {t : Twin} (h : PP' w t) (x p : Nat) (c : PartCb) :
    PP' (w.applyPartCb x p c) t :=
  pp_same (fun v => v.applyPartCb x p c) (fun w t => sw_applyPartCb w t x p c)
    (fun w => Via.floor.applyPartCb w x p c) h

theorem pp_senseOutput {w : World} {t : Twin} (h : PP' w t) (s p : Nat) :
    PP' (w.senseOutput s p) t :=
  pp_same (fun v => v.senseOutput s p) (fun w t => sw_senseOutput w t s p)
    (fun w => Via_senseOutput w s p) h

theorem pp_genPart {w : World} {t : Twin} (h : PP' w t) (x : Nat) : PP' (w.genPart x).1 t :=
  pp_same (fun v => (v.genPart x).1) (fun w t => by rw [sw_genPart]) (fun w => Via.floor.genPart w x) h

theorem pp_batcherLoop {w : World} {t : Twin} (h : PP' w t) (n x : Nat) :
    PP' (batcherLoop n w x) t :=
  pp_same (fun v => batcherLoop n v x) (fun w t => sw_batcherLoop n w t x)
    (fun w => Via.floor.batcherLoop n w x) h

end

macro_rules | `(tactic| pp_step) => `(tactic| with_reducible apply pp_setWaiting)
macro_rules | `(tactic| pp_step) => `(tactic| with_reducible apply pp_addHist)
macro_rules | `(tactic| pp_step) => `(tactic| with_reducible apply pp_dropHist)
macro_rules | `(tactic| pp_step) => `(tactic| with_reducible apply pp_applyPartCb)
macro_rules | `(tactic| pp_step) => `(tactic| with_reducible apply pp_senseOutput)
macro_rules | `(tactic| pp_step) => `(tactic| with_reducible apply pp_batcherLoop)
macro_rules | `(tactic| pp_step) => `(tactic| with_reducible apply pp_rmEffects ‹Cong _ _ _ _ _›)

/-- After `destruct_pair`: the first component of a pair-valued call. -/
macro "pp_pair " t:term : tactic =>
  `(tactic| (refine PP.of_fst_eq $t (by assumption)))

section
variable {Q : Env → Env → Prop} {s1 m1 s2 m2 : Nat}
local notation "PP'" => PP Q s1 m1 s2 m2

theorem pp_schedulePass (hQ : Cong Q s1 m1 s2 m2) {w : World} {t : Twin} (h : PP' w t) (x : Nat)
    (o : Int) : PP' (w.schedulePass x o) (NX (fun v => v.schedulePass x o) w t) := by
  pp_go h [schedulePass]

end

macro_rules | `(tactic| pp_step) => `(tactic| with_reducible apply pp_schedulePass ‹Cong _ _ _ _ _›)

section
variable {Q : Env → Env → Prop} {s1 m1 s2 m2 : Nat}
local notation "PP'" => PP Q s1 m1 s2 m2

theorem pp_notifyUp_spaceAvail (hQ : Cong Q s1 m1 s2 m2) (n : Nat) :
    (∀ {w : World} {t : Twin}, PP' w t → ∀ x, PP' (notifyUp n w x) (NX (fun v => notifyUp n v x) w t)) ∧
    (∀ {w : World} {t : Twin}, PP' w t → ∀ x, PP' (spaceAvail n w x) (NX (fun v => spaceAvail n v x) w t)) := by
  induction n with
  | zero =>
    constructor <;> intro w t h x
    · pp_go h [notifyUp]
    · pp_go h [spaceAvail]
  | succ n ih =>
    obtain ⟨ihN, ihS⟩ := ih
    constructor <;> intro w t h x
    · pp_go h [notifyUp]
    · pp_go h [spaceAvail]

theorem pp_notifyUp (hQ : Cong Q s1 m1 s2 m2) {w : World} {t : Twin} (h : PP' w t) (n x : Nat) :
    PP' (notifyUp n w x) (NX (fun v => notifyUp n v x) w t) := (pp_notifyUp_spaceAvail hQ n).1 h x
theorem pp_spaceAvail (hQ : Cong Q s1 m1 s2 m2) {w : World} {t : Twin} (h : PP' w t) (n x : Nat) :
    PP' (spaceAvail n w x) (NX (fun v => spaceAvail n v x) w t) := (pp_notifyUp_spaceAvail hQ n).2 h x

theorem pp_notify (hQ : Cong Q s1 m1 s2 m2) {w : World} {t : Twin} (h : PP' w t) (x : Nat) :
    PP' (w.notify x) (NX (fun v => v.notify x) w t) := by
  pp_nx h
  bl_norm [notify]
  exact PPn.mk (pp_notifyUp hQ h _ _)

theorem pp_spaceAvailable (hQ : Cong Q s1 m1 s2 m2) {w : World} {t : Twin} (h : PP' w t) (x : Nat) :
    PP' (w.spaceAvailable x) (NX (fun v => v.spaceAvailable x) w t) := by
  pp_nx h
  bl_norm [spaceAvailable]
  exact PPn.mk (pp_spaceAvail hQ h _ _)

end

macro_rules | `(tactic| pp_step) => `(tactic| with_reducible apply pp_notify ‹Cong _ _ _ _ _›)
macro_rules | `(tactic| pp_step) => `(tactic| with_reducible apply pp_spaceAvailable ‹Cong _ _ _ _ _›)
/-- a world that is the first component of a destructured pair-valued call -/
macro_rules | `(tactic| pp_step) => `(tactic| refine PP.of_fst_eq ?_ (by assumption))

section
variable {Q : Env → Env → Prop} {s1 m1 s2 m2 : Nat}
local notation "PP'" => PP Q s1 m1 s2 m2

theorem pp_releaseReserved (hQ : Cong Q s1 m1 s2 m2) {w : World} {t : Twin} (h : PP' w t)
    (x : Nat) : PP' (w.releaseReserved x) (NX (fun v => v.releaseReserved x) w t) := by
  pp_go h [releaseReserved]

theorem pp_procAcquire (hQ : Cong Q s1 m1 s2 m2) {w : World} {t : Twin} (h : PP' w t)
    (x : Nat) : PP' (w.procAcquire x).1 (NX (fun v => (v.procAcquire x).1) w t) := by
  pp_go h [procAcquire]

theorem pp_finishCycleHandler (hQ : Cong Q s1 m1 s2 m2) {w : World} {t : Twin} (h : PP' w t)
    (x : Nat) : PP' (w.finishCycleHandler x) (NX (fun v => v.finishCycleHandler x) w t) := by
  pp_go h [finishCycleHandler]

end

macro_rules | `(tactic| pp_step) => `(tactic| with_reducible apply pp_releaseReserved ‹Cong _ _ _ _ _›)
macro_rules | `(tactic| pp_step) => `(tactic| with_reducible apply pp_procAcquire ‹Cong _ _ _ _ _›)
macro_rules | `(tactic| pp_step) => `(tactic| with_reducible apply pp_finishCycleHandler ‹Cong _ _ _ _ _›)
macro_rules | `(tactic| pp_step) => `(tactic| with_reducible apply pp_genPart)

section
variable {Q : Env → Env → Prop} {s1 m1 s2 m2 : Nat}
local notation "PP'" => PP Q s1 m1 s2 m2

theorem pp_finishCycle (hQ : Cong Q s1 m1 s2 m2) {w : World} {t : Twin} (h : PP' w t)
    (x : Nat) : PP' (w.finishCycle x) (NX (fun v => v.finishCycle x) w t) := by
  pp_go h [finishCycle]

end

macro_rules | `(tactic| pp_step) => `(tactic| with_reducible apply pp_finishCycle ‹Cong _ _ _ _ _›)

section
variable {Q : Env → Env → Prop} {s1 m1 s2 m2 : Nat}
local notation "PP'" => PP Q s1 m1 s2 m2

theorem pp_scheduleFinish (hQ : Cong Q s1 m1 s2 m2) {w : World} {t : Twin} (h : PP' w t)
    (x : Nat) : PP' (w.scheduleFinish x) (NX (fun v => v.scheduleFinish x) w t) := by
  pp_go h [scheduleFinish]

end

macro_rules | `(tactic| pp_step) => `(tactic| with_reducible apply pp_scheduleFinish ‹Cong _ _ _ _ _›)

section
variable {Q : Env → Env → Prop} {s1 m1 s2 m2 : Nat}
local notation "PP'" => PP Q s1 m1 s2 m2

theorem pp_tryMove (hQ : Cong Q s1 m1 s2 m2) {w : World} {t : Twin} (h : PP' w t)
    (x : Nat) : PP' (w.tryMove x) (NX (fun v => v.tryMove x) w t) := by
  pp_go h [tryMove]

end

macro_rules | `(tactic| pp_step) => `(tactic| with_reducible apply pp_tryMove ‹Cong _ _ _ _ _›)

section
variable {Q : Env → Env → Prop} {s1 m1 s2 m2 : Nat}
local notation "PP'" => PP Q s1 m1 s2 m2

theorem pp_onReceived (hQ : Cong Q s1 m1 s2 m2) {w : World} {t : Twin} (h : PP' w t)
    (x p : Nat) : PP' (w.onReceived x p) (NX (fun v => v.onReceived x p) w t) := by
  pp_go h [onReceived]

end

macro_rules | `(tactic| pp_step) => `(tactic| with_reducible apply pp_onReceived ‹Cong _ _ _ _ _›)

section
variable {Q : Env → Env → Prop} {s1 m1 s2 m2 : Nat}
local notation "PP'" => PP Q s1 m1 s2 m2

theorem pp_acceptPart (hQ : Cong Q s1 m1 s2 m2) {w : World} {t : Twin} (h : PP' w t)
    (x p : Nat) : PP' (w.acceptPart x p) (NX (fun v => v.acceptPart x p) w t) := by
  pp_go h [acceptPart]

/-! ### handing parts over -/

theorem pp_tryList (g : World → Nat → Nat → World × Bool)
    (hb : ∀ w t y p, g (sw w t) y p = (sw (g w y p).1 (NX (fun v => (g v y p).1) w t), (g w y p).2))
    (hp : ∀ {w : World} {t : Twin}, PP' w t → ∀ y p, PP' (g w y p).1 (NX (fun v => (g v y p).1) w t))
    (l : List Nat) (p : Nat) {w : World} {t : Twin} (h : PP' w t) :
    PP' (tryList g w l p).1 (NX (fun v => (tryList g v l p).1) w t) := by
  induction l generalizing w t with
  | nil => exact PP.nx (G := fun v => v) h (PPn.mk h)
  | cons y ys ih =>
    have h1 := hp h y p
    have h2 := ih h1
    refine PP.nx (G := fun v => (tryList g v (y :: ys) p).1) h ?_
    simp only [tryList, hb]
    cases hb' : (g w y p).2 with
    | true =>
      rw [show g w y p = ((g w y p).1, true) from Prod.ext rfl hb']
      exact PPn.mk h1
    | false =>
      rw [show g w y p = ((g w y p).1, false) from Prod.ext rfl hb']
      simp only [sw_tryList g hb]
      exact PPn.mk h2

end

macro_rules | `(tactic| pp_step) => `(tactic| with_reducible apply pp_acceptPart ‹Cong _ _ _ _ _›)
macro_rules | `(tactic| pp_step) => `(tactic|
  ((with_reducible apply pp_tryList (hb := ?hb) (hp := ?hp));
   case hb => (intro _ _ _ _; bl_norm []; done)
   case hp => (intro _ _ hfold _ _; pp_peel; done)))

section
variable {Q : Env → Env → Prop} {s1 m1 s2 m2 : Nat}
local notation "PP'" => PP Q s1 m1 s2 m2

theorem pp_give (hQ : Cong Q s1 m1 s2 m2) (n : Nat) :
    ∀ {w : World} {t : Twin}, PP' w t → ∀ x p,
      PP' (give n w x p).1 (NX (fun v => (give n v x p).1) w t) := by
  induction n with
  | zero =>
    intro w t h x p
    pp_go h [give]
  | succ n ih =>
    intro w t h x p
    pp_nx h
    simp only [give, sw_dev]
    split_match <;> (bl_go [] <;> pp_leaf)

theorem pp_givePart (hQ : Cong Q s1 m1 s2 m2) {w : World} {t : Twin} (h : PP' w t)
    (x p : Nat) : PP' (w.givePart x p).1 (NX (fun v => (v.givePart x p).1) w t) := by
  pp_nx h
  bl_norm [givePart]
  exact PPn.mk (pp_give hQ _ h _ _)

end

macro_rules | `(tactic| pp_step) => `(tactic| with_reducible apply pp_givePart ‹Cong _ _ _ _ _›)

section
variable {Q : Env → Env → Prop} {s1 m1 s2 m2 : Nat}
local notation "PP'" => PP Q s1 m1 s2 m2

theorem pp_passHandler (hQ : Cong Q s1 m1 s2 m2) {w : World} {t : Twin} (h : PP' w t)
    (x : Nat) : PP' (w.passHandler x) (NX (fun v => v.passHandler x) w t) := by
  pp_go h [passHandler]

theorem pp_bufferLoop (hQ : Cong Q s1 m1 s2 m2) (n : Nat) (x : Nat) :
    ∀ {w : World} {t : Twin}, PP' w t → PP' (bufferLoop n w x) (NX (fun v => bufferLoop n v x) w t) := by
  induction n with
  | zero => intro w t h; exact PP.nx (G := fun v => v) h (PPn.mk h)
  | succ n ih =>
    intro w t h
    pp_go h [bufferLoop]

end

macro_rules | `(tactic| pp_step) => `(tactic| with_reducible apply pp_passHandler ‹Cong _ _ _ _ _›)
macro_rules | `(tactic| pp_step) => `(tactic| with_reducible apply pp_bufferLoop ‹Cong _ _ _ _ _›)

section
variable {Q : Env → Env → Prop} {s1 m1 s2 m2 : Nat}
local notation "PP'" => PP Q s1 m1 s2 m2

theorem pp_passPart (hQ : Cong Q s1 m1 s2 m2) {w : World} {t : Twin} (h : PP' w t)
    (x : Nat) : PP' (w.passPart x) (NX (fun v => v.passPart x) w t) := by
  pp_go h [passPart]

end
end C14W
end SimProc
