/-
Events: `exec`, `step`, `runLoop`, `simulateInit`.
-/
import SimProc.Proofs.WorldPres
import SimProc.Proofs.FloorPass
namespace SimProc
namespace C02V
open World

/-! ### scripts never change -/

theorem scr_applyOps (ops : List Op) : ∀ (w : World), (w.applyOps ops).scripts = w.scripts := by
  induction ops with
  | nil => intro w; rfl
  | cons op ops ih =>
    intro w
    unfold World.applyOps
    simp only [List.foldl_cons]
    have := ih ((w.applyOp op).1.addRes (w.applyOp op).2)
    unfold World.applyOps at this
    rw [this, scr_addRes, scr_applyOp]

theorem scr_runScript (w : World) (k : Nat) : (w.runScript k).scripts = w.scripts := scr_applyOps _ w

theorem scr_scan (n : Nat) : ∀ (w : World) (i : Nat), (scanWaiting scanOps n w i).scripts = w.scripts := by
  induction n with
  | zero => intro w i; rfl
  | succ n ih =>
    intro w i
    unfold scanWaiting
    split
    · rfl
    · split
      · rw [ih]
        rename_i req cb _ _
        cases cb with
        | script k => exact scr_runScript _ k
        | proc d => exact scr_floor.procResourceCb w d
      · exact ih _ _

theorem scr_rmCheck (w : World) : w.rmCheck.scripts = w.scripts := scr_scan _ _ _

theorem scr_hookStart (w : World) (tgt : Nat) (tag : Int) : (w.hookStart tgt tag).scripts = w.scripts := by
  unfold World.hookStart
  simp only []
  split
  · rw [scr_floor.shutdownDev]; rfl
  · split
    · rw [scr_runScript]; rfl
    · rfl

theorem scr_hookEnd (w : World) (tgt : Nat) (tag : Int) : (w.hookEnd tgt tag).scripts = w.scripts := by
  unfold World.hookEnd
  simp only []
  split
  · rw [scr_floor.restoreDev]; rfl
  · split
    · rw [scr_runScript]; rfl
    · rfl

theorem scr_startWork (w : World) (m seq : Nat) : (w.startWork m seq).scripts = w.scripts := by
  unfold World.startWork
  split
  · exact scr_setErr ..
  · simp only []; rw [scr_schedLib, scr_hookStart]; rfl

theorem scr_finishWork (w : World) (m seq : Nat) : (w.finishWork m seq).scripts = w.scripts := by
  unfold World.finishWork
  split
  · exact scr_setErr ..
  · simp only []; rw [scr_startOrders]; show (World.hookEnd _ _ _).scripts = _; exact scr_hookEnd ..

theorem scr_exec (w : World) (a : Action) : (w.exec a).scripts = w.scripts := by
  cases a with
  | terminate => rfl
  | script k => exact scr_runScript w k
  | finishCycle d => exact scr_floor.finishCycle w d
  | passPart d => exact scr_floor.passPart w d
  | fail d => exact scr_floor.failDev w d
  | releaseIfIdle d => exact scr_floor.releaseIfIdle w d
  | rmCheck => exact scr_rmCheck w
  | startWork m o => exact scr_startWork w m o
  | finishWork m o => exact scr_finishWork w m o
  | schedUpdate s => exact scr_schedUpdate w s true
  | periodicSense s => exact scr_periodicSense w s
  | unknown n => exact scr_setErr ..

/-! ### the actions of events -/

/-- What an action needs for conservation: no failure of a sink; every device the giver's
hand-over can reach exists. -/
def ActOK (w : World) : Action → Prop
  | .fail d => (w.dev d).kind ≠ .sink
  | .passPart x => GiveOK w x
  | _ => True

theorem good_exec (w : World) (a : Action) (h : Good Inv w) (ha : ActOK w a) : Good Inv (w.exec a) := by
  refine ⟨?_, scriptsOK_of_eq (scr_exec w a) h.2⟩
  cases a with
  | terminate => exact h.1
  | script k => exact (good_runScript closed_inv w k h).1
  | finishCycle d => exact inv_steps h.1 (steps_finishCycle w d)
  | passPart d => exact inv_passPart w d h.1 ha
  | fail d => exact inv_failDev w d h.1 ha
  | releaseIfIdle d => show Inv (sv (w.releaseIfIdle d)); rw [sv_releaseIfIdle]; exact h.1
  | rmCheck => exact (good_rmCheck closed_inv w h).1
  | startWork m o => exact (good_startWork closed_inv w m o h).1
  | finishWork m o => exact (good_finishWork closed_inv w m o h).1
  | schedUpdate s => show Inv (sv (w.schedUpdate s true)); rw [sv_schedUpdate]; exact h.1
  | periodicSense s => show Inv (sv (w.periodicSense s)); rw [sv_periodicSense]; exact h.1
  | unknown n => show Inv (sv (w.setErr _)); rw [sv_setErr]; exact h.1

/-! ### `step`, `runLoop` -/

theorem good_step (w w' : World) (e : Event) (h : Good Inv w) (hst : w.step = some (e, w'))
    (ha : ∀ env', w.env.step = some (e, env') → e.live = true →
      ActOK { w with env := env' } (Action.ofNat e.act)) : Good Inv w' := by
  unfold World.step at hst
  split at hst
  · cases hst
  · rename_i e' env' henv
    simp only [Option.some.injEq, Prod.mk.injEq] at hst
    obtain ⟨rfl, rfl⟩ := hst
    have h1 : Good Inv ({ w with env := env' } : World) := h.of_frame rfl rfl
    split
    · rename_i hl; exact good_exec _ _ h1 (ha env' henv hl)
    · exact h1

/-- A run in which every executed action is admissible. -/
def SafeRun : Nat → World → Prop
  | 0, _ => True
  | f + 1, w =>
    w.env.running = true →
      ∀ e w', w.step = some (e, w') →
        (∀ env', w.env.step = some (e, env') → e.live = true →
          ActOK { w with env := env' } (Action.ofNat e.act)) ∧ SafeRun f w'

theorem good_runLoop (n : Nat) : ∀ (w : World), Good Inv w → SafeRun n w → Good Inv (runLoop n w) := by
  induction n with
  | zero => intro w h _; exact h.of_frame (sv_setErr ..) (scr_setErr ..)
  | succ n ih =>
    intro w h hs
    unfold runLoop
    split
    · rename_i hr
      split
      · exact h
      · rename_i e w' hst
        have := hs hr e w' hst
        exact ih w' (good_step w w' e h hst this.1) this.2
    · exact h

/-! ### `simulateInit` -/

theorem pres_simulateInit {P : SV → Prop} (hP : Closed P) (w : World) (h : P (sv w)) : P (sv w.simulateInit) := by
  unfold World.simulateInit
  split
  · exact h
  · simp only []
    show P (sv (List.foldl _ _ _))
    apply foldl_inv (fun w' => P (sv w'))
    · rw [sv_rmEffects]; exact h
    · intro b a hb; exact pres_initAsset hP b a hb

end C02V
end SimProc
