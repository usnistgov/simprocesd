/-
`Model/World.lean`: constructor calls, scripted operations, scripts, the resource check and the
maintainer events preserve every predicate on the slot view that is closed under "a source
generates a part" and "a device with empty slots is added".
-/
import SimProc.Proofs.WorldFrame
import SimProc.Proofs.FloorSteps
import SimProc.Proofs.WorldWalk
namespace SimProc
namespace C02V
open World

structure Closed (P : SV → Prop) : Prop where
  genS : ∀ {z : Nat} {a a' : SV}, P a → GenS z a a' → P a'
  addDev : ∀ {a : SV} (d : SDev), P a → d.held = [] → P { a with devs := a.devs ++ [d] }

theorem closed_consV : Closed ConsV := ⟨fun h g => consV_genS h g, fun d h hd => consV_addDev h d hd⟩
theorem closed_inv : Closed Inv :=
  ⟨fun h g => ⟨consV_genS h.1 g, extraV_genS h.1 h.2 g⟩, fun d h hd => ⟨consV_addDev h.1 d hd, extraV_addDev h.2 d hd⟩⟩

def SpecOK' : AssetSpec → Prop
  | .dev d => (sdev d).held = []
  | _ => True

def OpOK' : Op → Prop
  | .create spec => SpecOK' spec
  | _ => True

def ScriptsOK' (w : World) : Prop := ∀ l ∈ w.scripts, ∀ op ∈ l, OpOK' op

/-! ### initialisation of a device -/

def initFlag (w : World) (x : Nat) : World :=
  w.modDev x (fun d => { d with inited := true, val := d.val.reset })

theorem sv_initFlag (w : World) (x : Nat) : sv (initFlag w x) = sv w := sv_modDev_same _ _ _ (fun _ => rfl)
theorem st_initFlag (w : World) (x : Nat) : st (initFlag w x) = st w := st_modDev_same _ _ _ (fun _ => rfl)

theorem initDev_eq (w : World) (x : Nat) : w.initDev x =
    match ((initFlag w x).dev x).kind with
    | .gate | .gpath | .ginput | .goutput => initFlag w x
    | .processor =>
      ((initFlag w x).setWaiting x true true).modDev x
        (fun d => { d with lastRestore := some ((initFlag w x).setWaiting x true true).now })
    | .source => ((initFlag w x).setWaiting x true true).scheduleFinish x
    | _ => (initFlag w x).setWaiting x true true := rfl

theorem genS_initDev (w : World) (x : Nat) : GenS x (sv w) (sv (w.initDev x)) := by
  rw [initDev_eq]
  split
  · rw [sv_initFlag]; exact GenS.refl _
  · rw [sv_initFlag]; exact GenS.refl _
  · rw [sv_initFlag]; exact GenS.refl _
  · rw [sv_initFlag]; exact GenS.refl _
  · rw [sv_modDev_same, sv_setWaiting, sv_initFlag]
    · exact GenS.refl _
    · intro _; rfl
  · rename_i hk
    have := genS_scheduleFinish_source ((initFlag w x).setWaiting x true true) x
      (by rw [kind_of_st (st_setWaiting ..) x]; exact hk)
    rw [sv_setWaiting, sv_initFlag] at this
    exact this
  · rw [sv_setWaiting, sv_initFlag]; exact GenS.refl _

/-! ### constructor calls -/

def addDev1 (w : World) (d : Dev) : World :=
  { w with devs := w.devs ++ [{ d with aid := w.assets.length + 1, up := [] }],
           assets := w.assets ++ [AssetRef.dev w.devs.length] }

def regPath (w : World) (d : Dev) (i : Nat) : World :=
  if d.kind == .gpath then
    let gr := w.groups.getD d.group default
    { w with groups := w.groups.set d.group { gr with paths := gr.paths ++ [i] } }
  else w

theorem addDev_eq (w : World) (d : Dev) : w.addDev d =
    if (regPath ((addDev1 w d).rewire w.devs.length d.up) d w.devs.length).started then
      (regPath ((addDev1 w d).rewire w.devs.length d.up) d w.devs.length).initAsset (.dev w.devs.length)
    else regPath ((addDev1 w d).rewire w.devs.length d.up) d w.devs.length := rfl

theorem sv_regPath (w : World) (d : Dev) (i : Nat) : sv (regPath w d i) = sv w := by
  unfold regPath; split <;> rfl
theorem sv_addDev1 (w : World) (d : Dev) : sv (addDev1 w d) = { sv w with devs := (sv w).devs ++ [sdev d] } := by
  simp [sv, addDev1, sdev]

theorem scr_applyOp (w : World) (op : Op) : (w.applyOp op).1.scripts = w.scripts :=
  scripts_applyOp w op

theorem sv_plain : PlainClosed fun w w' => sv w' = sv w where
  refl := fun _ => rfl
  trans := fun h1 h2 => h2.trans h1
  tables := fun _ _ _ _ _ _ _ _ => rfl
  rmEffects := sv_rmEffects
  schedScript := fun w t a _ p => sv_sched w t a _ p
  orderRec := fun _ _ _ _ _ => rfl
  startOrders := sv_startOrders
  setBlock := sv_setBlock
  setCycle := fun w d _ => sv_modDev_same w d _ fun _ => rfl
  addOffset := fun w d _ => sv_modDev_same w d _ fun _ => rfl
  setParams := fun _ _ _ => rfl

theorem sv_applyOp_noncreate (w : World) (op : Op) (h : ∀ s, op ≠ .create s) : sv (w.applyOp op).1 = sv w := by
  cases op with
  | create s => exact absurd rfl (h s)
  | pause a => exact sv_envOp w _
  | unpause a => exact sv_envOp w _
  | cancel a => exact sv_envOp w _
  | shutdown d =>
    rw [World.applyOp]
    split
    · rfl
    · exact sv_shutdownDev w d _ _
  | restore d =>
    rw [World.applyOp]
    split
    · rfl
    · exact sv_restoreDev w d
  | rewire d ups => exact sv_rewire w d ups
  | _ => exact sv_plain.applyOp w _ rfl (fun t _ _ => sv_sched w t _ _ _) fun d n _ => sv_adjustParts w d n

section
variable {P : SV → Prop} (hP : Closed P)
include hP

theorem pres_initAsset (w : World) (a : AssetRef) (h : P (sv w)) : P (sv (w.initAsset a)) := by
  cases a with
  | dev d => exact hP.genS h (genS_initDev w d)
  | maint m => rw [sv_initAsset_nondev _ _ (by intro d hd; cases hd)]; exact h
  | sched m => rw [sv_initAsset_nondev _ _ (by intro d hd; cases hd)]; exact h
  | sensor m => rw [sv_initAsset_nondev _ _ (by intro d hd; cases hd)]; exact h
  | cms m => rw [sv_initAsset_nondev _ _ (by intro d hd; cases hd)]; exact h

theorem pres_addDev (w : World) (d : Dev) (h : P (sv w)) (hd : (sdev d).held = []) : P (sv (w.addDev d)) := by
  have h1 : P (sv (regPath ((addDev1 w d).rewire w.devs.length d.up) d w.devs.length)) := by
    rw [sv_regPath, sv_rewire, sv_addDev1]; exact hP.addDev (sdev d) h hd
  rw [addDev_eq]
  split
  · exact pres_initAsset hP _ _ h1
  · exact h1

theorem pres_addAsset (w : World) (spec : AssetSpec) (h : P (sv w)) (hs : SpecOK' spec) :
    P (sv (w.addAsset spec)) := by
  cases spec with
  | dev d => exact pres_addDev hP w d h hs
  | group gid devs ins outs =>
    unfold World.addAsset
    simp only []
    rw [sv_rewire]
    apply pres_addDev hP _ _ _ rfl
    rw [foldl_proj sv _ _ _ (fun _ _ => sv_rewire ..)]
    exact pres_addDev hP _ _ h rfl
  | maint cap v =>
    unfold World.addAsset; simp only []
    split
    · exact pres_initAsset hP _ _ h
    · exact h
  | sched tt cyc =>
    unfold World.addAsset; simp only []
    split
    · exact pres_initAsset hP _ _ h
    · exact h
  | sensor sw =>
    unfold World.addAsset; simp only []
    split
    · exact pres_initAsset hP _ _ h
    · exact h
  | cms => exact h

theorem pres_applyOp (w : World) (op : Op) (h : P (sv w)) (ho : OpOK' op) : P (sv (w.applyOp op).1) := by
  by_cases hc : ∃ s, op = .create s
  · obtain ⟨s, rfl⟩ := hc
    exact pres_addAsset hP w s h ho
  · rw [sv_applyOp_noncreate w op (fun s hs => hc ⟨s, hs⟩)]; exact h

end

/-- the predicate together with well-formed scripts -/
def Good (P : SV → Prop) (w : World) : Prop := P (sv w) ∧ ScriptsOK' w

theorem scriptsOK_of_eq {w w' : World} (h : w'.scripts = w.scripts) (hs : ScriptsOK' w) : ScriptsOK' w' := by
  unfold ScriptsOK'; rw [h]; exact hs

theorem Good.of_frame {P : SV → Prop} {w w' : World} (h : Good P w) (h1 : sv w' = sv w)
    (h2 : w'.scripts = w.scripts) : Good P w' := ⟨by rw [h1]; exact h.1, scriptsOK_of_eq h2 h.2⟩

section
variable {P : SV → Prop} (hP : Closed P)
include hP

theorem good_applyOps (ops : List Op) : ∀ (w : World), Good P w → (∀ op ∈ ops, OpOK' op) → Good P (w.applyOps ops) := by
  induction ops with
  | nil => intro w h _; exact h
  | cons op ops ih =>
    intro w h hok
    unfold World.applyOps
    simp only [List.foldl_cons]
    apply ih
    · exact ⟨pres_applyOp hP w op h.1 (hok op (List.mem_cons_self ..)),
        scriptsOK_of_eq (scr_applyOp w op) h.2⟩
    · exact fun o ho => hok o (List.mem_cons_of_mem _ ho)

theorem good_runScript (w : World) (k : Nat) (h : Good P w) : Good P (w.runScript k) := by
  unfold World.runScript
  apply good_applyOps hP _ _ h
  intro op hop
  by_cases hk : k < w.scripts.length
  · have : w.scripts.getD k [] = w.scripts[k] := by simp [List.getD_eq_getElem?_getD, hk]
    rw [this] at hop
    exact h.2 _ (List.getElem_mem hk) op hop
  · have : w.scripts.getD k [] = [] := by simp [List.getD_eq_getElem?_getD, Nat.le_of_not_lt hk]
    rw [this] at hop; cases hop

theorem good_scan (n : Nat) : ∀ (w : World) (i : Nat), Good P w → Good P (scanWaiting scanOps n w i) := by
  induction n with
  | zero => intro w i h; exact h
  | succ n ih =>
    intro w i h
    unfold scanWaiting
    split
    · exact h
    · split
      · apply ih
        rename_i req cb _ _
        cases cb with
        | script k =>
          have := good_runScript hP (w.addRes (.cb k)) k (h.of_frame rfl rfl)
          exact this.of_frame rfl rfl
        | proc d =>
          exact (h.of_frame (sv_procResourceCb w d) (scr_floor.procResourceCb w d)).of_frame rfl rfl
      · exact ih _ _ h

theorem good_rmCheck (w : World) (h : Good P w) : Good P w.rmCheck := good_scan hP _ _ _ h

theorem good_hookStart (w : World) (tgt : Nat) (tag : Int) (h : Good P w) : Good P (w.hookStart tgt tag) := by
  unfold World.hookStart
  simp only []
  split
  · exact h.of_frame (by frame) (by frame)
  · split
    · exact good_runScript hP _ _ (h.of_frame rfl rfl)
    · exact h.of_frame rfl rfl

theorem good_hookEnd (w : World) (tgt : Nat) (tag : Int) (h : Good P w) : Good P (w.hookEnd tgt tag) := by
  unfold World.hookEnd
  simp only []
  split
  · exact h.of_frame (by frame) (by frame)
  · split
    · exact good_runScript hP _ _ (h.of_frame rfl rfl)
    · exact h.of_frame rfl rfl

theorem good_startWork (w : World) (m seq : Nat) (h : Good P w) : Good P (w.startWork m seq) := by
  have key : ∀ w' : World, sv w' = sv w → w'.scripts = w.scripts → ∀ t g a b c d,
      Good P ((w'.hookStart t g).schedLib a b c d) := fun w' e1 e2 t g a b c d =>
    (good_hookStart hP w' t g (h.of_frame e1 e2)).of_frame (sv_schedLib ..) (scr_schedLib ..)
  unfold World.startWork
  split
  · exact h.of_frame (sv_setErr ..) (scr_setErr ..)
  · simp only []
    refine key _ ?_ ?_ _ _ _ _ _ _ <;> rfl

theorem good_finishWork (w : World) (m seq : Nat) (h : Good P w) : Good P (w.finishWork m seq) := by
  unfold World.finishWork
  split
  · exact h.of_frame (sv_setErr ..) (scr_setErr ..)
  · simp only []
    rename_i o _
    -- one update at a time: `rfl` through all three at once is slow to check
    exact ((((good_hookEnd hP w o.target o.tag h).of_frame (sv_modMaint ..) (scr_modMaint ..)).of_frame
      (sv_addRec ..) (scr_addRec ..)).of_frame (sv_modMaint ..) (scr_modMaint ..)).of_frame
      (sv_startOrders ..) (scr_startOrders ..)

end
end C02V
end SimProc
