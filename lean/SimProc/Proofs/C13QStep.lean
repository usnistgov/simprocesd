/-
C13Q, part 4: scripted operations and control events under the closed-world invariant `C06W.WI`; one
step of the event loop preserves the queue invariant `QI x` of every processor `x`; initialisation.
-/
import SimProc.Proofs.C13QWorld
namespace SimProc
namespace C13Q
open World FloorCoreL C06W

variable {x : Nat}

theorem qk_schedUpdate (w : World) (s : Nat) (adv : Bool) : QK x w (w.schedUpdate s adv) := by
  unfold World.schedUpdate
  dsimp only
  split
  · exact qk_of_fields rfl rfl
  · refine QK.trans ?_ (qk_schedLib _ _ _ _ _ (by intro e; rcases e with e | e <;> cases e))
    refine QK.trans ?_ (QK.foldl _ _ _ (fun _ _ => qk_addRes _ _))
    refine QK.trans ?_ (qk_addRec _ _)
    exact qk_of_fields rfl rfl

theorem qk_periodicSense (w : World) (s : Nat) : QK x w (w.periodicSense s) := by
  unfold World.periodicSense
  dsimp only
  refine QK.trans ?_ (qk_schedLib _ _ _ _ _ (by intro e; rcases e with e | e <;> cases e))
  refine QK.trans ?_ (QK.foldl _ _ _ (fun _ _ => qk_addRes _ _))
  exact qk_of_fields rfl rfl

/-! ### scripted operations -/

theorem qp_plain : PlainClosed (QP x) where
  refl := QP.refl
  trans := QP.trans
  tables := fun _ _ _ _ _ _ _ _ => QK.qp (qk_of_fields rfl rfl)
  rmEffects := fun w recs chk => (qk_rmEffects w recs chk).qp
  schedScript := fun w t a _ p =>
    (qk_sched w t a _ p (by intro e; rcases e with e | e <;> cases e)).qp
  orderRec := fun w _ _ _ _ => (qk_addRec w _).qp
  startOrders := fun w _ _ => QK.qp (QK.foldl _ _ w fun w _ =>
    qk_schedLib w _ _ _ _ (by intro e; rcases e with e | e <;> cases e))
  setBlock := fun w d b => (qk_setBlock w d b).qp
  setCycle := fun w d _ => (qk_modDev w d _ flg).qp
  addOffset := fun w d _ => (qk_modDev w d _ flg).qp
  setParams := fun _ _ _ => QK.qp (qk_of_fields rfl rfl)

theorem qp_applyOp {w : World} (h : WI w) (hk : (w.dev x).kind = .processor) (op : Op)
    (h1 : C02V.OpStatic w op) (h2 : OpNoPause w op) : QP x w (w.applyOp op).1 := by
  have hx : x < w.devs.length := lt_of_processor hk
  have hne : ∀ d, (w.dev d).kind = .processor → d ≠ x → (w.dev d).aid ≠ (w.dev x).aid :=
    fun d hd hdx => h.fi.aids d x (lt_of_processor hd) hx hdx
  cases op
  case rewire d ups => exact absurd h1 id
  case create s => exact absurd h1 id
  case pause a =>
    refine qp_of_env (sd' := (w.dev x).shutDown) rfl rfl rfl id (qe_pause _ ?_)
    exact (h2 x hx).symm
  case unpause a =>
    refine qp_of_env (sd' := (w.dev x).shutDown) rfl rfl rfl id (qe_unpause _ ?_)
    exact (h2 x hx).symm
  case cancel a =>
    exact qp_of_env (sd' := (w.dev x).shutDown) rfl rfl rfl id (qe_cancel _)
  case shutdown d =>
    simp only [World.applyOp]
    split
    · exact QP.refl _
    · rename_i hkd
      exact qp_shutdownDev w d false none hk (fun hdx => hne d (by simpa using hkd) hdx)
  case restore d =>
    simp only [World.applyOp]
    split
    · exact QP.refl _
    · rename_i hkd
      exact qp_restoreDev w d hk (fun hdx => hne d (by simpa using hkd) hdx)
  case adjust d n =>
    -- the part budget of `x` may be set because a processor has none (`QI.mp`)
    have hp := C13W.pv_adjustParts x w d n
    exact ⟨C13W.pv_kind hp, C13W.pv_aid hp,
      fun hk hi => (qk_adjustParts w d n (fun _ => hi.mp)).qp.inv hk hi⟩
  all_goals exact qp_plain.applyOp w _ rfl (fun t _ _ =>
    (qk_sched w t _ _ _ (by intro e; rcases e with e | e <;> cases e)).qp) fun _ _ e => nomatch e

theorem aid_ne {w : World} (h : WI w) (hk : (w.dev x).kind = .processor) {d : Nat}
    (hd : (w.dev d).kind = .processor) (hdx : d ≠ x) : (w.dev d).aid ≠ (w.dev x).aid :=
  h.fi.aids d x (lt_of_processor hd) (lt_of_processor hk) hdx

/-- The queue relation of a processor `x` beside the closed-world step relation of C06W, through
scripts, call-backs and work orders. -/
theorem wq_closed :
    ScriptClosed WI fun w w' => WS w w' ∧ ((w.dev x).kind = .processor → QP x w w') :=
  ws_closed.and (refl := fun w _ _ => QP.refl w)
    (trans := fun q1 q2 hk => (q1 hk).trans (q2 ((q1 hk).kind.trans hk)))
    (applyOp := fun _ op h ⟨l, hl, hop⟩ hk =>
      qp_applyOp h hk op (h.st.1 l hl op hop) (h.nps l hl op hop))
    (addRes := fun w r _ _ _ => (qk_addRes w r).qp)
    (erase := fun w i _ _ => QK.qp (w' := scanOps.erase w i) (qk_of_fields rfl rfl))
    (procResourceCb := fun w _ _ d _ _ _ _ => (qk_procResourceCb w d).qp)
    (modMaint := fun w m f _ _ => QK.qp (w' := w.modMaint m f) (qk_of_fields rfl rfl))
    (addRec := fun w _ _ _ _ _ _ _ _ => (qk_addRec w _).qp)
    (schedLib := fun w t a act p _ e _ =>
      (qk_schedLib w t a act p (by cases e <;> (intro e'; rcases e' with e' | e' <;> cases e'))).qp)
    (shutdownDev := fun w _ d h hd hk =>
      qp_shutdownDev w d false none hk fun hdx => aid_ne h hk (targets_dev_proc h hd) hdx)
    (restoreDev := fun w _ d h hd hk =>
      qp_restoreDev w d hk fun hdx => aid_ne h hk (targets_dev_proc h hd) hdx)
    (setErr := fun w m _ _ _ => (qk_setErr w m).qp)

/-! ### one step of the event loop -/

theorem qi_pop {w : World} {e : Event} {env' : Env} (henv : w.env.step = some (e, env'))
    (hq : QI x w) : QI x ({ w with env := env' } : World) := by
  obtain ⟨es, he, rfl⟩ := Env.step_some.mp henv
  have hsub : ∀ e' ∈ es, e' ∈ w.env.events := fun e' h => by rw [he]; exact List.mem_cons_of_mem _ h
  refine ⟨⟨?_, ?_, ?_⟩, hq.mp⟩
  · intro e' he' hqq
    rcases List.mem_append.mp he' with h1 | h1
    · exact hq.qe.qa e' (List.mem_append.mpr (Or.inl (hsub e' h1))) hqq
    · exact hq.qe.qa e' (List.mem_append.mpr (Or.inr h1)) hqq
  · intro hs e' he'
    exact hq.qe.dn hs e' (hsub e' he')
  · intro hs e' he'
    exact hq.qe.up hs e' he'

/-- **One step of the event loop preserves the queue invariant of every processor.** -/
theorem qi_step {w w' : World} {e : Event} (h : WI w) (hk : (w.dev x).kind = .processor)
    (hq : QI x w) (hst : w.step = some (e, w')) : QI x w' := by
  have hst0 := hst
  unfold World.step at hst
  split at hst
  · cases hst
  · rename_i e' env' henv
    simp only [Option.some.injEq, Prod.mk.injEq] at hst
    obtain ⟨rfl, rfl⟩ := hst
    have hq1 : QI x ({ w with env := env' } : World) := qi_pop henv hq
    have hk1 : (({ w with env := env' } : World).dev x).kind = .processor := hk
    obtain ⟨s1, s2, s3, s4⟩ := si_pop h henv
    split
    · rename_i hl
      -- the world after the pop satisfies the closed-world invariant unless `e` is a finish event
      have hwi : (∀ d, Action.ofNat e'.act ≠ .finishCycle d) → WI ({ w with env := env' } : World) := by
        intro hnf
        rcases pop_cases h henv with ⟨d, _, ha, _⟩ | ⟨hfi, _⟩
        · exact absurd (by rw [ha]; exact ofNat_finAct d) (hnf d)
        · exact ⟨hfi, s1, s2, s3, s4⟩
      cases ha : Action.ofNat e'.act with
      | terminate => exact hq1
      | script k =>
        have h1 := hwi (by rw [ha]; intro d hd; cases hd)
        exact ((wq_closed.runScript _ k h1).2 hk1).inv hk1 hq1
      | finishCycle d =>
        refine (qk_finishCycle _ d ?_).qp.inv hk1 hq1
        intro hd; subst hd
        exact (finish_at_zero h henv hl (ofNat_finish ha) (by rw [hk]; decide)).2.1
      | passPart d => exact (qk_passPart _ d).qp.inv hk1 hq1
      | fail d =>
        have hf := C06T.failed_of_step h hst0 hl ha
        refine (qp_failDev _ d hk1 ?_).inv hk1 hq1
        intro hdx
        exact h.fi.aids d x (lt_of_processor hf.kind) (lt_of_processor hk) hdx
      | releaseIfIdle d => exact (qk_releaseIfIdle _ d).qp.inv hk1 hq1
      | rmCheck =>
        have h1 := hwi (by rw [ha]; intro d hd; cases hd)
        exact ((wq_closed.rmCheck _ h1).2 hk1).inv hk1 hq1
      | startWork m o =>
        have h1 := hwi (by rw [ha]; intro d hd; cases hd)
        exact ((wq_closed.startWork _ m o h1).2 hk1).inv hk1 hq1
      | finishWork m o =>
        have h1 := hwi (by rw [ha]; intro d hd; cases hd)
        exact ((wq_closed.finishWork _ m o h1).2 hk1).inv hk1 hq1
      | schedUpdate s => exact (qk_schedUpdate _ s true).qp.inv hk1 hq1
      | periodicSense s => exact (qk_periodicSense _ s).qp.inv hk1 hq1
      | unknown n => exact (qk_setErr _ _).qp.inv hk1 hq1
    · exact hq1

/-! ### initialisation -/

theorem qk_initDev (w : World) (y : Nat) : QK x w (w.initDev y) := by
  have h1 : QK x w (w.modDev y (fun d => { d with inited := true, val := d.val.reset })) :=
    qk_modDev _ _ _ flg
  unfold World.initDev
  dsimp only
  split
  · exact h1
  · exact h1
  · exact h1
  · exact h1
  · refine QK.trans ?_ (qk_modDev _ _ _ flg)
    exact h1.trans (qk_setWaiting _ _ _ _)
  · rename_i hk
    refine QK.then_finish (h1.trans (qk_setWaiting _ _ _ _)) _ ?_
    intro e; subst e
    have hk' : (w.dev y).kind = .source := by rw [← h1.kind]; exact hk
    exact op_of_kind (by rw [hk']; decide)
  · exact h1.trans (qk_setWaiting _ _ _ _)

theorem qk_initAsset (w : World) (a : AssetRef) : QK x w (w.initAsset a) := by
  cases a with
  | dev d => exact qk_initDev w d
  | maint m => exact qk_of_fields rfl rfl
  | sched s => exact qk_schedUpdate w s false
  | sensor s =>
    unfold World.initAsset
    dsimp only
    split
    · refine QK.trans ?_ (qk_schedLib _ _ _ _ _ (by intro e; rcases e with e | e <;> cases e))
      exact qk_of_fields rfl rfl
    · split
      · refine QK.trans ?_ (qk_modDev _ _ _ flg)
        exact qk_of_fields rfl rfl
      · exact qk_of_fields rfl rfl
  | cms c => exact QK.refl _

theorem qk_started (w : World) : QK x w { w with started := true } := qk_of_fields rfl rfl

theorem qk_simulateInit (w : World) : QK x w w.simulateInit := by
  unfold World.simulateInit
  split
  · exact QK.refl _
  · dsimp only
    refine QK.trans ?_ (qk_started _)
    refine QK.trans ?_ (QK.foldl _ _ _ (fun w a => qk_initAsset w a))
    refine QK.trans ?_ (qk_rmEffects _ _ _)
    exact qk_of_fields rfl rfl

end C13Q
end SimProc
