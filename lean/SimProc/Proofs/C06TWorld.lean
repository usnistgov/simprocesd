/-
C06T (exact cycle times over whole runs), part 3: scripted operations, the actions of events and
one step of the event loop as sequences of atomic moves.  The invariant at intermediate states is
carried by `C06W.WS`, beside which the moves are walked through scripts and work orders
(`wm_closed`).
-/
import SimProc.Proofs.C06TPass
namespace SimProc
namespace C06T
open World FloorCoreL C06W
open C02V (Reach st GiveOK Static SR HasBad badAct OpStatic ScriptsStatic TopoOK)

variable {F : Nat → Prop}

theorem mv_fr {w w' : World} (h : FI w) (f : Fr None_ w w') : Moves F w w' := .one h (.frame f)

/-! ### scripted operations -/

theorem mv_applyOp {w : World} (h : WI w) (op : Op) (h1 : OpStatic w op) (h2 : OpNoPause w op) :
    Moves F w (w.applyOp op).1 := by
  cases op
  case rewire d ups => exact absurd h1 id
  case create s => exact absurd h1 id
  case pause a => exact mv_fr h.fi (fr_envop_other h.fi a h2 _ (Or.inl rfl))
  case unpause a => exact mv_fr h.fi (fr_envop_other h.fi a h2 _ (Or.inr (Or.inl rfl)))
  case cancel a => exact mv_fr h.fi (fr_envop_other h.fi a h2 _ (Or.inr (Or.inr rfl)))
  case shutdown d =>
    simp only [World.applyOp]
    split
    · exact .refl _
    · rename_i hk
      exact .one h.fi (.shutdown d (by simpa using hk))
  case restore d =>
    simp only [World.applyOp]
    split
    · exact .refl _
    · rename_i hk
      exact .one h.fi (.restore d (by simpa using hk))
  all_goals exact mv_fr h.fi (fr_applyOp_plain w _ rfl)

/-- The moves beside `WS`, which carries the invariant from one move to the next. -/
theorem wm_closed : ScriptClosed WI fun w w' => WS w w' ∧ Moves F w w' :=
  ws_closed.and (refl := fun _ _ => .refl _) (trans := Moves.trans)
    (applyOp := fun _ op h ⟨l, hl, hop⟩ => mv_applyOp h op (h.st.1 l hl op hop) (h.nps l hl op hop))
    (addRes := fun w r h _ => mv_fr h.fi (fr_addRes w r))
    (erase := fun w i h =>
      mv_fr h.fi (fr_of_fields (X := None_) (w := w) (w' := scanOps.erase w i) rfl rfl rfl rfl))
    (procResourceCb := fun w _ _ d h _ _ => mv_fr h.fi (fr_procResourceCb w d))
    (modMaint := fun w m f h => mv_fr h.fi (fr_modMaint w m f))
    (addRec := fun w _ _ _ _ _ h _ => mv_fr h.fi (fr_addRec w _))
    (schedLib := fun w t a act p h e =>
      mv_fr h.fi (fr_schedLib w t a act p fun y e' => absurd e' (e.ne.2 y)))
    (shutdownDev := fun _ _ d h hd => .one h.fi (.shutdown d (targets_dev_proc h hd)))
    (restoreDev := fun _ _ d h hd => .one h.fi (.restore d (targets_dev_proc h hd)))
    (setErr := fun w m h hm =>
      mv_fr h.fi (fr_setErr w m (by rcases hm with rfl | rfl <;> decide)))

/-! ### the actions of events -/

/-- Every action except the finish event of a device, as a sequence of atomic moves; only the
action `fail d` contains a failure, and only of `d`. -/
theorem mv_exec {w : World} (h : WI w) (a : Action) (hfin : ∀ d, a ≠ .finishCycle d)
    (hfail : ∀ d, a = .fail d → (w.dev d).kind = .processor) :
    Moves (fun d => a = .fail d) w (w.exec a) := by
  cases a with
  | terminate => exact .refl _
  | script k => exact (wm_closed.runScript w k h).2
  | finishCycle d => exact absurd rfl (hfin d)
  | passPart d => exact (gm_passPart w d h.fi (h.st.2.1 d)).mv
  | fail d => exact .one h.fi (.fail d (hfail d rfl) rfl)
  | releaseIfIdle d => exact mv_fr h.fi (fr_releaseIfIdle w d)
  | rmCheck => exact (wm_closed.rmCheck w h).2
  | startWork m o => exact (wm_closed.startWork w m o h).2
  | finishWork m o => exact (wm_closed.finishWork w m o h).2
  | schedUpdate s => exact mv_fr h.fi (fr_schedUpdate w s true)
  | periodicSense s => exact mv_fr h.fi (fr_periodicSense w s)
  | unknown n => exact mv_fr h.fi (fr_setErr w _ (by decide))

/-! ### one step of the event loop -/

/-- The three kinds of step of the event loop: the popped event is cancelled (nothing runs), it is
the live finish event of a timing device `x` (which is then in the `Mid` state and finishes its
cycle), or its action is a sequence of atomic moves from a state satisfying the invariant. -/
inductive StepKind (w : World) (e : Event) (env' : Env) (w' : World) : Prop
  | skipped (hl : e.live = false) (hw : w' = { w with env := env' })
  | finish (x : Nat) (hl : e.live = true) (ha : e.act = finAct x)
      (hm : Mid ({ w with env := env' } : World) x)
      (hw : w' = ({ w with env := env' } : World).finishCycle x)
  | action (hl : e.live = true) (hfi : FI ({ w with env := env' } : World))
      (hsrc : ∀ x, e.act = finAct x → (w.dev x).kind = .source)
      (hw : w' = ({ w with env := env' } : World).exec (Action.ofNat e.act))
      (mv : Moves (fun d => Action.ofNat e.act = .fail d) ({ w with env := env' } : World) w')

theorem step_kind {w w' : World} {e : Event} (h : WI w) (hst : w.step = some (e, w')) :
    ∃ env', w.env.step = some (e, env') ∧ StepKind w e env' w' := by
  unfold World.step at hst
  split at hst
  · cases hst
  · rename_i e' env' henv
    simp only [Option.some.injEq, Prod.mk.injEq] at hst
    obtain ⟨rfl, rfl⟩ := hst
    refine ⟨env', henv, ?_⟩
    obtain ⟨s1, s2, s3, s4⟩ := si_pop h henv
    by_cases hl : e'.live = true
    · rw [if_pos hl]
      rcases pop_cases h henv with ⟨x, _, ha, hm⟩ | ⟨hfi, hsrc⟩
      · refine .finish x hl ha hm ?_
        rw [ha, ofNat_finAct]; rfl
      · have h1 : WI ({ w with env := env' } : World) := ⟨hfi, s1, s2, s3, s4⟩
        refine .action hl hfi (fun x => hsrc x hl) rfl ?_
        by_cases hc : ∃ d, Action.ofNat e'.act = .finishCycle d
        · obtain ⟨d, hd⟩ := hc
          rw [hd]
          have hk : (w.dev d).kind = .source := hsrc d hl (ofNat_finish hd)
          exact mv_fr hfi (fr_finishCycle_source (X := None_) ({ w with env := env' } : World) d hk)
        · refine mv_exec h1 _ (fun d hd => hc ⟨d, hd⟩) ?_
          intro d hd
          cases hk : (w.dev d).kind
          case processor => exact hk
          all_goals
            exfalso
            apply h.nf
            refine ⟨e'.act, ?_, d, hd, ?_⟩
            · rw [C02V.mem_acts]; exact ⟨e', Or.inl (mem_events_of_step henv), rfl⟩
            · show (w.dev d).kind ≠ .processor
              rw [hk]; decide
    · rw [if_neg hl]
      exact .skipped (by simpa using hl) rfl

end C06T
end SimProc
