/-
C09W — `R` contains the atoms of the floor (`World.FloorClosed.Ops R`), hence `R w (f w)` for every
function `f` of `Model/Floor.lean` (`Proofs/FloorWalk.lean`): each keeps the pool invariant of the
resource manager and the static clause `ReqWF` (the conditional relation `R` of `C09WBase`).  The
manager is written by `releaseReserved` and `procAcquire` only; the request a processor reserves is
the one it declares, a dictionary by `DevsWF`.
-/
import SimProc.Proofs.C09WBase

namespace SimProc
namespace C09W
open World FloorCoreL

theorem R_releaseReserved (w : World) (x : Nat) : R w (w.releaseReserved x) := by
  unfold releaseReserved
  split
  · exact R.refl _
  · rename_i id _
    have h : C09.Inv w.rm → C09.Inv (w.rm.release id none).1 :=
      fun hi => C09.inv_release hi id none (fun _ h => by cases h)
    rcases hr : w.rm.release id none with ⟨rm, res, recs, chk⟩
    rw [hr] at h
    dsimp only at h ⊢
    r_step
    exact R_rmStep w rm recs chk h

theorem R_procAcquire (w : World) (x : Nat) : R w (w.procAcquire x).1 := by
  refine R.with_Q fun hq => ?_
  unfold procAcquire
  dsimp only
  split
  · exact R.refl _
  · rename_i req hreq
    have hk : C09.NodupKeys req := hq.dev.dev hreq
    split
    · exact R.refl _
    · have h : C09.Inv w.rm → C09.Inv (w.rm.reserve req).1 := fun hi => C09.inv_reserve hi req hk
      split
      · rename_i rm r id recs heq
        rw [heq] at h
        dsimp only at h ⊢
        r_step
        exact R_rmStep w rm recs false h
      · dsimp only
        r_auto
      · split
        · exact R.refl _
        · rcases hr : w.rm.register req (.proc x) with ⟨rm, chk⟩
          dsimp only
          r_step
          refine R_rmStep w rm [] chk (fun hi => ?_)
          have : rm = (w.rm.register req (.proc x)).1 := by rw [hr]
          rw [this]
          exact inv_congr hi rfl rfl
theorem R.floor : FloorClosed.Ops R where
  refl := R.refl
  trans := R.trans
  setErr := fun _ _ => R.of_KR (KR_setErr _ _)
  addRec := fun _ _ _ => R.of_KR (KR_addRec _ _)
  addRes := fun _ _ _ => R.of_KR (KR_addRes _ _)
  setDev := fun w x d h => R_setDev w x d (congrArg Dev.resReq h :)
  modPart := fun _ _ _ => R.of_KR (KR_modPart _ _ _)
  newPart := fun _ _ => R.of_KR (KR_newPart _ _)
  schedLib := fun _ _ _ _ _ _ => R.of_KR (KR_schedLib _ _ _ _ _)
  envOp := fun _ _ _ => R.of_KR (KR_envOp _ _)
  setDelivered := fun _ _ => R.of_KR rfl
  setLost := fun _ _ => R.of_KR rfl
  releaseReserved := R_releaseReserved
  procAcquire := R_procAcquire
  produce w x p _ := World.produce_walk R.refl R.trans
    (World.senseOutput_walk R.refl R.trans (fun _ _ => R.of_KR rfl)
      (fun _ _ _ => R.of_KR (KR_addRes _ _)))
    (fun _ _ _ _ _ _ => R.of_KR rfl) w x p
  genPart := World.genPart_walk R.refl R.trans (fun _ _ => R.of_KR (KR_newPart _ _))
    (fun _ _ => R.of_KR rfl)
  setBlockInput := fun w x _ => R_setDev w x _ rfl
  setMaxParts := fun w x _ => R_setDev w x _ rfl
  setWiring := fun w x _ _ => R_setDev w x _ rfl
  setInited := fun w x _ => R_setDev w x _ rfl
  clearWaitingRes := fun w x => R_setDev w x _ rfl

macro_rules | `(tactic| r_step) => `(tactic| with_reducible apply R.trans (h2 := R.floor.shutdownDev _ _ _ _))
macro_rules | `(tactic| r_step) => `(tactic| with_reducible apply R.trans (h2 := R.floor.restoreDev _ _))
macro_rules | `(tactic| r_step) => `(tactic| with_reducible apply R.trans (h2 := R.floor.setBlock _ _ _))
macro_rules | `(tactic| r_step) => `(tactic| with_reducible apply R.trans (h2 := R.floor.adjustParts _ _ _))
macro_rules | `(tactic| r_step) => `(tactic| with_reducible apply R.trans (h2 := R.floor.rewire _ _ _))
macro_rules | `(tactic| r_step) => `(tactic| with_reducible apply R.trans (h2 := R.floor.initDev _ _))

end C09W
end SimProc
