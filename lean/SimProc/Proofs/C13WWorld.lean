/-
C13W, part 4: scripted operations, the maintainer's events, the resource check and the other event
actions as sequences of machine moves of a fixed device `x`; one step of the event loop.
-/
import SimProc.Proofs.C13WMoves
import SimProc.Proofs.C06TWorld
namespace SimProc
namespace C13W
open World FloorCoreL

variable {x : Nat}

/-! ### scripts without `rewire` / `create` -/

def opPlain : Op → Prop
  | .rewire _ _ => False
  | .create _ => False
  | _ => True

instance : DecidablePred opPlain := fun op => by cases op <;> unfold opPlain <;> infer_instance

def ScriptsPlain (w : World) : Prop := ∀ l ∈ w.scripts, ∀ op ∈ l, opPlain op

instance (w : World) : Decidable (ScriptsPlain w) := by unfold ScriptsPlain; infer_instance

theorem opPlain_of_static {w : World} {op : Op} (h : C02V.OpStatic w op) : opPlain op := by
  cases op <;> first | trivial | exact h

theorem scriptsPlain_of_static {w : World} (h : C02V.ScriptsStatic w) : ScriptsPlain w :=
  fun l hl op hop => opPlain_of_static (h l hl op hop)

/-! ### more frames -/

section frames
variable (x) (w : World)

theorem pv_startOrders (m : Nat) (st : List Order) : pvw x (w.startOrders m st) = pvw x w := by
  unfold World.startOrders
  exact pv_foldl x _ _ _ (fun w o => pv_schedLib x w _ _ _ _)

theorem pv_modMaint (m : Nat) (f : Maint → Maint) : pvw x (w.modMaint m f) = pvw x w := rfl

theorem pv_schedUpdate (s : Nat) (adv : Bool) : pvw x (w.schedUpdate s adv) = pvw x w := by
  unfold World.schedUpdate
  dsimp only
  split
  · rfl
  · rw [pv_schedLib, pv_foldl x _ _ _ (fun w o => pv_addRes x w _), pv_addRec _ _ _ rfl]; rfl

theorem pv_periodicSense (s : Nat) : pvw x (w.periodicSense s) = pvw x w := by
  unfold World.periodicSense
  dsimp only
  rw [pv_schedLib, pv_foldl x _ _ _ (fun w c => pv_addRes x w _)]; rfl

end frames

/-! ### scripted operations -/

theorem pm_shutdown (w : World) (d : Nat) :
    PMoves x False False True w (w.shutdownDev d false none) := by
  by_cases hd : d = x
  · subst hd; exact .one (.shutdown trivial)
  · exact .fr (pv_shutdownDev x w d false none hd)

theorem pm_restore (w : World) (d : Nat) : PMoves x False False True w (w.restoreDev d) := by
  by_cases hd : d = x
  · subst hd; exact .one (.restore trivial)
  · exact .fr (pv_restoreDev x w d hd)

theorem pv_plain : PlainClosed fun w w' => pvw x w' = pvw x w where
  refl := fun _ => rfl
  trans := fun h1 h2 => h2.trans h1
  tables := fun _ _ _ _ _ _ _ _ => rfl
  rmEffects := pv_rmEffects x
  schedScript := fun w t a _ p => pv_sched x w t a _ p
  orderRec := fun w _ _ _ _ => pv_addRec x w _ rfl
  startOrders := pv_startOrders x
  setBlock := pv_setBlock x
  setCycle := fun w d _ => pv_modDev x w d _ (.inr rfl)
  addOffset := fun w d _ => pv_modDev x w d _ (.inr rfl)
  setParams := fun _ _ _ => rfl

theorem pm_applyOp (w : World) (op : Op) (hop : opPlain op) :
    PMoves x False False True w (w.applyOp op).1 := by
  cases op
  case rewire d ups => exact absurd hop id
  case create s => exact absurd hop id
  case pause a => exact .fr (pv_pause x w a)
  case unpause a => exact .fr (pv_unpause x w a)
  case cancel a => exact .fr (pv_cancel x w a)
  case shutdown d =>
    simp only [World.applyOp]
    split
    · exact .refl _
    · exact pm_shutdown w d
  case restore d =>
    simp only [World.applyOp]
    split
    · exact .refl _
    · exact pm_restore w d
  all_goals exact .fr (pv_plain.applyOp w _ rfl (fun t _ _ => pv_sched x w t _ _ _)
    fun d n _ => pv_adjustParts x w d n)

/-- moves, and the scripts are unchanged -/
structure PS (x : Nat) (w w' : World) : Prop where
  mv : PMoves x False False True w w'
  scr : w'.scripts = w.scripts

theorem PS.refl (w : World) : PS x w w := ⟨.refl _, rfl⟩
theorem PS.trans {a b c : World} (h1 : PS x a b) (h2 : PS x b c) : PS x a c :=
  ⟨h1.mv.trans h2.mv, h2.scr.trans h1.scr⟩

theorem ps_fr {w w' : World} (h : pvw x w' = pvw x w) (hs : w'.scripts = w.scripts) : PS x w w' :=
  ⟨.fr h, hs⟩

theorem ScriptsPlain.of_eq {w w' : World} (h : ScriptsPlain w) (e : w'.scripts = w.scripts) :
    ScriptsPlain w' := by
  intro l hl; rw [e] at hl; exact h l hl

theorem scr_schedLib' (w : World) (t a : Int) (act : Action) (p : Int) :
    (w.schedLib t a act p).scripts = w.scripts := C02V.scr_schedLib w t a act p

/-- Scripts that neither rewire nor create walk `PS x` through scripts, call-backs and work
orders. -/
theorem ps_closed : ScriptClosed ScriptsPlain (PS x) where
  refl := fun w _ => .refl w
  trans := PS.trans
  inv := fun h s => h.of_eq s.scr
  applyOp := fun w op h ⟨l, hl, hop⟩ => ⟨pm_applyOp w op (h l hl op hop), scripts_applyOp w op⟩
  addRes := fun _ _ _ _ => ps_fr (pv_addRes ..) rfl
  erase := fun _ _ _ => ps_fr rfl rfl
  procResourceCb := fun w _ _ d _ _ _ => ps_fr (pv_procResourceCb ..) (C02V.scr_floor.procResourceCb w d)
  modMaint := fun _ _ _ _ => ps_fr rfl rfl
  addRec := fun _ _ _ _ _ _ _ _ => ps_fr (pv_addRec _ _ _ rfl) rfl
  schedLib := fun w t a act p _ _ => ps_fr (pv_schedLib ..) (scr_schedLib' w t a act p)
  shutdownDev := fun w _ d _ _ => ⟨pm_shutdown w d, C02V.scr_floor.shutdownDev ..⟩
  restoreDev := fun w _ d _ _ => ⟨pm_restore w d, C02V.scr_floor.restoreDev ..⟩
  setErr := fun _ _ _ _ => ps_fr (pv_setErr ..) (C02V.scr_setErr ..)

/-! ### the actions of events -/

/-- The control events: scripts, the resource check (script callbacks), the maintainer's events. -/
theorem pm_exec_ctl (w : World) (a : Action) (hs : ScriptsPlain w)
    (ha : (∃ k, a = .script k) ∨ a = .rmCheck ∨ (∃ m o, a = .startWork m o) ∨
      (∃ m o, a = .finishWork m o)) : PMoves x False False True w (w.exec a) := by
  rcases ha with ⟨k, rfl⟩ | rfl | ⟨m, o, rfl⟩ | ⟨m, o, rfl⟩
  · exact (ps_closed.runScript w k hs).mv
  · exact (ps_closed.rmCheck w hs).mv
  · exact (ps_closed.startWork w m o hs).mv
  · exact (ps_closed.finishWork w m o hs).mv

/-- The events that never touch a machine. -/
theorem pv_exec_other (w : World) (a : Action)
    (ha : a = .terminate ∨ (∃ s, a = .schedUpdate s) ∨ (∃ s, a = .periodicSense s) ∨
      (∃ n, a = .unknown n)) : pvw x (w.exec a) = pvw x w := by
  rcases ha with rfl | ⟨s, rfl⟩ | ⟨s, rfl⟩ | ⟨n, rfl⟩
  · rfl
  · exact pv_schedUpdate x w s true
  · exact pv_periodicSense x w s
  · exact pv_setErr ..

end C13W
end SimProc
