/-
C10W — `C` contains the atoms of the floor (`World.FloorClosed C`), hence `C w (f w)` for every
function `f` of `Model/Floor.lean` except `procResourceCb` (`Proofs/FloorWalk.lean`).  `C` reads the
`waitingRes` flag of a device, so clearing it is not one of its atoms (`procResourceCb` is treated
in `C10WInv`); the scripted operations on devices write fields it does not read.
-/
import SimProc.Proofs.C10WCBase

namespace SimProc
namespace C10W
open World FloorCoreL C01W

/-! ### resources of a processor -/

theorem C_releaseReserved (w : World) (x : Nat) : C w (w.releaseReserved x) := by
  unfold releaseReserved
  split
  · exact C.refl _
  · rename_i id _
    have h := RmC.release w.rm id none
    rcases hr : w.rm.release id none with ⟨rm, res, recs, chk⟩
    rw [hr] at h
    dsimp only at h ⊢
    c_step
    exact C_rmStep w rm recs chk h

theorem ChkNow.of_env {w w' : World} (h : ChkNow w) (he : w'.env = w.env) : ChkNow w' := by
  unfold ChkNow C11W.QueuedL World.now at h ⊢
  rw [he]; exact h

theorem lt_of_resReq {w : World} {x : Nat} {req : Req} (h : (w.dev x).resReq = some req) :
    x < w.devs.length := by
  apply Nat.lt_of_not_le
  intro hle
  rw [dev_of_length_le hle] at h
  cases h

/-- A processor that is not yet waiting registers its request and sets its flag. -/
theorem C_procRegister (w : World) (x : Nat) (req : Req) (rm' : RM) (chk : Bool)
    (hreg : w.rm.register req (.proc x) = (rm', chk))
    (hreq : (w.dev x).resReq = some req) (hflag : (w.dev x).waitingRes = false) :
    C w ((({ w with rm := rm' } : World).rmEffects [] chk).modDev x
      (fun d => { d with waitingRes := true })) := by
  intro hp
  have hx : x < w.devs.length := lt_of_resReq hreq
  obtain ⟨hrm, hchk⟩ : rm' = { w.rm with waiting := w.rm.waiting ++ [(req, .proc x)] } ∧
      chk = w.rm.inited := by
    have h1 : rm' = (w.rm.register req (.proc x)).1 := by rw [hreg]
    have h2 : chk = (w.rm.register req (.proc x)).2 := by rw [hreg]
    exact ⟨h1, h2⟩
  have hk := KC_rmEffects ({ w with rm := rm' } : World) [] chk
  generalize hw1 : ({ w with rm := rm' } : World).rmEffects [] chk = w1 at hk
  have hd1 : w1.devs.map kd = w.devs.map kd := KC_devs (w := ({ w with rm := rm' } : World)) hk
  have hs1 : w1.scripts = w.scripts := KC_scr (w := ({ w with rm := rm' } : World)) hk
  have hr1 : w1.rm = rm' := KC_rm (w := ({ w with rm := rm' } : World)) hk
  have hlen : w1.devs.length = w.devs.length := by
    have := congrArg List.length hd1; simpa using this
  have hx1 : x < w1.devs.length := by rw [hlen]; exact hx
  have hkd1 : ∀ y, kd (w1.dev y) = kd (w.dev y) := kd_dev_of_map hd1
  -- the devices after the update
  have hdev : ∀ y, kd ((w1.modDev x (fun d => { d with waitingRes := true })).dev y) =
      if y = x then ((w.dev x).aid, true, (w.dev x).resReq) else kd (w.dev y) := by
    intro y
    rw [dev_modDev]
    by_cases hy : y = x
    · subst hy
      rw [if_pos ⟨rfl, hx1⟩, if_pos rfl]
      have := hkd1 y
      show ((w1.dev y).aid, true, (w1.dev y).resReq) = _
      rw [kd_aid this, kd_resReq this]
    · rw [if_neg (fun h => hy h.1.symm), if_neg hy]; exact hkd1 y
  have hrm2 : (w1.modDev x (fun d => { d with waitingRes := true })).rm = rm' := hr1
  have hwait : (w1.modDev x (fun d => { d with waitingRes := true })).rm.waiting =
      w.rm.waiting ++ [(req, .proc x)] := by rw [hrm2, hrm]
  have hfm : ((w1.modDev x (fun d => { d with waitingRes := true })).rm.waiting).filterMap procOf =
      w.rm.waiting.filterMap procOf ++ [x] := by
    rw [hwait, List.filterMap_append]; rfl
  have hnot : x ∉ w.rm.waiting.filterMap procOf := by
    intro hm
    obtain ⟨e, he, hpe⟩ := List.mem_filterMap.1 hm
    have := (hp.wait.entry e he x hpe).1
    rw [hflag] at this; cases this
  have g0 : Good ({ w with rm := rm' } : World) := ⟨hp.good.aid, hp.good.scr⟩
  have hv1 : Refines w.env w1.env := by
    have := (Via_rmEffects ({ w with rm := rm' } : World) [] chk g0).2
    rw [hw1] at this; exact this
  refine ⟨⟨?_, ?_, ?_, ?_, ?_⟩, hv1, ?_, ?_⟩
  · -- asset ids
    unfold AidOK
    have : (w1.modDev x (fun d => { d with waitingRes := true })).devs.map (·.aid) =
        w1.devs.map (·.aid) := by
      unfold World.modDev World.setDev
      exact map_set_of_eq Dev.aid w1.devs x _ default rfl
    rw [this, aids_of_map hd1]; exact hp.aid
  · unfold ScriptsC
    show ∀ l ∈ w1.scripts, _
    rw [hs1]; exact hp.scr
  · rw [hfm]
    exact List.nodup_append.2 ⟨hp.wait.nodup, (by simp), by
      intro a ha b hb; have : b = x := by simpa using hb
      subst this; exact fun h => hnot (h ▸ ha)⟩
  · intro e he d hd
    rw [hwait] at he
    have hkd := hdev d
    rcases List.mem_append.1 he with he | he
    · obtain ⟨h1, h2⟩ := hp.wait.entry e he d hd
      by_cases hdx : d = x
      · subst hdx
        rw [if_pos rfl] at hkd
        exact ⟨congrArg (fun q => q.2.1) hkd, (congrArg (fun q => q.2.2) hkd).trans h2⟩
      · rw [if_neg hdx] at hkd
        exact ⟨(kd_waitingRes hkd).trans h1, (kd_resReq hkd).trans h2⟩
    · have : e = (req, .proc x) := by simpa using he
      subst this
      have hdx : x = d := by simpa [procOf] using hd
      subst hdx
      rw [if_pos rfl] at hkd
      exact ⟨congrArg (fun q => q.2.1) hkd, (congrArg (fun q => q.2.2) hkd).trans hreq⟩
  · intro d hd
    rw [hfm]
    by_cases hdx : d = x
    · subst hdx; simp
    · have hkd := hdev d
      rw [if_neg hdx] at hkd
      rw [kd_waitingRes hkd] at hd
      exact List.mem_append_left _ (hp.wait.flag d hd)
  · intro hi
    rw [hrm2, hrm]; exact hi
  · intro hi
    left
    have : ChkNow w1 := by
      rw [← hw1, hchk, hi]; exact chkNow_rmEffects _ _
    exact this.of_env rfl

theorem C_procAcquire (w : World) (x : Nat) : C w (w.procAcquire x).1 := by
  unfold procAcquire
  dsimp only
  split
  · exact C.refl _
  · rename_i req hreq
    split
    · exact C.refl _
    · have h := RmC.reserve w.rm req
      split
      · rename_i rm r id recs heq
        rw [heq] at h
        dsimp only at h ⊢
        c_step
        exact C_rmStep w rm recs false h
      · dsimp only
        c_auto
      · split
        · exact C.refl _
        · rename_i hfl
          rcases hr : w.rm.register req (.proc x) with ⟨rm, chk⟩
          dsimp only
          exact C_procRegister w x req rm chk hr hreq (by simpa using hfl)
theorem C.floor : FloorClosed C where
  refl := C.refl
  trans := C.trans
  setErr := fun _ _ => C.of_KK (KK_setErr _ _)
  addRec := fun _ _ _ => C.of_KK (KK_addRec _ _)
  addRes := fun _ _ _ => C.of_KK (KK_addRes _ _)
  setDev := fun w x d h => C_setDev w x d (congrArg kd h :)
  modPart := fun _ _ _ => C.of_KK (KK_modPart _ _ _)
  newPart := fun _ _ => C.of_KK (KK_newPart _ _)
  schedLib := fun w t a act p h => C.of_via (Via_floorEvent w t a act p h) (KC_schedLib w t a act p)
  envOp := fun w op h => C.of_via (Via_floorEnvOp w op h) rfl
  setDelivered := fun _ _ => C.of_KK rfl
  setLost := fun _ _ => C.of_KK rfl
  releaseReserved := C_releaseReserved
  procAcquire := C_procAcquire
  produce w x p _ := World.produce_walk C.refl C.trans
    (World.senseOutput_walk C.refl C.trans (fun _ _ => C.of_KK rfl)
      (fun _ _ _ => C.of_KK (KK_addRes _ _)))
    (fun _ _ _ _ _ _ => C.of_KK rfl) w x p
  genPart := World.genPart_walk C.refl C.trans (fun _ _ => C.of_KK (KK_newPart _ _))
    (fun _ _ => C.of_KK rfl)

/-! ### scripted operations on devices: each writes one field that `kd` does not read -/

theorem C_setBlock (w : World) (x : Nat) (b : Bool) : C w (w.setBlock x b) :=
  C.floor.setBlock_of (fun w x _ => C_setDev w x _ rfl) w x b

theorem C_adjustParts (w : World) (x : Nat) (v : Int) : C w (w.adjustParts x v) :=
  C.floor.adjustParts_of (fun w x _ => C_setDev w x _ rfl) w x v

theorem C_rewire (w : World) (x : Nat) (ups : List Nat) : C w (w.rewire x ups) :=
  C.floor.rewire_of (fun w x _ _ => C_setDev w x _ rfl) w x ups

theorem C_initDev (w : World) (x : Nat) : C w (w.initDev x) :=
  C.floor.initDev_of (fun w x _ => C_setDev w x _ rfl) w x

macro_rules | `(tactic| c_step) => `(tactic| with_reducible apply C.trans (h2 := C.floor.shutdownDev _ _ _ _))
macro_rules | `(tactic| c_step) => `(tactic| with_reducible apply C.trans (h2 := C.floor.restoreDev _ _))
macro_rules | `(tactic| c_step) => `(tactic| with_reducible apply C.trans (h2 := C_setBlock _ _ _))
macro_rules | `(tactic| c_step) => `(tactic| with_reducible apply C.trans (h2 := C_adjustParts _ _ _))
macro_rules | `(tactic| c_step) => `(tactic| with_reducible apply C.trans (h2 := C_rewire _ _ _))
macro_rules | `(tactic| c_step) => `(tactic| with_reducible apply C.trans (h2 := C_initDev _ _))

end C10W
end SimProc
