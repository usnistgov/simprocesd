/-
C08W, part 4b: the functions local to one device that is not a batcher keep top-level parts
top-level (`TLV`): what the device holds afterwards it held before or has just been generated, and
the kids of the existing batches are untouched.

The walk through these functions uses of `TLV` only that it is reflexive, transitive and contains
the two ways in which such a device changes the slots (`TopClosed`); `C03Z.TLK` is a second such
relation.
-/
import SimProc.Proofs.C08WView
import SimProc.Proofs.FloorGive
namespace SimProc
namespace C08W
open World C02V

/-- A relation on slot views, for each device, that is reflexive, transitive and contains the two
ways in which a device other than a batcher changes the slots: it rearranges what it holds (nothing
is added, no batch under construction appears), or it generates a part. -/
structure TopClosed (T : Nat → SV → SV → Prop) : Prop where
  refl : ∀ z a, T z a a
  trans : ∀ {z a b c}, T z a b → T z b c → T z a c
  setDev : ∀ (w : World) (x : Nat) (d' : Dev), (∀ q ∈ (sdev d').held, q ∈ (sdev (w.dev x)).held) →
    (∀ b, d'.inprog = some b → (w.dev x).inprog = some b) → T x (sv w) (sv (w.setDev x d'))
  gen : ∀ {z a a'}, Gen z a a' → T z a a'

namespace TopClosed
variable {T : Nat → SV → SV → Prop}

theorem of_sv (h : TopClosed T) {z : Nat} {w w' : World} (e : sv w' = sv w) : T z (sv w) (sv w') := by
  rw [e]; exact h.refl _ _

theorem genS (h : TopClosed T) {z : Nat} {a a' : SV} (g : GenS z a a') : T z a a' := by
  cases g with
  | refl => exact h.refl _ _
  | gen _ g => exact h.gen g

theorem finishCycleHandler (h : TopClosed T) (w : World) (x : Nat) :
    T x (sv w) (sv (w.finishCycleHandler x)) := by
  unfold World.finishCycleHandler
  simp only []
  split
  · exact h.of_sv (sv_setErr ..)
  · split
    · exact h.of_sv (sv_setErr ..)
    · rename_i p hp
      split
      · exact h.of_sv (sv_setErr ..)
      · rw [sv_schedulePass]
        refine h.setDev w x _ ?_ (fun _ hb => hb)
        intro q hq
        simp only [SDev.held, sdev, hp, Option.toList_some, Option.toList_none, List.nil_append,
          List.mem_append, List.mem_singleton, List.mem_map] at hq ⊢
        rcases hq with (hq | hq) | hq
        · exact Or.inl (Or.inl (Or.inl hq))
        · exact Or.inl (Or.inr hq)
        · exact Or.inr hq

theorem clearOutput (h : TopClosed T) (w : World) (x : Nat) :
    T x (sv w) (sv (w.modDev x (fun d => { d with output := none }))) := by
  refine h.setDev w x _ ?_ (fun _ hb => hb)
  intro q hq
  simp only [SDev.held, sdev, Option.toList_none, List.append_nil, List.mem_append, List.mem_map] at hq ⊢
  rcases hq with (hq | hq) | hq
  · exact Or.inl (Or.inl (Or.inl hq))
  · exact Or.inl (Or.inr hq)
  · exact Or.inr hq

theorem finishCycle (h : TopClosed T) (w : World) (x : Nat) : T x (sv w) (sv (w.finishCycle x)) := by
  rcases sv_finishCycle_cases w x with g | e | e
  · exact h.genS g
  · rw [e]; exact h.trans (h.finishCycleHandler w x) (h.clearOutput _ x)
  · rw [e]; exact h.finishCycleHandler w x

theorem scheduleFinish (h : TopClosed T) (w : World) (x : Nat) :
    T x (sv w) (sv (w.scheduleFinish x)) := by
  rcases scheduleFinish_cases w x with e | e
  · rw [e]
    have := h.finishCycle (w.setDev x { w.dev x with offset := 0 }) x
    rw [sv_setOffset] at this; exact this
  · exact h.of_sv e

theorem tryMove (h : TopClosed T) (w : World) (x : Nat) (hk : (w.dev x).kind ≠ .batcher) :
    T x (sv w) (sv (w.tryMove x)) := by
  by_cases h1 : (w.dev x).kind = .buffer
  · cases hp : (w.dev x).part with
    | none =>
      have : w.tryMove x = w := by simp only [World.tryMove, h1, hp]
      rw [this]; exact h.refl _ _
    | some p =>
      rw [sv_tryMove_buffer w x p h1 hp]
      refine h.setDev w x _ ?_ (fun _ hb => hb)
      intro q hq
      simp only [SDev.held, sdev, hp, Option.toList_some, Option.toList_none, List.nil_append,
        List.mem_append, List.mem_singleton, List.mem_map, List.map_append, List.map_cons,
        List.map_nil] at hq ⊢
      rcases hq with (hq | (hq | hq)) | hq
      · exact Or.inl (Or.inl (Or.inr hq))
      · exact Or.inl (Or.inr hq)
      · exact Or.inl (Or.inl (Or.inl hq))
      · exact Or.inr hq
  · by_cases hc : (w.operational x && (w.dev x).part.isSome && (w.dev x).output.isNone) = true
    · by_cases hp : (w.dev x).kind = .processor
      · have e : w.tryMove x = (w.setDev x { w.dev x with lastUseStart := some w.now }).scheduleFinish x := by
          simp only [World.tryMove, hp, hc, if_true]
        rw [e]
        have := h.scheduleFinish (w.setDev x { w.dev x with lastUseStart := some w.now }) x
        rw [sv_setDev_same _ _ _ (by rfl)] at this
        exact this
      · have e : w.tryMove x = w.scheduleFinish x := by
          unfold World.tryMove
          simp only []
          split <;> simp_all
        rw [e]; exact h.scheduleFinish w x
    · have e : w.tryMove x = w := by
        unfold World.tryMove
        simp only []
        split <;> simp_all
      rw [e]; exact h.refl _ _

theorem onReceived (h : TopClosed T) (w : World) (x p : Nat) (hk : (w.dev x).kind ≠ .batcher) :
    T x (sv w) (sv (w.onReceived x p)) := by
  rw [C02V.onReceived_eq]
  have hs := sv_recvBook w x p
  split
  · have := h.tryMove (recvBook w x p) x (by rw [kind_recvBook]; exact hk)
    rw [hs] at this; exact this
  · exact h.of_sv hs

theorem acceptPart (h : TopClosed T) (w : World) (x p : Nat) (hk : (w.dev x).kind ≠ .batcher) :
    T x (accept (sv w) x p (sdev (w.dev x))) (sv (w.acceptPart x p)) := by
  rw [C02V.acceptPart_eq, ← sv_acceptPre]
  exact h.onReceived _ x p (by rw [kind_of_st (st_acceptPre w x p)]; exact hk)

end TopClosed

theorem tlv_setDev (w : World) (x : Nat) (d' : Dev)
    (h : ∀ q ∈ (sdev d').held, q ∈ (sdev (w.dev x)).held) : TLV x (sv w) (sv (w.setDev x d')) := by
  by_cases hx : x < w.devs.length
  · rw [sv_setDev]
    have hxg := sv_get w x hx
    have hxl : x < (sv w).devs.length := (List.getElem?_eq_some_iff.1 hxg).1
    refine ⟨?_, ?_, ⟨[], by simp [SV.setDev]⟩⟩
    · intro y hy
      simp only [SV.setDev]
      rw [List.getElem?_set_ne (fun e => hy e.symm)]
    · intro d0 hd0
      simp only [SV.setDev] at hd0
      rw [List.getElem?_set_self hxl] at hd0
      cases hd0
      exact ⟨_, hxg, fun q hq => Or.inl (h q hq)⟩
  · rw [setDev_of_ge w x d' (Nat.le_of_not_lt hx)]; exact TLV.refl _ _

theorem tlv_gen {z : Nat} {a a' : SV} (h : Gen z a a') : TLV z a a' := by
  cases h with
  | leaf d hz hk ho =>
    have hzl : z < a.devs.length := (List.getElem?_eq_some_iff.1 hz).1
    refine ⟨?_, ?_, ⟨[none], rfl⟩⟩
    · intro y hy
      show (a.devs.set z _)[y]? = _
      rw [List.getElem?_set_ne (fun e => hy e.symm)]
    · intro d0 hd0
      change (a.devs.set z _)[z]? = some d0 at hd0
      rw [List.getElem?_set_self hzl] at hd0
      cases hd0
      refine ⟨d, hz, ?_⟩
      intro q hq
      rcases List.mem_cons.1 ((held_output_perm d _ ho).subset hq) with rfl | hq
      · exact Or.inr (Nat.le_refl _)
      · exact Or.inl hq
  | batch d n hz hk ho =>
    have hzl : z < a.devs.length := (List.getElem?_eq_some_iff.1 hz).1
    refine ⟨?_, ?_, ⟨List.replicate n none ++ [some (List.range' a.kids.length n)], by
      show a.kids ++ List.replicate n none ++ [_] = _; rw [List.append_assoc]⟩⟩
    · intro y hy
      show (a.devs.set z _)[y]? = _
      rw [List.getElem?_set_ne (fun e => hy e.symm)]
    · intro d0 hd0
      change (a.devs.set z _)[z]? = some d0 at hd0
      rw [List.getElem?_set_self hzl] at hd0
      cases hd0
      refine ⟨d, hz, ?_⟩
      intro q hq
      rcases List.mem_cons.1 ((held_output_perm d _ ho).subset hq) with rfl | hq
      · exact Or.inr (by omega)
      · exact Or.inl hq

theorem tlv_top : TopClosed TLV where
  refl := TLV.refl
  trans := TLV.trans
  setDev := fun w x d' h _ => tlv_setDev w x d' h
  gen := tlv_gen

theorem tlv_finishCycle (w : World) (x : Nat) : TLV x (sv w) (sv (w.finishCycle x)) :=
  tlv_top.finishCycle w x

theorem tlv_scheduleFinish (w : World) (x : Nat) : TLV x (sv w) (sv (w.scheduleFinish x)) :=
  tlv_top.scheduleFinish w x

theorem tlv_tryMove (w : World) (x : Nat) (hk : (w.dev x).kind ≠ .batcher) :
    TLV x (sv w) (sv (w.tryMove x)) := tlv_top.tryMove w x hk

theorem tlv_acceptPart (w : World) (x p : Nat) (hk : (w.dev x).kind ≠ .batcher) :
    TLV x (accept (sv w) x p (sdev (w.dev x))) (sv (w.acceptPart x p)) := tlv_top.acceptPart w x p hk

end C08W
end SimProc
