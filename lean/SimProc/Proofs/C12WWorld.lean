/-
C12W, part 6: every function of `Model/World.lean` that can run inside an event action or as a
scripted operation keeps the invariant (`ScH hs w w'`), appends exactly the hook results `hs`,
writes no start / finish record, only lets the active lists grow and leaves every maintainer event
in the queue; then `startWork`, `finishWork`, `exec`, `step`, `simulateInit`, `runBegin`, `runLoop`.
-/
import SimProc.Proofs.C12WInv

namespace SimProc
namespace C12W
open World FloorCoreL

/-! ### the relation -/

/-- Active lists only grow (at the end). -/
def Grow (w w' : World) : Prop := ∀ m, ∃ l, (w'.maint m).active = (w.maint m).active ++ l

theorem Grow.refl (w : World) : Grow w w := fun _ => ⟨[], by simp⟩

theorem Grow.trans {a b c : World} (h1 : Grow a b) (h2 : Grow b c) : Grow a c := by
  intro m
  obtain ⟨l1, e1⟩ := h1 m
  obtain ⟨l2, e2⟩ := h2 m
  exact ⟨l1 ++ l2, by rw [e2, e1, List.append_assoc]⟩

theorem Grow.of_mcore {w w' : World} (h : ∀ m, mcore (w'.maint m) = mcore (w.maint m)) : Grow w w' :=
  fun m => ⟨[], by rw [mcore_active (h m)]; simp⟩

/-- **The life of a work order `o` of maintainer `m`** whose FINISH event is due at
`T`: still active with that event pending, or finished with a FINISH record stamped `T`. -/
def Life (m : Nat) (o : Order) (T : Int) (w : World) : Prop :=
  (o ∈ (w.maint m).active ∧ ∃ e ∈ w.env.events, ekey e = some (true, m, o.seq) ∧ e.time = T) ∨
  Rec.workOrder 2 m T o.target o.tag o.info ∈ w.recs

structure ScP (hs : List Res) (w w' : World) : Prop where
  s : S w'
  g : ∀ X R, G X R w → G X R w'
  grow : Grow w w'
  hooks : w'.results.filter isHook = w.results.filter isHook ++ hs
  sf : w'.recs.filter isSF = w.recs.filter isSF
  now : w'.now = w.now
  aids : aids w' = aids w
  scr : w'.scripts = w.scripts
  keep : ∀ X R, G X R w → ∀ e ∈ w.env.events, isM e = true → e ∈ w'.env.events

/-- In the class: the step keeps the class and the invariant (whatever is in flight), appends the
hook results `hs`, … -/
def ScH (hs : List Res) (w w' : World) : Prop := S w → ScP hs w w'

abbrev Sc (w w' : World) : Prop := ScH [] w w'

theorem ScP.refl {w : World} (h : S w) : ScP [] w w :=
  ⟨h, fun _ _ g => g, Grow.refl w, by simp, rfl, rfl, rfl, rfl, fun _ _ _ _ he _ => he⟩

theorem ScH.refl (w : World) : Sc w w := fun h => ScP.refl h

theorem ScP.trans {a b : List Res} {w w1 w2 : World} (h1 : ScP a w w1) (h2 : ScP b w1 w2) :
    ScP (a ++ b) w w2 :=
  ⟨h2.s, fun X R g => h2.g X R (h1.g X R g), h1.grow.trans h2.grow,
    by rw [h2.hooks, h1.hooks, List.append_assoc], h2.sf.trans h1.sf, h2.now.trans h1.now,
    h2.aids.trans h1.aids, h2.scr.trans h1.scr,
    fun X R g e he hm => h2.keep X R (h1.g X R g) e (h1.keep X R g e he hm) hm⟩

theorem ScH.trans {a b : List Res} {w w1 w2 : World} (h1 : ScH a w w1) (h2 : ScH b w1 w2) :
    ScH (a ++ b) w w2 := fun s => (h1 s).trans (h2 (h1 s).s)

/-- Sequencing where the second step may use what the first established. -/
theorem ScH.bind {a b : List Res} {w w1 w2 : World} (h1 : ScH a w w1)
    (h2 : ScP a w w1 → ScH b w1 w2) : ScH (a ++ b) w w2 := fun s =>
  (h1 s).trans (h2 (h1 s) (h1 s).s)

theorem Sc.trans {w w1 w2 : World} (h1 : Sc w w1) (h2 : Sc w1 w2) : Sc w w2 :=
  ScH.trans (a := []) (b := []) h1 h2

theorem Sc.transH {b : List Res} {w w1 w2 : World} (h1 : Sc w w1) (h2 : ScH b w1 w2) : ScH b w w2 :=
  ScH.trans (a := []) h1 h2

theorem ScH.transS {a : List Res} {w w1 w2 : World} (h1 : ScH a w w1) (h2 : Sc w1 w2) :
    ScH a w w2 := by
  have := ScH.trans h1 h2
  rwa [List.append_nil] at this

theorem Sc.foldl {α} (f : World → α → World) (l : List α) (w : World)
    (h : ∀ w a, Sc w (f w a)) : Sc w (l.foldl f w) := by
  induction l generalizing w with
  | nil => exact ScH.refl w
  | cons a l ih => exact (h w a).trans (ih _)

theorem QRef.now {A : List Int} {s s' : Env} (h : QRef A s s') : s'.now = s.now := by
  obtain ⟨ops, ho, rfl⟩ := h
  induction ops generalizing s with
  | nil => rfl
  | cons op ops ih =>
    rw [C01W.applyAll_cons_fst, ih (fun o h => ho o (List.mem_cons_of_mem _ h))]
    have := ho op List.mem_cons_self
    cases op with
    | sched t a act p wt =>
      simp only [Env.apply]
      cases hs : s.schedule t a act p wt with
      | none => rfl
      | some s' => obtain ⟨_, rfl⟩ := Env.schedule_some.mp hs; rfl
    | pause a => rfl
    | unpause a => rfl
    | cancel a => rfl
    | step => exact False.elim this
    | runBegin d wt => exact False.elim this

/-- **A frame step** is such a step. -/
theorem Fr.sc {w w' : World} (h : Fr w w') : Sc w w' := by
  intro hS
  obtain ⟨hk, hq⟩ := h hS
  have hmm : ∀ m, mcore (w'.maint m) = mcore (w.maint m) := by
    intro m; unfold World.maint; rw [FK_maints hk]
  refine ⟨hS.of_FK hk, fun X R g => g.of_frame hk hq, Grow.of_mcore hmm, ?_,
    filter_SF_of_WO (FK_wos hk), hq.now, FK_aids hk, FK_scripts hk, ?_⟩
  · rw [FK_hooks hk]; simp
  · intro X R g e he hm
    have hs := hq.spec g.g0.mg g.g0.env
    have : e ∈ w.env.events.filter isM := List.mem_filter.2 ⟨he, hm⟩
    rw [← hs.2.1] at this
    exact (List.mem_filter.1 this).1

/-- Changing only fields the invariant does not read. -/
theorem ScP.of_fields {hs : List Res} {w w' : World} (hS : S w) (hS' : S w')
    (hm : ∀ m, mcore (w'.maint m) = mcore (w.maint m)) (ha : C12W.aids w' = C12W.aids w)
    (henv : w'.env = w.env) (hres : w'.results.filter isHook = w.results.filter isHook ++ hs)
    (hrec : w'.recs.filter isSF = w.recs.filter isSF) (hscr : w'.scripts = w.scripts) :
    ScP hs w w' := by
  have _ := hS
  refine ⟨hS', ?_, Grow.of_mcore hm, hres, hrec, by unfold World.now; rw [henv], ha,
    hscr, ?_⟩
  · intro X R g
    exact g.congr hm (aidOf_of_aids_eq ha) (by rw [henv]) (by rw [henv]) (by rw [henv]; exact g.g0.paused)
      (by rw [henv]; exact g.g0.env) hrec
  · intro X R g e he _
    rw [henv]; exact he

/-! ### life of an order -/

theorem Life.of_sc {hs : List Res} {w w' : World} {X R : List (Nat × Nat)} (h : ScP hs w w')
    (g : G X R w) {m : Nat} {o : Order} {T : Int} (hl : Life m o T w) : Life m o T w' := by
  rcases hl with ⟨ho, e, he, hk, ht⟩ | hr
  · left
    obtain ⟨l, hl⟩ := h.grow m
    refine ⟨by rw [hl]; exact List.mem_append_left _ ho, e, ?_, hk, ht⟩
    exact h.keep X R g e he ((isM_true_iff e).2 ⟨_, hk⟩)
  · right
    have : Rec.workOrder 2 m T o.target o.tag o.info ∈ w.recs.filter isSF :=
      List.mem_filter.2 ⟨hr, rfl⟩
    rw [← h.sf] at this
    exact (List.mem_filter.1 this).1

/-! ### creating a work order -/

theorem tryWork_active (mm : Maint) : mm.tryWork.1.active = mm.active ++ mm.tryWork.2 :=
  (C12.scanQ_spec mm mm.queue).2.2.2.1

theorem create_active (mm : Maint) (t : Nat) (tag need info : Int) :
    (mm.create t tag need info).1.active = mm.active ++ (mm.create t tag need info).2.2.2 := by
  unfold Maint.create
  cases hr : mm.requested t tag with
  | true => simp
  | false =>
    simp only [Bool.false_eq_true, if_false]
    exact tryWork_active _

theorem tryWork_queue_sublist (mm : Maint) : mm.tryWork.1.queue.Sublist mm.queue :=
  (C12.scanQ_spec mm mm.queue).2.1

theorem tryWork_queue_sorted (mm : Maint) (h : (mm.queue.map (·.seq)).Pairwise (· < ·)) :
    (mm.tryWork.1.queue.map (·.seq)).Pairwise (· < ·) :=
  h.sublist ((tryWork_queue_sublist mm).map _)

/-- A new request goes to the end of the queue with the largest sequence number so far. -/
theorem create_queue_sorted (mm : Maint) (t : Nat) (tag need info : Int) (hi : C12.Inv mm)
    (h : (mm.queue.map (·.seq)).Pairwise (· < ·)) :
    ((mm.create t tag need info).1.queue.map (·.seq)).Pairwise (· < ·) := by
  unfold Maint.create
  cases hr : mm.requested t tag with
  | true => simpa using h
  | false =>
    simp only [Bool.false_eq_true, if_false]
    apply tryWork_queue_sorted
    show ((mm.queue ++ [(⟨mm.nextSeq, t, tag, need, info⟩ : Order)]).map (·.seq)).Pairwise (· < ·)
    rw [List.map_append, List.pairwise_append]
    refine ⟨h, by simp, ?_⟩
    intro a ha b hb
    obtain ⟨x, hx, rfl⟩ := List.mem_map.1 ha
    simp only [List.map_cons, List.map_nil, List.mem_singleton] at hb
    subst hb
    exact hi.fresh x (List.mem_append_left _ hx)

theorem applyOp_workOrder (w : World) (m tgt : Nat) (tag info : Int) :
    (w.applyOp (.workOrder m tgt tag info)).1 =
      ((match ((w.maint m).create tgt tag (w.targetParams tgt tag).2.1 info).2.2.1 with
        | some o => (w.modMaint m (fun _ =>
            ((w.maint m).create tgt tag (w.targetParams tgt tag).2.1 info).1)).addRec
              (.workOrder 0 m w.now tgt o.tag o.info)
        | none => w.modMaint m (fun _ =>
            ((w.maint m).create tgt tag (w.targetParams tgt tag).2.1 info).1))).startOrders m
        ((w.maint m).create tgt tag (w.targetParams tgt tag).2.1 info).2.2.2 := rfl

theorem S.modMaint {w : World} (h : S w) (m : Nat) (f : Maint → Maint) : S (w.modMaint m f) := by
  have ha := aids_modMaint w m f
  have hl := length_modMaint w m f
  unfold S SK FK at h ⊢
  unfold aids at ha
  simp only at h ⊢
  rw [ha, hl]
  exact h

theorem startOrders_FK (w : World) (m : Nat) (st : List Order) :
    FK (w.startOrders m st) = FK w := by
  unfold World.startOrders
  exact foldl_preserve FK _ st w (fun v o => schedLib_FK v _ _ _ _)

theorem startOrders_now (w : World) (m : Nat) (st : List Order) :
    (w.startOrders m st).now = w.now := by
  unfold World.startOrders
  apply foldl_preserve World.now
  intro v o
  show (v.schedLib _ _ _ _).env.now = v.env.now
  rw [C01W.schedLib_env]
  simp only [Env.apply]
  split
  · rfl
  · rename_i s' hs
    obtain ⟨_, rfl⟩ := Env.schedule_some.mp hs; rfl

theorem schedLib_keep (w : World) (t a : Int) (act : Action) (p : Int) :
    ∀ e ∈ w.env.events, e ∈ (w.schedLib t a act p).env.events := by
  intro e he
  rw [C01W.schedLib_env]
  simp only [Env.apply]
  split
  · exact he
  · rename_i s' hs
    obtain ⟨_, rfl⟩ := Env.schedule_some.mp hs
    exact insort_mem.2 (Or.inr he)

theorem startOrders_keep (w : World) (m : Nat) (st : List Order) :
    ∀ e ∈ w.env.events, e ∈ (w.startOrders m st).env.events := by
  unfold World.startOrders
  induction st generalizing w with
  | nil => exact fun e he => he
  | cons o st ih =>
    intro e he
    rw [List.foldl_cons]
    exact ih _ e (schedLib_keep w _ _ _ _ e he)

theorem S.of_eq {w w' : World} (h : S w) (hm : w'.maints.map (·.aid) = w.maints.map (·.aid))
    (ht : w'.targets = w.targets) (hs : w'.scripts = w.scripts)
    (hd : w'.devs.map (·.aid) = w.devs.map (·.aid)) : S w' := by
  have hl : w'.maints.length = w.maints.length := by
    have := congrArg List.length hm; simpa using this
  unfold S SK FK at h ⊢
  simp only at h ⊢
  rw [hm, hl, ht, hs, hd]
  exact h

theorem maint_of_maints_eq {w w' : World} (h : w'.maints = w.maints) (m : Nat) :
    w'.maint m = w.maint m := by unfold World.maint; rw [h]

/-- The invariant part of a scan (see `ScP.scan`); the queue of `m` itself need not be
unstartable before. -/
theorem scan_G {w w1 : World} (hS : S w) {m : Nat} {mm : Maint} {st : List Order}
    {X R : List (Nat × Nat)} (hlt : m < w.maints.length) (g0 : G0 X R w)
    (nsO : ∀ m', m ≠ m' → ∀ o ∈ (w.maint m').queue, (w.maint m').startable o = false)
    (qsO : ∀ m', m ≠ m' → ((w.maint m').queue.map (·.seq)).Pairwise (· < ·))
    (hi : C12.Inv mm) (hc : C12.CapOK mm) (ha : mm.active = (w.maint m).active ++ st)
    (hns : ∀ o ∈ mm.queue, mm.startable o = false)
    (hqs : (mm.queue.map (·.seq)).Pairwise (· < ·))
    (h1m : w1.maints = (w.modMaint m (fun _ => mm)).maints) (h1e : w1.env = w.env)
    (h1rec : w1.recs.filter isSF = w.recs.filter isSF) :
    G X R (w1.startOrders m st) := by
  have hm256 : m < 256 := Nat.lt_of_lt_of_le hlt hS.len
  have hk := startOrders_FK w1 m st
  have h1maint : ∀ m', w1.maint m' = (w.modMaint m (fun _ => mm)).maint m' :=
    maint_of_maints_eq h1m
  have h2maint : ∀ m', (w1.startOrders m st).maint m' = (w.modMaint m (fun _ => mm)).maint m' :=
    fun m' => (maint_of_maints_eq (FK_maints hk) m').trans (h1maint m')
  have hsame : (w.modMaint m (fun _ => mm)).maint m = mm := maint_modMaint_same w m _ hlt
  have hne : ∀ m', m ≠ m' → (w.modMaint m (fun _ => mm)).maint m' = w.maint m' :=
    fun m' h => maint_modMaint_ne w m m' _ h
  have h1aids : aids w1 = aids w := by
    unfold aids; rw [h1m]; exact aids_modMaint w m _
  have g1 : G0 (st.map (fun o => (m, o.seq)) ++ X) R (w.modMaint m (fun _ => mm)) :=
    g0.setMaint hlt hi hc ha
  have g2 : G0 (st.map (fun o => (m, o.seq)) ++ X) R w1 := by
    refine g1.congr (fun m' => by rw [h1maint]) (aidOf_of_aids_eq (h1aids.trans (aids_modMaint w m _).symm))
      (by rw [h1e]; rfl) (by rw [h1e]; rfl) (by rw [h1e]; exact g1.paused)
      (by rw [h1e]; exact g1.env) (by rw [h1rec]; rfl)
  refine ⟨g2.startOrders st hm256, ?_, ?_⟩
  · intro m' o ho
    rw [h2maint] at ho ⊢
    by_cases h : m = m'
    · subst h
      rw [hsame] at ho ⊢
      exact hns o ho
    · rw [hne m' h] at ho ⊢
      exact nsO m' h o ho
  · intro m'
    rw [h2maint]
    by_cases h : m = m'
    · subst h; rw [hsame]; exact hqs
    · rw [hne m' h]; exact qsO m' h

/-- **A scan**: maintainer `m` (which exists) is replaced by a state `mm` satisfying the
bookkeeping invariant whose active list is the old one followed by `st`, nothing in its queue is
startable; a record that is not a start / finish record may be written (`w1`); the START events of
`st` are scheduled. -/
theorem ScP.scan {w w1 : World} (hS : S w) {m : Nat} {mm : Maint} {st : List Order}
    (hlt : m < w.maints.length)
    (hi : C12.Inv (w.maint m) → C12.Inv mm)
    (hc : C12.Inv (w.maint m) → C12.CapOK (w.maint m) → C12.CapOK mm)
    (ha : mm.active = (w.maint m).active ++ st)
    (hns : C12.Inv (w.maint m) → (∀ o ∈ (w.maint m).queue, (w.maint m).startable o = false) →
      ∀ o ∈ mm.queue, mm.startable o = false)
    (hqs : C12.Inv (w.maint m) → ((w.maint m).queue.map (·.seq)).Pairwise (· < ·) →
      (mm.queue.map (·.seq)).Pairwise (· < ·))
    (h1m : w1.maints = (w.modMaint m (fun _ => mm)).maints) (h1t : w1.targets = w.targets)
    (h1s : w1.scripts = w.scripts) (h1d : w1.devs = w.devs) (h1e : w1.env = w.env)
    (h1res : w1.results = w.results) (h1rec : w1.recs.filter isSF = w.recs.filter isSF) :
    ScP [] w (w1.startOrders m st) := by
  have hm256 : m < 256 := Nat.lt_of_lt_of_le hlt hS.len
  have hk := startOrders_FK w1 m st
  have h1maint : ∀ m', w1.maint m' = (w.modMaint m (fun _ => mm)).maint m' :=
    maint_of_maints_eq h1m
  have h2maint : ∀ m', (w1.startOrders m st).maint m' = (w.modMaint m (fun _ => mm)).maint m' :=
    fun m' => (maint_of_maints_eq (FK_maints hk) m').trans (h1maint m')
  have hsame : (w.modMaint m (fun _ => mm)).maint m = mm := maint_modMaint_same w m _ hlt
  have hne : ∀ m', m ≠ m' → (w.modMaint m (fun _ => mm)).maint m' = w.maint m' :=
    fun m' h => maint_modMaint_ne w m m' _ h
  have h1aids : C12W.aids w1 = C12W.aids w := by
    unfold C12W.aids; rw [h1m]; exact aids_modMaint w m _
  have h2aids : C12W.aids (w1.startOrders m st) = C12W.aids w := (FK_aids hk).trans h1aids
  refine ⟨?_, ?_, ?_, ?_, ?_, ?_, h2aids, (FK_scripts hk).trans h1s, ?_⟩
  · exact hS.of_eq h2aids ((FK_targets hk).trans h1t) ((FK_scripts hk).trans h1s)
      ((FK_daids hk).trans (by rw [h1d]))
  · intro X R g
    exact scan_G hS hlt g.g0 (fun m' _ => g.ns m') (fun m' _ => g.qs m') (hi (g.g0.inv m))
      (hc (g.g0.inv m) (g.g0.cap m)) ha (hns (g.g0.inv m) (g.ns m)) (hqs (g.g0.inv m) (g.qs m))
      h1m h1e h1rec
  · intro m'
    rw [h2maint]
    by_cases h : m = m'
    · subst h; rw [hsame]; exact ⟨st, ha⟩
    · rw [hne m' h]; exact ⟨[], by simp⟩
  · rw [FK_hooks hk, h1res]; simp
  · rw [filter_SF_of_WO (FK_wos hk), h1rec]
  · rw [startOrders_now]; unfold World.now; rw [h1e]
  · intro X R g e he _
    apply startOrders_keep
    rw [h1e]; exact he

/-- **`create_work_order`** (scripted operation). -/
theorem Sc_workOrder (w : World) (m tgt : Nat) (tag info : Int) (hlt : m < w.maints.length) :
    Sc w (w.applyOp (.workOrder m tgt tag info)).1 := by
  intro hS
  rw [applyOp_workOrder]
  have hn := (hS.params tgt tag).2
  generalize hneed : (w.targetParams tgt tag).2.1 = need at hn
  have hcommon : ∀ w1 : World, w1.maints = (w.modMaint m (fun _ =>
      ((w.maint m).create tgt tag need info).1)).maints → w1.targets = w.targets →
      w1.scripts = w.scripts → w1.devs = w.devs → w1.env = w.env → w1.results = w.results →
      w1.recs.filter isSF = w.recs.filter isSF →
      ScP [] w (w1.startOrders m ((w.maint m).create tgt tag need info).2.2.2) := by
    intro w1 h1 h2 h3 h4 h5 h6 h7
    exact ScP.scan hS hlt (fun h => C12.inv_create _ _ _ _ _ h hn)
      (fun _ h => C12.cap_create _ _ _ _ _ h) (create_active _ _ _ _ _)
      (fun h hq => C12.nothing_startable_after_create _ _ _ _ _ h hn hq)
      (fun h hq => create_queue_sorted _ _ _ _ _ h hq) h1 h2 h3 h4 h5 h6 h7
  split
  · apply hcommon <;> try rfl
    show (w.recs ++ [_]).filter isSF = _
    simp [List.filter_append, isSF]
  · apply hcommon <;> rfl

/-- **`setParams`** with non-negative duration and capacity. -/
theorem Sc_setParams (w : World) (tgt : Nat) (tag dur need cost : Int) (hd : 0 ≤ dur)
    (hn : 0 ≤ need) : Sc w (w.applyOp (.setParams tgt tag dur need cost)).1 := by
  intro hS
  refine ScP.of_fields (hs := []) hS ?_ (fun _ => rfl) rfl rfl (by simp; rfl) rfl rfl
  have ht := hS.targets
  unfold S SK FK at hS ⊢
  simp only [Bool.and_eq_true] at hS ⊢
  refine ⟨hS.1, ?_⟩
  show List.all (w.targets.set tgt _) paramsOK = true
  rw [List.all_eq_true]
  intro t hmem
  rcases List.mem_or_eq_of_mem_set hmem with h | h
  · exact ht t h
  · subst h
    unfold paramsOK
    rw [List.all_eq_true]
    intro q hq
    rcases List.mem_append.1 hq with h | h
    · have h1 := (List.mem_filter.1 h).1
      rw [List.getD_eq_getElem?_getD] at h1
      cases hx : w.targets[tgt]? with
      | none =>
        rw [hx] at h1
        have hd : (default : Target).params = [] := rfl
        simp only [Option.getD_none, hd] at h1
        cases h1
      | some t0 =>
        rw [hx] at h1
        have := ht t0 (List.mem_of_getElem? hx)
        unfold paramsOK at this
        rw [List.all_eq_true] at this
        exact this q h1
    · simp only [List.mem_singleton] at h
      subst h
      simp [hd, hn]

/-! ### the other scripted operations are frame steps -/

theorem Fr_setVar (w : World) (h : Nat) (v : Option Nat) : Fr w (w.setVar h v) := Fr.of_FK rfl rfl

macro_rules | `(tactic| fr_step) => `(tactic| with_reducible apply Fr.trans (h2 := Fr_setVar _ _ _))

theorem Fr_schedUpdate (w : World) (s : Nat) (advance : Bool) : Fr w (w.schedUpdate s advance) := by
  unfold schedUpdate
  dsimp only
  fr_auto

theorem Fr_periodicSense (w : World) (s : Nat) : Fr w (w.periodicSense s) := by
  unfold periodicSense
  dsimp only
  fr_auto

theorem Fr_applyOp (w : World) (op : Op) (h : opOK (aids w) w.maints.length op = true)
    (hw : ∀ m t g i, op ≠ .workOrder m t g i) (hp : ∀ t g d n c, op ≠ .setParams t g d n c) :
    Fr w (w.applyOp op).1 := by
  unfold applyOp
  split <;> (try dsimp only)
  · exact Fr_sched _ _ _ _ _ rfl
  · exact Fr_sched _ _ _ _ _ rfl
  · exact Fr_envOp _ _ (show _ ∉ _ by simpa [opOK] using h)
  · exact Fr_envOp _ _ (show _ ∉ _ by simpa [opOK] using h)
  · exact Fr_envOp _ _ (show _ ∉ _ by simpa [opOK] using h)
  all_goals try (fr_auto; done)
  all_goals try (exact absurd rfl (hw _ _ _ _))
  all_goals try (exact absurd rfl (hp _ _ _ _ _))
  all_goals try (simp [opOK] at h; done)
  all_goals repeat' first
      | fr_step
      | exact Fr_sched _ _ _ _ _ rfl
      | split
      | dsimp only

/-! ### no scripted operation returns a hook result -/

theorem sched_res (w : World) (t a : Int) (act : Action) (p : Int) :
    isHook (w.sched t a act p).2 = false := by
  unfold World.sched
  dsimp only
  split <;> rfl

theorem add_res (rm : RM) (r : Nat) (amt : Int) : isHook (rm.add r amt).2.1 = false := by
  unfold RM.add
  repeat' split
  all_goals rfl

theorem reserve_res (rm : RM) (req : Req) : isHook (rm.reserve req).2.1 = false := by
  unfold RM.reserve
  dsimp only
  repeat' split
  all_goals rfl

theorem validateRelease_res (h rel : Req) : isHook (RM.validateRelease h rel) = false := by
  induction rel with
  | nil => rfl
  | cons x rest ih =>
    obtain ⟨r, a⟩ := x
    unfold RM.validateRelease
    repeat' split
    all_goals first | rfl | exact ih

theorem release_res (rm : RM) (id : Nat) (part : Option Req) :
    isHook (rm.release id part).2.1 = false := by
  unfold RM.release
  repeat' split
  all_goals first | rfl | exact validateRelease_res _ _

theorem merge_res (rm : RM) (a b : Nat) : isHook (rm.merge a b).2 = false := by
  unfold RM.merge
  repeat' split
  all_goals rfl

theorem applyOp_res (w : World) (op : Op) : isHook (w.applyOp op).2 = false := by
  unfold applyOp
  split <;> (try dsimp only)
  all_goals try rfl
  all_goals try exact sched_res _ _ _ _ _
  · exact add_res _ _ _
  · have := reserve_res w.rm ‹_›
    split <;> first | rfl | exact this
  · split
    · rfl
    · exact release_res _ _ _
  · split
    · rfl
    · split
      · rfl
      · exact merge_res _ _ _
  all_goals repeat' split
  all_goals first | rfl | exact sched_res _ _ _ _ _

/-! ### scripted operations, scripts -/

theorem Sc_applyOp (w : World) (op : Op) (h : opOK (aids w) w.maints.length op = true) :
    Sc w (w.applyOp op).1 := by
  cases op with
  | workOrder m t g i => exact Sc_workOrder w m t g i (by simpa [opOK] using h)
  | setParams t g d n c =>
    have h' : 0 ≤ d ∧ 0 ≤ n := by simpa [opOK] using h
    exact Sc_setParams w t g d n c h'.1 h'.2
  | _ => exact (Fr_applyOp w _ h (by intros; simp) (by intros; simp)).sc

theorem Sc_applyOps (w : World) (ops : List Op)
    (h : ∀ op ∈ ops, opOK (aids w) w.maints.length op = true) : Sc w (w.applyOps ops) := by
  unfold applyOps
  induction ops generalizing w with
  | nil => exact ScH.refl w
  | cons op ops ih =>
    rw [List.foldl_cons]
    show Sc w (List.foldl _ ((w.applyOp op).1.addRes (w.applyOp op).2) ops)
    have h1 : Sc w ((w.applyOp op).1.addRes (w.applyOp op).2) :=
      (Sc_applyOp w op (h op List.mem_cons_self)).trans (Fr_addRes _ _ (applyOp_res w op)).sc
    intro hS
    have p1 := h1 hS
    have h2 := ih ((w.applyOp op).1.addRes (w.applyOp op).2) (by
      intro o ho
      rw [p1.aids, length_of_aids_eq p1.aids]
      exact h o (List.mem_cons_of_mem _ ho)) p1.s
    exact p1.trans h2

theorem Sc_runScript (w : World) (k : Nat) : Sc w (w.runScript k) := by
  intro hS
  unfold runScript
  refine Sc_applyOps _ _ ?_ hS
  intro op hop
  obtain ⟨s, hs, hm⟩ := mem_getD_nil hop
  exact hS.scripts s hs op hm

/-! ### resource availability check -/

theorem Sc_call (w : World) (cb : Cb) (req : Req) : Sc w (scanOps.call w cb req) := by
  cases cb with
  | script k => exact (Fr_addRes _ _ rfl).sc.trans (Sc_runScript _ _)
  | proc d => exact (Fr.floor.procResourceCb _ _).sc

theorem Sc_erase (w : World) (i : Nat) : Sc w (scanOps.erase w i) :=
  (Fr.of_FK (w := w) (w' := scanOps.erase w i) rfl rfl).sc

theorem Sc_scanWaiting (n : Nat) (w : World) (i : Nat) : Sc w (scanWaiting scanOps n w i) := by
  induction n generalizing w i with
  | zero => exact ScH.refl _
  | succ n ih =>
    rw [scanWaiting]
    split
    · exact ScH.refl _
    · split
      · refine Sc.trans ?_ (ih _ _)
        exact (Sc_call _ _ _).trans (Sc_erase _ _)
      · exact ih _ _

theorem Sc_rmCheck (w : World) : Sc w w.rmCheck := Sc_scanWaiting _ _ _

/-! ### hooks -/

theorem ScH_addHook (w : World) (r : Res) (h : isHook r = true) : ScH [r] w (w.addRes r) := by
  intro hS
  refine ScP.of_fields hS hS (fun _ => rfl) rfl rfl ?_ rfl rfl
  show (w.results ++ [r]).filter isHook = _
  simp [List.filter_append, h]

theorem ScH_hookStart (w : World) (tgt : Nat) (tag : Int) :
    ScH [.hook true tgt tag] w (w.hookStart tgt tag) := by
  unfold hookStart
  dsimp only
  refine ScH.transS (ScH_addHook w _ rfl) ?_
  split
  · exact (Fr.floor.shutdownDev _ _ _ _).sc
  · split
    · exact Sc_runScript _ _
    · exact ScH.refl _

theorem ScH_hookEnd (w : World) (tgt : Nat) (tag : Int) :
    ScH [.hook false tgt tag] w (w.hookEnd tgt tag) := by
  unfold hookEnd
  dsimp only
  refine ScH.transS (ScH_addHook w _ rfl) ?_
  split
  · exact (Fr.floor.restoreDev _ _).sc
  · split
    · exact Sc_runScript _ _
    · exact ScH.refl _

/-! ### the two maintainer events -/

theorem findActive_of_flight {X R : List (Nat × Nat)} {w : World} {m s : Nat} (g : G0 X R w)
    (h : s ∈ proj m X ++ proj m R) :
    ∃ o, (w.maint m).findActive s = some o ∧ o ∈ (w.maint m).active ∧ o.seq = s := by
  have h2 : s ∈ (w.maint m).active.map (·.seq) := by
    apply (g.perm m).subset
    rw [List.append_assoc]
    exact List.mem_append_right _ h
  obtain ⟨o0, ho0, hs0⟩ := List.mem_map.1 h2
  unfold Maint.findActive
  cases hf : (w.maint m).active.find? (fun o => o.seq == s) with
  | none =>
    rw [List.find?_eq_none] at hf
    exact absurd (by simpa using hs0) (hf o0 ho0)
  | some o =>
    refine ⟨o, rfl, List.mem_of_find?_eq_some hf, ?_⟩
    have := List.find?_some hf
    simpa using this

theorem startWork_eq (w : World) (m s : Nat) (o : Order) (h : (w.maint m).findActive s = some o) :
    w.startWork m s =
      ((((w.addRec (.workOrder 1 m w.now o.target o.tag o.info)).modMaint m
        (fun mm => mm.startCost w.now (w.targetParams o.target o.tag).2.2)).hookStart o.target o.tag).schedLib
        ((((w.addRec (.workOrder 1 m w.now o.target o.tag o.info)).modMaint m
          (fun mm => mm.startCost w.now (w.targetParams o.target o.tag).2.2)).hookStart o.target o.tag).now +
          (w.targetParams o.target o.tag).1)
        (aidOf (((w.addRec (.workOrder 1 m w.now o.target o.tag o.info)).modMaint m
          (fun mm => mm.startCost w.now (w.targetParams o.target o.tag).2.2)).hookStart o.target o.tag) m)
        (.finishWork m s) pFinishWork) := by
  unfold startWork
  rw [h]
  rfl

/-- What the execution of a START event does. -/
structure StartSpec (w w' : World) (m s : Nat) (o : Order) : Prop where
  found : (w.maint m).findActive s = some o
  mem : o ∈ (w.maint m).active
  seq : o.seq = s
  s' : S w'
  g : G [] [] w'
  hooks : w'.results.filter isHook = w.results.filter isHook ++ [.hook true o.target o.tag]
  sf : w'.recs.filter isSF = w.recs.filter isSF ++ [.workOrder 1 m w.now o.target o.tag o.info]
  grow : Grow w w'
  now : w'.now = w.now
  aids : aids w' = aids w
  scr : w'.scripts = w.scripts
  keep : ∀ e ∈ w.env.events, isM e = true → e ∈ w'.env.events
  fin : ∃ e' ∈ w'.env.events, ekey e' = some (true, m, s) ∧
    e'.time = w.now + (w.targetParams o.target o.tag).1 ∧ e'.prio = pFinishWork ∧
    e'.cancelled = false ∧ e'.asset = aidOf w m

theorem mcore_startCost (mm : Maint) (now cost : Int) : mcore (mm.startCost now cost) = mcore mm := rfl

theorem mcore_modMaint (w : World) (m : Nat) (f : Maint → Maint) (hf : ∀ x, mcore (f x) = mcore x)
    (m' : Nat) : mcore ((w.modMaint m f).maint m') = mcore (w.maint m') := by
  by_cases h : m = m'
  · subst h
    by_cases hlt : m < w.maints.length
    · rw [maint_modMaint_same w m f hlt, hf]
    · have h1 : (w.modMaint m f).maints.length ≤ m := by
        rw [length_modMaint]; exact Nat.le_of_not_lt hlt
      rw [maint_of_ge h1, maint_of_ge (Nat.le_of_not_lt hlt)]
  · rw [maint_modMaint_ne w m m' f h]

theorem startWork_spec {w : World} {m s : Nat} (hS : S w) (g : G [(m, s)] [] w) :
    ∃ o, StartSpec w (w.startWork m s) m s o := by
  obtain ⟨o, hfind, hmem, hseq⟩ := findActive_of_flight (m := m) (s := s) g.g0
    (by rw [proj_cons_same]; simp)
  have hlt : m < w.maints.length := lt_of_active_ne hmem
  have hm256 : m < 256 := Nat.lt_of_lt_of_le hlt hS.len
  refine ⟨o, ?_⟩
  rw [startWork_eq w m s o hfind]
  generalize hw1 : w.addRec (.workOrder 1 m w.now o.target o.tag o.info) = w1
  generalize hw2 : w1.modMaint m
    (fun mm => mm.startCost w.now (w.targetParams o.target o.tag).2.2) = w2
  generalize hw3 : w2.hookStart o.target o.tag = w3
  have hdur := (hS.params o.target o.tag).1
  generalize hd : (w.targetParams o.target o.tag).1 = dur at hdur ⊢
  -- the START record
  have g1 : G [] [(m, s)] w1 := by
    subst hw1 hseq
    exact ⟨g.g0.startRec w.now hmem, g.ns.congr (fun _ => rfl), g.qs.congr (fun _ => rfl)⟩
  -- the cost
  have hmc : ∀ m', mcore (w2.maint m') = mcore (w1.maint m') := by
    subst hw2; exact mcore_modMaint w1 m _ (fun x => mcore_startCost x _ _)
  have g2 : G [] [(m, s)] w2 := by
    refine g1.congr hmc ?_ ?_ ?_ ?_ ?_ ?_
    all_goals subst hw2
    · exact fun m' => aidOf_modMaint w1 m m' _
    · rfl
    · rfl
    · exact g1.g0.paused
    · exact g1.g0.env
    · rfl
  have hS2 : S w2 := by
    subst hw2 hw1
    exact (hS.of_eq rfl rfl rfl rfl : S (w.addRec _)).modMaint m _
  -- the hook
  have p3 : ScP [.hook true o.target o.tag] w2 w3 := hw3 ▸ ScH_hookStart w2 o.target o.tag hS2
  have g3 := p3.g _ _ g2
  have hnow3 : w3.now = w.now := by
    rw [p3.now]; subst hw2 hw1; rfl
  have haid3 : aidOf w3 m = aidOf w m := by
    rw [aidOf_of_aids_eq p3.aids]; subst hw2 hw1; exact aidOf_modMaint _ m _ _
  have haids3 : aids w3 = aids w := by
    rw [p3.aids]; subst hw2 hw1; exact aids_modMaint _ m _
  -- the FINISH event
  obtain ⟨ne, ht, hasset, hact, hp, hc, _, heq, _⟩ :=
    schedLib_fields w3 (w3.now + dur) (aidOf w3 m) (.finishWork m s) pFinishWork (by omega)
  have g4 := g3.g0.schedFinish (w3.now + dur) hm256 (by omega)
  have hk4 := schedLib_FK w3 (w3.now + dur) (aidOf w3 m) (.finishWork m s) pFinishWork
  have hk : ekey ne = some (true, m, s) := by
    unfold ekey; rw [hact, ofNat_toNat_finishWork m s hm256]; rfl
  have h2res : w2.results = w.results := by subst hw2 hw1; rfl
  have h2recs : w2.recs = w.recs ++ [.workOrder 1 m w.now o.target o.tag o.info] := by
    subst hw2 hw1; rfl
  have h2env : w2.env = w.env := by subst hw2 hw1; rfl
  have h2scr : w2.scripts = w.scripts := by subst hw2 hw1; rfl
  have hmc2 : ∀ m', mcore (w2.maint m') = mcore (w.maint m') := by
    intro m'; rw [hmc]; subst hw1; rfl
  refine ⟨hfind, hmem, hseq, p3.s.of_FK hk4, ⟨g4, g3.ns.schedLib _ _ _ _, g3.qs.schedLib _ _ _ _⟩, ?_, ?_, ?_, ?_, ?_, ?_, ?_, ?_⟩
  · rw [FK_hooks hk4, p3.hooks, h2res]
  · rw [filter_SF_of_WO (FK_wos hk4), p3.sf, h2recs]
    simp [List.filter_append, isSF]
  · refine (Grow.of_mcore hmc2).trans (p3.grow.trans ?_)
    exact Grow.of_mcore (fun m' => by rw [maint_of_maints_eq (FK_maints hk4)])
  · rw [← hnow3, heq]; rfl
  · exact (FK_aids hk4).trans haids3
  · rw [FK_scripts hk4, p3.scr, h2scr]
  · intro e he hm
    apply schedLib_keep
    exact p3.keep _ _ g2 e (by rw [h2env]; exact he) hm
  · refine ⟨ne, ?_, hk, by rw [ht, hnow3, hd], hp, hc, by rw [hasset, haid3]⟩
    rw [heq]
    exact insort_mem.2 (Or.inl rfl)

theorem finishWork_eq (w : World) (m s : Nat) (o : Order) (h : (w.maint m).findActive s = some o) :
    w.finishWork m s =
      ((((w.hookEnd o.target o.tag).modMaint m (fun _ =>
          { (w.hookEnd o.target o.tag).maint m with
            util := ((w.hookEnd o.target o.tag).maint m).util - o.needed,
            active := ((w.hookEnd o.target o.tag).maint m).active.erase o })).addRec
          (.workOrder 2 m (w.hookEnd o.target o.tag).now o.target o.tag o.info)).modMaint m (fun _ =>
        ((((w.hookEnd o.target o.tag).modMaint m (fun _ =>
          { (w.hookEnd o.target o.tag).maint m with
            util := ((w.hookEnd o.target o.tag).maint m).util - o.needed,
            active := ((w.hookEnd o.target o.tag).maint m).active.erase o })).addRec
          (.workOrder 2 m (w.hookEnd o.target o.tag).now o.target o.tag o.info)).maint m).tryWork.1)).startOrders m
        ((((w.hookEnd o.target o.tag).modMaint m (fun _ =>
          { (w.hookEnd o.target o.tag).maint m with
            util := ((w.hookEnd o.target o.tag).maint m).util - o.needed,
            active := ((w.hookEnd o.target o.tag).maint m).active.erase o })).addRec
          (.workOrder 2 m (w.hookEnd o.target o.tag).now o.target o.tag o.info)).maint m).tryWork.2 := by
  unfold finishWork
  rw [h]
  rfl

/-- What the execution of a FINISH event does. -/
structure FinishSpec (w w' : World) (m s : Nat) (o : Order) : Prop where
  found : (w.maint m).findActive s = some o
  mem : o ∈ (w.maint m).active
  seq : o.seq = s
  s' : S w'
  g : G [] [] w'
  hooks : w'.results.filter isHook = w.results.filter isHook ++ [.hook false o.target o.tag]
  sf : w'.recs.filter isSF = w.recs.filter isSF ++ [.workOrder 2 m w.now o.target o.tag o.info]
  gone : ∀ x ∈ (w'.maint m).active, x.seq ≠ s
  stay : ∀ m' x, x ∈ (w.maint m').active → (m' = m → x.seq ≠ s) → x ∈ (w'.maint m').active
  now : w'.now = w.now
  aids : aids w' = aids w
  scr : w'.scripts = w.scripts
  keep : ∀ e ∈ w.env.events, isM e = true → e ∈ w'.env.events

theorem finishWork_spec {w : World} {m s : Nat} (hS : S w) (g : G [] [(m, s)] w) :
    ∃ o, FinishSpec w (w.finishWork m s) m s o := by
  obtain ⟨o, hfind, hmem, hseq⟩ := findActive_of_flight (m := m) (s := s) g.g0
    (by rw [proj_cons_same]; simp)
  refine ⟨o, ?_⟩
  rw [finishWork_eq w m s o hfind]
  generalize hw1 : w.hookEnd o.target o.tag = w1
  have p1 : ScP [.hook false o.target o.tag] w w1 := hw1 ▸ ScH_hookEnd w o.target o.tag hS
  have g1 := p1.g _ _ g
  obtain ⟨l1, hl1⟩ := p1.grow m
  have ho1 : o ∈ (w1.maint m).active := by rw [hl1]; exact List.mem_append_left _ hmem
  have hlt : m < w1.maints.length := lt_of_active_ne ho1
  have g3 : G0 [] [] ((w1.modMaint m (fun _ => { w1.maint m with
      util := (w1.maint m).util - o.needed, active := (w1.maint m).active.erase o })).addRec
    (.workOrder 2 m w1.now o.target o.tag o.info)) := by
    subst hseq
    exact g1.g0.finishRec w1.now ho1
  generalize hme : ({ w1.maint m with
      util := (w1.maint m).util - o.needed, active := (w1.maint m).active.erase o } : Maint) = me
    at g3 ⊢
  have hmea : me.active = (w1.maint m).active.erase o := by subst hme; rfl
  have hmeq : me.queue = (w1.maint m).queue := by subst hme; rfl
  generalize hw3 : (w1.modMaint m (fun _ => me)).addRec
    (.workOrder 2 m w1.now o.target o.tag o.info) = w3 at g3 ⊢
  have h3m : w3.maint m = me := by
    subst hw3; exact maint_modMaint_same w1 m (fun _ => me) hlt
  have h3ne : ∀ m', m ≠ m' → w3.maint m' = w1.maint m' := by
    intro m' h; subst hw3; exact maint_modMaint_ne w1 m m' (fun _ => me) h
  have h3len : w3.maints.length = w1.maints.length := by
    subst hw3; exact length_modMaint w1 m (fun _ => me)
  have h3aids : aids w3 = aids w1 := by subst hw3; exact aids_modMaint w1 m (fun _ => me)
  have h3env : w3.env = w1.env := by subst hw3; rfl
  have h3res : w3.results = w1.results := by subst hw3; rfl
  have h3recs : w3.recs = w1.recs ++ [.workOrder 2 m w1.now o.target o.tag o.info] := by
    subst hw3; rfl
  have h3scr : w3.scripts = w1.scripts := by subst hw3; rfl
  have hS3 : S w3 := by
    subst hw3
    exact (p1.s.modMaint m (fun _ => me)).of_eq rfl rfl rfl rfl
  have hlt3 : m < w3.maints.length := by rw [h3len]; exact hlt
  generalize hmm : (w3.maint m).tryWork.1 = mm
  generalize hst : (w3.maint m).tryWork.2 = st
  have hact : mm.active = (w3.maint m).active ++ st := by
    rw [← hmm, ← hst]; exact tryWork_active _
  generalize hw4 : w3.modMaint m (fun _ => mm) = w4
  have hk5 := startOrders_FK w4 m st
  have g5 : G [] [] (w4.startOrders m st) := by
    refine scan_G hS3 hlt3 g3 ?_ ?_ (hmm ▸ C12.inv_tryWork _ (g3.inv m))
      (hmm ▸ C12.cap_tryWork _ (g3.cap m)) hact ?_ ?_ (by rw [← hw4]) (by rw [← hw4]; rfl)
      (by rw [← hw4]; rfl)
    · intro m' h o' ho'
      rw [h3ne m' h] at ho' ⊢
      exact g1.ns m' o' ho'
    · intro m' h
      rw [h3ne m' h]
      exact g1.qs m'
    · rw [← hmm]
      exact C12.nothing_startable_after_scan _
        (fun x hx => (g3.inv m).needNonneg x (List.mem_append_left _ hx))
    · rw [← hmm]
      apply tryWork_queue_sorted
      rw [h3m, hmeq]
      exact g1.qs m
  have h5m : (w4.startOrders m st).maint m = mm := by
    rw [maint_of_maints_eq (FK_maints hk5), ← hw4]; exact maint_modMaint_same w3 m _ hlt3
  have h5ne : ∀ m', m ≠ m' → (w4.startOrders m st).maint m' = w1.maint m' := by
    intro m' h
    rw [maint_of_maints_eq (FK_maints hk5), ← hw4, maint_modMaint_ne w3 m m' _ h, h3ne m' h]
  have h4aids : aids w4 = aids w3 := by rw [← hw4]; exact aids_modMaint w3 m _
  -- the finished order has no event left and is not queued
  have hnot3 : ∀ x ∈ (w3.maint m).active, x.seq ≠ s := by
    intro x hx hxs
    have h1 : s ∈ skeys m w3.env.events := by
      have := (g3.perm m).mem_iff.2 (List.mem_map.2 ⟨x, hx, hxs⟩)
      simpa using this
    have hnd := g1.g0.nodup_lhs m
    rw [proj_cons_same, ← h3env] at hnd
    have hc : 2 ≤ List.count s (skeys m w3.env.events ++ proj m [] ++ s :: proj m []) := by
      have := List.count_pos_iff.2 h1
      simp only [List.count_append, List.count_cons, beq_self_eq_true, if_true, proj_nil,
        List.count_nil]
      omega
    have := List.nodup_iff_count.1 hnd s
    omega
  have hnotq : ∀ x ∈ (w3.maint m).queue, x.seq ≠ s := by
    intro x hx hxs
    rw [h3m, hmeq] at hx
    have hnd := (g1.g0.inv m).seqs
    rw [List.map_append] at hnd
    have := (List.nodup_append.1 hnd).2.2 _ (List.mem_map.2 ⟨x, hx, hxs⟩) _
      (List.mem_map.2 ⟨o, ho1, hseq⟩)
    exact this rfl
  refine ⟨hfind, hmem, hseq, ?_, g5, ?_, ?_, ?_, ?_, ?_, ?_, ?_, ?_⟩
  · exact (hw4 ▸ hS3.modMaint m _ : S w4).of_FK hk5
  · rw [FK_hooks hk5, ← hw4]
    show w3.results.filter isHook = _
    rw [h3res, p1.hooks]
  · rw [filter_SF_of_WO (FK_wos hk5), ← hw4]
    show w3.recs.filter isSF = _
    rw [h3recs, List.filter_append, p1.sf, p1.now]
    simp [isSF]
  · intro x hx
    rw [h5m, hact] at hx
    rcases List.mem_append.1 hx with h | h
    · exact hnot3 x h
    · have : st.Sublist (w3.maint m).queue := by
        rw [← hst]; exact (C12.scanQ_spec (w3.maint m) (w3.maint m).queue).1
      exact hnotq x (this.subset h)
  · intro m' x hx hne
    obtain ⟨l, hl⟩ := p1.grow m'
    have hx1 : x ∈ (w1.maint m').active := by rw [hl]; exact List.mem_append_left _ hx
    by_cases h : m = m'
    · subst h
      rw [h5m, hact, h3m, hmea]
      refine List.mem_append_left _ ?_
      have hxo : x ≠ o := by
        intro e; subst e; exact hne rfl hseq
      exact (List.mem_erase_of_ne hxo).2 hx1
    · rw [h5ne m' h]; exact hx1
  · rw [startOrders_now, ← hw4]
    show w3.env.now = _
    rw [h3env]; exact p1.now
  · rw [FK_aids hk5, h4aids, h3aids, p1.aids]
  · rw [FK_scripts hk5, ← hw4]
    show w3.scripts = _
    rw [h3scr, p1.scr]
  · intro e he hm
    apply startOrders_keep
    rw [← hw4]
    show e ∈ w3.env.events
    rw [h3env]
    exact p1.keep _ _ g e he hm

/-! ### the other event actions, initialisation -/

theorem Sc_exec (w : World) (a : Action) (ha : actKey a = none) : Sc w (w.exec a) := by
  cases a with
  | terminate => exact ScH.refl _
  | script k => exact Sc_runScript _ _
  | finishCycle d => exact (Fr.floor.finishCycle _ _).sc
  | passPart d => exact (Fr.floor.passPart _ _).sc
  | fail d => exact (Fr.floor.failDev _ _).sc
  | releaseIfIdle d => exact (Fr.floor.releaseIfIdle _ _).sc
  | rmCheck => exact Sc_rmCheck _
  | startWork m o => cases ha
  | finishWork m o => cases ha
  | schedUpdate s => exact (Fr_schedUpdate _ _ _).sc
  | periodicSense s => exact (Fr_periodicSense _ _).sc
  | unknown n => exact (Fr_setErr _ _).sc

theorem Sc_initAsset (w : World) (a : AssetRef) : Sc w (w.initAsset a) := by
  cases a with
  | dev d => exact (Fr.floor.initDev _ _).sc
  | maint m =>
    intro hS
    have hmap : ∀ x : MaintW, x.aid = (w.maints.getD m default).aid →
        (w.maints.set m x).map (·.aid) = w.maints.map (·.aid) :=
      fun x hx => map_set_of_eq MaintW.aid w.maints m x default hx
    refine ScP.of_fields (hs := []) hS (hS.of_eq (hmap _ rfl) rfl rfl rfl) ?_ (hmap _ rfl) rfl
      (by simp; rfl) rfl rfl
    intro m'
    unfold World.maint
    show mcore (List.getD (w.maints.set m _) m' default).m = _
    by_cases h : m = m'
    · subst h
      by_cases hlt : m < w.maints.length
      · rw [getD_set_same _ _ _ _ hlt]; rfl
      · rw [set_of_length_le _ _ _ (Nat.le_of_not_lt hlt)]
    · rw [getD_set_ne _ _ _ _ _ h]
  | sched s => exact (Fr_schedUpdate w s false).sc
  | sensor s =>
    refine Fr.sc ?_
    unfold initAsset
    dsimp only
    fr_auto
  | cms c => exact ScH.refl _

theorem Sc_simulateInit (w : World) : Sc w w.simulateInit := by
  unfold simulateInit
  split
  · exact ScH.refl _
  · dsimp only
    have h1 : Sc w (({ w with rm := w.rm.init.1 } : World).rmEffects w.rm.init.2.1 w.rm.init.2.2) :=
      ((Fr.of_FK (w := w) (w' := { w with rm := w.rm.init.1 }) rfl rfl).trans (Fr.floor.rmEffects _ _ _)).sc
    generalize ({ w with rm := w.rm.init.1 } : World).rmEffects w.rm.init.2.1 w.rm.init.2.2 = w1 at h1 ⊢
    have h2 : Sc w1 (w1.assets.foldl (fun w a => w.initAsset a) w1) :=
      Sc.foldl _ _ _ (fun v a => Sc_initAsset v a)
    generalize w1.assets.foldl (fun w a => w.initAsset a) w1 = w2 at h2 ⊢
    exact (h1.trans h2).trans (Fr.of_FK (w := w2) (w' := { w2 with started := true }) rfl rfl).sc

end C12W
end SimProc
