/-
C08W, part 9: without value/quality-changing callbacks (`NoCb`) the functions local to a device that
is not a batcher leave the records of the existing parts untouched, apart from what a source
generates (`PX`: the old parts table is a prefix of the new one).
-/
import SimProc.Proofs.C08WCb
import SimProc.Proofs.C08WLocal
namespace SimProc
namespace C08W
open World C02V C08L FloorCoreL

/-- A receive / finish callback that changes neither value nor quality of the part. -/
def trivialCb (c : PartCb) : Prop := c.addValue = 0 ∧ c.setQuality = none

instance (c : PartCb) : Decidable (trivialCb c) := by unfold trivialCb; infer_instance

def NoCbP (x : Pred × List PartCb × List PartCb) : Prop :=
  (∀ c ∈ x.2.1, trivialCb c) ∧ (∀ c ∈ x.2.2, trivialCb c)

instance (x : Pred × List PartCb × List PartCb) : Decidable (NoCbP x) := by unfold NoCbP; infer_instance

/-- No device has a callback that changes value or quality of parts. -/
def NoCb (w : World) : Prop := ∀ x ∈ pcv w, NoCbP x

instance (w : World) : Decidable (NoCb w) := by unfold NoCb; infer_instance

theorem NoCb.of_pcv {w w' : World} (h : NoCb w) (e : pcv w' = pcv w) : NoCb w' := by
  unfold NoCb; rw [e]; exact h

theorem NoCb.dev {w : World} (h : NoCb w) (x : Nat) : NoCbP (pcd (w.dev x)) := by
  by_cases hx : x < w.devs.length
  · apply h
    unfold pcv World.dev
    rw [List.getD_eq_getElem?_getD, List.getElem?_eq_getElem hx]
    exact List.mem_map.2 ⟨_, List.getElem_mem hx, rfl⟩
  · rw [dev_of_ge w x (Nat.le_of_not_lt hx)]
    exact ⟨fun c hc => (by cases hc), fun c hc => (by cases hc)⟩

theorem cbPart_trivial {c : PartCb} (h : trivialCb c) (r : PartRec) : cbPart c r = r := by
  unfold cbPart; rw [h.1, h.2]; simp

theorem applyPartCb_parts_trivial (w : World) (x p : Nat) {c : PartCb} (h : trivialCb c) :
    (w.applyPartCb x p c).parts = w.parts := by
  rw [applyPartCb_parts]
  split
  · rfl
  · rw [modPart_of_fix (cbPart_trivial h _)]

theorem foldl_applyPartCb_parts (l : List PartCb) (hl : ∀ c ∈ l, trivialCb c) (w : World) (x p : Nat) :
    (l.foldl (fun w c => w.applyPartCb x p c) w).parts = w.parts := by
  induction l generalizing w with
  | nil => rfl
  | cons c l ih =>
    rw [List.foldl_cons, ih (fun c' hc' => hl c' (List.mem_cons_of_mem _ hc')),
      applyPartCb_parts_trivial _ _ _ (hl c (List.mem_cons_self ..))]

/-- The old parts table is a prefix of the new one. -/
def PX (w w' : World) : Prop := ∃ news, w'.parts = w.parts ++ news

theorem PX.refl (w : World) : PX w w := ⟨[], by simp⟩
theorem PX.trans {a b c : World} (h1 : PX a b) (h2 : PX b c) : PX a c := by
  obtain ⟨n1, e1⟩ := h1
  obtain ⟨n2, e2⟩ := h2
  exact ⟨n1 ++ n2, by rw [e2, e1, List.append_assoc]⟩
theorem PX.of_parts {w w' : World} (h : w'.parts = w.parts) : PX w w' := ⟨[], by simp [h]⟩

theorem PX.part {w w' : World} (h : PX w w') {q : Nat} (hq : q < w.parts.length) :
    w'.part q = w.part q := by
  obtain ⟨n, e⟩ := h
  unfold World.part
  rw [e]; exact getD_append_left _ _ _ _ hq

theorem PX.len {w w' : World} (h : PX w w') : w.parts.length ≤ w'.parts.length := by
  obtain ⟨n, e⟩ := h
  rw [e, List.length_append]; omega

/-- Writing the history of a new part (whose kids are new) keeps the old prefix. -/
theorem px_addHist_new {w0 w : World} {p d : Nat} (hpre : PX w0 w) (hp : w0.parts.length ≤ p)
    (hk : ∀ k ∈ ((w.part p).kids.getD []), w0.parts.length ≤ k) : PX w0 (w.addHist p d) := by
  obtain ⟨news, hn⟩ := hpre
  have hlen : (w.addHist p d).parts.length = w0.parts.length + news.length := by
    rw [addHist_parts_length, hn, List.length_append]
  refine ⟨(w.addHist p d).parts.drop w0.parts.length, ?_⟩
  apply List.ext_getElem?
  intro i
  by_cases hi : i < w0.parts.length
  · rw [List.getElem?_append_left hi]
    have hcount : (histIdxs w.parts p).count i = 0 := by
      rw [List.count_eq_zero]
      intro hmem
      rcases List.mem_cons.1 hmem with h | h
      · omega
      · have := hk i h; omega
    rw [addHist_parts, modAll_getElem?, hcount, hn, List.getElem?_append_left hi]
    cases w0.parts[i]? <;> rfl
  · rw [List.getElem?_append_right (Nat.le_of_not_lt hi), List.getElem?_drop]
    congr 1; omega

theorem PX.finishCycle (w : World) (x : Nat) (h : NoCb w) : PX w (w.finishCycle x) := by
  unfold World.finishCycle
  dsimp only
  split
  · -- source
    refine (?_ : PX w _).trans (PX.of_parts (schedulePass_parts ..))
    split
    · obtain ⟨news, h1, h2, h3⟩ := genPart_spec w x
      exact px_addHist_new (w0 := w) ⟨news, by simpa using h1⟩ h2 (by simpa using h3)
    · exact PX.refl _
  · exact PX.of_parts (by simp [finishCycleHandler_parts])
  · -- processor
    apply PX.of_parts
    split
    · split <;> simp [finishCycleHandler_parts]
    · rw [addRec_parts, foldl_preserve World.parts _ _ _ (fun w s => senseOutput_parts w s _),
        foldl_applyPartCb_parts]
      · split <;> simp [finishCycleHandler_parts]
      · have hp := pcv_dev (pcv_blind.floor.finishCycleHandler w x) x
        have := (h.dev x).2
        rw [← hp] at this
        exact this
  · exact PX.of_parts (finishCycleHandler_parts ..)

theorem PX.scheduleFinish (w : World) (x : Nat) (h : NoCb w) : PX w (w.scheduleFinish x) := by
  have key : PX w ((w.setDev x { w.dev x with offset := 0 }).finishCycle x) :=
    (PX.of_parts (setDev_parts ..)).trans
      (PX.finishCycle _ x (h.of_pcv (pcv_setDev_same _ _ _ rfl)))
  unfold World.scheduleFinish
  dsimp only
  repeat' split
  all_goals first
    | exact key
    | exact PX.of_parts (by simp)

theorem PX.tryMove (w : World) (x : Nat) (h : NoCb w) (hk : (w.dev x).kind ≠ .batcher) :
    PX w (w.tryMove x) := by
  unfold World.tryMove
  dsimp only
  split
  · -- buffer
    apply PX.of_parts
    repeat' split
    all_goals simp
  · rename_i hb; exact absurd hb hk
  · split
    · exact (PX.of_parts (setDev_parts ..)).trans
        (PX.scheduleFinish _ x (h.of_pcv (pcv_setDev_same _ _ _ rfl)))
    · exact PX.refl _
  · split
    · exact PX.scheduleFinish w x h
    · exact PX.refl _

theorem parts_recvBook (w : World) (x p : Nat) (h : NoCb w) : (recvBook w x p).parts = w.parts := by
  unfold recvBook
  dsimp only
  have key : ∀ w1 : World, pcv w1 = pcv w → w1.parts = w.parts →
      ((w1.dev x).recvCbs.foldl (fun w c => w.applyPartCb x p c) w1).parts = w.parts := by
    intro w1 e1 e2
    rw [foldl_applyPartCb_parts _ _ w1 x p, e2]
    have := (h.dev x).1
    rw [← pcv_dev e1 x] at this
    exact this
  apply key
  · split
    · exact pcv_setDev_same _ _ _ rfl
    · exact pcv_setDev_same _ _ _ rfl
    · rfl
  · rw [addRec_parts]; split <;> simp

theorem PX.onReceived (w : World) (x p : Nat) (h : NoCb w) (hk : (w.dev x).kind ≠ .batcher) :
    PX w (w.onReceived x p) := by
  rw [C02V.onReceived_eq]
  have h0 : PX w (recvBook w x p) := PX.of_parts (parts_recvBook w x p h)
  have hpc : pcv (recvBook w x p) = pcv w := by
    unfold recvBook
    dsimp only
    refine (pcv_blind.floor.foldl _ (fun w c => pcv_blind.floor.applyPartCb w x p c) _ _).trans ?_
    split <;> first | rfl | exact pcv_setDev_same _ _ _ rfl
  split
  · exact h0.trans (PX.tryMove _ x (h.of_pcv hpc) (by rw [kind_recvBook]; exact hk))
  · exact h0

end C08W
end SimProc
