/-
Effect of the slot-changing functions of `Model/Floor.lean` on the slot view, as moves of one device.
-/
import SimProc.Proofs.FloorSt
import SimProc.Proofs.SVInv
import SimProc.Proofs.Topo
namespace SimProc
namespace C02V
open World

/-! ### indices -/

theorem dev_of_ge (w : World) (x : Nat) (h : w.devs.length ≤ x) : w.dev x = default := by
  simp [World.dev, List.getD_eq_getElem?_getD, List.getElem?_eq_none h]

theorem setDev_of_ge (w : World) (x : Nat) (d : Dev) (h : w.devs.length ≤ x) : w.setDev x d = w := by
  simp [World.setDev, List.set_eq_of_length_le h]

theorem sv_get (w : World) (x : Nat) (h : x < w.devs.length) : (sv w).devs[x]? = some (sdev (w.dev x)) := by
  simp [sv, World.dev, List.getD_eq_getElem?_getD, h]

theorem lt_of_part {w : World} {x p : Nat} (h : (w.dev x).part = some p) : x < w.devs.length := by
  by_cases hx : x < w.devs.length
  · exact hx
  · rw [dev_of_ge w x (Nat.le_of_not_lt hx)] at h; cases h

theorem lt_of_output {w : World} {x p : Nat} (h : (w.dev x).output = some p) : x < w.devs.length := by
  by_cases hx : x < w.devs.length
  · exact hx
  · rw [dev_of_ge w x (Nat.le_of_not_lt hx)] at h; cases h

theorem lt_of_kind {w : World} {x : Nat} (h : (w.dev x).kind ≠ .handler) : x < w.devs.length := by
  by_cases hx : x < w.devs.length
  · exact hx
  · rw [dev_of_ge w x (Nat.le_of_not_lt hx)] at h; exact absurd rfl h

theorem lt_of_buf {w : World} {x : Nat} (h : (w.dev x).buf ≠ []) : x < w.devs.length := by
  by_cases hx : x < w.devs.length
  · exact hx
  · rw [dev_of_ge w x (Nat.le_of_not_lt hx)] at h; exact absurd rfl h

theorem kids_get (w : World) (p : Nat) : (sv w).kids.getD p none = (w.part p).kids := by
  simp only [sv, World.part, List.getD_eq_getElem?_getD, List.getElem?_map]
  cases w.parts[p]? <;> rfl

theorem leaves_eq (w : World) (p : Nat) : (sv w).leaves p = w.leavesOf p := by
  unfold SV.leaves World.leavesOf; rw [kids_get]; cases (w.part p).kids <;> rfl

/-! ### a `setDev` that rearranges the slots -/

theorem steps_setDev_rearr (w : World) (x : Nat) (d' : Dev) (r : List Nat)
    (hk : d'.kind = (w.dev x).kind)
    (hp : (sdev (w.dev x)).held.Perm (r ++ (sdev d').held))
    (hr : (w.dev x).kind = .sink ∨ ∀ q ∈ r, w.leavesOf q = [])
    (hi : ∀ b, d'.inprog = some b → (w.dev x).inprog = some b) :
    Steps x (sv w) (sv (w.setDev x d')) := by
  by_cases hx : x < w.devs.length
  · rw [sv_setDev]
    refine Steps.single (Move.rearr _ _ _ r (sv_get w x hx) hk hp ?_ hi)
    cases hr with
    | inl h => exact Or.inl h
    | inr h => exact Or.inr (fun q hq => by rw [leaves_eq]; exact h q hq)
  · rw [setDev_of_ge w x d' (Nat.le_of_not_lt hx)]; exact Steps.refl _

theorem steps_of_sv {x : Nat} {w w' : World} (h : sv w' = sv w) : Steps x (sv w) (sv w') := by
  rw [h]; exact Steps.refl _

/-! ### `finishCycleHandler` -/

theorem steps_finishCycleHandler (w : World) (x : Nat) :
    Steps x (sv w) (sv (w.finishCycleHandler x)) := by
  unfold World.finishCycleHandler
  simp only []
  split
  · exact steps_of_sv (sv_setErr ..)
  · split
    · exact steps_of_sv (sv_setErr ..)
    · rename_i p hp
      split
      · exact steps_of_sv (sv_setErr ..)
      · rename_i ho
        rw [sv_schedulePass]
        refine steps_setDev_rearr w x _ [] rfl ?_ (Or.inr (by simp)) (fun b h => h)
        have ho' : (w.dev x).output = none := by
          cases h : (w.dev x).output <;> simp_all
        simp [SDev.held, sdev, hp, ho']


/-! ### `finishCycle` -/

/-- nothing, or one generated part -/
inductive GenS (z : Nat) : SV → SV → Prop
  | refl (a : SV) : GenS z a a
  | gen (a a' : SV) : Gen z a a' → GenS z a a'

theorem GenS.steps {z : Nat} {a a' : SV} (h : GenS z a a') : Steps z a a' := by
  cases h with
  | refl => exact Steps.refl _
  | gen _ h => exact Steps.single (Move.gen _ _ h)

theorem consV_genS {z : Nat} {a a' : SV} (hc : ConsV a) (h : GenS z a a') : ConsV a' := by
  cases h with
  | refl => exact hc
  | gen _ h => exact consV_gen hc h

theorem extraV_genS {z : Nat} {a a' : SV} (hc : ConsV a) (he : ExtraV a) (h : GenS z a a') : ExtraV a' := by
  cases h with
  | refl => exact he
  | gen _ h => exact extraV_gen hc he h

theorem gen_source (w : World) (x : Nat) (hx : x < w.devs.length) (hk : (w.dev x).kind ≠ .sink)
    (ho : (w.dev x).output = none) :
    Gen x (sv w) (sv ((w.genPart x).1.modDev x (fun d => { d with output := some (w.genPart x).2 }))) := by
  cases h : ((w.dev x).genBatch == 0)
  · rw [genPart_batch w x h]
    have := Gen.batch (z := x) (sv w) (sdev (w.dev x)) (w.dev x).genBatch.toNat (sv_get w x hx) hk ho
    simp only [sv, World.modDev, World.setDev, World.dev, List.map_set, List.map_append, List.map_replicate,
      List.map_cons, List.map_nil, List.length_map] at this ⊢
    exact this
  · rw [genPart_leaf w x h]
    have := Gen.leaf (z := x) (sv w) (sdev (w.dev x)) (sv_get w x hx) hk ho
    simp only [sv, World.modDev, World.setDev, World.dev, List.map_set, List.map_append,
      List.map_cons, List.map_nil, List.length_map] at this ⊢
    exact this

theorem genS_finishCycle_source (w : World) (x : Nat) (hk : (w.dev x).kind = .source) :
    GenS x (sv w) (sv (w.finishCycle x)) := by
  have hx : x < w.devs.length := lt_of_kind (by rw [hk]; decide)
  unfold World.finishCycle
  simp only [hk]
  rw [sv_schedulePass]
  split
  · rename_i ho
    rw [sv_addHist]
    refine GenS.gen _ _ (gen_source w x hx (by rw [hk]; decide) ?_)
    cases h : (w.dev x).output <;> simp_all
  · exact GenS.refl _

theorem steps_clearSink (w : World) (x : Nat) (hk : (w.dev x).kind = .sink) :
    Steps x (sv w) (sv (w.modDev x (fun d => { d with output := none }))) := by
  refine steps_setDev_rearr w x _ (w.dev x).output.toList rfl ?_ (Or.inl hk) (fun b h => h)
  rcases h : (w.dev x).output with _ | o
  · simp [SDev.held, sdev, h]
  · simp only [SDev.held, sdev, h, Option.toList_some, Option.toList_none, List.nil_append, List.append_nil,
      List.append_assoc, List.singleton_append]
    exact List.perm_middle

theorem steps_finishCycle (w : World) (x : Nat) : Steps x (sv w) (sv (w.finishCycle x)) := by
  by_cases hsrc : (w.dev x).kind = .source
  · exact (genS_finishCycle_source w x hsrc).steps
  unfold World.finishCycle
  simp only []
  split
  · rename_i h; exact absurd h hsrc
  · rename_i hk
    rw [sv_notify]
    refine (steps_finishCycleHandler w x).trans (steps_clearSink _ x ?_)
    rw [kind_of_st (st_finishCycleHandler w x)]; exact hk
  · refine (steps_finishCycleHandler w x).trans (steps_of_sv ?_)
    frame'
  · exact steps_finishCycleHandler w x


/-! ### `scheduleFinish` -/

theorem scheduleFinish_cases (w : World) (x : Nat) :
    w.scheduleFinish x = (w.setDev x { w.dev x with offset := 0 }).finishCycle x ∨
    sv (w.scheduleFinish x) = sv w := by
  unfold World.scheduleFinish
  simp only []
  generalize (if w.cycleTime x + (w.dev x).offset < 0 then (0 : Int) else w.cycleTime x + (w.dev x).offset) = c
  by_cases hc : c ≤ 0
  · left; rw [if_pos hc]
  · right; rw [if_neg hc, sv_schedLib]; exact sv_setDev_same _ _ _ rfl

theorem sv_setOffset (w : World) (x : Nat) : sv (w.setDev x { w.dev x with offset := 0 }) = sv w :=
  sv_setDev_same _ _ _ rfl

theorem steps_scheduleFinish (w : World) (x : Nat) : Steps x (sv w) (sv (w.scheduleFinish x)) := by
  rcases scheduleFinish_cases w x with h | h
  · rw [h]
    have := steps_finishCycle (w.setDev x { w.dev x with offset := 0 }) x
    rw [sv_setOffset] at this; exact this
  · exact steps_of_sv h

theorem dev_setDev_self (w : World) (x : Nat) (d : Dev) (hx : x < w.devs.length) : (w.setDev x d).dev x = d := by
  simp [World.dev, World.setDev, List.getD_eq_getElem?_getD, hx]

theorem dev_setDev_kind (w : World) (x : Nat) (d : Dev) (hk : d.kind = (w.dev x).kind) (y : Nat) :
    ((w.setDev x d).dev y).kind = (w.dev y).kind := by
  by_cases hx : x < w.devs.length
  · by_cases hy : y = x
    · subst hy; rw [dev_setDev_self w y d hx, hk]
    · simp [World.dev, World.setDev, List.getD_eq_getElem?_getD, Ne.symm hy]
  · rw [setDev_of_ge w x d (Nat.le_of_not_lt hx)]

theorem kind_setOffset (w : World) (x y : Nat) :
    ((w.setDev x { w.dev x with offset := 0 }).dev y).kind = (w.dev y).kind :=
  dev_setDev_kind w x { w.dev x with offset := 0 } rfl y

theorem genS_scheduleFinish_source (w : World) (x : Nat) (hk : (w.dev x).kind = .source) :
    GenS x (sv w) (sv (w.scheduleFinish x)) := by
  rcases scheduleFinish_cases w x with h | h
  · rw [h]
    have := genS_finishCycle_source (w.setDev x { w.dev x with offset := 0 }) x
      (by rw [kind_setOffset]; exact hk)
    rw [sv_setOffset] at this
    exact this
  · rw [h]; exact GenS.refl _

/-- The end of a cycle on the slot view: a source generates a part, a sink clears its output after
the common part, every other device does the common part only (what a processor does besides does
not change the slots). -/
theorem sv_finishCycle_cases (w : World) (x : Nat) :
    GenS x (sv w) (sv (w.finishCycle x)) ∨
    sv (w.finishCycle x) =
      sv ((w.finishCycleHandler x).modDev x (fun d => { d with output := none })) ∨
    sv (w.finishCycle x) = sv (w.finishCycleHandler x) := by
  by_cases hsrc : (w.dev x).kind = .source
  · exact .inl (genS_finishCycle_source w x hsrc)
  unfold World.finishCycle
  dsimp only
  split
  · rename_i h; exact absurd h hsrc
  · exact .inr (.inl (sv_notify _ _))
  · refine .inr (.inr ?_)
    generalize w.finishCycleHandler x = w1
    have h1 : ∀ d : Dev, sdev d = sdev (w1.dev x) →
        sv (if (w1.dev x).reserved.isSome then
          (w1.setDev x d).schedLib (w1.setDev x d).now (w1.dev x).aid (.releaseIfIdle x) pRelease
          else w1.setDev x d) = sv w1 := by
      intro d hd
      split
      · rw [sv_schedLib]; exact sv_setDev_same _ _ _ hd
      · exact sv_setDev_same _ _ _ hd
    split
    · exact h1 _ rfl
    · rw [sv_addRec, foldl_proj sv _ _ _ fun w s => sv_senseOutput w s _,
        foldl_proj sv _ _ _ fun w c => sv_applyPartCb w x _ c]
      exact h1 _ rfl
  · exact .inr (.inr rfl)

end C02V
end SimProc
