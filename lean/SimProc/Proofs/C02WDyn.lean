/-
C02W machinery, part 3: the dynamic class `DynN need w` (closed wiring, scripts whose re-wiring /
creation / triggering operations are admissible once `need k` devices exist, and no trigger of a
script that is not yet admissible or of the failure of a sink / missing device pending), its
preservation by every operation, script, event action, step, run and initialisation, and the
admissibility (`ActOK`) of every executed action.
-/
import SimProc.Proofs.C02WWire
import SimProc.Props.C02
namespace SimProc
namespace C02W
open World C02V

/-! ### definitions -/

/-- Constructor arguments that are admissible in a world with at least `n` devices: a device is
created with empty slots and names only downstream neighbours that exist (or itself); the inputs
of a new group exist. -/
def SpecOKAt (n : Nat) : AssetSpec → Prop
  | .dev d => C02.held d = [] ∧ ∀ y ∈ d.down, y ≤ n
  | .group _ devs ins _ => ∀ d ∈ groupIns devs ins, d ≤ n
  | _ => True

/-- Operations that are admissible in a world with at least `n` devices (`need k`: the number of
devices script `k` needs). -/
def OpOK (need : Nat → Nat) (n : Nat) : Op → Prop
  | .rewire x _ => x < n
  | .create spec => SpecOKAt n spec
  | .sched _ _ k _ => need k ≤ n
  | .schedRel _ _ k _ => need k ≤ n
  | .register k _ => need k ≤ n
  | _ => True

/-- the number of devices a constructor call adds -/
def specCreated : AssetSpec → Nat
  | .dev _ => 1
  | .group _ _ _ _ => 2
  | _ => 0

def created : Op → Nat
  | .create s => specCreated s
  | _ => 0

/-- A list of operations run in sequence from a world with at least `n` devices. -/
def OpsOK (need : Nat → Nat) : Nat → List Op → Prop
  | _, [] => True
  | n, op :: ops => OpOK need n op ∧ OpsOK need (n + created op) ops

/-- What the execution of an action needs: a failure hits an existing device that is not a sink; a
script has the devices it needs. -/
def ActSafe (need : Nat → Nat) (w : World) : Action → Prop
  | .fail d => d < w.devs.length ∧ (w.dev d).kind ≠ .sink
  | .script k => need k ≤ w.devs.length
  | _ => True

def HookOK (need : Nat → Nat) (n : Nat) (h : Option Nat × Option Nat) : Prop :=
  (∀ k, h.1 = some k → need k ≤ n) ∧ (∀ k, h.2 = some k → need k ≤ n)

/-- every trigger that is pending is admissible now -/
structure TrigOK (need : Nat → Nat) (w : World) : Prop where
  ev : ∀ n, (trig w).pend n → ActSafe need w (Action.ofNat n)
  rm : ∀ k ∈ (trig w).rms, need k ≤ w.devs.length
  tg : ∀ h ∈ (trig w).hooks, HookOK need w.devs.length h

def ScriptsDyn (need : Nat → Nat) (w : World) : Prop :=
  ∀ k, OpsOK need (need k) (w.scripts.getD k [])

structure DynN (need : Nat → Nat) (w : World) : Prop where
  scripts : ScriptsDyn need w
  wired : Wired w
  tok : TrigOK need w

/-! ### monotonicity -/

theorem SpecOKAt.mono {n m : Nat} {s : AssetSpec} (h : SpecOKAt n s) (hnm : n ≤ m) : SpecOKAt m s := by
  cases s with
  | dev d => exact ⟨h.1, fun y hy => Nat.le_trans (h.2 y hy) hnm⟩
  | group gid devs ins outs => exact fun d hd => Nat.le_trans (h d hd) hnm
  | _ => trivial

theorem OpOK.mono {need : Nat → Nat} {n m : Nat} {op : Op} (h : OpOK need n op) (hnm : n ≤ m) :
    OpOK need m op := by
  cases op
  case rewire x ups => exact Nat.lt_of_lt_of_le h hnm
  case create s => exact SpecOKAt.mono h hnm
  case sched t a k p => exact Nat.le_trans h hnm
  case schedRel t a k p => exact Nat.le_trans h hnm
  case register k r => exact Nat.le_trans h hnm
  all_goals trivial

theorem OpsOK.mono {need : Nat → Nat} {ops : List Op} : ∀ {n m : Nat}, OpsOK need n ops → n ≤ m →
    OpsOK need m ops := by
  induction ops with
  | nil => intro _ _ _ _; trivial
  | cons op ops ih =>
    intro n m h hnm
    exact ⟨h.1.mono hnm, ih h.2 (by omega)⟩

theorem ActSafe.ext {need : Nat → Nat} {n : Nat} {w w' : World} {a : Action} (h : ActSafe need w a)
    (e : ExtN n w w') : ActSafe need w' a := by
  cases a
  case fail d => exact ⟨Nat.lt_of_lt_of_le h.1 e.len, by rw [e.kind d h.1]; exact h.2⟩
  case script k => exact Nat.le_trans h e.len
  all_goals trivial

theorem HookOK.mono {need : Nat → Nat} {n m : Nat} {h : Option Nat × Option Nat} (hh : HookOK need n h)
    (hnm : n ≤ m) : HookOK need m h :=
  ⟨fun k hk => Nat.le_trans (hh.1 k hk) hnm, fun k hk => Nat.le_trans (hh.2 k hk) hnm⟩

/-- The general preservation lemma: the world is extended with new wiring targets that exist, the
scripts are the same, and whatever trigger is new is admissible. -/
theorem DynN.ext {need : Nat → Nat} {w w' : World} (h : DynN need w) (e : ExtN w'.devs.length w w')
    (hs : w'.scripts = w.scripts)
    (hp : ∀ n, (trig w').pend n → (trig w).pend n ∨ ActSafe need w' (Action.ofNat n))
    (hr : ∀ k ∈ (trig w').rms, k ∈ (trig w).rms ∨ need k ≤ w'.devs.length)
    (hh : (trig w').hooks = (trig w).hooks) : DynN need w' := by
  refine ⟨?_, ?_, ⟨?_, ?_, ?_⟩⟩
  · intro k; rw [hs]; exact h.scripts k
  · exact (h.wired.mono e.len).ext e
  · intro n hn
    rcases hp n hn with h' | h'
    · exact (h.tok.ev n h').ext e
    · exact h'
  · intro k hk
    rcases hr k hk with h' | h'
    · exact Nat.le_trans (h.tok.rm k h') e.len
    · exact h'
  · intro x hx
    rw [hh] at hx
    exact (h.tok.tg x hx).mono e.len

theorem DynN.ext_same {need : Nat → Nat} {w w' : World} (h : DynN need w) (e : ExtN w'.devs.length w w')
    (hs : w'.scripts = w.scripts) (ht : trig w' = trig w) : DynN need w' :=
  h.ext e hs (fun n hn => Or.inl (by rw [← ht]; exact hn)) (fun k hk => Or.inl (by rw [← ht]; exact hk))
    (by rw [ht])

theorem DynN.of_tv {need : Nat → Nat} {w w' : World} (h : DynN need w) (e : tv w' = tv w)
    (hs : w'.scripts = w.scripts) (ht : trig w' = trig w) : DynN need w' :=
  h.ext_same (ExtN.of_tv e) hs ht

theorem DynN.of_st {need : Nat → Nat} {w w' : World} (h : DynN need w) (e : st w' = st w)
    (hs : w'.scripts = w.scripts) (ht : trig w' = trig w) : DynN need w' :=
  h.of_tv (tv_of_st e) hs ht

/-! ### the trigger view and the constructor calls -/

theorem tg_regPath (w : World) (d : Dev) (i : Nat) : trig (regPath w d i) = trig w := by
  unfold regPath; split <;> rfl

theorem tg_addDev (w : World) (d : Dev) : trig (w.addDev d) = trig w := by
  rw [addDev_eq]
  split
  · rw [tg_initAsset, tg_regPath, tg_floor.rewire]; rfl
  · rw [tg_regPath, tg_floor.rewire]; rfl

theorem tg_addAsset (w : World) (spec : AssetSpec) : trig (w.addAsset spec) = trig w := by
  cases spec with
  | dev d => exact tg_addDev w d
  | group gid devs ins outs =>
    rw [addAsset_group_eq]
    simp only []
    rw [tg_floor.rewire, tg_addDev, foldl_proj trig _ _ _ (fun _ _ => tg_floor.rewire ..), tg_addDev]
    rfl
  | maint cap v =>
    unfold World.addAsset; simp only []
    split
    · rw [tg_initAsset]; rfl
    · rfl
  | sched tt cyc =>
    unfold World.addAsset; simp only []
    split
    · rw [tg_initAsset]; rfl
    · rfl
  | sensor sw =>
    unfold World.addAsset; simp only []
    split
    · rw [tg_initAsset]; rfl
    · rfl
  | cms => rfl

theorem st_addAsset_nondev (w : World) (spec : AssetSpec) (h1 : ∀ d, spec ≠ .dev d)
    (h2 : ∀ a b c d, spec ≠ .group a b c d) : st (w.addAsset spec) = st w := by
  cases spec with
  | dev d => exact absurd rfl (h1 d)
  | group gid devs ins outs => exact absurd rfl (h2 _ _ _ _)
  | maint cap v =>
    unfold World.addAsset; simp only []
    split
    · rw [st_initAsset]; rfl
    · rfl
  | sched tt cyc =>
    unfold World.addAsset; simp only []
    split
    · rw [st_initAsset]; rfl
    · rfl
  | sensor sw =>
    unfold World.addAsset; simp only []
    split
    · rw [st_initAsset]; rfl
    · rfl
  | cms => rfl

/-- a constructor call extends the world; all new wiring targets exist afterwards -/
theorem extN_addAsset (w : World) (spec : AssetSpec) (n : Nat) (hn : n ≤ w.devs.length) (h : SpecOKAt n spec) :
    ExtN (w.addAsset spec).devs.length w (w.addAsset spec) ∧
      (w.addAsset spec).devs.length = w.devs.length + specCreated spec := by
  cases spec with
  | dev d =>
    have hl : (w.addAsset (.dev d)).devs.length = w.devs.length + 1 := len_addDev w d
    refine ⟨?_, hl⟩
    rw [hl]
    exact extN_addDev w d (by omega) (fun y hy => by have := h.2 y hy; omega)
  | group gid devs ins outs =>
    have hl := len_addAsset_group w gid devs ins outs
    refine ⟨?_, hl⟩
    rw [hl]
    exact extN_addAsset_group w gid devs ins outs (fun d hd => Nat.le_trans (h d hd) hn)
  | maint cap v =>
    have e := st_addAsset_nondev w (.maint cap v) (by intro _ h; cases h) (by intro _ _ _ _ h; cases h)
    exact ⟨ExtN.of_st e, len_of_st e⟩
  | sched tt cyc =>
    have e := st_addAsset_nondev w (.sched tt cyc) (by intro _ h; cases h) (by intro _ _ _ _ h; cases h)
    exact ⟨ExtN.of_st e, len_of_st e⟩
  | sensor sw =>
    have e := st_addAsset_nondev w (.sensor sw) (by intro _ h; cases h) (by intro _ _ _ _ h; cases h)
    exact ⟨ExtN.of_st e, len_of_st e⟩
  | cms =>
    have e : st (w.addAsset .cms) = st w := rfl
    exact ⟨ExtN.of_st e, len_of_st e⟩

/-! ### scripted operations -/

theorem tg_setParams (w : World) (tgt : Nat) (t : Target)
    (h : (t.startScript, t.endScript) =
      ((w.targets.getD tgt default).startScript, (w.targets.getD tgt default).endScript)) :
    trig { w with targets := w.targets.set tgt t } = trig w := by
  unfold trig
  simp only []
  rw [map_set_getD_self (fun t : Target => (t.startScript, t.endScript)) w.targets tgt default t h]

/-- operations that schedule no sensitive action and register no script -/
theorem tg_applyOp (w : World) (op : Op) (h1 : ∀ t a k p, op ≠ .sched t a k p)
    (h2 : ∀ t a k p, op ≠ .schedRel t a k p) (h3 : ∀ k r, op ≠ .register k r)
    (h4 : ∀ d t, op ≠ .schedFail d t) (h5 : ∀ d t, op ≠ .schedFailRel d t) :
    trig (w.applyOp op).1 = trig w := by
  cases op
  case sched t a k p => exact absurd rfl (h1 _ _ _ _)
  case schedRel t a k p => exact absurd rfl (h2 _ _ _ _)
  case register k r => exact absurd rfl (h3 _ _)
  case schedFail d t => exact absurd rfl (h4 _ _)
  case schedFailRel d t => exact absurd rfl (h5 _ _)
  case create s => exact tg_addAsset w s
  case rewire d ups => exact tg_floor.rewire w d ups
  case addRes r amt =>
    simp only [World.applyOp]
    rw [tg_rmEffects]
    exact tg_withRm w _ (rms_add ..)
  case reserve hh req =>
    simp only [World.applyOp]
    split
    · rfl
    · rw [tg_setVar, tg_rmEffects]
      exact tg_withRm w _ (rms_reserve ..)
  case release hh part =>
    simp only [World.applyOp]
    split
    · rfl
    · simp only []
      rw [tg_rmEffects]
      exact tg_withRm w _ (rms_release ..)
  case merge a b =>
    simp only [World.applyOp]
    split
    · rfl
    · split
      · rfl
      · exact tg_withRm w _ (rms_merge ..)
  case setParams tgt tag dur nd cost =>
    simp only [World.applyOp]
    exact tg_setParams w tgt _ rfl
  case workOrder m tgt tag info =>
    simp only [World.applyOp]
    rw [tg_startOrders]
    split <;> rfl
  all_goals (unfold World.applyOp; frame')

theorem kind_lt {w : World} {d : Nat} (h : (w.dev d).kind ≠ .handler) : d < w.devs.length := by
  by_cases hd : d < w.devs.length
  · exact hd
  · rw [dev_of_length_le (Nat.le_of_not_lt hd)] at h
    exact absurd rfl h

/-- Scheduling one more (admissible) sensitive action. -/
theorem DynN.sched {need : Nat → Nat} {w : World} (h : DynN need w) (t a : Int) (act : Action) (p : Int)
    (ha : ActSafe need w act) (hact : Action.ofNat act.toNat = act) : DynN need (w.sched t a act p).1 := by
  have e : ExtN (w.sched t a act p).1.devs.length w (w.sched t a act p).1 := ExtN.of_st (st_sched ..)
  refine h.ext e (scr_sched ..) ?_ ?_ ?_
  · intro n hn
    rcases acts_sched w t a act p n hn.1 with rfl | h'
    · right; rw [hact]; exact ha.ext e
    · exact Or.inl ⟨h', hn.2⟩
  · intro k hk
    left
    have : (trig (w.sched t a act p).1).rms = (trig w).rms := by
      show rmScripts _ = rmScripts _
      rw [rm_sched]
    rw [← this]; exact hk
  · show List.map _ _ = List.map _ _
    rw [targets_sched]

theorem dyn_applyOp {need : Nat → Nat} (w : World) (op : Op) (n : Nat) (h : DynN need w)
    (hn : n ≤ w.devs.length) (ho : OpOK need n op) :
    DynN need (w.applyOp op).1 ∧ w.devs.length + created op ≤ (w.applyOp op).1.devs.length := by
  have plain : ∀ op : Op, OpStatic w op → trig (w.applyOp op).1 = trig w → created op = 0 →
      DynN need (w.applyOp op).1 ∧ w.devs.length + created op ≤ (w.applyOp op).1.devs.length := by
    intro op hs ht hc
    have e := tv_applyOp_static w op hs
    refine ⟨h.of_tv e (scr_applyOp w op) ht, ?_⟩
    rw [hc, devs_len_of_tv e]; omega
  have viaSched : ∀ (t a : Int) (act : Action) (p : Int), ActSafe need w act → Action.ofNat act.toNat = act →
      DynN need (w.sched t a act p).1 ∧ w.devs.length + 0 ≤ (w.sched t a act p).1.devs.length := by
    intro t a act p ha hact
    exact ⟨h.sched t a act p ha hact, by rw [len_of_st (st_sched ..)]; omega⟩
  cases op
  case create s =>
    have := extN_addAsset w s n hn ho
    refine ⟨h.ext_same this.1 (scripts_addAsset w s) (tg_addAsset w s), ?_⟩
    show _ ≤ (w.addAsset s).devs.length
    rw [this.2]; exact Nat.le_refl _
  case rewire x ups =>
    have hl : (w.rewire x ups).devs.length = w.devs.length := len_rewire w x ups
    refine ⟨h.ext_same ?_ (scr_floor.rewire w x ups) (tg_floor.rewire w x ups), ?_⟩
    · show ExtN (w.rewire x ups).devs.length w (w.rewire x ups)
      rw [hl]
      exact extN_rewire w x ups (Nat.lt_of_lt_of_le ho hn)
    · show _ ≤ (w.rewire x ups).devs.length
      rw [hl]; exact Nat.le_refl _
  case sched t a k p =>
    exact viaSched t a (.script k) p (Nat.le_trans ho hn) (ofNat_script k)
  case schedRel t a k p =>
    exact viaSched _ a (.script k) p (Nat.le_trans ho hn) (ofNat_script k)
  case schedFail d t =>
    simp only [World.applyOp]
    split
    · exact ⟨h, Nat.le_refl _⟩
    · rename_i hk
      have hk' : (w.dev d).kind = .processor := by simpa using hk
      exact viaSched t _ (.fail d) _ ⟨kind_lt (by rw [hk']; decide), by rw [hk']; decide⟩ (ofNat_fail d)
  case schedFailRel d t =>
    simp only [World.applyOp]
    split
    · exact ⟨h, Nat.le_refl _⟩
    · rename_i hk
      have hk' : (w.dev d).kind = .processor := by simpa using hk
      exact viaSched _ _ (.fail d) _ ⟨kind_lt (by rw [hk']; decide), by rw [hk']; decide⟩ (ofNat_fail d)
  case register k req =>
    have hst : st (w.applyOp (.register k req)).1 = st w := by
      simp only [World.applyOp]; rw [st_rmEffects]; rfl
    have e : ExtN (w.applyOp (.register k req)).1.devs.length w (w.applyOp (.register k req)).1 :=
      ExtN.of_st hst
    have ht : trig (w.applyOp (.register k req)).1 =
        trig { w with rm := (w.rm.register req (.script k)).1 } := by
      simp only [World.applyOp]; rw [tg_rmEffects]
    refine ⟨h.ext e (scr_applyOp w _) ?_ ?_ ?_, by rw [len_of_st hst]; exact Nat.le_refl _⟩
    · intro m hm; rw [ht] at hm; exact Or.inl hm
    · intro j hj
      rw [ht] at hj
      have hj' : j ∈ rmScripts w.rm ++ [k] := by rw [← rms_register_script]; exact hj
      rcases List.mem_append.1 hj' with h' | h'
      · exact Or.inl h'
      · right
        have : j = k := by simpa using h'
        subst this
        exact Nat.le_trans (Nat.le_trans ho hn) e.len
    · rw [ht]; rfl
  all_goals
    apply plain
    · trivial
    · apply tg_applyOp <;> (intros; intro hcontra; cases hcontra)
    · rfl

theorem dyn_applyOps {need : Nat → Nat} (ops : List Op) : ∀ (w : World) (n : Nat), DynN need w →
    n ≤ w.devs.length → OpsOK need n ops →
    DynN need (w.applyOps ops) ∧ w.devs.length ≤ (w.applyOps ops).devs.length := by
  induction ops with
  | nil => intro w n h _ _; exact ⟨h, Nat.le_refl _⟩
  | cons op ops ih =>
    intro w n h hn hok
    unfold World.applyOps
    simp only [List.foldl_cons]
    have h1 := dyn_applyOp w op n h hn hok.1
    have h2 : DynN need ((w.applyOp op).1.addRes (w.applyOp op).2) := h1.1.of_st rfl rfl rfl
    have := ih ((w.applyOp op).1.addRes (w.applyOp op).2) (n + created op) h2
      (by show _ ≤ (w.applyOp op).1.devs.length; omega) hok.2
    unfold World.applyOps at this
    refine ⟨this.1, Nat.le_trans ?_ this.2⟩
    show _ ≤ (w.applyOp op).1.devs.length
    omega

theorem dyn_runScript {need : Nat → Nat} (w : World) (k : Nat) (h : DynN need w)
    (hk : need k ≤ w.devs.length) :
    DynN need (w.runScript k) ∧ w.devs.length ≤ (w.runScript k).devs.length :=
  dyn_applyOps _ w (need k) h hk (h.scripts k)

/-! ### the resource check, the maintainer events -/

/-- removing an entry from the waiting list -/
theorem DynN.erase {need : Nat → Nat} {w : World} (h : DynN need w) (i : Nat) :
    DynN need (scanOps.erase w i) := by
  have e : ExtN (scanOps.erase w i).devs.length w (scanOps.erase w i) := ExtN.of_st rfl
  refine h.ext e rfl (fun n hn => Or.inl hn) ?_ rfl
  intro k hk
  left
  have hsub : (w.rm.waiting.eraseIdx i).Sublist w.rm.waiting := List.eraseIdx_sublist _ _
  exact (hsub.filterMap _).subset hk

theorem dyn_scan {need : Nat → Nat} (n : Nat) : ∀ (w : World) (i : Nat), DynN need w →
    DynN need (scanWaiting scanOps n w i) := by
  induction n with
  | zero => intro w i h; exact h
  | succ n ih =>
    intro w i h
    unfold scanWaiting
    split
    · exact h
    · split
      · rename_i req cb hget _
        apply ih
        apply DynN.erase
        cases cb with
        | script k =>
          have hmem : (req, Cb.script k) ∈ w.rm.waiting := List.mem_of_getElem? hget
          have hk : need k ≤ w.devs.length := by
            apply h.tok.rm k
            show k ∈ rmScripts w.rm
            unfold rmScripts
            rw [List.mem_filterMap]
            exact ⟨_, hmem, rfl⟩
          have h0 : DynN need (w.addRes (.cb k)) := h.of_st rfl rfl rfl
          exact (dyn_runScript (w.addRes (.cb k)) k h0 hk).1
        | proc d =>
          exact h.of_st (st_procResourceCb w d) (scr_floor.procResourceCb w d) (tg_floor.procResourceCb w d)
      · exact ih _ _ h

theorem dyn_rmCheck {need : Nat → Nat} (w : World) (h : DynN need w) : DynN need w.rmCheck :=
  dyn_scan _ _ _ h

theorem hook_mem (w : World) (tgt : Nat) :
    ((w.targets.getD tgt default).startScript, (w.targets.getD tgt default).endScript) ∈ (trig w).hooks ∨
    ((w.targets.getD tgt default).startScript = none ∧ (w.targets.getD tgt default).endScript = none) := by
  by_cases ht : tgt < w.targets.length
  · left
    show _ ∈ List.map _ _
    rw [List.mem_map]
    refine ⟨w.targets[tgt], List.getElem_mem ht, ?_⟩
    simp [List.getD_eq_getElem?_getD, ht]
  · right
    have : w.targets.getD tgt default = default := by
      simp [List.getD_eq_getElem?_getD, Nat.le_of_not_lt ht]
    rw [this]; exact ⟨rfl, rfl⟩

theorem dyn_hookStart {need : Nat → Nat} (w : World) (tgt : Nat) (tag : Int) (h : DynN need w) :
    DynN need (w.hookStart tgt tag) := by
  have h0 : DynN need (w.addRes (.hook true tgt tag)) := h.of_st rfl rfl rfl
  unfold World.hookStart
  simp only []
  split
  · exact h0.of_st (st_shutdownDev ..) (scr_floor.shutdownDev ..) (tg_floor.shutdownDev ..)
  · split
    · rename_i k hk
      refine (dyn_runScript _ k h0 ?_).1
      rcases hook_mem w tgt with hm | hm
      · exact (h.tok.tg _ hm).1 k hk
      · rw [hm.1] at hk; cases hk
    · exact h0

theorem dyn_hookEnd {need : Nat → Nat} (w : World) (tgt : Nat) (tag : Int) (h : DynN need w) :
    DynN need (w.hookEnd tgt tag) := by
  have h0 : DynN need (w.addRes (.hook false tgt tag)) := h.of_st rfl rfl rfl
  unfold World.hookEnd
  simp only []
  split
  · exact h0.of_st (st_restoreDev ..) (scr_floor.restoreDev ..) (tg_floor.restoreDev ..)
  · split
    · rename_i k hk
      refine (dyn_runScript _ k h0 ?_).1
      rcases hook_mem w tgt with hm | hm
      · exact (h.tok.tg _ hm).2 k hk
      · rw [hm.2] at hk; cases hk
    · exact h0

theorem dyn_startWork {need : Nat → Nat} (w : World) (m seq : Nat) (h : DynN need w) :
    DynN need (w.startWork m seq) := by
  have key : ∀ w' : World, DynN need w' → ∀ t g a b d,
      DynN need ((w'.hookStart t g).schedLib a b (.finishWork m seq) d) := fun w' r t g a b d =>
    (dyn_hookStart w' t g r).of_st (st_schedLib ..) (scr_schedLib ..)
      (tg_schedLib _ _ _ _ _ (not_sens _ (by intro d h; cases h) (by intro d h; cases h)))
  unfold World.startWork
  split
  · exact h.of_st (st_setErr ..) (scr_setErr ..) (tg_setErr ..)
  · simp only []
    refine key _ ?_ _ _ _ _ _
    exact h.of_st rfl rfl rfl

theorem dyn_finishWork {need : Nat → Nat} (w : World) (m seq : Nat) (h : DynN need w) :
    DynN need (w.finishWork m seq) := by
  have key : ∀ w' : World, DynN need w' → ∀ w'' : World, st w'' = st w' → w''.scripts = w'.scripts →
      trig w'' = trig w' → ∀ m l, DynN need (w''.startOrders m l) := fun w' r w'' e1 e2 e3 m l =>
    (r.of_st e1 e2 e3).of_st (st_startOrders ..) (scr_startOrders ..) (tg_startOrders ..)
  unfold World.finishWork
  split
  · exact h.of_st (st_setErr ..) (scr_setErr ..) (tg_setErr ..)
  · simp only []
    rename_i o _
    refine key _ (dyn_hookEnd w o.target o.tag h) _ ?_ ?_ ?_ _ _ <;> rfl

/-! ### event actions -/

theorem dyn_exec {need : Nat → Nat} (w : World) (a : Action) (h : DynN need w) (ha : ActSafe need w a) :
    DynN need (w.exec a) := by
  cases a with
  | terminate => exact h
  | script k => exact (dyn_runScript w k h ha).1
  | finishCycle d => exact h.of_st (st_finishCycle w d) (scr_floor.finishCycle w d) (tg_floor.finishCycle w d)
  | passPart d => exact h.of_tv (tv_floor.passPart w d) (scr_floor.passPart w d) (tg_floor.passPart w d)
  | fail d => exact h.of_st (st_failDev w d) (scr_floor.failDev w d) (tg_floor.failDev w d)
  | releaseIfIdle d => exact h.of_st (st_releaseIfIdle w d) (scr_floor.releaseIfIdle w d) (tg_floor.releaseIfIdle w d)
  | rmCheck => exact dyn_rmCheck w h
  | startWork m o => exact dyn_startWork w m o h
  | finishWork m o => exact dyn_finishWork w m o h
  | schedUpdate s => exact h.of_st (st_schedUpdate w s true) (scr_schedUpdate w s true) (tg_schedUpdate w s true)
  | periodicSense s => exact h.of_st (st_periodicSense w s) (scr_periodicSense w s) (tg_periodicSense w s)
  | unknown n => exact h.of_st (st_setErr ..) (scr_setErr ..) (tg_setErr ..)

/-- In a `DynN` world every safe action is admissible for conservation. -/
theorem actOK_of_dyn {need : Nat → Nat} {w : World} (h : DynN need w) {a : Action} (ha : ActSafe need w a) :
    ActOK w a := by
  cases a with
  | fail d => exact ha.2
  | passPart x => exact topoOK_of_wired h.wired x
  | _ => trivial

theorem opOK'_of_opsOK {need : Nat → Nat} : ∀ (ops : List Op) (n : Nat), OpsOK need n ops →
    ∀ op ∈ ops, OpOK' op := by
  intro ops
  induction ops with
  | nil => intro _ _ op hop; cases hop
  | cons o ops ih =>
    intro n hn op hop
    rcases List.mem_cons.1 hop with rfl | hop'
    · have hm := hn.1
      cases op
      case create s =>
        cases s with
        | dev d => exact hm.1
        | _ => trivial
      all_goals trivial
    · exact ih _ hn.2 op hop'

theorem scriptsOK_of_dyn {need : Nat → Nat} {w : World} (h : ScriptsDyn need w) : ScriptsOK' w := by
  intro l hl op hop
  obtain ⟨k, hk, rfl⟩ := List.getElem_of_mem hl
  have hs := h k
  have : w.scripts.getD k [] = w.scripts[k] := by simp [List.getD_eq_getElem?_getD, hk]
  rw [this] at hs
  exact opOK'_of_opsOK _ _ hs op hop

/-! ### `step`, `runLoop`, `simulateInit`, `runBegin` -/

/-- the event at the head of the queue is safe to execute -/
theorem safe_head {need : Nat → Nat} {w : World} (h : DynN need w) {e : Event} {env' : Env}
    (hst : w.env.step = some (e, env')) : ActSafe need w (Action.ofNat e.act) := by
  have hmem : e.act ∈ acts w.env := by
    rw [mem_acts]
    refine ⟨e, Or.inl ?_, rfl⟩
    unfold Env.step at hst
    split at hst
    · cases hst
    · rename_i e' es he
      simp only [Option.some.injEq, Prod.mk.injEq] at hst
      rw [he, ← hst.1]; exact List.mem_cons_self ..
  by_cases hs : Sens e.act
  · exact h.tok.ev _ ⟨hmem, hs⟩
  · cases ha : Action.ofNat e.act with
    | fail d => exact absurd (Or.inl ⟨d, ha⟩) hs
    | script k => exact absurd (Or.inr ⟨k, ha⟩) hs
    | _ => trivial

theorem dyn_pop {need : Nat → Nat} {w : World} (h : DynN need w) {e : Event} {env' : Env}
    (hst : w.env.step = some (e, env')) : DynN need { w with env := env' } := by
  have e0 : ExtN ({ w with env := env' } : World).devs.length w { w with env := env' } := ExtN.of_st rfl
  refine h.ext e0 rfl ?_ (fun k hk => Or.inl hk) rfl
  intro n hn
  left
  refine ⟨?_, hn.2⟩
  have hn1 : n ∈ acts env' := hn.1
  unfold Env.step at hst
  split at hst
  · cases hst
  · rename_i e' es he
    simp only [Option.some.injEq, Prod.mk.injEq] at hst
    rw [mem_acts] at hn1 ⊢
    obtain ⟨x, hx, rfl⟩ := hn1
    rw [← hst.2] at hx
    refine ⟨x, ?_, rfl⟩
    rw [he]
    rcases hx with hx | hx
    · exact Or.inl (List.mem_cons_of_mem _ hx)
    · exact Or.inr hx

theorem ActSafe.env {need : Nat → Nat} {w : World} {a : Action} (env' : Env) (h : ActSafe need w a) :
    ActSafe need { w with env := env' } a := by
  cases a <;> exact h

/-- **One step** keeps the conservation invariant and the class. -/
theorem dyn_step {need : Nat → Nat} (w w' : World) (e : Event) (hI : InvW w) (h : DynN need w)
    (hst : w.step = some (e, w')) : InvW w' ∧ DynN need w' := by
  have hg : Good Inv w := ⟨hI, scriptsOK_of_dyn h.scripts⟩
  unfold World.step at hst
  split at hst
  · cases hst
  · rename_i e' env' henv
    simp only [Option.some.injEq, Prod.mk.injEq] at hst
    obtain ⟨rfl, rfl⟩ := hst
    have h1 : DynN need ({ w with env := env' } : World) := dyn_pop h henv
    have hs : ActSafe need ({ w with env := env' } : World) (Action.ofNat e'.act) := (safe_head h henv).env env'
    have hg1 : Good Inv ({ w with env := env' } : World) := hg.of_frame rfl rfl
    split
    · exact ⟨(good_exec _ _ hg1 (actOK_of_dyn h1 hs)).1, dyn_exec _ _ h1 hs⟩
    · exact ⟨hg1.1, h1⟩

/-- the class alone (no invariant needed) -/
theorem dynN_step {need : Nat → Nat} (w w' : World) (e : Event) (h : DynN need w)
    (hst : w.step = some (e, w')) : DynN need w' := by
  unfold World.step at hst
  split at hst
  · cases hst
  · rename_i e' env' henv
    simp only [Option.some.injEq, Prod.mk.injEq] at hst
    obtain ⟨rfl, rfl⟩ := hst
    have h1 : DynN need ({ w with env := env' } : World) := dyn_pop h henv
    split
    · exact dyn_exec _ _ h1 ((safe_head h henv).env env')
    · exact h1

theorem dynN_runLoop {need : Nat → Nat} (n : Nat) : ∀ (w : World), DynN need w → DynN need (runLoop n w) := by
  induction n with
  | zero => intro w h; exact h.of_st (st_setErr ..) (scr_setErr ..) (tg_setErr ..)
  | succ n ih =>
    intro w h
    unfold runLoop
    split
    · split
      · exact h
      · rename_i e w' hst
        exact ih w' (dynN_step w w' e h hst)
    · exact h

theorem dyn_runLoop {need : Nat → Nat} (n : Nat) : ∀ (w : World), InvW w → DynN need w →
    InvW (runLoop n w) ∧ DynN need (runLoop n w) := by
  induction n with
  | zero =>
    intro w hI h
    exact ⟨hI.of_sv (sv_setErr ..), h.of_st (st_setErr ..) (scr_setErr ..) (tg_setErr ..)⟩
  | succ n ih =>
    intro w hI h
    unfold runLoop
    split
    · split
      · exact ⟨hI, h⟩
      · rename_i e w' hst
        have := dyn_step w w' e hI h hst
        exact ih w' this.1 this.2
    · exact ⟨hI, h⟩

theorem tg_simulateInit (w : World) : trig w.simulateInit = trig w := by
  unfold World.simulateInit
  split
  · rfl
  · simp only []
    show trig (List.foldl _ _ _) = _
    rw [foldl_proj trig _ _ _ (fun _ _ => tg_initAsset ..), tg_rmEffects]
    exact tg_withRm w _ (rms_init _)

theorem dyn_simulateInit {need : Nat → Nat} (w : World) (h : DynN need w) : DynN need w.simulateInit := by
  have := sr_simulateInit (fun _ => True) w
  exact h.of_tv this.1 this.2.1 (tg_simulateInit w)

theorem dyn_runBegin {need : Nat → Nat} (w : World) (d : Int) (h : DynN need w) :
    DynN need (w.runBegin d).1 := by
  unfold World.runBegin
  simp only []
  split
  · exact h
  · rename_i e he
    have e0 : ExtN ({ w with env := e } : World).devs.length w { w with env := e } := ExtN.of_st rfl
    refine h.ext e0 rfl ?_ (fun k hk => Or.inl hk) rfl
    intro n hn
    left
    refine ⟨?_, hn.2⟩
    have hn1 : n ∈ acts e := hn.1
    unfold Env.runBegin at he
    rcases (acts_schedule he n).1 hn1 with rfl | h'
    · exfalso
      rcases hn.2 with ⟨d, hd⟩ | ⟨k, hk⟩
      · simp [terminateAct, Action.ofNat] at hd
      · simp [terminateAct, Action.ofNat] at hk
    · exact h'

theorem sv_runBegin (w : World) (d : Int) : sv (w.runBegin d).1 = sv w := by
  unfold World.runBegin
  simp only []
  split <;> rfl

/-- Operations issued from outside between steps. -/
theorem dyn_ops {need : Nat → Nat} (w : World) (ops : List Op) (hI : InvW w) (h : DynN need w)
    (ho : OpsOK need w.devs.length ops) : InvW (w.applyOps ops) ∧ DynN need (w.applyOps ops) :=
  ⟨(good_applyOps closed_inv ops w ⟨hI, scriptsOK_of_dyn h.scripts⟩ (opOK'_of_opsOK ops _ ho)).1,
   (dyn_applyOps ops w _ h (Nat.le_refl _) ho).1⟩

theorem inv_simulateInit (w : World) (hI : InvW w) : InvW w.simulateInit :=
  pres_simulateInit closed_inv w hI

theorem inv_runBegin (w : World) (d : Int) (hI : InvW w) : InvW (w.runBegin d).1 :=
  hI.of_sv (sv_runBegin w d)

end C02W
end SimProc
