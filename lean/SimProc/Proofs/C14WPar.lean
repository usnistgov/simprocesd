/-
C14W, pass 2 — every relation between event queues that is preserved by the library operations is
preserved by every world function (relational parametricity in the queue).

`Cong Q s1 m1 s2 m2`: `Q` is closed under `.sched` (with the weights of key `(s1, m1)` on the left
and of key `(s2, m2)` on the right), `.pause`, `.unpause`, `.cancel` — library operations only
(`LibOp`).  `PP w t`: the world `w` and its twin `sw w t` have related queues (and `w` satisfies the
closed-world invariant `C01W.Good`).  For every function `f` of the model:
`PP w t → PP (f w) (NX f w t)`.
-/
import SimProc.Proofs.C14WBlindW
import SimProc.Proofs.C01WRun

namespace SimProc
namespace C14W
open World C01W
open Lean Elab Tactic Meta

/-- A relation between event queues that the library operations preserve. -/
structure Cong (Q : Env → Env → Prop) (s1 m1 s2 m2 : Nat) : Prop where
  sched : ∀ {x y : Env} (τ a : Int) (act : Nat) (p : Int), Q x y → act ≠ terminateAct →
    prioTerminate < p →
    Q (x.apply Arith.exact (.sched τ a act p (weightOf s1 m1 τ a act p))).1
      (y.apply Arith.exact (.sched τ a act p (weightOf s2 m2 τ a act p))).1
  pause : ∀ {x y : Env} (a : Int), Q x y → a ≠ -1 → Q (x.pause a) (y.pause a)
  unpause : ∀ {x y : Env} (a : Int), Q x y → a ≠ -1 →
    Q (x.unpause Arith.exact a) (y.unpause Arith.exact a)
  cancel : ∀ {x y : Env} (a : Int), Q x y → a ≠ -1 → Q (x.cancel a) (y.cancel a)

/-- The world `w` (with weight key `(s1, m1)`, satisfying the closed-world invariant) and its twin
`sw w t` (weight key `(s2, m2)`) have `Q`-related queues. -/
structure PP (Q : Env → Env → Prop) (s1 m1 s2 m2 : Nat) (w : World) (t : Twin) : Prop where
  good : Good w
  seed : w.seed = s1
  wmod : w.wmod = m1
  tseed : t.seed = s2
  twmod : t.wmod = m2
  q : Q w.env (se w t.env)

/-- `W'` is a twin of `X` with related queues. -/
def PPn (Q : Env → Env → Prop) (s1 m1 s2 m2 : Nat) (X W' : World) : Prop :=
  ∃ T, W' = sw X T ∧ PP Q s1 m1 s2 m2 X T

section
variable {Q : Env → Env → Prop} {s1 m1 s2 m2 : Nat}

local notation "PP'" => PP Q s1 m1 s2 m2
local notation "PPn'" => PPn Q s1 m1 s2 m2

theorem PPn.mk {X : World} {T : Twin} (h : PP' X T) : PPn' X (sw X T) := ⟨T, rfl, h⟩

theorem se_idem (w : World) (e : Env) : se w (se w e) = se w e := rfl

theorem PP.nx {G : World → World} {w : World} {t : Twin} (h : PP' w t)
    (hn : PPn' (G w) (G (sw w t))) : PP' (G w) (NX G w t) := by
  obtain ⟨T, hT, pp⟩ := hn
  refine ⟨pp.good, pp.seed, pp.wmod, h.tseed, h.twmod, ?_⟩
  show Q (G w).env (se (G w) (G (sw w t)).env)
  rw [hT]
  exact pp.q

/-- The same for the first component of a pair-valued function. -/
theorem PP.nx2 {α : Type} {G : World → World × α} {w : World} {t : Twin} (h : PP' w t)
    (hn : PPn' (G w).1 (G (sw w t)).1) : PP' (G w).1 (NX (fun v => (G v).1) w t) :=
  PP.nx (G := fun v => (G v).1) h hn

theorem PP.of_EK {w w' : World} {t : Twin} (h : EK w' = EK w) (hs : w'.seed = w.seed)
    (hm : w'.wmod = w.wmod) (pp : PP' w t) : PP' w' t := by
  refine ⟨pp.good.of_EK h, hs.trans pp.seed, hm.trans pp.wmod, pp.tseed, pp.twmod, ?_⟩
  have he : w'.env = w.env := EK_env h
  have : se w' t.env = se w t.env := by simp only [se, he]
  rw [he, this]
  exact pp.q

theorem PP.of_fst_eq {α : Type} {q : World × α} {w' : World} {b : α} {T : Twin}
    (h : PP' q.1 T) (e : q = (w', b)) : PP' w' T := by
  subst e; exact h

/-- On a goal `PP X (NX G w t)`: reduce to `PPn (G w) (G (sw w t))` (beta-reduced), given
`h : PP w t`. -/
elab "pp_nx " h:term : tactic => do
  let g ← getMainGoal
  g.withContext do
    let t := (← instantiateMVars (← g.getType)).consumeMData
    unless t.isAppOfArity ``PP 7 do throwError "pp_nx: not a `PP` goal{indentExpr t}"
    let nx := t.appArg!.consumeMData
    unless nx.isAppOfArity ``NX 3 do throwError "pp_nx: the twin is not of the form `NX G w t`"
    let G := nx.getArg! 0
    let w := nx.getArg! 1
    let tw := nx.getArg! 2
    let args := t.getAppArgs
    let hE ← Tactic.elabTerm h none
    -- PPn Q s1 m1 s2 m2 (G w) (G (sw w t))
    let newTy := mkAppN (mkConst ``PPn) #[args[0]!, args[1]!, args[2]!, args[3]!, args[4]!,
      (mkApp G w).headBeta, (mkApp G (mkApp2 (mkConst ``sw) w tw)).headBeta]
    let newGoal ← mkFreshExprSyntheticOpaqueMVar newTy
    let pf ← mkAppOptM ``PP.nx #[args[0]!, args[1]!, args[2]!, args[3]!, args[4]!, G, w, tw, hE, newGoal]
    g.assign pf
    replaceMainGoal [newGoal.mvarId!]

/-! ### primitives -/

theorem sched_seed (w : World) (τ a : Int) (act : Action) (p : Int) :
    (w.sched τ a act p).1.seed = w.seed ∧ (w.sched τ a act p).1.wmod = w.wmod := by
  unfold World.sched
  simp only [Env.apply]
  cases w.env.schedule τ a act.toNat p (weightOf w.seed w.wmod τ a act.toNat p) <;> exact ⟨rfl, rfl⟩

theorem pp_sched (hQ : Cong Q s1 m1 s2 m2) {w : World} {t : Twin} (h : PP' w t) (τ a : Int)
    (act : Action) (p : Int) (ha : act ≠ .terminate) (hp : prioTerminate < p) :
    PP' (w.sched τ a act p).1 (NX (fun v => (v.sched τ a act p).1) w t) := by
  refine ⟨(Via_sched w τ a act p ha hp h.good).1, (sched_seed w τ a act p).1.trans h.seed,
    (sched_seed w τ a act p).2.trans h.wmod, h.tseed, h.twmod, ?_⟩
  show Q (w.sched τ a act p).1.env (se (w.sched τ a act p).1 ((sw w t).sched τ a act p).1.env)
  have hnow : (w.sched τ a act p).1.env.now = w.env.now := by
    rw [sched_env]
    exact C01.now_apply_ne_step _ _ _ (by intro h; cases h)
  have hse : se (w.sched τ a act p).1 ((sw w t).sched τ a act p).1.env =
      ((sw w t).sched τ a act p).1.env := by
    have : ((sw w t).sched τ a act p).1.env.now = w.env.now := by
      rw [sched_env]
      exact C01.now_apply_ne_step _ _ _ (by intro h; cases h)
    simp only [se, hnow, ← this]
  rw [hse, sched_env, sched_env, h.seed, h.wmod]
  show Q _ (((se w t.env).apply Arith.exact
    (.sched τ a act.toNat p (weightOf t.seed t.wmod τ a act.toNat p))).1)
  rw [h.tseed, h.twmod]
  exact hQ.sched τ a act.toNat p h.q (toNat_ne_terminate ha) hp

theorem pp_schedLib (hQ : Cong Q s1 m1 s2 m2) {w : World} {t : Twin} (h : PP' w t) (τ a : Int)
    (act : Action) (p : Int) (ha : act ≠ .terminate) (hp : prioTerminate < p) :
    PP' (w.schedLib τ a act p) (NX (fun v => v.schedLib τ a act p) w t) := by
  have h1 := pp_sched hQ h τ a act p ha hp
  pp_nx h
  simp only [schedLib, sw_sched]
  generalize hq : w.sched τ a act p = q at h1
  obtain ⟨w1, r⟩ := q
  cases r <;> first
    | exact PPn.mk h1
    | (simp only [sw_setErr]; exact PPn.mk (PP.of_EK (EK_setErr _ _) (by unfold setErr; split <;> rfl)
        (by unfold setErr; split <;> rfl) h1))

theorem pp_envOp_pause (hQ : Cong Q s1 m1 s2 m2) {w : World} {t : Twin} (h : PP' w t) (a : Int)
    (ha : a ≠ -1) : PP' (w.envOp (.pause a)) (NX (fun v => v.envOp (.pause a)) w t) :=
  ⟨⟨h.good.aid, h.good.scr⟩, h.seed, h.wmod, h.tseed, h.twmod, hQ.pause a h.q ha⟩

theorem pp_envOp_unpause (hQ : Cong Q s1 m1 s2 m2) {w : World} {t : Twin} (h : PP' w t) (a : Int)
    (ha : a ≠ -1) : PP' (w.envOp (.unpause a)) (NX (fun v => v.envOp (.unpause a)) w t) :=
  ⟨⟨h.good.aid, h.good.scr⟩, h.seed, h.wmod, h.tseed, h.twmod, hQ.unpause a h.q ha⟩

theorem pp_envOp_cancel (hQ : Cong Q s1 m1 s2 m2) {w : World} {t : Twin} (h : PP' w t) (a : Int)
    (ha : a ≠ -1) : PP' (w.envOp (.cancel a)) (NX (fun v => v.envOp (.cancel a)) w t) :=
  ⟨⟨h.good.aid, h.good.scr⟩, h.seed, h.wmod, h.tseed, h.twmod, hQ.cancel a h.q ha⟩

/-- Folds. -/
theorem pp_foldl {α : Type} (g : World → α → World)
    (hb : ∀ w t a, key (g (sw w t) a) = (unq (g w a), t.seed, t.wmod))
    (hp : ∀ w t a, PP' w t → PP' (g w a) (NX (fun v => g v a) w t)) (l : List α) {w : World}
    {t : Twin} (h : PP' w t) : PP' (l.foldl g w) (NX (fun v => l.foldl g v) w t) := by
  induction l generalizing w t with
  | nil => exact PP.nx (G := fun v => v) h (PPn.mk h)
  | cons a l ih =>
    have h1 := ih (hp w t a h)
    refine PP.nx (G := fun v => List.foldl g v (a :: l)) h ?_
    simp only [List.foldl_cons]
    rw [Blind.eq (G := fun v => g v a) (fun w t => hb w t a), sw_foldl g hb]
    exact PPn.mk h1

theorem pp_foldl_same {α : Type} (g : World → α → World)
    (hp : ∀ w t a, PP' w t → PP' (g w a) t) (l : List α) {w : World}
    {t : Twin} (h : PP' w t) : PP' (l.foldl g w) t := by
  induction l generalizing w with
  | nil => exact h
  | cons a l ih => exact ih (hp w t a h)

/-- Structure updates `{ w with f := v, … }` that leave `env`, `seed`, `wmod`, `devs` and `scripts`
alone. -/
elab "pp_struct" : tactic => do
  let g ← getMainGoal
  g.withContext do
    let t := (← instantiateMVars (← g.getType)).consumeMData
    unless t.isAppOfArity ``PP 7 do throwError "pp_struct: not a PP goal"
    let args := t.getAppArgs
    let b := args[5]!.consumeMData
    unless b.isAppOfArity ``World.mk 23 do throwError "pp_struct: not a structure instance"
    let r := b.getArg! 0
    let w0 ← match r with
      | .proj _ _ w0 => pure w0
      | _ =>
        if r.isAppOfArity ``World.env 1 then pure (r.getArg! 0)
        else throwError "pp_struct: the environment is changed"
    let newTy := mkAppN (mkConst ``PP) #[args[0]!, args[1]!, args[2]!, args[3]!, args[4]!, w0, args[6]!]
    let newGoal ← mkFreshExprSyntheticOpaqueMVar newTy
    let eq ← mkEq (← mkAppM ``EK #[b]) (← mkAppM ``EK #[w0])
    let pf ← mkFreshExprMVar eq
    pf.mvarId!.refl
    let eq2 ← mkEq (← mkAppM ``World.seed #[b]) (← mkAppM ``World.seed #[w0])
    let pf2 ← mkFreshExprMVar eq2
    pf2.mvarId!.refl
    let eq3 ← mkEq (← mkAppM ``World.wmod #[b]) (← mkAppM ``World.wmod #[w0])
    let pf3 ← mkFreshExprMVar eq3
    pf3.mvarId!.refl
    let prf ← mkAppOptM ``PP.of_EK #[args[0]!, args[1]!, args[2]!, args[3]!, args[4]!, w0, b,
      args[6]!, pf, pf2, pf3, newGoal]
    g.assign prf
    replaceMainGoal [newGoal.mvarId!]

theorem setErr_seed (w : World) (m : String) :
    (w.setErr m).seed = w.seed ∧ (w.setErr m).wmod = w.wmod := by
  unfold setErr; split <;> exact ⟨rfl, rfl⟩

theorem pp_setErr {w : World} {t : Twin} (h : PP' w t) (m : String) : PP' (w.setErr m) t :=
  PP.of_EK (EK_setErr _ _) (setErr_seed w m).1 (setErr_seed w m).2 h

theorem pp_setDev {w : World} {t : Twin} (h : PP' w t) (x : Nat) (d : Dev)
    (ha : d.aid = (w.dev x).aid) : PP' (w.setDev x d) t :=
  PP.of_EK (EK_setDev w x d ha) rfl rfl h

theorem pp_modDev {w : World} {t : Twin} (h : PP' w t) (x : Nat) (f : Dev → Dev)
    (ha : (f (w.dev x)).aid = (w.dev x).aid) : PP' (w.modDev x f) t :=
  PP.of_EK (EK_modDev w x f ha) rfl rfl h

end

/-! ### the peeling tactic -/

/-- One step: close the goal, or peel the outermost function application. -/
syntax "pp_step" : tactic

/-- Side goals of the peeling steps. -/
macro "pp_side" : tactic =>
  `(tactic| first
    | exact rfl
    | assumption
    | decide
    | (intro h; cases h))

/-- Apply an induction hypothesis (a universally quantified local hypothesis concluding `PP …`). -/
elab "pp_hyp" : tactic => do
  let g ← getMainGoal
  g.withContext do
    let lctx ← getLCtx
    for d in lctx do
      if d.isImplementationDetail then continue
      let ty ← instantiateMVars d.type
      unless ty.isForall do continue
      let concl := ty.getForallBody.consumeMData
      unless concl.isAppOf ``PP do continue
      let saved ← saveState
      try
        let gs ← withReducible <| g.apply d.toExpr
        replaceMainGoal gs
        return
      catch _ => restoreState saved
    throwError "pp_hyp: no applicable hypothesis"

/-- The updates of the world that leave the queue alone.  They make up most steps and are cheap to
rule out, so they are tried before the lemmas about model functions (`pp_step`). -/
macro "pp_prim" : tactic => `(tactic| first
  | pp_struct
  | ((with_reducible apply pp_modDev (ha := ?hp)); case hp => exact rfl)
  | ((with_reducible apply pp_setDev (ha := ?hp)); case hp => exact rfl)
  | with_reducible apply pp_setErr
  | with_reducible apply PP.of_EK (EK_addRec _ _) rfl rfl
  | with_reducible apply PP.of_EK (EK_addRes _ _) rfl rfl
  | with_reducible apply PP.of_EK (EK_modPart _ _ _) rfl rfl)

/-- Peel until nothing is left.  The hypothesis is looked for up to reducible unfolding only: at
default transparency a failing `assumption` unfolds the model function at the head of the goal. -/
macro "pp_peel" : tactic =>
  `(tactic| repeat' (first | with_reducible assumption | pp_prim | pp_step))

/-- After normalisation and splitting: the leaves. -/
macro "pp_leaf" : tactic => `(tactic| (apply PPn.mk; pp_peel))

/-- The whole proof of `PP w t → PP (f w) (NX f w t)`. -/
syntax "pp_go " ident " [" Lean.Parser.Tactic.simpLemma,* "]" : tactic
macro_rules
  | `(tactic| pp_go $h:ident [$args,*]) =>
    `(tactic| (pp_nx $h:ident; bl_go [$args,*] <;> pp_leaf))

macro_rules | `(tactic| pp_step) => `(tactic| pp_hyp)
macro_rules | `(tactic| pp_step) => `(tactic| with_reducible apply PP.of_EK (EK_newPart _ _) rfl rfl)
macro_rules | `(tactic| pp_step) => `(tactic|
  ((with_reducible apply pp_schedLib ‹Cong _ _ _ _ _› (ha := ?ha) (hp := ?hp));
   case ha => pp_side
   case hp => pp_side))
macro_rules | `(tactic| pp_step) => `(tactic|
  ((with_reducible apply pp_envOp_pause ‹Cong _ _ _ _ _› (ha := ?ha)); case ha => pp_side))
macro_rules | `(tactic| pp_step) => `(tactic|
  ((with_reducible apply pp_envOp_unpause ‹Cong _ _ _ _ _› (ha := ?ha)); case ha => pp_side))
macro_rules | `(tactic| pp_step) => `(tactic|
  ((with_reducible apply pp_envOp_cancel ‹Cong _ _ _ _ _› (ha := ?ha)); case ha => pp_side))
/-- folds: the step function is blind (`hb`, by normalisation) and preserves the relation (`hp`:
peel, or start over for a step function given by a λ-term). -/
macro_rules | `(tactic| pp_step) => `(tactic|
  ((with_reducible apply pp_foldl_same (hp := ?hp));
   case hp => (intro _ _ _ hfold; (try dsimp only); pp_peel; done)))
macro_rules | `(tactic| pp_step) => `(tactic|
  ((with_reducible apply pp_foldl (hb := ?hb) (hp := ?hp));
   case hb => (intro _ _ _; bl_close [])
   case hp => (intro _ _ _ hfold; (try dsimp only); first | (pp_peel; done) | (pp_go hfold []; done))))

section
variable {Q : Env → Env → Prop} {s1 m1 s2 m2 : Nat}
local notation "PP'" => PP Q s1 m1 s2 m2

theorem pp_rmEffects (hQ : Cong Q s1 m1 s2 m2) {w : World} {t : Twin} (h : PP' w t)
    (recs : List ResRec) (chk : Bool) :
    PP' (w.rmEffects recs chk) (NX (fun v => v.rmEffects recs chk) w t) := by
  pp_go h [rmEffects]

end
end C14W
end SimProc
