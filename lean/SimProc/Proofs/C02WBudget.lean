/-
C02W machinery, part 5: "a source never supplies more than its budget" in worlds that change while
running.  The budget invariant `BudgetW` is independent of the topology: it is preserved by every
re-wiring, by every constructor call whose new device respects its own budget, by every operation,
script, event action, step, run and initialisation.
-/
import SimProc.Proofs.C02WDyn
namespace SimProc
namespace C02W
open World C02V

/-- a device within its budget (only sources with a finite budget are concerned) -/
def BudDev (d : Dev) : Prop := d.kind = .source → ∀ m, d.maxParts = some m → d.produced ≤ m

def BudSpec : AssetSpec → Prop
  | .dev d => BudDev d
  | _ => True

/-- created sources start within their budget -/
def BudOp : Op → Prop
  | .create s => BudSpec s
  | _ => True

def BudScripts (w : World) : Prop := ∀ l ∈ w.scripts, ∀ op ∈ l, BudOp op

theorem budDev_dev {w : World} (h : BudgetW w) (x : Nat) : BudDev (w.dev x) := by
  by_cases hx : x < w.devs.length
  · have : w.dev x ∈ w.devs := by
      unfold World.dev
      rw [List.getD_eq_getElem?_getD, List.getElem?_eq_getElem hx]
      exact List.getElem_mem hx
    exact h _ this
  · rw [dev_of_length_le (Nat.le_of_not_lt hx)]
    intro hk; cases hk

theorem budget_modDev (w : World) (x : Nat) (f : Dev → Dev) (h : BudgetW w)
    (hf : ∀ d, BudDev d → BudDev (f d)) : BudgetW (w.modDev x f) :=
  budget_setDev w x _ h (hf _ (budDev_dev h x))

theorem budget_rewire (w : World) (x : Nat) (ups : List Nat) (h : BudgetW w) : BudgetW (w.rewire x ups) := by
  rw [rewire_eq]
  have h1 : BudgetW (rwA w x) := by
    unfold rwA
    split
    · exact h.of_st (st_setWaiting ..)
    · exact h
  have h2 : BudgetW (rwB (rwA w x) x) := by
    unfold rwB
    exact foldl_inv BudgetW _ _ _ h1 (fun w u hw => budget_modDev w u _ hw (fun _ hd => hd))
  have h3 : BudgetW ((rwB (rwA w x) x).modDev x (fun d => { d with up := ups })) :=
    budget_modDev _ _ _ h2 (fun _ hd => hd)
  unfold rwC
  refine foldl_inv BudgetW _ _ _ h3 ?_
  intro w u hw
  split
  · exact hw
  · have h4 : BudgetW (w.modDev u (fun du => { du with down := du.down ++ [x] })) :=
      budget_modDev _ _ _ hw (fun _ hd => hd)
    simp only []
    split
    · exact h4.of_st (st_spaceAvailable ..)
    · exact h4

theorem budget_addDev1 (w : World) (d : Dev) (h : BudgetW w) (hd : BudDev d) : BudgetW (addDev1 w d) := by
  intro d' hd'
  have : d' ∈ w.devs ++ [{ d with aid := w.assets.length + 1, up := [] }] := hd'
  rcases List.mem_append.1 this with h' | h'
  · exact h d' h'
  · have : d' = { d with aid := w.assets.length + 1, up := [] } := by simpa using h'
    subst this; exact hd

theorem budget_addDev (w : World) (d : Dev) (h : BudgetW w) (hd : BudDev d) : BudgetW (w.addDev d) := by
  have h1 : BudgetW (regPath ((addDev1 w d).rewire w.devs.length d.up) d w.devs.length) :=
    (budget_rewire _ _ _ (budget_addDev1 w d h hd)).of_st (st_regPath ..)
  rw [addDev_eq]
  split
  · exact h1.of_st (st_initAsset ..)
  · exact h1

theorem budget_addAsset (w : World) (spec : AssetSpec) (h : BudgetW w) (hs : BudSpec spec) :
    BudgetW (w.addAsset spec) := by
  cases spec with
  | dev d => exact budget_addDev w d h hs
  | group gid devs ins outs =>
    rw [addAsset_group_eq]
    simp only []
    apply budget_rewire
    apply budget_addDev _ _ _ (by intro hk; cases hk)
    refine foldl_inv BudgetW _ _ _ ?_ (fun w d hw => budget_rewire w d _ hw)
    apply budget_addDev _ _ _ (by intro hk; cases hk)
    exact h
  | maint cap v =>
    exact h.of_st (st_addAsset_nondev w _ (by intro _ h; cases h) (by intro _ _ _ _ h; cases h))
  | sched tt cyc =>
    exact h.of_st (st_addAsset_nondev w _ (by intro _ h; cases h) (by intro _ _ _ _ h; cases h))
  | sensor sw =>
    exact h.of_st (st_addAsset_nondev w _ (by intro _ h; cases h) (by intro _ _ _ _ h; cases h))
  | cms => exact h

theorem budget_applyOp (w : World) (op : Op) (h : BudgetW w) (ho : BudOp op) : BudgetW (w.applyOp op).1 := by
  by_cases h1 : ∃ d ups, op = .rewire d ups
  · obtain ⟨d, ups, rfl⟩ := h1; exact budget_rewire w d ups h
  by_cases h2 : ∃ s, op = .create s
  · obtain ⟨s, rfl⟩ := h2; exact budget_addAsset w s h ho
  by_cases h3 : ∃ d n, op = .adjust d n
  · obtain ⟨d, n, rfl⟩ := h3; exact C02V.budget_adjust w d n h
  exact h.of_st (st_applyOp_static w op (fun d ups e => h1 ⟨d, ups, e⟩) (fun s e => h2 ⟨s, e⟩)
    (fun d n e => h3 ⟨d, n, e⟩))

/-- the budget invariant together with budget-respecting scripts -/
def BG (w : World) : Prop := BudgetW w ∧ BudScripts w

theorem BG.of_st {w w' : World} (h : BG w) (e : st w' = st w) (hs : w'.scripts = w.scripts) : BG w' :=
  ⟨h.1.of_st e, by unfold BudScripts; rw [hs]; exact h.2⟩

theorem bg_applyOps (ops : List Op) : ∀ (w : World), BG w → (∀ op ∈ ops, BudOp op) → BG (w.applyOps ops) := by
  induction ops with
  | nil => intro w h _; exact h
  | cons op ops ih =>
    intro w h hok
    unfold World.applyOps
    simp only [List.foldl_cons]
    have h1 : BG ((w.applyOp op).1.addRes (w.applyOp op).2) :=
      ⟨(budget_applyOp w op h.1 (hok op (List.mem_cons_self ..))).of_st rfl,
       by unfold BudScripts; rw [scr_addRes, scr_applyOp]; exact h.2⟩
    have := ih _ h1 (fun o ho => hok o (List.mem_cons_of_mem _ ho))
    unfold World.applyOps at this
    exact this

theorem bg_runScript (w : World) (k : Nat) (h : BG w) : BG (w.runScript k) := by
  unfold World.runScript
  apply bg_applyOps _ w h
  intro op hop
  by_cases hk : k < w.scripts.length
  · have : w.scripts.getD k [] = w.scripts[k] := by simp [List.getD_eq_getElem?_getD, hk]
    rw [this] at hop
    exact h.2 _ (List.getElem_mem hk) op hop
  · have : w.scripts.getD k [] = [] := by simp [List.getD_eq_getElem?_getD, Nat.le_of_not_lt hk]
    rw [this] at hop; cases hop

theorem bg_scan (n : Nat) : ∀ (w : World) (i : Nat), BG w → BG (scanWaiting scanOps n w i) := by
  induction n with
  | zero => intro w i h; exact h
  | succ n ih =>
    intro w i h
    unfold scanWaiting
    split
    · exact h
    · split
      · apply ih
        rename_i req cb _ _
        cases cb with
        | script k =>
          have := bg_runScript (w.addRes (.cb k)) k (h.of_st rfl rfl)
          exact this.of_st rfl rfl
        | proc d =>
          exact (h.of_st (st_procResourceCb w d) (scr_floor.procResourceCb w d)).of_st rfl rfl
      · exact ih _ _ h

theorem bg_hookStart (w : World) (tgt : Nat) (tag : Int) (h : BG w) : BG (w.hookStart tgt tag) := by
  unfold World.hookStart
  simp only []
  split
  · exact (h.of_st rfl rfl).of_st (st_shutdownDev ..) (scr_floor.shutdownDev ..)
  · split
    · exact bg_runScript _ _ (h.of_st rfl rfl)
    · exact h.of_st rfl rfl

theorem bg_hookEnd (w : World) (tgt : Nat) (tag : Int) (h : BG w) : BG (w.hookEnd tgt tag) := by
  unfold World.hookEnd
  simp only []
  split
  · exact (h.of_st rfl rfl).of_st (st_restoreDev ..) (scr_floor.restoreDev ..)
  · split
    · exact bg_runScript _ _ (h.of_st rfl rfl)
    · exact h.of_st rfl rfl

theorem bg_startWork (w : World) (m seq : Nat) (h : BG w) : BG (w.startWork m seq) := by
  have key : ∀ w' : World, BG w' → ∀ t g a b c d, BG ((w'.hookStart t g).schedLib a b c d) :=
    fun w' h' t g a b c d => (bg_hookStart w' t g h').of_st (st_schedLib ..) (scr_schedLib ..)
  unfold World.startWork
  split
  · exact h.of_st (st_setErr ..) (scr_setErr ..)
  · simp only []
    refine key _ ?_ _ _ _ _ _ _
    exact h.of_st rfl rfl

theorem bg_finishWork (w : World) (m seq : Nat) (h : BG w) : BG (w.finishWork m seq) := by
  have key : ∀ w' : World, BG w' → ∀ w'' : World, st w'' = st w' → w''.scripts = w'.scripts →
      ∀ m l, BG (w''.startOrders m l) := fun w' h' w'' e1 e2 m l =>
    (h'.of_st e1 e2).of_st (st_startOrders ..) (scr_startOrders ..)
  unfold World.finishWork
  split
  · exact h.of_st (st_setErr ..) (scr_setErr ..)
  · simp only []
    rename_i o _
    refine key _ (bg_hookEnd w o.target o.tag h) _ ?_ ?_ _ _ <;> rfl

theorem bg_exec (w : World) (a : Action) (h : BG w) : BG (w.exec a) := by
  cases a with
  | terminate => exact h
  | script k => exact bg_runScript w k h
  | finishCycle d => exact h.of_st (st_finishCycle w d) (scr_floor.finishCycle w d)
  | passPart d =>
    exact ⟨C02V.budget_passPart w d h.1, by
      show BudScripts (w.passPart d)
      unfold BudScripts; rw [scr_floor.passPart]; exact h.2⟩
  | fail d => exact h.of_st (st_failDev w d) (scr_floor.failDev w d)
  | releaseIfIdle d => exact h.of_st (st_releaseIfIdle w d) (scr_floor.releaseIfIdle w d)
  | rmCheck => exact bg_scan _ _ _ h
  | startWork m o => exact bg_startWork w m o h
  | finishWork m o => exact bg_finishWork w m o h
  | schedUpdate s => exact h.of_st (st_schedUpdate w s true) (scr_schedUpdate w s true)
  | periodicSense s => exact h.of_st (st_periodicSense w s) (scr_periodicSense w s)
  | unknown n => exact h.of_st (st_setErr ..) (scr_setErr ..)

theorem bg_step (w w' : World) (e : Event) (h : BG w) (hst : w.step = some (e, w')) : BG w' := by
  unfold World.step at hst
  split at hst
  · cases hst
  · rename_i e' env' henv
    simp only [Option.some.injEq, Prod.mk.injEq] at hst
    obtain ⟨rfl, rfl⟩ := hst
    have h1 : BG ({ w with env := env' } : World) := h.of_st rfl rfl
    split
    · exact bg_exec _ _ h1
    · exact h1

theorem bg_runLoop (n : Nat) : ∀ (w : World), BG w → BG (runLoop n w) := by
  induction n with
  | zero => intro w h; exact h.of_st (st_setErr ..) (scr_setErr ..)
  | succ n ih =>
    intro w h
    unfold runLoop
    split
    · split
      · exact h
      · rename_i e w' hst
        exact ih w' (bg_step w w' e h hst)
    · exact h

theorem st_simulateInit (w : World) : st w.simulateInit = st w := by
  unfold World.simulateInit
  split
  · rfl
  · simp only []
    show st (List.foldl _ _ _) = _
    rw [foldl_proj st _ _ _ (fun _ _ => st_initAsset ..), st_rmEffects]; rfl

theorem bg_simulateInit (w : World) (h : BG w) : BG w.simulateInit :=
  h.of_st (st_simulateInit w) (scr_simulateInit w)

theorem bg_runBegin (w : World) (d : Int) (h : BG w) : BG (w.runBegin d).1 := by
  unfold World.runBegin
  simp only []
  split
  · exact h
  · exact h.of_st rfl rfl

end C02W
end SimProc
