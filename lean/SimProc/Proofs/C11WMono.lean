/-
Machinery for `Props/C11W.lean`, part 2: the part-flow functions of `Model/Floor.lean` that are
benign steps (`MonoS` / `Mono`, see `C11WBase.lean`).
-/
import SimProc.Proofs.C11WBase
import SimProc.Proofs.FloorWalk

namespace SimProc
namespace C11W
open World FloorCoreL

/-- side condition "the part in process of a processor is untouched" -/
macro "mono_side" : tactic => `(tactic| first
  | rfl
  | (intro _; rfl)
  | (intro hk; simp_all; done))

/-- Peel the outermost primitive off a goal `MonoS w (prim …)` (extended by `macro_rules`). -/
syntax "monoS_peel" : tactic
macro_rules | `(tactic| monoS_peel) => `(tactic| first
  | exact MonoS.refl _
  | refine MonoS.trans ?_ (monoS_modPart _ _ _)
  | refine MonoS.trans ?_ (monoS_addRec _ _)
  | refine MonoS.trans ?_ (monoS_addRes _ _)
  | refine MonoS.trans ?_ (monoS_setErr _ _)
  | refine MonoS.trans ?_ (monoS_addHist _ _ _)
  | refine MonoS.trans ?_ (monoS_dropHist _ _)
  | refine MonoS.trans ?_ (monoS_senseOutput _ _ _)
  | refine MonoS.trans ?_ (monoS_rmEffects _ _ _)
  | refine MonoS.trans ?_ (monoS_newPart _ _)
  | refine MonoS.trans ?_ (monoS_modDev _ _ _ (by mono_side) (by mono_side))
  | refine MonoS.trans ?_ (monoS_setDev _ _ _ (by mono_side) (by mono_side)))

theorem monoS_setWaiting (w : World) (x : Nat) (a b : Bool) : MonoS w (w.setWaiting x a b) := by
  unfold setWaiting
  dsimp only
  repeat' split
  all_goals repeat monoS_peel

theorem monoS_schedulePass (w : World) (x : Nat) (o : Int) : MonoS w (w.schedulePass x o) := by
  unfold schedulePass
  dsimp only
  split
  · exact MonoS.refl w
  · refine MonoS.trans ?_ (monoS_schedLib_plain _ _ _ _ _ (plain_passPart x))
    repeat monoS_peel

theorem monoS_notify_aux (f : Nat) :
    ∀ w x, MonoS w (notifyUp f w x) ∧ MonoS w (spaceAvail f w x) :=
  World.notify_walk (R := MonoS) MonoS.refl MonoS.trans (monoS_setErr · _)
    (fun w x _ => monoS_setWaiting w x _ _) (fun w x _ _ => monoS_schedulePass w x _) f

theorem monoS_notify (w : World) (x : Nat) : MonoS w (w.notify x) := (monoS_notify_aux _ w x).1
theorem monoS_spaceAvailable (w : World) (x : Nat) : MonoS w (w.spaceAvailable x) :=
  (monoS_notify_aux _ w x).2

theorem monoS_applyPartCb (w : World) (x p : Nat) (c : PartCb) : MonoS w (w.applyPartCb x p c) := by
  rw [applyPartCb_eq]
  split
  · exact monoS_modDev _ _ _ rfl (fun _ => rfl)
  · exact (monoS_modDev _ _ _ rfl (fun _ => rfl)).trans (monoS_modPart _ _ _)

theorem monoS_genPart (w : World) (x : Nat) : MonoS w (w.genPart x).1 := by
  unfold genPart
  dsimp only
  split
  · exact MonoS.of_eq rfl rfl rfl rfl
  · have key : ∀ (l : List Nat) (acc : World × List Nat),
        (l.foldl (fun (acc : World × List Nat) _ =>
          ((acc.1.newPart { quality := (w.dev x).genQuality, value := (w.dev x).genValue }).1,
            acc.2 ++ [(acc.1.newPart { quality := (w.dev x).genQuality, value := (w.dev x).genValue }).2]))
          acc).1.devs = acc.1.devs ∧
        (l.foldl (fun (acc : World × List Nat) _ =>
          ((acc.1.newPart { quality := (w.dev x).genQuality, value := (w.dev x).genValue }).1,
            acc.2 ++ [(acc.1.newPart { quality := (w.dev x).genQuality, value := (w.dev x).genValue }).2]))
          acc).1.rm = acc.1.rm ∧
        (l.foldl (fun (acc : World × List Nat) _ =>
          ((acc.1.newPart { quality := (w.dev x).genQuality, value := (w.dev x).genValue }).1,
            acc.2 ++ [(acc.1.newPart { quality := (w.dev x).genQuality, value := (w.dev x).genValue }).2]))
          acc).1.env = acc.1.env ∧
        (l.foldl (fun (acc : World × List Nat) _ =>
          ((acc.1.newPart { quality := (w.dev x).genQuality, value := (w.dev x).genValue }).1,
            acc.2 ++ [(acc.1.newPart { quality := (w.dev x).genQuality, value := (w.dev x).genValue }).2]))
          acc).1.scripts = acc.1.scripts := by
      intro l
      induction l with
      | nil => intro acc; exact ⟨rfl, rfl, rfl, rfl⟩
      | cons a l ih =>
        intro acc
        rw [List.foldl_cons]
        obtain ⟨h1, h2, h3, h4⟩ := ih
          ((acc.1.newPart { quality := (w.dev x).genQuality, value := (w.dev x).genValue }).1,
            acc.2 ++ [(acc.1.newPart { quality := (w.dev x).genQuality, value := (w.dev x).genValue }).2])
        exact ⟨h1, h2, h3, h4⟩
    obtain ⟨h1, h2, h3, h4⟩ := key (List.range (w.dev x).genBatch.toNat) (w, [])
    exact MonoS.of_eq h1 h2 h3 h4

/-! ### the finish-cycle chain -/

/-- `finishCycleHandler` takes the part out of the input of `x` only. -/
theorem monoX_finishCycleHandler (w : World) (x : Nat)
    (hop : (w.dev x).kind = .processor → (w.dev x).shutDown = false) :
    MonoX x w (w.finishCycleHandler x) := by
  unfold finishCycleHandler
  dsimp only
  repeat' split
  all_goals first
    | exact (monoS_setErr _ _).toX x
    | skip
  refine MonoX.trans ?_ ((monoS_schedulePass _ _ _).toX x)
  exact monoX_setDev w x _ rfl (fun hk => ⟨hop hk, rfl⟩)

theorem monoS_finishCycleHandler (w : World) (x : Nat) (hk : (w.dev x).kind ≠ .processor) :
    MonoS w (w.finishCycleHandler x) :=
  (monoX_finishCycleHandler w x (fun h => absurd h hk)).toS hk

theorem monoX_finishCycle (w : World) (x : Nat)
    (hop : (w.dev x).kind = .processor → (w.dev x).shutDown = false) :
    MonoX x w (w.finishCycle x) := by
  unfold finishCycle
  dsimp only
  split
  · -- source
    refine MonoX.trans ?_ ((monoS_schedulePass _ _ _).toX x)
    split
    · refine MonoS.toX ?_ x
      refine MonoS.trans ?_ (monoS_addHist _ _ _)
      refine MonoS.trans (monoS_genPart w x) (monoS_modDev _ _ _ rfl (fun _ => rfl))
    · exact (MonoS.refl w).toX x
  · -- sink
    refine MonoX.trans ?_ ((monoS_notify _ _).toX x)
    refine MonoX.trans (monoX_finishCycleHandler w x hop) ?_
    exact (monoS_modDev _ _ _ rfl (fun _ => rfl)).toX x
  · -- processor
    next hk =>
    have h1 := monoX_finishCycleHandler w x hop
    have hk1 : ((w.finishCycleHandler x).dev x).kind = .processor := by rw [h1.m0.kind]; exact hk
    have hs1 : ((w.finishCycleHandler x).dev x).shutDown = false := by rw [h1.m0.shutDown]; exact hop hk
    generalize w.finishCycleHandler x = w1 at h1 hk1 hs1
    refine MonoX.trans h1 (MonoS.toX ?_ x)
    have h2 : MonoS w1 (w1.setDev x { w1.dev x with
        timeInUse := (w1.dev x).timeInUse + (w1.now - (w1.dev x).lastUseStart.getD w1.now),
        lastUseStart := none }) := monoS_setDev _ _ _ rfl (fun _ => rfl)
    generalize hw2 : w1.setDev x { w1.dev x with
        timeInUse := (w1.dev x).timeInUse + (w1.now - (w1.dev x).lastUseStart.getD w1.now),
        lastUseStart := none } = w2 at h2
    have h3 : MonoS w2 (if (w1.dev x).reserved.isSome then
        w2.schedLib w2.now (w1.dev x).aid (.releaseIfIdle x) pRelease else w2) := by
      split
      · refine monoS_schedLib _ _ _ _ _ ?_
        intro y _ hy
        rcases hy with hy | hy
        · cases hy
        · cases hy
          rw [h2.m0.aid, h2.m0.shutDown]
          exact ⟨rfl, hs1⟩
      · exact MonoS.refl _
    generalize (if (w1.dev x).reserved.isSome then
        w2.schedLib w2.now (w1.dev x).aid (.releaseIfIdle x) pRelease else w2) = w3 at h3
    refine (h2.trans h3).trans ?_
    split
    · exact MonoS.refl _
    · refine MonoS.trans ?_ (monoS_addRec _ _)
      refine MonoS.trans ?_ (monoS_foldl _ _ _ (fun w s => monoS_senseOutput w s _))
      exact monoS_foldl _ _ _ (fun w c => monoS_applyPartCb w x _ c)
  · -- other kinds
    exact monoX_finishCycleHandler w x hop

/-- `_finish_cycle` of a device that is not a shut-down processor is a benign step. -/
theorem mono_finishCycle (w : World) (x : Nat)
    (hop : (w.dev x).kind = .processor → (w.dev x).shutDown = false) :
    Mono w (w.finishCycle x) :=
  (monoX_finishCycle w x hop).toMono (fun hk _ hr =>
    QueuedL.of_queued (finishCycle_release_queued w x hk (by
      cases h : (w.dev x).reserved with
      | none => exact absurd h hr
      | some _ => rfl)))

theorem mono_scheduleFinish (w : World) (x : Nat)
    (hop : (w.dev x).kind = .processor → (w.dev x).shutDown = false) :
    Mono w (w.scheduleFinish x) := by
  unfold scheduleFinish
  dsimp only
  have h1 : MonoS w (w.setDev x { w.dev x with offset := 0 }) := monoS_setDev _ _ _ rfl (fun _ => rfl)
  repeat' split
  all_goals first
    | (refine Mono.trans h1.toMono (mono_finishCycle _ x ?_)
       rw [h1.m0.kind, h1.m0.shutDown]; exact hop)
    | (refine (h1.trans (monoS_schedLib _ _ _ _ _ ?_)).toMono
       intro y hk hy
       rcases hy with hy | hy
       · cases hy
         rw [h1.m0.kind] at hk
         rw [h1.m0.aid, h1.m0.shutDown]
         exact ⟨rfl, hop hk⟩
       · cases hy)


/-! ### more flow-only functions -/

macro_rules | `(tactic| monoS_peel) => `(tactic| first
  | refine MonoS.trans ?_ (monoS_setWaiting _ _ _ _)
  | refine MonoS.trans ?_ (monoS_schedulePass _ _ _)
  | refine MonoS.trans ?_ (monoS_notify _ _)
  | refine MonoS.trans ?_ (monoS_spaceAvailable _ _)
  | refine MonoS.trans ?_ (monoS_applyPartCb _ _ _ _)
  | refine MonoS.trans ?_ (monoS_genPart _ _)
  | refine MonoS.trans ?_ (monoS_schedLib_plain _ _ _ _ _ (by intro _; constructor <;> (intro h; cases h)))
  | refine MonoS.trans ?_ (monoS_foldl _ _ _ (fun w c => monoS_applyPartCb w _ _ c))
  | refine MonoS.trans ?_ (monoS_foldl _ _ _ (fun w s => monoS_senseOutput w s _))
  | refine MonoS.trans ?_ (monoS_foldl _ _ _ (fun w _ => monoS_addRes w _)))

theorem operational_proc {w : World} {x : Nat} (hk : (w.dev x).kind = .processor)
    (ho : w.operational x = true) : (w.dev x).shutDown = false := by
  unfold operational at ho
  simp only [hk] at ho
  simpa using ho

theorem operational_nonproc {w : World} {x : Nat} (hk : (w.dev x).kind ≠ .processor) :
    w.operational x = true := by
  unfold operational
  split
  · next h => exact absurd h hk
  · rfl

theorem monoS_bGet (w : World) (x p : Nat) (hk : (w.dev x).kind ≠ .processor) :
    MonoS w (bGet w x p).1 := by
  -- a device that is not a processor may lose the part in its input slot
  have hd : ∀ w' : World, (w'.dev x).kind = (w.dev x).kind →
      MonoS w' (w'.modDev x fun d => { d with part := none }) :=
    fun w' e => monoS_modDev _ _ _ rfl fun h => absurd (e.symm.trans h) hk
  unfold bGet
  split
  · dsimp only
    split
    · exact (monoS_modPart ..).trans (hd _ rfl)
    · exact monoS_modPart ..
  · exact hd w rfl

theorem monoS_bAdd (w : World) (x t : Nat) : MonoS w (bAdd w x t) := by
  unfold bAdd
  split
  · exact monoS_modDev _ _ _ rfl fun _ => rfl
  · dsimp only
    split
    · -- a batch is in progress
      split
      · exact (monoS_modPart ..).trans (monoS_modDev _ _ _ rfl fun _ => rfl)
      · exact monoS_modPart ..
    · -- a new batch is started
      have hb : ∀ w', MonoS (((w.newPart { quality := 0, value := 0, kids := some [] }).1.modDev x
          fun d => { d with inprog := some (w.newPart { quality := 0, value := 0, kids := some [] }).2 }).modPart
            (w.newPart { quality := 0, value := 0, kids := some [] }).2
            fun r => { r with kids := some ((r.kids.getD []) ++ [t]) }) w' → MonoS w w' :=
        fun w' h => (((monoS_newPart ..).trans (monoS_modDev _ _ _ rfl fun _ => rfl)).trans
          (monoS_modPart ..)).trans h
      split
      · exact hb _ (monoS_modDev _ _ _ rfl fun _ => rfl)
      · exact hb _ (.refl _)

theorem monoS_batcherLoop (f : Nat) : ∀ (w : World) (x : Nat), (w.dev x).kind ≠ .processor →
    MonoS w (batcherLoop f w x) := by
  induction f with
  | zero => intro w x _; exact MonoS.refl w
  | succ f ih =>
    intro w x hk
    rw [batcherLoop_succ]
    split
    · rename_i p _ _
      have h1 : MonoS w (bAdd (bGet w x p).1 x (bGet w x p).2) :=
        (monoS_bGet w x p hk).trans (monoS_bAdd _ x _)
      exact h1.trans (ih _ x (by rw [h1.m0.kind]; exact hk))
    · exact MonoS.refl w

theorem mono_tryMove (w : World) (x : Nat) : Mono w (w.tryMove x) := by
  unfold tryMove
  dsimp only
  split
  · -- buffer
    refine MonoS.toMono ?_
    repeat' split
    all_goals repeat monoS_peel
  · -- batcher
    next hk =>
    refine MonoS.toMono ?_
    have hnp : (w.dev x).kind ≠ .processor := by rw [hk]; decide
    repeat' split
    all_goals first
      | exact MonoS.refl _
      | exact monoS_setDev _ _ _ rfl (fun h => absurd h hnp)
      | exact (monoS_batcherLoop _ w x hnp).trans (monoS_schedulePass _ _ _)
      | exact monoS_batcherLoop _ w x hnp
  · -- processor
    next hk =>
    split
    · next hc =>
      have hop : w.operational x = true := by
        simp only [Bool.and_eq_true] at hc; exact hc.1.1
      have h1 : MonoS w (w.setDev x { w.dev x with lastUseStart := some w.now }) :=
        monoS_setDev _ _ _ rfl (fun _ => rfl)
      refine Mono.trans h1.toMono (mono_scheduleFinish _ x ?_)
      rw [h1.m0.kind, h1.m0.shutDown]
      exact fun hk' => operational_proc hk' hop
    · exact Mono.refl w
  · -- other kinds
    next hnb hnba hnp =>
    split
    · exact mono_scheduleFinish w x (fun h => absurd h hnp)
    · exact Mono.refl w

theorem mono_onReceived (w : World) (x p : Nat) : Mono w (w.onReceived x p) := by
  unfold onReceived
  dsimp only
  have key : ∀ w0 : World, MonoS w w0 →
      Mono w (if ((List.foldl (fun w c => w.applyPartCb x p c)
          (w0.addRec (.received x w0.now p (w0.part p).quality (w0.partValue p)))
          ((w0.addRec (.received x w0.now p (w0.part p).quality (w0.partValue p))).dev x).recvCbs).dev x).output.isNone
        then (List.foldl (fun w c => w.applyPartCb x p c)
          (w0.addRec (.received x w0.now p (w0.part p).quality (w0.partValue p)))
          ((w0.addRec (.received x w0.now p (w0.part p).quality (w0.partValue p))).dev x).recvCbs).tryMove x
        else List.foldl (fun w c => w.applyPartCb x p c)
          (w0.addRec (.received x w0.now p (w0.part p).quality (w0.partValue p)))
          ((w0.addRec (.received x w0.now p (w0.part p).quality (w0.partValue p))).dev x).recvCbs) := by
    intro w0 h0
    have h1 : MonoS w (List.foldl (fun w c => w.applyPartCb x p c)
          (w0.addRec (.received x w0.now p (w0.part p).quality (w0.partValue p)))
          ((w0.addRec (.received x w0.now p (w0.part p).quality (w0.partValue p))).dev x).recvCbs) :=
      (h0.trans (monoS_addRec _ _)).trans (monoS_foldl _ _ _ (fun w c => monoS_applyPartCb w x p c))
    split
    · exact h1.toMono.trans (mono_tryMove _ x)
    · exact h1.toMono
  split
  · refine key _ ?_
    repeat monoS_peel
  · refine key _ ?_
    repeat monoS_peel
  · exact key _ (MonoS.refl w)

/-- Everything `_accept_part` does after the part has been put into the input slot. -/
def acceptTail (w : World) (x p : Nat) : World :=
  ((w.addHist p x).setWaiting x false false).onReceived x p

theorem mono_acceptTail (w : World) (x p : Nat) : Mono w (acceptTail w x p) := by
  unfold acceptTail
  exact ((monoS_addHist w p x).trans (monoS_setWaiting _ _ _ _)).toMono.trans (mono_onReceived _ x p)

theorem acceptPart_eq (w : World) (x p : Nat) :
    w.acceptPart x p =
      acceptTail ((if (w.dev x).kind == .sink then { w with delivered := w.delivered ++ w.leavesOf p }
        else w).modDev x (fun d => { d with part := some p })) x p := rfl

/-- Accepting a part is a benign step for every device that is not a processor. -/
theorem mono_acceptPart (w : World) (x p : Nat) (hk : (w.dev x).kind ≠ .processor) :
    Mono w (w.acceptPart x p) := by
  rw [acceptPart_eq]
  refine Mono.trans (MonoS.toMono ?_) (mono_acceptTail _ x p)
  split
  · refine MonoS.trans (w1 := { w with delivered := w.delivered ++ w.leavesOf p })
      (MonoS.of_eq rfl rfl rfl rfl) ?_
    exact monoS_modDev _ _ _ rfl (fun h => absurd h hk)
  · exact monoS_modDev _ _ _ rfl (fun h => absurd h hk)

theorem monoS_setBlock (w : World) (x : Nat) (b : Bool) : MonoS w (w.setBlock x b) := by
  unfold setBlock
  dsimp only
  repeat' split
  all_goals repeat monoS_peel

theorem monoS_adjustParts (w : World) (x : Nat) (v : Int) : MonoS w (w.adjustParts x v) := by
  unfold adjustParts
  dsimp only
  repeat' split
  all_goals repeat monoS_peel

theorem mono_initDev (w : World) (x : Nat) : Mono w (w.initDev x) := by
  unfold initDev
  dsimp only
  have h1 : MonoS w (w.modDev x (fun d => { d with inited := true, val := d.val.reset })) :=
    monoS_modDev _ _ _ rfl (fun _ => rfl)
  split
  · exact h1.toMono
  · exact h1.toMono
  · exact h1.toMono
  · exact h1.toMono
  · refine MonoS.toMono ?_
    repeat monoS_peel
  · next hk =>
    refine Mono.trans (MonoS.toMono ?_) (mono_scheduleFinish _ x ?_)
    · repeat monoS_peel
    · intro h
      have h2 : MonoS w ((w.modDev x (fun d => { d with inited := true, val := d.val.reset })).setWaiting x true true) :=
        h1.trans (monoS_setWaiting _ _ _ _)
      rw [h2.m0.kind, ← h1.m0.kind, hk] at h
      cases h
  · refine MonoS.toMono ?_
    repeat monoS_peel

end C11W
end SimProc
