/-
C03W with re-wiring — "every device has been initialised".

`rewire` tells a new upstream neighbour that there is space downstream only if that neighbour has
been initialised (`set_upstream` of the Python code: `if self._env is not None`).  In every world
reached after `simulateInit` from a world that satisfies the registration invariant `C20W.Reg`
(every device is registered, …) every device is initialised (`Ini`).  Worlds whose scripts do not
re-wire need nothing of the kind (`NR`).  `IOK w := NR w ∨ Ini w` is preserved by every step
(`IStep`: scripts unchanged, registration invariant kept — the lemmas `Pv_*` of `C20WWorld`).
-/
import SimProc.Proofs.C03WDefs
import SimProc.Proofs.C20WWorld
import SimProc.Proofs.WorldExec

namespace SimProc
namespace C03W
open World C20W

/-- registered and started: every device has been initialised -/
def Ini (w : World) : Prop := C20W.Reg w ∧ w.started = true

theorem Ini.inited {w : World} (h : Ini w) {z : Nat} (hz : z < w.devs.length) :
    (w.dev z).inited = true := by
  have hc : AssetRef.dev z ∈ w.assets :=
    h.1.complete _ (by simp [RKey.valid, RK, hz]) rfl
  have := h.1.flag _ hc (w.dev z).inited
    (by simp [RKey.flagOf, RK, World.dev, dk, List.getD_eq_getElem?_getD, hz])
  rw [this]
  exact h.2

/-- no script re-wires, or every device has been initialised -/
def IOK (w : World) : Prop := NR w ∨ Ini w

/-- a step that keeps the scripts and the registration invariant -/
structure IStep (w w' : World) : Prop where
  scr : w'.scripts = w.scripts
  pv : Pv w w'

theorem IStep.refl (w : World) : IStep w w := ⟨rfl, Pv.refl w⟩

theorem IStep.trans {a b c : World} (h1 : IStep a b) (h2 : IStep b c) : IStep a c :=
  ⟨h2.scr.trans h1.scr, h1.pv.trans h2.pv⟩

theorem IStep.of_same {w w' : World} (h : Same w w') : IStep w w' := ⟨h.scripts, Pv.of_same h⟩

theorem NR.of_scripts {w w' : World} (h : NR w) (e : w'.scripts = w.scripts) : NR w' := by
  unfold NR; rw [e]; exact h

theorem IOK.step {w w' : World} (h : IOK w) (r : IStep w w') : IOK w' := by
  rcases h with h | h
  · exact Or.inl (h.of_scripts r.scr)
  · obtain ⟨h1, h2, _⟩ := r.pv h.1
    exact Or.inr ⟨h1, h2.trans h.2⟩

theorem Ini.step {w w' : World} (h : Ini w) (r : IStep w w') : Ini w' := by
  obtain ⟨h1, h2, _⟩ := r.pv h.1
  exact ⟨h1, h2.trans h.2⟩

/-- what `rewire` needs: the operation is not a re-wiring, or every device is initialised -/
theorem IOK.inited {w : World} (h : IOK w) {x : Nat} {ups : List Nat}
    (hm : ∃ l ∈ w.scripts, Op.rewire x ups ∈ l) {z : Nat} (hz : z < w.devs.length) :
    (w.dev z).inited = true := by
  rcases h with h | h
  · obtain ⟨l, hl, hop⟩ := hm
    exact absurd rfl ((h l hl _ hop).1 x ups)
  · exact h.inited hz

theorem opFresh_of_not_create {op : Op} (h : ∀ sp, op ≠ .create sp) : opFresh op = true := by
  cases op <;> first | rfl | exact absurd rfl (h _)

theorem istep_applyOp (w : World) (op : Op) (h : ∀ sp, op ≠ .create sp) :
    IStep w ((w.applyOp op).1.addRes (w.applyOp op).2) :=
  ⟨C02V.scr_applyOp w op, (Pv_applyOp w op (opFresh_of_not_create h)).trans (Pv.of_same rfl)⟩

theorem istep_addRes (w : World) (r : Res) : IStep w (w.addRes r) := .of_same rfl
theorem istep_addRec (w : World) (r : Rec) : IStep w (w.addRec r) := .of_same rfl
theorem istep_modMaint (w : World) (m : Nat) (f : Maint → Maint) : IStep w (w.modMaint m f) := by
  refine ⟨rfl, ?_⟩
  unfold World.modMaint
  pv_auto

theorem istep_env (w : World) (env' : Env) : IStep w { w with env := env' } := .of_same rfl

theorem istep_scanStep (w : World) (cb : Cb) (req : Req) (i : Nat) :
    IStep w (scanOps.erase (scanOps.call w cb req) i) := by
  constructor
  · cases cb with
    | script k => exact (C02V.scr_runScript _ k)
    | proc d => exact C02V.scr_floor.procResourceCb w d
  · unfold scanOps
    dsimp only
    pv_auto

theorem istep_hookEnd (w : World) (tgt : Nat) (tag : Int) : IStep w (w.hookEnd tgt tag) :=
  ⟨C02V.scr_hookEnd w tgt tag, Pv_hookEnd w tgt tag⟩

theorem istep_exec (w : World) (a : Action) : IStep w (w.exec a) :=
  ⟨C02V.scr_exec w a, Pv_exec w a⟩

theorem istep_step {w w' : World} {e : Event} (h : w.step = some (e, w')) : IStep w w' := by
  refine ⟨?_, Pv_step h⟩
  unfold World.step at h
  split at h
  · cases h
  · rename_i e0 env' hs
    cases h
    split
    · exact C02V.scr_exec _ _
    · rfl

theorem istep_runLoop (n : Nat) : ∀ w : World, IStep w (runLoop n w) := by
  induction n with
  | zero => intro w; exact ⟨C02V.scr_setErr .., Pv_runLoop 0 w⟩
  | succ n ih =>
    intro w
    rw [runLoop]
    split
    · split
      · exact .refl w
      · rename_i hs
        exact (istep_step hs).trans (ih _)
    · exact .refl w

theorem istep_runBegin (w : World) (d : Int) : IStep w (w.runBegin d).1 :=
  .of_same (Same_runBegin w d)

theorem ini_simulateInit {w : World} (h : C20W.Reg w) : Ini w.simulateInit := by
  refine ⟨reg_simulateInit w h, ?_⟩
  unfold World.simulateInit
  split
  · next hs => exact hs
  · rfl

end C03W
end SimProc
