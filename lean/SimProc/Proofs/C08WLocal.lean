/-
C08W, part 4: what the functions local to one device (`finishCycle`, `scheduleFinish`, `tryMove`,
`onReceived`) do to the histories and stacks: the old parts keep them (`HS`), a part created by a
source starts with the history `[source]`, the shell created by a batcher with the empty one.
-/
import SimProc.Proofs.C08WGive
namespace SimProc
namespace C08W
open World C02V C08L FloorCoreL

/-- A part created by device `z` (`src` = "`z` is a source"). -/
def NewW (z : Nat) (src : Prop) (w' : World) (q : Nat) : Prop :=
  (w'.part q).stack = [] ∧
    (((w'.part q).hist = [z] ∧ src) ∨ ((w'.part q).hist = [] ∧ (w'.part q).kids.isSome = true))

/-- Old parts keep history, stack and being a batch; new parts are as `NewW` says. -/
structure HN (z : Nat) (src : Prop) (w w' : World) : Prop where
  hs : HS w w'
  ks : ∀ q, q < w.parts.length → (w.part q).kids.isSome = true → (w'.part q).kids.isSome = true
  nw : ∀ q, w.parts.length ≤ q → q < w'.parts.length → NewW z src w' q

namespace HN
variable {z : Nat} {src : Prop}

theorem refl (w : World) : HN z src w w :=
  ⟨HS.refl w, fun _ _ h => h, fun _ h1 h2 => absurd h2 (Nat.not_lt.2 h1)⟩

theorem trans {a b c : World} (h1 : HN z src a b) (h2 : HN z src b c) : HN z src a c := by
  refine ⟨h1.hs.trans h2.hs, fun q hq hk => h2.ks q (Nat.lt_of_lt_of_le hq h1.hs.1) (h1.ks q hq hk), ?_⟩
  intro q hq1 hq2
  by_cases hqb : q < b.parts.length
  · obtain ⟨n1, n2⟩ := h1.nw q hq1 hqb
    have e := h2.hs.2 q hqb
    refine ⟨by rw [e.2]; exact n1, ?_⟩
    rcases n2 with ⟨n2, n3⟩ | ⟨n2, n3⟩
    · exact Or.inl ⟨by rw [e.1]; exact n2, n3⟩
    · exact Or.inr ⟨by rw [e.1]; exact n2, h2.ks q hqb n3⟩
  · exact h2.nw q (Nat.le_of_not_lt hqb) hq2

theorem of_parts {w w' : World} (h : w'.parts = w.parts) : HN z src w w' :=
  ⟨HS.of_parts h, fun q _ hk => by rw [part_congr h]; exact hk,
    fun q h1 h2 => absurd (by rw [h] at h2; exact h2) (Nat.not_lt.2 h1)⟩

theorem parts_right {a b c : World} (h : c.parts = b.parts) (h1 : HN z src a b) : HN z src a c :=
  h1.trans (of_parts h)

theorem applyPartCb (w : World) (x p : Nat) (c : PartCb) : HN z src w (w.applyPartCb x p c) :=
  ⟨HS.applyPartCb w x p c, fun q _ hk => by rw [applyPartCb_part_kids]; exact hk,
    fun q h1 h2 => absurd (by rw [applyPartCb_parts_length] at h2; exact h2) (Nat.not_lt.2 h1)⟩

theorem modPartKids (w : World) (p : Nat) (k : PartRec → Option (List Nat))
    (hk : ∀ r, (k r).isSome = true) : HN z src w (w.modPart p (fun r => { r with kids := k r })) := by
  refine ⟨HS.modPart _ _ (fun _ => ⟨rfl, rfl⟩), ?_, ?_⟩
  · intro q _ hq
    rw [part_modPart]
    split
    · exact hk _
    · exact hq
  · intro q h1 h2
    rw [modPart_parts_length] at h2
    exact absurd h2 (Nat.not_lt.2 h1)

theorem newShell (w : World) (r : PartRec) (h1 : r.hist = []) (h2 : r.stack = [])
    (h3 : r.kids.isSome = true) : HN z src w (w.newPart r).1 := by
  refine ⟨HS.newPart w r, ?_, ?_⟩
  · intro q hq hk; rw [part_newPart_old hq]; exact hk
  · intro q hq1 hq2
    rw [newPart_parts_length] at hq2
    have : q = w.parts.length := by omega
    subst this
    rw [NewW, part_newPart_new]
    exact ⟨h2, Or.inr ⟨h1, h3⟩⟩

section right
variable {a b : World}
theorem modDev_right {x : Nat} {f : Dev → Dev} (h : HN z src a b) : HN z src a (b.modDev x f) :=
  parts_right (by simp) h
theorem setDev_right {x : Nat} {d : Dev} (h : HN z src a b) : HN z src a (b.setDev x d) :=
  parts_right (by simp) h
theorem addRec_right {r : Rec} (h : HN z src a b) : HN z src a (b.addRec r) :=
  parts_right (by simp) h
theorem setErr_right {m : String} (h : HN z src a b) : HN z src a (b.setErr m) :=
  parts_right (by simp) h
theorem schedLib_right {t as : Int} {act : Action} {pr : Int} (h : HN z src a b) :
    HN z src a (b.schedLib t as act pr) := parts_right (by simp) h
theorem schedulePass_right {x : Nat} {o : Int} (h : HN z src a b) : HN z src a (b.schedulePass x o) :=
  parts_right (by simp) h
theorem notify_right {x : Nat} (h : HN z src a b) : HN z src a (b.notify x) :=
  parts_right (by simp) h
theorem setWaiting_right {x : Nat} {c d : Bool} (h : HN z src a b) : HN z src a (b.setWaiting x c d) :=
  parts_right (by simp) h
theorem senseOutput_right {s p : Nat} (h : HN z src a b) : HN z src a (b.senseOutput s p) :=
  parts_right (senseOutput_parts _ _ _) h
theorem finishCycleHandler_right {x : Nat} (h : HN z src a b) : HN z src a (b.finishCycleHandler x) :=
  parts_right (finishCycleHandler_parts _ _) h
theorem applyPartCb_right {x p : Nat} {c : PartCb} (h : HN z src a b) :
    HN z src a (b.applyPartCb x p c) := h.trans (applyPartCb _ _ _ _)
theorem newShell_right (h : HN z src a b) :
    HN z src a (b.newPart { quality := 0, value := 0, kids := some [] }).1 :=
  h.trans (newShell _ _ rfl rfl rfl)
theorem modPartKidsSome_right {p : Nat} {k : PartRec → List Nat} (h : HN z src a b) :
    HN z src a (b.modPart p (fun r => { r with kids := some (k r) })) :=
  h.trans (modPartKids _ _ (fun r => some (k r)) (fun _ => rfl))
theorem foldl_right {α} {g : World → α → World} (hg : ∀ w c, HN z src w (g w c)) {l : List α}
    (h : HN z src a b) : HN z src a (l.foldl g b) := by
  induction l generalizing b with
  | nil => exact h
  | cons c l ih => exact ih (h.trans (hg b c))
end right

end HN

/-- One step of peeling an operation off the right. -/
syntax "hn_step" : tactic
macro_rules
  | `(tactic| hn_step) =>
    `(tactic| first
    | exact HN.refl _
    | with_reducible apply HN.finishCycleHandler_right
    | with_reducible apply HN.senseOutput_right
    | with_reducible apply HN.applyPartCb_right
    | with_reducible apply HN.notify_right
    | with_reducible apply HN.schedulePass_right
    | with_reducible apply HN.setWaiting_right
    | with_reducible apply HN.schedLib_right
    | with_reducible apply HN.setErr_right
    | with_reducible apply HN.addRec_right
    | with_reducible apply HN.newShell_right
    | with_reducible apply HN.modPartKidsSome_right
    | with_reducible apply HN.modDev_right
    | with_reducible apply HN.setDev_right)

variable {z : Nat} {src : Prop}

theorem HN.bGet (w : World) (x p : Nat) : HN z src w (bGet w x p).1 := by
  unfold C08L.bGet
  split
  · dsimp only
    split <;> repeat hn_step
  · repeat hn_step

theorem HN.bInprog (w : World) (x : Nat) : HN z src w (bInprog w x).1 := by
  unfold C08L.bInprog
  split <;> repeat hn_step

theorem HN.bAdd (w : World) (x t : Nat) : HN z src w (bAdd w x t) := by
  unfold C08L.bAdd
  split
  · repeat hn_step
  · dsimp only
    split
    · apply HN.modDev_right; apply HN.modPartKidsSome_right; exact HN.bInprog w x
    · apply HN.modPartKidsSome_right; exact HN.bInprog w x

theorem HN.batcherLoop (n : Nat) (w : World) (x : Nat) : HN z src w (batcherLoop n w x) := by
  induction n generalizing w with
  | zero => exact HN.refl _
  | succ n ih =>
    rw [C08L.batcherLoop_succ]
    split
    · exact ((HN.bGet w x _).trans (HN.bAdd _ x _)).trans (ih _)
    · exact HN.refl _

theorem HN.batcherLoop_right {a b : World} {n x : Nat} (h : HN z src a b) :
    HN z src a (World.batcherLoop n b x) := h.trans (HN.batcherLoop _ _ _)

macro_rules | `(tactic| hn_step) => `(tactic| with_reducible apply HN.batcherLoop_right)

/-! ### a source generates a part -/

/-- The parts a source has just generated: empty history and stack, and each of them occurs exactly
once among the new part and its kids. -/
theorem genPart_fresh (w : World) (x : Nat) : ∀ q, w.parts.length ≤ q →
    q < (w.genPart x).1.parts.length →
    ((w.genPart x).1.part q).hist = [] ∧ ((w.genPart x).1.part q).stack = [] ∧
      (histIdxs (w.genPart x).1.parts (w.genPart x).2).count q = 1 := by
  intro q hq1 hq2
  cases hb : ((w.dev x).genBatch == 0)
  · rw [genPart_batch w x hb] at hq2 ⊢
    simp only [List.length_append, List.length_replicate, List.length_cons, List.length_nil] at hq2
    have hmem : ∀ r ∈ List.replicate (w.dev x).genBatch.toNat
          ({ quality := (w.dev x).genQuality, value := (w.dev x).genValue } : PartRec) ++
          [({ quality := 0, value := 0,
              kids := some (List.range' w.parts.length (w.dev x).genBatch.toNat) } : PartRec)],
        r.hist = [] ∧ r.stack = [] := by
      intro r hr
      rcases List.mem_append.1 hr with hr | hr
      · rw [(List.mem_replicate.1 hr).2]; exact ⟨rfl, rfl⟩
      · have : r = _ := List.mem_singleton.1 hr
        rw [this]; exact ⟨rfl, rfl⟩
    have hget : ∃ r, (w.parts ++ List.replicate (w.dev x).genBatch.toNat
          ({ quality := (w.dev x).genQuality, value := (w.dev x).genValue } : PartRec) ++
          [({ quality := 0, value := 0,
              kids := some (List.range' w.parts.length (w.dev x).genBatch.toNat) } : PartRec)])[q]? = some r ∧
        r.hist = [] ∧ r.stack = [] := by
      rw [List.append_assoc, List.getElem?_append_right hq1]
      have hlt : q - w.parts.length < (List.replicate (w.dev x).genBatch.toNat
          ({ quality := (w.dev x).genQuality, value := (w.dev x).genValue } : PartRec) ++
          [({ quality := 0, value := 0,
              kids := some (List.range' w.parts.length (w.dev x).genBatch.toNat) } : PartRec)]).length := by
        simp; omega
      rw [List.getElem?_eq_getElem hlt]
      exact ⟨_, rfl, hmem _ (List.getElem_mem hlt)⟩
    obtain ⟨r, hr, hr1, hr2⟩ := hget
    refine ⟨?_, ?_, ?_⟩
    · simp only [World.part, List.getD_eq_getElem?_getD, hr]; exact hr1
    · simp only [World.part, List.getD_eq_getElem?_getD, hr]; exact hr2
    · have hidx : histIdxs (w.parts ++ List.replicate (w.dev x).genBatch.toNat
            ({ quality := (w.dev x).genQuality, value := (w.dev x).genValue } : PartRec) ++
            [({ quality := 0, value := 0,
                kids := some (List.range' w.parts.length (w.dev x).genBatch.toNat) } : PartRec)])
            (w.parts.length + (w.dev x).genBatch.toNat) =
          (w.parts.length + (w.dev x).genBatch.toNat) ::
            List.range' w.parts.length (w.dev x).genBatch.toNat := by
        unfold C08L.histIdxs
        simp [List.getD_eq_getElem?_getD]
      simp only [hidx]
      have hnd : ((w.parts.length + (w.dev x).genBatch.toNat) ::
          List.range' w.parts.length (w.dev x).genBatch.toNat).Nodup := by
        rw [List.nodup_cons]
        refine ⟨?_, List.nodup_range' (step := 1) (by omega)⟩
        rw [List.mem_range'_1]; omega
      have hmem' : q ∈ (w.parts.length + (w.dev x).genBatch.toNat) ::
          List.range' w.parts.length (w.dev x).genBatch.toNat := by
        rw [List.mem_cons, List.mem_range'_1]; omega
      rw [hnd.count, if_pos hmem']
  · rw [genPart_leaf w x hb] at hq2 ⊢
    simp only [List.length_append, List.length_cons, List.length_nil] at hq2
    have hq : q = w.parts.length := by omega
    subst hq
    refine ⟨?_, ?_, ?_⟩
    · simp [World.part, List.getD_eq_getElem?_getD]
    · simp [World.part, List.getD_eq_getElem?_getD]
    · unfold C08L.histIdxs
      simp [List.getD_eq_getElem?_getD]

theorem genPart_new (w : World) (x : Nat) :
    HN x True w (((w.genPart x).1.modDev x (fun d => { d with output := some (w.genPart x).2 })).addHist
      (w.genPart x).2 x) := by
  obtain ⟨news, h1, h2, h3⟩ := genPart_spec w x
  have hHS : HS w (((w.genPart x).1.modDev x (fun d => { d with output := some (w.genPart x).2 })).addHist
      (w.genPart x).2 x) :=
    HS.addHist_new (w0 := w) ⟨news, by simpa using h1⟩ h2 (by simpa using h3)
  refine ⟨hHS, ?_, ?_⟩
  · intro q hq hk
    rw [addHist_part_kids, part_modDev]
    have : (w.genPart x).1.part q = w.part q := by
      unfold World.part; rw [h1]; exact getD_append_left _ _ _ _ hq
    rw [this]; exact hk
  · intro q hq1 hq2
    rw [addHist_parts_length, modDev_parts] at hq2
    obtain ⟨f1, f2, f3⟩ := genPart_fresh w x q hq1 hq2
    refine ⟨?_, Or.inl ⟨?_, trivial⟩⟩
    · rw [addHist_part_stack, part_modDev]; exact f2
    · rw [addHist_part_hist _ _ _ _ (by rw [modDev_parts]; exact hq2), part_modDev, modDev_parts, f1, f3]
      rfl

theorem HN.weaken {src src' : Prop} (hi : src → src') {w w' : World} (h : HN z src w w') :
    HN z src' w w' :=
  ⟨h.hs, h.ks, fun q h1 h2 => by
    obtain ⟨n1, n2⟩ := h.nw q h1 h2
    refine ⟨n1, ?_⟩
    rcases n2 with ⟨n2, n3⟩ | n2
    · exact Or.inl ⟨n2, hi n3⟩
    · exact Or.inr n2⟩

/-! ### the functions local to a device -/

theorem HN.finishCycle (w : World) (x : Nat) :
    HN x ((w.dev x).kind = .source) w (w.finishCycle x) := by
  unfold World.finishCycle
  dsimp only
  split
  · -- source
    next hk =>
    apply HN.schedulePass_right
    split
    · exact (genPart_new w x).weaken (fun _ => hk)
    · exact HN.refl _
  · repeat hn_step
  · -- processor
    split
    · split <;> repeat hn_step
    · apply HN.addRec_right
      apply HN.foldl_right (fun w s => HN.senseOutput_right (HN.refl w))
      apply HN.foldl_right (fun w c => HN.applyPartCb_right (HN.refl w))
      split <;> repeat hn_step
  · repeat hn_step

theorem HN.scheduleFinish (w : World) (x : Nat) :
    HN x ((w.dev x).kind = .source) w (w.scheduleFinish x) := by
  have key : HN x ((w.dev x).kind = .source) w ((w.setDev x { w.dev x with offset := 0 }).finishCycle x) :=
    (HN.setDev_right (HN.refl w)).trans
      ((HN.finishCycle (w.setDev x { w.dev x with offset := 0 }) x).weaken
        (fun h => (kind_setOffset w x x).symm.trans h))
  unfold World.scheduleFinish
  dsimp only
  repeat' split
  all_goals first
    | exact key
    | (repeat hn_step)

theorem kind_setDev_same (w : World) (x : Nat) (d : Dev) (hk : d.kind = (w.dev x).kind) :
    ((w.setDev x d).dev x).kind = (w.dev x).kind := dev_setDev_kind w x d hk x

theorem HN.tryMove (w : World) (x : Nat) : HN x ((w.dev x).kind = .source) w (w.tryMove x) := by
  unfold World.tryMove
  dsimp only
  split
  · -- buffer
    repeat' split
    all_goals repeat hn_step
  · -- batcher
    repeat' split
    all_goals repeat hn_step
  · -- processor
    split
    · exact (HN.setDev_right (HN.refl w)).trans
        ((HN.scheduleFinish (w.setDev x { w.dev x with lastUseStart := some w.now }) x).weaken
          (fun h => (kind_setDev_same w x { w.dev x with lastUseStart := some w.now } rfl).symm.trans h))
    · exact HN.refl _
  · split
    · exact HN.scheduleFinish w x
    · exact HN.refl _

theorem HN.onReceived (w : World) (x p : Nat) :
    HN x ((w.dev x).kind = .source) w (w.onReceived x p) := by
  rw [C02V.onReceived_eq]
  have h0 : HN x ((w.dev x).kind = .source) w (recvBook w x p) := by
    unfold recvBook
    dsimp only
    apply HN.foldl_right (fun w c => HN.applyPartCb_right (HN.refl w))
    split <;> repeat hn_step
  split
  · exact h0.trans ((HN.tryMove (recvBook w x p) x).weaken
      (fun h => (kind_recvBook w x p x).symm.trans h))
  · exact h0

end C08W
end SimProc
