/-
C05W / C17W machinery, part 1: the auxiliary view `bv` of a world (per device: level, queue with
arrival times, capacity, delay, batch size, shell under construction; and the clock), and the queue
invariant `EI` of the environment.  Frame lemmas for every function of `Model/Floor.lean` and
`Model/World.lean` that does not change them.
-/
import SimProc.Proofs.StaticWorld
import SimProc.Proofs.C05Lemmas
import SimProc.Props.C01
namespace SimProc
namespace C05W
open World C02V

/-- The fields of a device that neither the slot view `sv` nor the static view `st` shows and that
the buffer / batcher contracts talk about. -/
structure BDev where
  level : Nat
  buf : List (Int × Nat)
  cap : Option Nat
  delay : Int
  bsize : Option Nat
  inprog : Option Nat

def bdev (d : Dev) : BDev := ⟨d.level, d.buf, d.cap, d.delay, d.bsize, d.inprog⟩

/-- Auxiliary view: the `BDev`s and the clock. -/
def bv (w : World) : List BDev × Int := (w.devs.map bdev, w.env.now)

theorem bdev_of_bv {w w' : World} (h : bv w' = bv w) (x : Nat) : bdev (w'.dev x) = bdev (w.dev x) := by
  have h1 : w'.devs.map bdev = w.devs.map bdev := congrArg Prod.fst h
  have := congrArg (fun l => l.getD x (bdev default)) h1
  simpa [World.dev, List.getD_eq_getElem?_getD, List.getElem?_map] using this

theorem now_of_bv {w w' : World} (h : bv w' = bv w) : w'.now = w.now := congrArg Prod.snd h

theorem len_of_bv {w w' : World} (h : bv w' = bv w) : w'.devs.length = w.devs.length := by
  have h1 : w'.devs.map bdev = w.devs.map bdev := congrArg Prod.fst h
  simpa using congrArg List.length h1

/-! ### primitive updates -/

section prim
variable (w : World)

theorem bv_setErr (m : String) : bv (w.setErr m) = bv w := by
  unfold World.setErr; split <;> rfl
theorem bv_addRec (r : Rec) : bv (w.addRec r) = bv w := rfl
theorem bv_addRes (r : Res) : bv (w.addRes r) = bv w := rfl

theorem bv_sched (t a : Int) (act : Action) (p : Int) : bv (w.sched t a act p).1 = bv w := by
  unfold World.sched
  simp only []
  split
  · rename_i e he
    have := Env.apply_sched_now Arith.exact w.env t a act.toNat p (weightOf w.seed w.wmod t a act.toNat p)
    rw [he] at this
    simp only [bv]
    rw [show e.now = w.env.now from this]
  · rfl

theorem bv_schedLib (t a : Int) (act : Action) (p : Int) : bv (w.schedLib t a act p) = bv w := by
  have := bv_sched w t a act p
  unfold World.schedLib
  split
  · simp_all
  · rw [bv_setErr]; simp_all

theorem bv_envOp (op : EnvOp) (h : op ≠ .step) : bv (w.envOp op) = bv w := by
  unfold World.envOp bv
  simp only [C01.now_apply_ne_step Arith.exact w.env op h]

theorem bv_pause (a : Int) : bv (w.envOp (.pause a)) = bv w := bv_envOp w _ (by intro h; cases h)
theorem bv_unpause (a : Int) : bv (w.envOp (.unpause a)) = bv w := bv_envOp w _ (by intro h; cases h)
theorem bv_cancel (a : Int) : bv (w.envOp (.cancel a)) = bv w := bv_envOp w _ (by intro h; cases h)

theorem bv_rmEffects (recs : List ResRec) (c : Bool) : bv (w.rmEffects recs c) = bv w := by
  unfold World.rmEffects
  have h : bv (recs.foldl (fun w r => w.addRec (.resUpdate r.res w.now r.inUse r.cap)) w) = bv w :=
    foldl_proj bv _ _ _ (fun _ _ => rfl)
  simp only []; split
  · rw [bv_schedLib, h]
  · exact h

theorem bv_setDev_same (x : Nat) (d : Dev) (h : bdev d = bdev (w.dev x)) : bv (w.setDev x d) = bv w := by
  simp only [bv, World.setDev]
  rw [map_set_getD_self bdev w.devs x default d h]

theorem bv_modDev_same (x : Nat) (f : Dev → Dev) (h : ∀ d, bdev (f d) = bdev d) :
    bv (w.modDev x f) = bv w := bv_setDev_same w x _ (h _)

theorem bv_modPart (p : Nat) (f : PartRec → PartRec) : bv (w.modPart p f) = bv w := rfl
theorem bv_newPart (r : PartRec) : bv (w.newPart r).1 = bv w := rfl

end prim

macro_rules | `(tactic| fr_step) => `(tactic| first
  | rw [bv_setErr] | rw [bv_schedLib] | rw [bv_rmEffects] | rw [bv_sched]
  | rw [bv_setDev_same] | rw [bv_modDev_same] | rw [bv_modPart] | rw [bv_newPart]
  | rw [bv_addRec] | rw [bv_addRes]
  | rw [bv_pause] | rw [bv_unpause] | rw [bv_cancel]
  | rw [foldl_proj bv])

/-! ### `Model/Floor.lean`

The functions that move no part.  Each writes a device only in fields that `bdev` does not read,
so each proof names, for the branch at hand, the updates that were made. -/

section
variable (w : World)

theorem bv_setWaiting (x : Nat) (a b : Bool) : bv (w.setWaiting x a b) = bv w := by
  unfold World.setWaiting
  dsimp only
  split
  · exact bv_setDev_same w x _ rfl
  · split
    · rfl
    · split
      · exact bv_setDev_same w x _ rfl
      · rfl
frame_lemma1 bv_setWaiting
theorem bv_schedulePass (x : Nat) (o : Int) : bv (w.schedulePass x o) = bv w := by
  unfold World.schedulePass
  dsimp only
  split
  · rfl
  · exact (bv_schedLib _ _ _ _ _).trans (bv_setDev_same w x _ (by rfl))
frame_lemma1 bv_schedulePass

theorem bv_notify (x : Nat) : bv (w.notify x) = bv w :=
  (notify_proj bv (fun w => bv_setWaiting w) (fun w => bv_schedulePass w) (fun w => bv_setErr w) _ w x).1
theorem bv_spaceAvailable (x : Nat) : bv (w.spaceAvailable x) = bv w :=
  (notify_proj bv (fun w => bv_setWaiting w) (fun w => bv_schedulePass w) (fun w => bv_setErr w) _ w x).2
frame_lemma1 bv_notify
frame_lemma1 bv_spaceAvailable

/-- The resource manager's tables are not in the view. -/
theorem bv_setRm (rm : RM) (recs : List ResRec) (c : Bool) (x : Nat) (f : Dev → Dev)
    (hf : ∀ d, bdev (f d) = bdev d) :
    bv ((({ w with rm := rm } : World).rmEffects recs c).modDev x f) = bv w :=
  (bv_modDev_same _ x f hf).trans (bv_rmEffects { w with rm := rm } recs c)

theorem bv_releaseReserved (x : Nat) : bv (w.releaseReserved x) = bv w := by
  unfold World.releaseReserved
  split
  · rfl
  · exact bv_setRm w _ _ _ x _ fun _ => rfl
frame_lemma1 bv_releaseReserved
theorem bv_procAcquire (x : Nat) : bv (w.procAcquire x).1 = bv w := by
  unfold World.procAcquire
  dsimp only
  split
  · rfl
  · split
    · rfl
    · split
      · exact bv_setRm w _ _ _ x _ fun _ => rfl
      · exact bv_setErr w _
      · split
        · rfl
        · exact bv_setRm w _ _ _ x _ fun _ => rfl
frame_lemma1 bv_procAcquire
theorem bv_applyPartCb (x p : Nat) (c : PartCb) : bv (w.applyPartCb x p c) = bv w := by
  rw [applyPartCb_eq]
  split <;> exact bv_modDev_same w x _ fun _ => by rfl
frame_lemma1 bv_applyPartCb
theorem bv_senseOutput (s p : Nat) : bv (w.senseOutput s p) = bv w := by
  unfold World.senseOutput
  dsimp only
  split
  · exact foldl_proj bv _ _ _ fun _ _ => rfl
  · rfl
frame_lemma1 bv_senseOutput
theorem bv_addHist (p d : Nat) : bv (w.addHist p d) = bv w := by
  unfold World.addHist
  dsimp only
  split
  · exact foldl_proj bv _ _ _ fun _ _ => rfl
  · rfl
frame_lemma1 bv_addHist
theorem bv_dropHist (p : Nat) : bv (w.dropHist p) = bv w := by
  unfold World.dropHist
  dsimp only
  split
  · exact foldl_proj bv _ _ _ fun _ _ => rfl
  · rfl
frame_lemma1 bv_dropHist

theorem bv_addResLog {α : Type} (g : α → Res) (l : List α) :
    bv (l.foldl (fun w k => w.addRes (g k)) w) = bv w :=
  foldl_proj bv _ _ _ fun _ _ => rfl

theorem bv_shutdownDev (x : Nat) (f : Bool) (l : Option Nat) : bv (w.shutdownDev x f l) = bv w := by
  unfold World.shutdownDev
  dsimp only
  split
  · split
    · exact (bv_addResLog _ _ _).trans (bv_cancel w _)
    · rfl
  · refine (bv_addResLog _ _ _).trans ((bv_setWaiting _ x _ _).trans
      ((bv_setDev_same _ x _ ?_).trans ?_))
    · split <;> rfl
    · split
      · exact (bv_cancel _ _).trans (bv_setDev_same w x _ (by rfl))
      · exact (bv_pause _ _).trans (bv_setDev_same w x _ (by rfl))
frame_lemma1 bv_shutdownDev
theorem bv_restoreDev (x : Nat) : bv (w.restoreDev x) = bv w := by
  have flow : ∀ w1 : World, bv w1 = bv w → bv (if (w1.dev x).output.isSome then w1.schedulePass x 0
      else if (w1.dev x).part.isNone then w1.notify x else w1) = bv w := by
    intro w1 h1
    split
    · exact (bv_schedulePass _ _ _).trans h1
    · split
      · exact (bv_notify _ _).trans h1
      · exact h1
  have use : ∀ w2 : World, bv w2 = bv w → bv (if (w2.dev x).part.isSome
      then w2.modDev x fun d => { d with lastUseStart := some w2.now } else w2) = bv w := by
    intro w2 h2
    split
    · exact (bv_modDev_same _ x _ fun _ => by rfl).trans h2
    · exact h2
  unfold World.restoreDev
  dsimp only
  by_cases h : (!(w.dev x).shutDown) = true
  · rw [if_pos h]
  · rw [if_neg h]
    exact (bv_addResLog _ _ _).trans
      (use _ (flow _ ((bv_unpause _ _).trans (bv_setDev_same w x _ (by rfl)))))
frame_lemma1 bv_restoreDev
theorem bv_releaseIfIdle (x : Nat) : bv (w.releaseIfIdle x) = bv w := by
  unfold World.releaseIfIdle
  split
  · exact bv_releaseReserved w x
  · rfl
frame_lemma1 bv_releaseIfIdle
theorem bv_procResourceCb (x : Nat) : bv (w.procResourceCb x) = bv w :=
  (bv_notify _ x).trans (bv_modDev_same w x _ fun _ => by rfl)
frame_lemma1 bv_procResourceCb
theorem bv_setBlock (x : Nat) (b : Bool) : bv (w.setBlock x b) = bv w := by
  unfold World.setBlock
  split
  · rfl
  · dsimp only
    split
    · exact (bv_notify _ x).trans (bv_modDev_same w x _ fun _ => by rfl)
    · exact bv_modDev_same w x _ fun _ => by rfl
frame_lemma1 bv_setBlock
theorem bv_adjustParts (x : Nat) (v : Int) : bv (w.adjustParts x v) = bv w := by
  unfold World.adjustParts
  dsimp only
  split
  · rfl
  · split
    · exact (bv_schedulePass _ x 0).trans (bv_setDev_same w x _ (by rfl))
    · exact bv_setDev_same w x _ rfl
frame_lemma1 bv_adjustParts

theorem bv_finishCycleHandler (x : Nat) : bv (w.finishCycleHandler x) = bv w := by
  unfold World.finishCycleHandler
  dsimp only
  split
  · exact bv_setErr w _
  · split
    · exact bv_setErr w _
    · split
      · exact bv_setErr w _
      · exact (bv_schedulePass _ x 0).trans (bv_setDev_same w x _ (by rfl))
frame_lemma1 bv_finishCycleHandler
theorem bv_genPart (x : Nat) : bv (w.genPart x).1 = bv w := by
  cases h : ((w.dev x).genBatch == 0)
  · rw [genPart_batch w x h]; rfl
  · rw [genPart_leaf w x h]; rfl
frame_lemma1 bv_genPart
theorem bv_finishCycle (x : Nat) : bv (w.finishCycle x) = bv w := by
  have hH := bv_finishCycleHandler w x
  unfold World.finishCycle
  dsimp only
  split
  · -- source
    refine (bv_schedulePass _ x 0).trans ?_
    split
    · exact (bv_addHist _ _ x).trans ((bv_modDev_same _ x _ fun _ => by rfl).trans (bv_genPart w x))
    · rfl
  · -- sink
    exact (bv_notify _ x).trans ((bv_modDev_same _ x _ fun _ => by rfl).trans hH)
  · -- processor
    generalize w.finishCycleHandler x = w1 at hH ⊢
    have h1 : bv (w1.setDev x { w1.dev x with
        timeInUse := (w1.dev x).timeInUse + (w1.now - (w1.dev x).lastUseStart.getD w1.now),
        lastUseStart := none }) = bv w := (bv_setDev_same w1 x _ (by rfl)).trans hH
    have h2 : ∀ w' : World, bv w' = bv w →
        bv (if (w1.dev x).reserved.isSome = true
          then w'.schedLib w'.now (w1.dev x).aid (.releaseIfIdle x) pRelease else w') = bv w := by
      intro w' h'
      split
      · exact (bv_schedLib _ _ _ _ _).trans h'
      · exact h'
    have h3 := h2 _ h1
    split
    · exact h3
    · exact (foldl_proj bv _ _ _ fun w' s => bv_senseOutput w' s _).trans
        ((foldl_proj bv _ _ _ fun w' c => bv_applyPartCb w' x _ c).trans h3)
  · exact hH
frame_lemma1 bv_finishCycle
theorem bv_scheduleFinish (x : Nat) : bv (w.scheduleFinish x) = bv w := by
  have h : ∀ c : Int, bv (if c ≤ 0 then (w.setDev x { w.dev x with offset := 0 }).finishCycle x
      else (w.setDev x { w.dev x with offset := 0 }).schedLib (w.now + c) (w.dev x).aid
        (.finishCycle x) pFinish) = bv w := by
    intro c
    split
    · exact (bv_finishCycle _ x).trans (bv_setDev_same w x _ (by rfl))
    · exact (bv_schedLib _ _ _ _ _).trans (bv_setDev_same w x _ (by rfl))
  exact h _
frame_lemma1 bv_scheduleFinish

theorem bv_failDev (x : Nat) : bv (w.failDev x) = bv w := by
  unfold World.failDev
  dsimp only
  refine (bv_shutdownDev _ x _ _).trans ((bv_releaseReserved _ x).trans
    ((bv_modDev_same _ x _ fun _ => by rfl).trans ?_))
  split <;> rfl
frame_lemma1 bv_failDev
theorem bv_initDev (x : Nat) : bv (w.initDev x) = bv w := by
  have h0 : bv (w.modDev x fun d => { d with inited := true, val := d.val.reset }) = bv w :=
    bv_modDev_same w x _ fun _ => rfl
  unfold World.initDev
  dsimp only
  generalize (w.modDev x fun d => { d with inited := true, val := d.val.reset }) = w1 at h0 ⊢
  have hW := (bv_setWaiting w1 x true true).trans h0
  split
  · exact h0
  · exact h0
  · exact h0
  · exact h0
  · exact (bv_modDev_same _ x _ fun _ => by rfl).trans hW
  · exact (bv_scheduleFinish _ x).trans hW
  · exact hW
frame_lemma1 bv_initDev

end

end C05W
end SimProc
