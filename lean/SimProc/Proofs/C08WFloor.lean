/-
C08W, part 5: the routing invariant on worlds (`Route`) and its preservation by the factory-floor
actions: the functions local to one device, the hand-over (`passHandler`, `bufferLoop`), `passPart`,
`failDev`, `initDev`.
-/
import SimProc.Proofs.C08WView
import SimProc.Proofs.C08WLocal
import SimProc.Proofs.C08WTop
import SimProc.Proofs.C08WQual
import SimProc.Proofs.FloorPass
namespace SimProc
namespace C08W
open World C02V C08L FloorCoreL C02V.SVBatchAux

def hiOf (w : World) (q : Nat) : List Nat := (w.part q).hist
def skOf (w : World) (q : Nat) : List Nat := (w.part q).stack

/-- There is no batcher. -/
def NoBatcher (w : World) : Prop := ∀ x, (w.dev x).kind ≠ .batcher

theorem NoBatcher.of_st {w w' : World} (h : NoBatcher w) (e : st w' = st w) : NoBatcher w' :=
  fun x => by rw [kind_of_st e]; exact h x

theorem NoBatcher.of_tv {w w' : World} (h : NoBatcher w) (e : tv w' = tv w) : NoBatcher w' :=
  fun x => by rw [kind_of_tv e]; exact h x

/-- "Gate `g` accepts part `q` now." -/
def accOf (w : World) (g q : Nat) : Prop := w.gatePred (w.dev g).pred q = true

/-- The routing invariant of a world (`nb` = "there is no batcher": then also the exact stacks of
the top-level leaves; `nc` = "no batcher and no value/quality-changing callback": then also every
gate in the history of a top-level leaf accepts it). -/
def RouteN (nb nc : Prop) (w : World) : Prop := RSV nb nc (sv w) (topo w) (hiOf w) (skOf w) (accOf w)

variable {nb nc : Prop}

theorem pred_of_pcv {w w' : World} (h : pcv w' = pcv w) (x : Nat) : (w'.dev x).pred = (w.dev x).pred :=
  congrArg (fun t => t.1) (pcv_dev h x)

theorem accOf_congr {w w' : World} (h3 : w'.parts = w.parts) (h4 : pcv w' = pcv w) :
    accOf w' = accOf w := by
  funext g q
  unfold accOf
  rw [gatePred_congr h3, pred_of_pcv h4]

/-- For a leaf, the verdict of a gate depends on the record of the leaf only. -/
theorem gatePred_leaf {w w' : World} {q : Nat} (h : w'.part q = w.part q)
    (hk : (w.part q).kids = none) (pr : Pred) : w'.gatePred pr q = w.gatePred pr q := by
  unfold gatePred partValue
  rw [h, hk]

theorem sv_kids_length (w : World) : (sv w).kids.length = w.parts.length := by simp [sv]

theorem sv_kids_get (w : World) {q : Nat} (hq : q < w.parts.length) :
    (sv w).kids[q]? = some (w.part q).kids := by
  simp [sv, World.part, List.getD_eq_getElem?_getD, hq]

/-! ### frames -/

theorem RouteN.of_frame {w w' : World} (h : RouteN nb nc w) (h1 : sv w' = sv w) (h2 : topo w' = topo w)
    (h3 : w'.parts = w.parts) (h4 : pcv w' = pcv w) : RouteN nb nc w' := by
  unfold RouteN at *
  rw [h1, h2]
  have e1 : hiOf w' = hiOf w := by funext q; unfold hiOf; rw [part_congr h3]
  have e2 : skOf w' = skOf w := by funext q; unfold skOf; rw [part_congr h3]
  rw [e1, e2, accOf_congr h3 h4]; exact h

theorem RouteN.of_frame_st {w w' : World} (h : RouteN nb nc w) (h1 : sv w' = sv w) (h2 : st w' = st w)
    (h3 : w'.parts = w.parts) (h4 : pcv w' = pcv w) : RouteN nb nc w' :=
  h.of_frame h1 (topo_of_st h2) h3 h4

/-! ### the functions local to one device -/

theorem newOK_of_HN {z n : Nat} {w0 w' : World}
    (hn : ∀ q, n ≤ q → q < w'.parts.length → NewW z ((w0.dev z).kind = .source) w' q) :
    ∀ q, n ≤ q → q < (sv w').kids.length →
      NewOK (topo w0) (hiOf w') (skOf w') (sv w').kids z q := by
  intro q hq1 hq2
  rw [sv_kids_length] at hq2
  obtain ⟨n1, n2⟩ := hn q hq1 hq2
  refine ⟨n1, ?_⟩
  rcases n2 with ⟨n2, n3⟩ | ⟨n2, n3⟩
  · exact Or.inl ⟨n2, n3⟩
  · refine Or.inr ⟨n2, ?_⟩
    rw [sv_kids_get w' hq2]
    cases hk : (w'.part q).kids with
    | none => rw [hk] at n3; cases n3
    | some l => exact ⟨l, rfl⟩

/-- Moves of device `z` that leave the old histories alone and create parts as `HN` says preserve
the invariant. -/
theorem accOf_px {w w' : World} (hpx : PX w w') (hpc : pcv w' = pcv w) :
    ∀ g q, q < (sv w).kids.length → (sv w).kids[q]? = some none → accOf w g q → accOf w' g q := by
  intro g q hq hk ha
  rw [sv_kids_length] at hq
  rw [sv_kids_get w hq] at hk
  have hk' : (w.part q).kids = none := Option.some.inj hk
  unfold accOf at *
  rw [pred_of_pcv hpc, gatePred_leaf (hpx.part hq) hk']
  exact ha

theorem RouteN.local {z : Nat} {w w' : World} (hI : InvW w) (h : RouteN nb nc w)
    (hs : Steps z (sv w) (sv w')) (htl : nb ∨ nc → TLV z (sv w) (sv w')) (ht : st w' = st w)
    (hn : HN z ((w.dev z).kind = .source) w w') (hpx : nc → PX w w') (hpc : pcv w' = pcv w) :
    RouteN nb nc w' := by
  unfold RouteN
  rw [topo_of_st ht]
  refine rsv_steps hs htl hI ?_ (by rw [sv_kids_length]; exact newOK_of_HN hn.nw)
  refine RSV.congr hI h ?_ (fun hc => accOf_px (hpx hc) hpc)
  intro q hq
  rw [sv_kids_length] at hq
  exact hn.hs.2 q hq

theorem route_finishCycle (w : World) (x : Nat) (hI : InvW w) (h : RouteN nb nc w)
    (hnc : nc → NoBatcher w ∧ NoCb w) : RouteN nb nc (w.finishCycle x) :=
  h.local hI (steps_finishCycle w x) (fun _ => tlv_finishCycle w x) (st_finishCycle w x) (HN.finishCycle w x)
    (fun hc => PX.finishCycle w x (hnc hc).2) (pcv_blind.floor.finishCycle w x)

theorem route_scheduleFinish (w : World) (x : Nat) (hI : InvW w) (h : RouteN nb nc w)
    (hnc : nc → NoBatcher w ∧ NoCb w) :
    RouteN nb nc (w.scheduleFinish x) :=
  h.local hI (steps_scheduleFinish w x) (fun _ => tlv_scheduleFinish w x) (st_scheduleFinish w x)
    (HN.scheduleFinish w x) (fun hc => PX.scheduleFinish w x (hnc hc).2) (pcv_blind.floor.scheduleFinish w x)

theorem route_tryMove (w : World) (x : Nat) (hI : InvW w) (h : RouteN nb nc w) (hnb : nb → NoBatcher w)
    (hnc : nc → NoBatcher w ∧ NoCb w) :
    RouteN nb nc (w.tryMove x) :=
  h.local hI (steps_tryMove w x (part_valid hI x))
    (fun hn => tlv_tryMove w x (hn.elim (fun h => hnb h x) (fun h => (hnc h).1 x))) (st_tryMove w x)
    (HN.tryMove w x) (fun hc => PX.tryMove w x (hnc hc).2 ((hnc hc).1 x)) (pcv_blind.floor.tryMove w x)

/-! ### the hand-over -/

/-- A chain reaches its last device in the sense of `Reach`. -/
theorem GChain.reach {t : ST} {y : Nat} {s C s' : List Nat} (h : GChain (topoOfST t) y s C s') :
    ∃ c z, C = c ++ [z] ∧ Reach t y z := by
  induction h with
  | slot y s hk => exact ⟨[], y, rfl, Reach.self y hk⟩
  | gate y s y' c s' hk hy _ ih =>
    obtain ⟨c0, z, rfl, hr⟩ := ih
    exact ⟨y :: c0, z, rfl, Reach.gate y y' z (Or.inl hk) hy hr⟩
  | ginput y s y' c s' hk hy _ ih =>
    obtain ⟨c0, z, rfl, hr⟩ := ih
    exact ⟨c0, z, rfl, Reach.gate y y' z (Or.inr hk) hy hr⟩
  | gpath y s c s' hk _ ih =>
    obtain ⟨c0, z, rfl, hr⟩ := ih
    exact ⟨y :: c0, z, rfl, Reach.gpath y z hk hr⟩
  | goutput y s g y' c s' hk hy _ ih =>
    obtain ⟨c0, z, rfl, hr⟩ := ih
    exact ⟨c0, z, rfl, Reach.goutput y g y' z hk hy hr⟩

theorem GChain.reach_last {w : World} {y z : Nat} {s c s' : List Nat}
    (h : GChain (topo w) y s (c ++ [z]) s') : Reach (st w) y z := by
  rw [topo_eq_st] at h
  obtain ⟨c0, z0, he, hr⟩ := h.reach
  have := List.append_inj' he rfl
  have hz : z = z0 := by simpa using this.2
  rw [hz]; exact hr

/-- The kids of a batch held by a device that is not a sink are pairwise different and different
from the batch. -/
theorem histIdxs_nodup {w : World} (hI : InvW w) {x p : Nat} (hx : x < w.devs.length)
    (hxs : (w.dev x).kind ≠ .sink) (hp : p ∈ (sdev (w.dev x)).held) :
    (histIdxs w.parts p).Nodup ∧ ∀ k ∈ (w.part p).kids.getD [], k < w.parts.length := by
  have hpv : p < w.parts.length := held_valid hI hx hp
  have hkp := sv_kids_get w hpv
  unfold C08L.histIdxs
  show (p :: ((w.part p).kids.getD [])).Nodup ∧ _
  cases hk : (w.part p).kids with
  | none => simp
  | some l =>
    rw [hk] at hkp
    simp only [Option.getD_some]
    have hleaf := hI.1.kidsLeaf p l hkp
    refine ⟨List.nodup_cons.2 ⟨?_, ?_⟩, ?_⟩
    · intro hpl
      have := hleaf p hpl
      rw [hkp] at this; simp at this
    · have hnd := mass_nodup hI.1
      simp only [SV.mass, inside_eq, List.nodup_append] at hnd
      obtain ⟨⟨hin, -, -⟩, -, -⟩ := hnd
      have hcn := nodup_flatMap_mem hin (List.mem_of_getElem? (sv_get w x hx))
      have hxs' : ¬ (sdev (w.dev x)).kind = .sink := hxs
      simp only [con, hxs', if_false] at hcn
      have := nodup_flatMap_mem hcn hp
      rw [lvs_batch hkp] at this
      exact this
    · intro k hk'
      have := kids_lt (hleaf k hk')
      rw [sv_kids_length] at this; exact this

theorem flatMap_replicate_one (C : List Nat) : C.flatMap (fun d => List.replicate 1 d) = C := by
  induction C with
  | nil => rfl
  | cons a C _ => simp [List.flatMap_cons]

theorem flatMap_replicate_zero (C : List Nat) : C.flatMap (fun d => List.replicate 0 d) = [] := by
  induction C with
  | nil => rfl
  | cons a C _ => simp [List.flatMap_cons]

theorem bumped_part {w w' : World} {p : Nat} {C s' : List Nat} (hb : Bumped w.parts w'.parts p C s')
    (q : Nat) (hq : q < w.parts.length) :
    (w'.part q).hist = (w.part q).hist ++
        C.flatMap (fun d => List.replicate ((histIdxs w.parts p).count q) d) ∧
      (w'.part q).stack = if q = p then s' else (w.part q).stack := by
  have := hb.getD q hq
  unfold World.part
  rw [this]
  by_cases hqp : q = p <;> simp [bumpRec, hqp]

/-- `Bumped` in terms of histories and stacks, in a conservative world. -/
theorem bumped_facts {w w' : World} {p : Nat} {C s' : List Nat}
    (hb : Bumped w.parts w'.parts p C s') (hp : p < w.parts.length)
    (hnd : (histIdxs w.parts p).Nodup) (hkv : ∀ k ∈ (w.part p).kids.getD [], k < w.parts.length) :
    (hiOf w' p = hiOf w p ++ C ∧ skOf w' p = s') ∧
    (∀ l, (sv w).kids[p]? = some (some l) → ∀ k ∈ l, hiOf w' k = hiOf w k ++ C) ∧
    (∀ q, q < (sv w).kids.length → q ≠ p → (∀ l, (sv w).kids[p]? = some (some l) → q ∉ l) →
      hiOf w' q = hiOf w q ∧ skOf w' q = skOf w q) := by
  have hidx : histIdxs w.parts p = p :: (w.part p).kids.getD [] := rfl
  refine ⟨?_, ?_, ?_⟩
  · obtain ⟨h1, h2⟩ := bumped_part hb p hp
    have : (histIdxs w.parts p).count p = 1 := by
      rw [hnd.count, if_pos (by rw [hidx]; exact List.mem_cons_self ..)]
    rw [this, flatMap_replicate_one] at h1
    exact ⟨h1, by unfold skOf; simpa using h2⟩
  · intro l hl k hk
    rw [sv_kids_get w hp] at hl
    have hl' : (w.part p).kids = some l := Option.some.inj hl
    have hkm : k ∈ (w.part p).kids.getD [] := by rw [hl']; exact hk
    obtain ⟨h1, _⟩ := bumped_part hb k (hkv k hkm)
    have : (histIdxs w.parts p).count k = 1 := by
      rw [hnd.count, if_pos (by rw [hidx]; exact List.mem_cons_of_mem _ hkm)]
    rw [this, flatMap_replicate_one] at h1
    exact h1
  · intro q hq hqp hql
    rw [sv_kids_length] at hq
    obtain ⟨h1, h2⟩ := bumped_part hb q hq
    have : (histIdxs w.parts p).count q = 0 := by
      rw [List.count_eq_zero, hidx]
      intro hm
      rcases List.mem_cons.1 hm with h | h
      · exact hqp h
      · cases hk : (w.part p).kids with
        | none => rw [hk] at h; simp at h
        | some l =>
          rw [hk] at h
          exact hql l (by rw [sv_kids_get w hp, hk]) h
    rw [this, flatMap_replicate_zero, List.append_nil] at h1
    exact ⟨h1, by unfold skOf; simpa [hqp] using h2⟩

theorem acceptPre_eq (w : World) (x p : Nat) : C02V.acceptPre w x p = C08L.acceptPre w x p := rfl

/-- One successful `givePart`, seen from the giver `x` whose slots without `p` are `s`. -/
theorem route_give (w w0 w1 : World) (x y p : Nat) (s : SDev) (hI : InvW w) (hR : RouteN nb nc w)
    (hnb : nb → NoBatcher w) (hnc : nc → NoBatcher w ∧ NoCb w)
    (hx : x < w.devs.length) (hk : (w.dev x).kind ≠ .sink) (hsk : s.kind = (w.dev x).kind)
    (hperm : (sdev (w.dev x)).held.Perm (p :: s.held))
    (hin : ∀ b, s.inprog = some b → (w.dev x).inprog = some b)
    (hq0 : Quiet w w0) (hp0 : w0.parts = w.parts) (hpc0 : pcv w0 = pcv w) (hy : y ∈ (w.dev x).down)
    (hreach : ∀ z, Reach (st w) y z → z < w.devs.length)
    (hg : givePart w0 y p = (w1, true)) :
    ((w.dev x).part = none ∧ (w.dev x).output = none ∧
      ((w.dev x).kind = .buffer →
        sv w1 = (sv w).setDev x { sdev (w.dev x) with buf := (sdev (w.dev x)).buf ++ [p] } ∧
        ∀ c : SV, c.kids = (sv w).kids →
          (∀ (z' : Nat) (d : SDev) (q : Nat), c.devs[z']? = some d → q ∈ d.held →
            (q = p ∧ z' = x) ∨ (q ≠ p ∧ ∃ d0 : SDev, (sv w).devs[z']? = some d0 ∧ q ∈ d0.held)) →
          RSV nb nc c (topo w) (hiOf w1) (skOf w1) (accOf w1))) ∨
    (Inv (mask (sv w1) x s) ∧ RSV nb nc (mask (sv w1) x s) (topo w) (hiOf w1) (skOf w1) (accOf w1) ∧
      sdev (w1.dev x) = sdev (w.dev x) ∧ w1.devs.length = w.devs.length) := by
  have hpx : p ∈ (sdev (w.dev x)).held := hperm.symm.subset (List.mem_cons_self ..)
  have hp : p < w.parts.length := held_valid hI hx hpx
  obtain ⟨z, c, s', wa, hC, hzk, hca, hw1, hq1, hb, hok0⟩ :=
    give_exact w0.fuel w0 y p w1 (by rw [hp0]; exact hp) hg
  have hok : ChainOK w p c := hok0.of_quiet hq0
  rw [hq0.topo, part_congr hp0] at hC
  have hzl : z < w.devs.length := hreach z hC.reach_last
  have hqa : Quiet w wa := hq0.trans hq1
  have hba : Bumped w.parts wa.parts p c s' := bumped_congr hb hp0.symm rfl
  have hzk' : isHandlerLike (wa.dev z).kind = true := by rw [hq1.kind]; exact hzk
  have hslots := canAccept_slots hzk' hca
  have hzp : (sdev (w.dev z)).part = none := by
    have := part_of_sv hqa.sv z; rw [hslots.1] at this; exact this.symm
  have hzo : (sdev (w.dev z)).output = none := by
    have := output_of_sv hqa.sv z; rw [hslots.2] at this; exact this.symm
  have hxl : x < wa.devs.length := by rw [devs_len_of_sv hqa.sv]; exact hx
  have hzla : z < wa.devs.length := by rw [devs_len_of_sv hqa.sv]; exact hzl
  have hpa : p < wa.parts.length := by rw [parts_len_of_sv hqa.sv]; exact hp
  -- the world in which `onReceived` starts
  have hsvb : sv (C02V.acceptPre wa z p) = accept (sv w) z p (sdev (w.dev z)) := by
    rw [sv_acceptPre, hqa.sv, sdev_of_sv hqa.sv]
  have hpb : (C02V.acceptPre wa z p).parts = (wa.addHist p z).parts := by
    rw [acceptPre_eq]; exact C08L.acceptPre_parts wa z p
  have hbb : Bumped w.parts (C02V.acceptPre wa z p).parts p (c ++ [z]) s' := by
    have h2 := bumped_addHist wa p z
    have hst : (wa.part p).stack = s' := by
      have := (bumped_part hba p hp).2; simpa using this
    rw [hst] at h2
    exact bumped_congr (hba.trans h2) rfl hpb
  obtain ⟨hnd, hkv⟩ := histIdxs_nodup hI hx hk hpx
  obtain ⟨fP, fK, fO⟩ := bumped_facts hbb hp hnd hkv
  have hlenb : (C02V.acceptPre wa z p).parts.length = w.parts.length := by
    have := hbb.length; exact this
  -- the receiver's own moves
  have hsteps : Steps z (accept (sv w) z p (sdev (w.dev z))) (sv w1) := by
    have := steps_acceptPart wa z p hzla hpa
    rw [hqa.sv, sdev_of_sv hqa.sv, ← hw1] at this
    exact this
  have hstb : st (C02V.acceptPre wa z p) = st w := by
    unfold C02V.acceptPre
    have : st wa = st w := hqa.st
    rw [← this]
    frame
  have hst1 : st w1 = st w := by rw [hw1, st_acceptPart]; exact hqa.st
  have hHN : HN z ((w.dev z).kind = .source) (C02V.acceptPre wa z p) w1 := by
    have := HN.onReceived (C02V.acceptPre wa z p) z p
    rw [← C02V.acceptPart_eq, ← hw1] at this
    exact this.weaken (fun h => (kind_of_st hstb z).symm.trans h)
  -- gate verdicts
  have hpc1 : pcv w1 = pcv w := by
    have := pcv_blind.floor.give w0.fuel w0 y p
    rw [show give w0.fuel w0 y p = givePart w0 y p from rfl, hg] at this
    exact this.trans hpc0
  have hpca : pcv wa = pcv w := by
    have := pcv_blind.floor.acceptPart wa z p
    rw [← hw1] at this
    exact this.symm.trans hpc1
  have hpcb : pcv (C02V.acceptPre wa z p) = pcv w := by
    have : pcv (C02V.acceptPre wa z p) = pcv wa := by
      unfold C02V.acceptPre
      dsimp only
      rw [pcv_blind.floor.setWaiting, pcv_blind.floor.addHist, pcv_modDev_same _ _ _ (by exact fun _ => rfl)]
      split <;> rfl
    exact this.trans hpca
  have hgpb : ∀ pr q, (C02V.acceptPre wa z p).gatePred pr q = w.gatePred pr q := by
    intro pr q
    rw [gatePred_congr hpb, addHist_gatePred, hqa.gp]
  have haccb : ∀ g q, accOf w g q → accOf (C02V.acceptPre wa z p) g q := by
    intro g q ha
    unfold accOf at *
    rw [pred_of_pcv hpcb, hgpb]; exact ha
  have hkidsb : ∀ q, ((C02V.acceptPre wa z p).part q).kids = (w.part q).kids := fun q => hbb.kids q
  have hpx1 : nc → PX (C02V.acceptPre wa z p) w1 := by
    intro hc
    have := PX.onReceived (C02V.acceptPre wa z p) z p ((hnc hc).2.of_pcv hpcb)
      (by rw [kind_of_st hstb]; exact (hnc hc).1 z)
    rw [← C02V.acceptPart_eq, ← hw1] at this
    exact this
  have haccb1 : nc → ∀ g q, q < w.parts.length → (w.part q).kids = none →
      accOf (C02V.acceptPre wa z p) g q → accOf w1 g q := by
    intro hc g q hq hkq ha
    unfold accOf at *
    rw [pred_of_pcv (hpc1.trans hpcb.symm),
      gatePred_leaf ((hpx1 hc).part (by rw [hlenb]; exact hq)) (by rw [hkidsb]; exact hkq)]
    exact ha
  have hleafw : ∀ q, q < (sv w).kids.length → (sv w).kids[q]? = some none →
      q < w.parts.length ∧ (w.part q).kids = none := by
    intro q hq hkq
    rw [sv_kids_length] at hq
    rw [sv_kids_get w hq] at hkq
    exact ⟨hq, Option.some.inj hkq⟩
  -- histories after the receiver's moves
  have fP1 : hiOf w1 p = hiOf w p ++ (c ++ [z]) ∧ skOf w1 p = s' := by
    have := hHN.hs.2 p (by rw [hlenb]; exact hp)
    exact ⟨by unfold hiOf at fP ⊢; rw [this.1]; exact fP.1, by unfold skOf at fP ⊢; rw [this.2]; exact fP.2⟩
  have fK1 : ∀ l, (sv w).kids[p]? = some (some l) → ∀ k ∈ l, hiOf w1 k = hiOf w k ++ (c ++ [z]) := by
    intro l hl k hkl
    have hkv' : k < w.parts.length := by
      have := kids_lt (hI.1.kidsLeaf p l hl k hkl); rw [sv_kids_length] at this; exact this
    have := hHN.hs.2 k (by rw [hlenb]; exact hkv')
    unfold hiOf at *
    rw [this.1]; exact fK l hl k hkl
  have fO1 : ∀ q, q < (sv w).kids.length → q ≠ p → (∀ l, (sv w).kids[p]? = some (some l) → q ∉ l) →
      hiOf w1 q = hiOf w q ∧ skOf w1 q = skOf w q := by
    intro q hq hqp hql
    have hq' := hq
    rw [sv_kids_length] at hq'
    have := hHN.hs.2 q (by rw [hlenb]; exact hq')
    have f := fO q hq hqp hql
    unfold hiOf skOf at *
    exact ⟨by rw [this.1]; exact f.1, by rw [this.2]; exact f.2⟩
  have fS : ∀ q, q < (sv w).kids.length → q ≠ p →
      skOf (C02V.acceptPre wa z p) q = skOf w q := by
    intro q hq hqp
    rw [sv_kids_length] at hq
    have := (bumped_part hbb q hq).2
    unfold skOf
    rw [this, if_neg hqp]
  have fS1 : ∀ q, q < (sv w).kids.length → q ≠ p → skOf w1 q = skOf w q := by
    intro q hq hqp
    have hq' := hq
    rw [sv_kids_length] at hq'
    have := hHN.hs.2 q (by rw [hlenb]; exact hq')
    have f := fS q hq hqp
    unfold skOf at *
    rw [this.2]; exact f
  have hxs' : (sdev (w.dev x)).kind ≠ .sink := hk
  have hyt : y ∈ (topo w).down x := hy
  by_cases hne : x = z
  · subst hne
    left
    refine ⟨hzp, hzo, ?_⟩
    intro hkb
    have hsv1 : sv w1 = (sv w).setDev x { sdev (w.dev x) with buf := (sdev (w.dev x)).buf ++ [p] } := by
      have := sv_acceptPart_buffer wa x p hxl (by rw [hqa.kind]; exact hkb) hslots.1 hslots.2
      rw [hqa.sv, sdev_of_sv hqa.sv, ← hw1] at this
      exact this
    refine ⟨hsv1, ?_⟩
    intro c0 hk0 hs0
    exact rsv_bump hI hR (sv_get w x hx) hxs' hpx hyt hC fP1 fK1 fO1 fS1
      (fun hc g q hq hkq ha => haccb1 hc g q (hleafw q hq hkq).1 (hleafw q hq hkq).2 (haccb g q ha))
      (fun hc hkp g hg hkg =>
        haccb1 hc g p hp (hleafw p (by rw [sv_kids_length]; exact hp) hkp).2 (haccb g p (hok.gates g hg hkg)))
      hk0 hs0
  · right
    have hzg := sv_get w z hzl
    have hxg := sv_get w x hx
    have hInv1 : Inv (mask (accept (sv w) z p (sdev (w.dev z))) x s) :=
      inv_transfer hI hxg hzg hne hzp hxs' hsk hperm hin
    have hsm := hsteps.mask hne s
    have hnds : (p :: s.held).Nodup := hperm.nodup_iff.1 (held_nodup hI.1 (List.mem_of_getElem? hxg))
    -- the invariant right after the part has been taken over
    have hRb : RSV nb nc (mask (accept (sv w) z p (sdev (w.dev z))) x s) (topo w)
        (hiOf (C02V.acceptPre wa z p)) (skOf (C02V.acceptPre wa z p)) (accOf (C02V.acceptPre wa z p)) := by
      refine rsv_bump hI hR hxg hxs' hpx hyt hC fP fK fO fS
        (fun _ g q _ _ ha => haccb g q ha)
        (fun _ _ g hg hkg => haccb g p (hok.gates g hg hkg)) rfl ?_
      intro z' d q h0 hq
      simp only [mask, accept, SV.setDev] at h0
      have hzl' : z < (sv w).devs.length := (List.getElem?_eq_some_iff.1 hzg).1
      have hxl' : x < ((sv w).devs.set z { sdev (w.dev z) with part := some p }).length := by
        rw [List.length_set]; exact (List.getElem?_eq_some_iff.1 hxg).1
      by_cases hxz' : x = z'
      · subst hxz'
        rw [List.getElem?_set_self hxl'] at h0
        cases h0
        right
        refine ⟨?_, _, hxg, hperm.symm.subset (List.mem_cons_of_mem _ hq)⟩
        rintro rfl
        exact (List.nodup_cons.1 hnds).1 hq
      · rw [List.getElem?_set_ne hxz'] at h0
        by_cases hzz' : z = z'
        · subst hzz'
          rw [List.getElem?_set_self hzl'] at h0
          cases h0
          have hh : ({ sdev (w.dev z) with part := some p } : SDev).held = p :: (sdev (w.dev z)).held := by
            simp [SDev.held, hzp]
          rw [hh] at hq
          rcases List.mem_cons.1 hq with hqp | hq2
          · exact Or.inl ⟨hqp, rfl⟩
          · right
            refine ⟨?_, _, hzg, hq2⟩
            intro hqp
            rw [hqp] at hq2
            exact hne (held_unique hI.1 hxg hzg hpx hq2)
        · rw [List.getElem?_set_ne hzz'] at h0
          right
          refine ⟨?_, _, h0, hq⟩
          rintro rfl
          exact hxz' (held_unique hI.1 hxg h0 hpx hq)
    have hRb1 : RSV nb nc (mask (accept (sv w) z p (sdev (w.dev z))) x s) (topo w) (hiOf w1) (skOf w1)
        (accOf w1) := by
      refine RSV.congr hInv1 hRb ?_ (fun hc g q hq hkq ha =>
        haccb1 hc g q (hleafw q hq hkq).1 (hleafw q hq hkq).2 ha)
      intro q hq
      have hq' : q < (C02V.acceptPre wa z p).parts.length := by
        rw [hlenb, ← sv_kids_length]; exact hq
      exact hHN.hs.2 q hq'
    have hR1 : RSV nb nc (mask (sv w1) x s) (topo w) (hiOf w1) (skOf w1) (accOf w1) := by
      refine rsv_steps hsm ?_ hInv1 hRb1 ?_
      · intro hn
        have := tlv_acceptPart wa z p (by
          rw [hqa.kind]; exact hn.elim (fun h => hnb h z) (fun h => (hnc h).1 z))
        rw [hqa.sv, sdev_of_sv hqa.sv, ← hw1] at this
        exact this.mask hne s
      have := newOK_of_HN (n := (C02V.acceptPre wa z p).parts.length) hHN.nw
      intro q hq1 hq2
      exact this q (by rw [hlenb, ← sv_kids_length]; exact hq1) hq2
    have h3 : (sv w1).devs[x]? = some (sdev (w.dev x)) := by
      rw [hsteps.devs_ne hne]
      simp only [accept]
      rw [List.getElem?_set_ne (Ne.symm hne)]
      exact hxg
    have h4 : w1.devs.length = w.devs.length := by
      have := hsteps.length
      simpa [sv, accept] using this
    refine ⟨inv_steps hInv1 hsm, hR1, ?_, h4⟩
    have := sv_get w1 x (by rw [h4]; exact hx)
    rw [h3] at this
    exact (Option.some.inj this).symm

theorem RouteN.of_view {w1 w' : World} {a : SV} {t : Topo}
    (h : RSV nb nc a t (hiOf w1) (skOf w1) (accOf w1)) (h1 : sv w' = a) (h2 : topo w' = t)
    (h3 : w'.parts = w1.parts) (h4 : pcv w' = pcv w1) : RouteN nb nc w' := by
  unfold RouteN
  have e1 : hiOf w' = hiOf w1 := by funext q; unfold hiOf; rw [part_congr h3]
  have e2 : skOf w' = skOf w1 := by funext q; unfold skOf; rw [part_congr h3]
  rw [h1, h2, e1, e2, accOf_congr h3 h4]; exact h

theorem prefix_quiet' {w wm : World} {l : List Nat} {p : Nat}
    (h : tryList givePart w l p = (wm, false)) :
    Quiet w wm ∧ wm.parts = w.parts ∧ pcv wm = pcv w := by
  have hr := tryList_refused (g := givePart) (fun w y w' h => give_refused _ w y p w' h) h
  have hp := pcv_blind.floor.tryList_givePart w l p
  rw [h] at hp
  exact ⟨Quiet.of_refused hr, hr.1, hp⟩

/-- A successful offer round, seen from the giver. -/
theorem route_handover (w : World) (x p : Nat) (l : List Nat) (s : SDev) (hI : InvW w) (hR : RouteN nb nc w)
    (hnb : nb → NoBatcher w) (hnc : nc → NoBatcher w ∧ NoCb w)
    (hx : x < w.devs.length) (hk : (w.dev x).kind ≠ .sink) (hsk : s.kind = (w.dev x).kind)
    (hperm : (sdev (w.dev x)).held.Perm (p :: s.held))
    (hin : ∀ b, s.inprog = some b → (w.dev x).inprog = some b)
    (hl : ∀ y ∈ l, y ∈ (w.dev x).down ∧ ∀ z, Reach (st w) y z → z < w.devs.length)
    (w1 : World) (hb : tryList givePart w l p = (w1, true)) :
    ((w.dev x).part = none ∧ (w.dev x).output = none ∧
      ((w.dev x).kind = .buffer →
        sv w1 = (sv w).setDev x { sdev (w.dev x) with buf := (sdev (w.dev x)).buf ++ [p] } ∧
        ∀ c : SV, c.kids = (sv w).kids →
          (∀ (z' : Nat) (d : SDev) (q : Nat), c.devs[z']? = some d → q ∈ d.held →
            (q = p ∧ z' = x) ∨ (q ≠ p ∧ ∃ d0 : SDev, (sv w).devs[z']? = some d0 ∧ q ∈ d0.held)) →
          RSV nb nc c (topo w) (hiOf w1) (skOf w1) (accOf w1))) ∨
    (Inv (mask (sv w1) x s) ∧ RSV nb nc (mask (sv w1) x s) (topo w) (hiOf w1) (skOf w1) (accOf w1) ∧
      sdev (w1.dev x) = sdev (w.dev x) ∧ w1.devs.length = w.devs.length) := by
  obtain ⟨l1, y, l2, wm, hl', h1, h2⟩ := tryList_true hb
  obtain ⟨hq, hparts, hpc⟩ := prefix_quiet' h1
  have hy := hl y (by rw [hl']; simp)
  exact route_give w wm w1 x y p s hI hR hnb hnc hx hk hsk hperm hin hq hparts hpc hy.1 hy.2 h2

theorem part_hist_frame {w w' : World} (h : w'.parts = w.parts) (q : Nat) :
    (w'.part q).hist = hiOf w q ∧ (w'.part q).stack = skOf w q := by
  unfold hiOf skOf; rw [part_congr h]; exact ⟨rfl, rfl⟩

theorem route_passHandler (w : World) (x : Nat) (hI : InvW w) (hR : RouteN nb nc w)
    (hnb : nb → NoBatcher w) (hnc : nc → NoBatcher w ∧ NoCb w)
    (hk : (w.dev x).kind ≠ .sink) (hg : GiveOK w x) : RouteN nb nc (w.passHandler x) := by
  unfold World.passHandler
  simp only []
  split
  · exact hR
  · split
    · exact hR
    · rename_i p hp
      have hx : x < w.devs.length := lt_of_output hp
      rcases hb : tryList givePart w (w.sortedDown x) p with ⟨w1, b⟩
      cases b with
      | false =>
        simp only []
        obtain ⟨hq, hparts, hpc⟩ := prefix_quiet' hb
        refine hR.of_frame_st ?_ ?_ ?_ ?_
        · refine Eq.trans (sv_modDev_same _ _ _ ?_) hq.sv; intro _; rfl
        · refine Eq.trans (st_modDev_same _ _ _ ?_) hq.st; intro _; rfl
        · rw [modDev_parts]; exact hparts
        · refine Eq.trans (pcv_modDev_same _ _ _ ?_) hpc; intro _; rfl
      | true =>
        simp only []
        have key := route_handover w x p (w.sortedDown x) { sdev (w.dev x) with output := none } hI hR hnb hnc hx hk
          rfl
          (by
            simp only [SDev.held, sdev, hp, Option.toList_some, Option.toList_none, List.append_nil,
              List.append_assoc, List.singleton_append]
            exact List.perm_middle)
          (fun b h => h)
          (fun y hy => ⟨(mem_sortedDown ..).1 hy, fun z hr => hg y ((mem_sortedDown ..).1 hy) z hr⟩)
          w1 hb
        have key := key.resolve_left (by rintro ⟨_, h, _⟩; rw [hp] at h; cases h)
        refine RouteN.of_view key.2.1 ?_ ?_ ?_ ?_
        · rw [sv_notify]
          unfold World.modDev
          rw [sv_setDev]
          have e : sdev { (w1.dev x) with output := none } = { sdev (w.dev x) with output := none } := by
            rw [← key.2.2.1]; rfl
          rw [e]; rfl
        · have : st w1 = st w := by
            have := st_tryGive w (w.sortedDown x) p; rw [hb] at this; exact this
          apply topo_of_st
          rw [st_notify]
          refine Eq.trans (st_modDev_same _ _ _ ?_) this; intro _; rfl
        · rw [notify_parts, modDev_parts]
        · rw [pcv_blind.floor.notify]; exact pcv_modDev_same _ _ _ (fun _ => rfl)

theorem route_bufferLoop (f : Nat) : ∀ (w : World) (x : Nat), InvW w → RouteN nb nc w →
    (nb → NoBatcher w) → (nc → NoBatcher w ∧ NoCb w) →
    (w.dev x).kind = .buffer → GiveOK w x → RouteN nb nc (bufferLoop f w x) := by
  induction f with
  | zero => intro w x _ h _ _ _ _; exact h
  | succ f ih =>
    intro w x hI hR hnb hnc hk hg
    unfold bufferLoop
    simp only []
    split
    · exact hR
    · rename_i t p rest hbuf
      have hx : x < w.devs.length := lt_of_buf (by rw [hbuf]; simp)
      have hbs : (sdev (w.dev x)).buf = p :: rest.map (·.2) := by simp [sdev, hbuf]
      split
      · exact hR
      · rcases hb : tryList givePart w (w.sortedDown x) p with ⟨w1, b⟩
        cases b with
        | false =>
          simp only []
          obtain ⟨hq, hparts, hpc⟩ := prefix_quiet' hb
          exact hR.of_frame_st hq.sv hq.st hparts hpc
        | true =>
          simp only []
          have hb2 : (tryList givePart w (w.sortedDown x) p).2 = true := by rw [hb]
          have hw1 : (tryList givePart w (w.sortedDown x) p).1 = w1 := by rw [hb]
          -- the conservation side, as in `inv_bufferLoop`
          have keyI := handover w x p (w.sortedDown x) { sdev (w.dev x) with buf := rest.map (·.2) } hI hx
            (by rw [hk]; decide) rfl
            (by simp only [SDev.held, sdev, hbuf, List.map_cons]; exact perm_buf ..)
            (fun b h => h)
            (fun y hy z hr => hg y ((mem_sortedDown ..).1 hy) z hr)
            hb2
          rw [hw1] at keyI
          have keyR := route_handover w x p (w.sortedDown x) { sdev (w.dev x) with buf := rest.map (·.2) }
            hI hR hnb hnc hx (by rw [hk]; decide) rfl
            (by simp only [SDev.held, sdev, hbuf, List.map_cons]; exact perm_buf ..)
            (fun b h => h)
            (fun y hy => ⟨(mem_sortedDown ..).1 hy, fun z hr => hg y ((mem_sortedDown ..).1 hy) z hr⟩)
            w1 hb
          have hst : st w1 = st w := by
            have := st_tryGive w (w.sortedDown x) p; rw [hb] at this; exact this
          have hxg := sv_get w x hx
          have hnd := held_nodup hI.1 (List.mem_of_getElem? hxg)
          -- the state after removing the head of the buffer
          have hfin : (InvW (w1.modDev x (fun d => { d with level := d.level - w.leafCount p, buf := d.buf.drop 1 })) ∧
              (w1.modDev x (fun d => { d with level := d.level - w.leafCount p, buf := d.buf.drop 1 })).devs.length =
                w.devs.length) ∧
              RouteN nb nc (w1.modDev x (fun d => { d with level := d.level - w.leafCount p, buf := d.buf.drop 1 })) := by
            have hsvf : sv (w1.modDev x (fun d => { d with level := d.level - w.leafCount p, buf := d.buf.drop 1 })) =
                (sv w1).setDev x { sdev (w1.dev x) with buf := (sdev (w1.dev x)).buf.drop 1 } := by
              unfold World.modDev; rw [sv_setDev, sdev_dropBuf]
            have htopo : topo (w1.modDev x (fun d => { d with level := d.level - w.leafCount p, buf := d.buf.drop 1 })) =
                topo w := by
              apply topo_of_st; rw [st_setBuf]; exact hst
            have hparts : (w1.modDev x (fun d => { d with level := d.level - w.leafCount p, buf := d.buf.drop 1 })).parts =
                w1.parts := modDev_parts ..
            have hpcf : pcv (w1.modDev x (fun d => { d with level := d.level - w.leafCount p, buf := d.buf.drop 1 })) =
                pcv w1 := pcv_modDev_same _ _ _ (fun _ => rfl)
            rcases keyI with ⟨hpn, hon, hself⟩ | ⟨hinv, hsd, hlen⟩
            · -- the buffer handed the part to itself: its content is rotated
              have hsv := hself hk
              have hlen : w1.devs.length = w.devs.length := by
                have := congrArg (fun a => a.devs.length) hsv
                simpa [sv, SV.setDev] using this
              have hd : sdev (w1.dev x) = { sdev (w.dev x) with buf := (sdev (w.dev x)).buf ++ [p] } := by
                have := congrArg (fun a => a.dev x) hsv
                simp only [sv_dev] at this
                rw [this]
                simp [SV.setDev, SV.dev, sv, hx]
              have hsvf' : sv (w1.modDev x (fun d => { d with level := d.level - w.leafCount p, buf := d.buf.drop 1 })) =
                  { devs := (sv w).devs.set x { sdev (w.dev x) with buf := ((sdev (w.dev x)).buf ++ [p]).drop 1 },
                    kids := (sv w).kids, gen := (sv w).gen, del := (sv w).del, lost := (sv w).lost } := by
                rw [hsvf, hsv, hd]
                simp only [SV.setDev, List.set_set]
              have hperm : (sdev (w.dev x)).held.Perm
                  ([] ++ (SDev.held { sdev (w.dev x) with buf := ((sdev (w.dev x)).buf ++ [p]).drop 1 })) := by
                simp only [SDev.held, hbs, List.nil_append, List.cons_append, List.drop_succ_cons, List.drop_zero]
                exact ((List.perm_append_singleton p _).symm.append_left _).append_right _
              refine ⟨⟨?_, by show (List.set _ _ _).length = _; rw [List.length_set]; exact hlen⟩, ?_⟩
              · unfold InvW; rw [hsvf']
                exact ⟨consV_rearr hI.1 _ _ [] hxg rfl hperm (Or.inr (by simp)),
                  extraV_rearr hI.2 _ _ [] hxg rfl hperm (fun b h => h)⟩
              · have keyR := keyR.resolve_right (by
                  rintro ⟨_, _, hsd, _⟩
                  have h1 := congrArg SDev.buf hsd
                  have h2 := congrArg SDev.buf hd
                  rw [h2] at h1
                  have := congrArg List.length h1
                  simp at this)
                obtain ⟨_, hall⟩ := keyR.2.2 hk
                refine RouteN.of_view (w1 := w1) (hall
                  { devs := (sv w).devs.set x { sdev (w.dev x) with buf := ((sdev (w.dev x)).buf ++ [p]).drop 1 },
                    kids := (sv w).kids, gen := (sv w).gen, del := (sv w).del, lost := (sv w).lost }
                  rfl ?_) hsvf' htopo hparts hpcf
                intro z' d q h0 hq
                simp only at h0
                have hxl' : x < (sv w).devs.length := (List.getElem?_eq_some_iff.1 hxg).1
                by_cases hxz : x = z'
                · subst hxz
                  rw [List.getElem?_set_self hxl'] at h0
                  cases h0
                  have hq' := hperm.symm.subset (by simpa using hq)
                  by_cases hqp : q = p
                  · exact Or.inl ⟨hqp, rfl⟩
                  · exact Or.inr ⟨hqp, _, hxg, hq'⟩
                · rw [List.getElem?_set_ne hxz] at h0
                  right
                  refine ⟨?_, _, h0, hq⟩
                  intro hqp
                  rw [hqp] at hq
                  exact hxz (held_unique hI.1 hxg h0 (by simp [SDev.held, hbs]) hq)
            · have hsvf' : sv (w1.modDev x (fun d => { d with level := d.level - w.leafCount p, buf := d.buf.drop 1 })) =
                  mask (sv w1) x { sdev (w.dev x) with buf := rest.map (·.2) } := by
                rw [hsvf, hsd, hbs]; rfl
              refine ⟨⟨?_, by show (List.set _ _ _).length = _; rw [List.length_set]; exact hlen⟩, ?_⟩
              · unfold InvW; rw [hsvf']; exact hinv
              · have keyR := keyR.resolve_left (by
                  rintro ⟨_, _, hself⟩
                  have hsv := (hself hk).1
                  have hd : sdev (w1.dev x) = { sdev (w.dev x) with buf := (sdev (w.dev x)).buf ++ [p] } := by
                    have := congrArg (fun a => a.dev x) hsv
                    simp only [sv_dev] at this
                    rw [this]
                    simp [SV.setDev, SV.dev, sv, hx]
                  have h1 := congrArg SDev.buf hsd
                  have h2 := congrArg SDev.buf hd
                  rw [h2] at h1
                  have := congrArg List.length h1
                  simp at this)
                exact RouteN.of_view keyR.2.1 hsvf' htopo hparts hpcf
          have hpc1 : pcv w1 = pcv w := by
            have := pcv_blind.floor.tryList_givePart w (w.sortedDown x) p; rw [hb] at this; exact this
          have hstf : st ((w1.modDev x (fun d => { d with level := d.level - w.leafCount p, buf := d.buf.drop 1 })).addRec
              (.level x (w1.modDev x (fun d => { d with level := d.level - w.leafCount p, buf := d.buf.drop 1 })).now
                ((w1.modDev x (fun d => { d with level := d.level - w.leafCount p, buf := d.buf.drop 1 })).dev x).level)) =
              st w := by
            rw [st_addRec, st_setBuf, hst]
          apply ih
          · exact hfin.1.1.of_sv (sv_addRec ..)
          · exact hfin.2.of_frame_st (sv_addRec ..) (st_addRec ..) rfl (pcv_addRec ..)
          · exact fun hn => (hnb hn).of_st hstf
          · exact fun hn => ⟨(hnc hn).1.of_st hstf, (hnc hn).2.of_pcv (by
              rw [pcv_addRec]
              refine Eq.trans (pcv_modDev_same _ _ _ ?_) hpc1
              intro _; rfl)⟩
          · rw [kind_of_st hstf]; exact hk
          · exact hg.of_st hstf hfin.1.2

/-! ### `passPart`, `failDev`, `initDev` -/

theorem route_passPart_source (w : World) (x : Nat) (hI : InvW w) (hR : RouteN nb nc w)
    (hnb : nb → NoBatcher w) (hnc : nc → NoBatcher w ∧ NoCb w) (hg : GiveOK w x)
    (hk : (w.dev x).kind = .source) : RouteN nb nc (w.passPart x) := by
  have i1 := inv_passHandler w x hI (by rw [hk]; decide) hg
  have h1 := route_passHandler w x hI hR hnb hnc (by rw [hk]; decide) hg
  have hnc1 : nc → NoBatcher (w.passHandler x) ∧ NoCb (w.passHandler x) :=
    fun hn => ⟨(hnc hn).1.of_st (st_passHandler w x), (hnc hn).2.of_pcv (pcv_blind.floor.passHandler w x)⟩
  unfold World.passPart
  simp only [hk]
  repeat' split
  all_goals first
    | exact hR
    | exact h1
    | (refine route_scheduleFinish _ x ?_ ?_ ?_
       · refine i1.of_sv ?_
         rw [sv_addRec, sv_modDev_same]
         intro _; rfl
       · refine h1.of_frame ?_ ?_ ?_ ?_
         · rw [sv_addRec, sv_modDev_same]
           intro _; rfl
         · apply topo_of_tv
           rw [tv_of_st (st_addRec ..)]
           unfold World.modDev
           rw [tdevE_setDev]
           rfl
         · rfl
         · rw [pcv_addRec, pcv_modDev_same]
           intro _; rfl
       · intro hn
         refine ⟨(hnc1 hn).1.of_tv ?_, (hnc1 hn).2.of_pcv ?_⟩
         · rw [tv_of_st (st_addRec ..)]
           unfold World.modDev
           rw [tdevE_setDev]
           rfl
         · rw [pcv_addRec, pcv_modDev_same]
           intro _; rfl)

theorem route_passPart_buffer (w : World) (x : Nat) (hI : InvW w) (hR : RouteN nb nc w)
    (hnb : nb → NoBatcher w) (hnc : nc → NoBatcher w ∧ NoCb w) (hg : GiveOK w x)
    (hk : (w.dev x).kind = .buffer) : RouteN nb nc (w.passPart x) := by
  unfold World.passPart
  simp only [hk]
  have h1 := route_bufferLoop ((w.dev x).buf.length + 1) w x hI hR hnb hnc hk hg
  refine h1.of_frame_st ?_ ?_ ?_ ?_
  · rw [sv_notify]
    split
    · rfl
    · split
      · rw [sv_schedulePass]
      · rw [sv_setDev_same]; rfl
  · rw [st_notify]
    split
    · rfl
    · split
      · rw [st_schedulePass]
      · rw [st_setDev_same]; rfl
  · rw [notify_parts]
    split
    · rfl
    · split
      · rw [schedulePass_parts]
      · rfl
  · rw [pcv_blind.floor.notify]
    split
    · rfl
    · split
      · rw [pcv_blind.floor.schedulePass]
      · rw [pcv_setDev_same]; rfl

theorem route_passPart_batcher (w : World) (x : Nat) (hI : InvW w) (hR : RouteN nb nc w)
    (hnb : nb → NoBatcher w) (hnc : nc → NoBatcher w ∧ NoCb w) (hg : GiveOK w x)
    (hk : (w.dev x).kind = .batcher) : RouteN nb nc (w.passPart x) := by
  unfold World.passPart
  simp only [hk]
  have i1 := inv_passHandler w x hI (by rw [hk]; decide) hg
  have h1 := route_passHandler w x hI hR hnb hnc (by rw [hk]; decide) hg
  split
  · exact route_tryMove _ x i1 h1 (fun hn => (hnb hn).of_st (st_passHandler w x))
      (fun hn => ⟨(hnc hn).1.of_st (st_passHandler w x), (hnc hn).2.of_pcv (pcv_blind.floor.passHandler w x)⟩)
  · exact h1

theorem route_passPart (w : World) (x : Nat) (hI : InvW w) (hR : RouteN nb nc w)
    (hnb : nb → NoBatcher w) (hnc : nc → NoBatcher w ∧ NoCb w) (hg : GiveOK w x) :
    RouteN nb nc (w.passPart x) := by
  cases hk : (w.dev x).kind
  case source => exact route_passPart_source w x hI hR hnb hnc hg hk
  case buffer => exact route_passPart_buffer w x hI hR hnb hnc hg hk
  case batcher => exact route_passPart_batcher w x hI hR hnb hnc hg hk
  case sink => unfold World.passPart; simp only [hk]; exact hR
  all_goals
    unfold World.passPart
    simp only [hk]
    exact route_passHandler w x hI hR hnb hnc (by rw [hk]; decide) hg

theorem route_failDev (w : World) (x : Nat) (hR : RouteN nb nc w) : RouteN nb nc (w.failDev x) := by
  unfold RouteN at hR ⊢
  have ht : topo (w.failDev x) = topo w := topo_of_st (st_failDev w x)
  have hparts : (w.failDev x).parts = w.parts := by
    unfold World.failDev
    simp only []
    rw [show ∀ (w : World) (x : Nat) (f : Bool) (l : Option Nat), (w.shutdownDev x f l).parts = w.parts from
      fun w x f l => by unfold World.shutdownDev; dsimp only; repeat' split
                        all_goals simp [foldl_preserve World.parts _ _ _ (fun w k => addRes_parts w _)]]
    rw [addRec_parts, releaseReserved_parts, modDev_parts]
    split <;> rfl
  have e1 : hiOf (w.failDev x) = hiOf w := by funext q; unfold hiOf; rw [part_congr hparts]
  have e2 : skOf (w.failDev x) = skOf w := by funext q; unfold skOf; rw [part_congr hparts]
  rw [ht, e1, e2, accOf_congr hparts (pcv_blind.floor.failDev w x)]
  -- the slot view: the input slot of `x` is emptied
  have hsv : sv (w.failDev x) = { sv w with
      devs := (sv w).devs.set x { sdev (w.dev x) with part := none },
      lost := (sv (w.failDev x)).lost } := by
    unfold World.failDev
    simp only []
    rw [sv_shutdownDev, sv_addRec, sv_releaseReserved]
    unfold World.modDev
    rw [sv_setDev]
    split <;> rfl
  rw [hsv]
  refine hR.sub rfl ?_
  intro z d q h0 hq
  simp only at h0
  by_cases hxz : x = z
  · subst hxz
    by_cases hxl : x < (sv w).devs.length
    · rw [List.getElem?_set_self hxl] at h0
      cases h0
      have hx' : x < w.devs.length := by simpa [sv] using hxl
      exact ⟨_, sv_get w x hx', held_part_none _ q hq⟩
    · rw [List.getElem?_eq_none (by rw [List.length_set]; exact Nat.le_of_not_lt hxl)] at h0
      cases h0
  · rw [List.getElem?_set_ne hxz] at h0
    exact ⟨d, h0, hq⟩

end C08W
end SimProc
