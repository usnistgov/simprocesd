/-
C06T (exact cycle times over whole runs), part 6: where timers come from.  A timer that is new after
a step of the event loop (its uid was not allocated before) was created by an `_accept_part` of its
device in the course of the step's action; for a handler or processor its initial remaining work is
the cycle time in effect (`acceptDelay`), which is positive.
-/
import SimProc.Proofs.C06TStep
import SimProc.Props.C06W
namespace SimProc
namespace C06T
open World FloorCoreL C06W

/-! ### the effect of one atomic move on one device, exactly -/

theorem Atom.eff {F : Nat → Prop} {w w' : World} (h : FI w) (a : Atom F w w') (y : Nat)
    (hk : (w.dev y).kind ≠ .source) :
    Same w w' y ∨
    (∃ p, y < w.devs.length ∧ isT (w.dev y).kind = true ∧ w.canAcceptBasic y p = true ∧
      w' = w.acceptPart y p) ∨ F y := by
  cases a with
  | frame f => exact Or.inl (same_of_fr f hk)
  | accept x p hx hT hc =>
    obtain ⟨h1, h2, h3⟩ := canAccept_T hT hc
    by_cases hy : y = x
    · subst hy; exact Or.inr (Or.inl ⟨p, hx, hT, hc, rfl⟩)
    · exact Or.inl (same_of_loc_ne (loc_acceptPart h p hx hT h1 h2 h3) hy hk)
  | clear x => exact Or.inl (same_clear w x y)
  | shutdown x hkx =>
    by_cases hy : y = x
    · subst hy; exact Or.inl (same_shutdown h hkx)
    · exact Or.inl (same_of_loc_ne (loc_shutdown h hkx) hy hk)
  | restore x hkx =>
    by_cases hy : y = x
    · subst hy; exact Or.inl (same_restore h hkx)
    · exact Or.inl (same_of_loc_ne (loc_restoreDev h hkx) hy hk)
  | fail x hkx hFx =>
    by_cases hy : y = x
    · subst hy; exact Or.inr (Or.inr hFx)
    · exact Or.inl (same_of_loc_ne (loc_failDev h hkx) hy hk)

theorem rem_singleton_of_mem {w : World} (h : FI w) {x : Nat} (hk : (w.dev x).kind ≠ .source)
    {u : Nat} {r : Int} (hm : (u, r) ∈ rem w.env x) : rem w.env x = [(u, r)] := by
  have hl := timerAt_rem_le_one (h.timer x hk)
  match hr : rem w.env x, hl, hm with
  | [a], _, hm =>
    rw [List.mem_singleton.mp hm]

/-- **Birth.**  A timer of a device that does not fail which exists after a sequence of atomic moves
and whose uid was not allocated before was created by an `accept` move of that device: there is an
intermediate state `wm` of the sequence in which the device can accept a part `p`, the accept creates
exactly this timer, and the part is still in process at the end. -/
theorem Moves.birth {F : Nat → Prop} {w w' : World} (m : Moves F w w') (h : FI w) {x : Nat}
    (hk : (w.dev x).kind ≠ .source) (hF : ¬ F x) {u : Nat} {r : Int}
    (hm : (u, r) ∈ rem w'.env x) (hu : w.env.nextUid ≤ u) :
    ∃ wm p, Moves F w wm ∧ FI wm ∧ wm.now = w.now ∧ x < wm.devs.length ∧
      isT (wm.dev x).kind = true ∧ wm.canAcceptBasic x p = true ∧
      rem (wm.acceptPart x p).env x = [(u, r)] ∧
      (tdm (w'.dev x)).part = (tdm ((wm.acceptPart x p).dev x)).part := by
  induction m with
  | refl w =>
    have := rem_uid_lt h.ei hm
    omega
  | @cons w w1 w2 h0 a m ih =>
    have g := a.good h0
    have hk1 : (w1.dev x).kind ≠ .source := by rw [(g.2.ka x).1]; exact hk
    by_cases hu1 : w1.env.nextUid ≤ u
    · obtain ⟨wm, p, mv, g1, g2, g3, g4, g5, g6, g7⟩ := ih g.1 hk1 hm hu1
      exact ⟨wm, p, .cons h0 a mv, g1, g2.trans g.2.now, g3, g4, g5, g6, g7⟩
    · have hm1 : (u, r) ∈ rem w1.env x := by
        rcases (m.good g.1).2.rem x hk1 with h1 | h1 | ⟨u0, r0, h1, hu0⟩
        · rw [← h1]; exact hm
        · rw [h1] at hm; cases hm
        · rw [h1] at hm
          simp only [List.mem_singleton, Prod.mk.injEq] at hm
          omega
      have hsame : Same w1 w2 x := by
        rcases m.trk x hk1 hF with h1 | h1
        · rw [h1] at hm1; cases hm1
        · exact h1
      rcases a.eff h0 x hk with hs | ⟨p, hx, hT, hc, hw⟩ | hf
      · rw [hs.1] at hm1
        have := rem_uid_lt h0.ei hm1
        omega
      · exact ⟨w, p, .refl _, h0, rfl, hx, hT, hc, hw ▸ rem_singleton_of_mem g.1 hk1 hm1,
          hw ▸ hsame.2⟩
      · exact absurd hf hF

/-! ### accepting a part: the timer of a handler or processor -/

/-- A handler that accepts a part with delay zero finishes it at once: the input slot is empty
again. -/
theorem accept_handler_at_once (w : World) {x : Nat} (p : Nat) (hx : x < w.devs.length)
    (hk : (w.dev x).kind = .handler) (hacc : w.canAcceptBasic x p = true)
    (hc : w.acceptDelay x p ≤ 0) : ((w.acceptPart x p).dev x).part = none := by
  obtain ⟨_, _, ho0⟩ := canAccept_fields w (Or.inr hk) hacc
  have hpre := acceptPre_dev_same w p hx
  have hlen := (acceptPre_frame w x p).2.2.2
  have hx1 : x < (w.acceptPre x p).devs.length := by rw [hlen]; exact hx
  have hk1 : ((w.acceptPre x p).dev x).kind = .handler := by
    rw [hpre, recvDev_field Dev.kind (fun _ _ _ => rfl)]; exact hk
  have ho1 : ((w.acceptPre x p).dev x).output = none := by
    rw [hpre, recvDev_field Dev.output (fun _ _ _ => rfl)]; exact ho0
  have hp1 : ((w.acceptPre x p).dev x).part = some p := by
    rw [hpre, recvDev_field Dev.part (fun _ _ _ => rfl)]
  have hop1 : (w.acceptPre x p).operational x = true := by simp [operational, hk1]
  rw [acceptPart_eq w p (Or.inr hk)]
  simp only [ho1, Option.isNone_none, if_true]
  rw [tryMove_handler _ hk1]
  simp only [hop1, hp1, ho1, Option.isSome_some, Option.isNone_none, Bool.and_self, if_true]
  rw [scheduleFinish_nonpos _ x hc]
  have hd0 : (((w.acceptPre x p).setDev x { (w.acceptPre x p).dev x with offset := 0 }).dev x) =
      { (w.acceptPre x p).dev x with offset := 0 } := dev_setDev_same hx1
  have hk2 : ((((w.acceptPre x p).setDev x { (w.acceptPre x p).dev x with offset := 0 }).dev x)).kind =
      .handler := by rw [hd0]; exact hk1
  rw [C06.finish_releases_part_handler _ hk2 (p := p) (by rw [hd0]; exact hp1) (by rw [hd0]; exact ho1)]
  rw [core_eq_dev_part (schedulePass_core _ _ _), dev_setDev_same (by simpa using hx1)]

/-- The timer a handler or processor has after accepting a part, if it has one: created by this
accept (uid = the old counter), with remaining work `acceptDelay` — the cycle time plus one-shot
offset in effect after the receive callbacks, floored at zero (`C06.acceptDelay_spec`) —, which is
positive; the accepted part is in the input slot. -/
theorem accept_timer {w : World} (h : FI w) {x : Nat} (p : Nat) (hx : x < w.devs.length)
    (hk : (w.dev x).kind = .processor ∨ (w.dev x).kind = .handler)
    (hacc : w.canAcceptBasic x p = true) {u : Nat} {r : Int}
    (hm : (u, r) ∈ rem (w.acceptPart x p).env x) :
    0 < w.acceptDelay x p ∧ r = w.acceptDelay x p ∧ u = w.env.nextUid ∧
    ((w.acceptPart x p).dev x).part = some p := by
  have hT : isT (w.dev x).kind = true := by rcases hk with hk | hk <;> rw [hk] <;> rfl
  by_cases hc : 0 < w.acceptDelay x p
  · rw [accept_rem_pos h p hx hk hacc hc] at hm
    simp only [List.mem_singleton, Prod.mk.injEq] at hm
    exact ⟨hc, hm.2, hm.1, (C06.accept_schedules_finish w p hx hk hacc hc).2.1⟩
  · exfalso
    have hc' : w.acceptDelay x p ≤ 0 := Int.not_lt.1 hc
    have g : Good w (w.acceptPart x p) := (Atom.accept (F := fun _ => False) x p hx hT hacc).good h
    have hk' : ((w.acceptPart x p).dev x).kind = (w.dev x).kind := (g.2.ka x).1
    have hT' : isT ((w.acceptPart x p).dev x).kind = true := by rw [hk']; exact hT
    have hnone : ((w.acceptPart x p).dev x).part = none := by
      rcases hk with hk | hk
      · exact (C06.accept_finishes_at_once w p hk hacc hc').2.1
      · exact accept_handler_at_once w p hx hk hacc hc'
    rw [timerAt_rem_nil (g.1.timer x (isT_ne_source hT')) (by rw [tdm_part hT']; exact hnone)] at hm
    cases hm

/-! ### accepting a part: the timer of any timing device (handler, processor, sink) -/

/-- The world in which `_accept_part` reaches `_try_move_part_to_output`: the part is in the input
slot, the bookkeeping is done and the receive callbacks have run. -/
def recvState (w : World) (x p : Nat) : World := C02V.recvBook (C02V.acceptPre w x p) x p

/-- The delay of the cycle that starts when `x` accepts `p`: cycle time plus one-shot offset in
effect after the receive callbacks ran, floored at zero. -/
def startDelay (w : World) (x p : Nat) : Int := (recvState w x p).finishDelay x

theorem startDelay_eq (w : World) (x p : Nat) :
    startDelay w x p =
      max 0 ((recvState w x p).cycleTime x + ((recvState w x p).dev x).offset) :=
  finishDelay_eq_max _ _

/-- `_schedule_finish_cycle` from the `Mid` state: a timer exists afterwards only if the delay is
positive; it is then the new event with remaining work the delay, and the part stays in process. -/
theorem sched_timer {W : World} {x : Nat} (h : Mid W x) {u : Nat} {r : Int}
    (hm : (u, r) ∈ rem (W.scheduleFinish x).env x) :
    0 < W.finishDelay x ∧ r = W.finishDelay x ∧ u = W.env.nextUid ∧
    ((W.scheduleFinish x).dev x).part = (W.dev x).part := by
  have hx := h.hx
  have f0 : Fr None_ W (W.setDev x { W.dev x with offset := 0 }) := fr_setDev_same _ _ _ rfl
  have hd0 : (W.setDev x { W.dev x with offset := 0 }).dev x = { W.dev x with offset := 0 } :=
    dev_setDev_same hx
  by_cases hc : 0 < W.finishDelay x
  · rw [scheduleFinish_pos W x hc] at hm ⊢
    have hle : (W.setDev x { W.dev x with offset := 0 }).now ≤ W.now + W.finishDelay x := by
      show W.now ≤ _; omega
    obtain ⟨g, hdevs, hE, hP⟩ := schedLib_finish (W.setDev x { W.dev x with offset := 0 })
      (W.now + W.finishDelay x) (W.dev x).aid x pFinish hle h.nofin.1
    have hdev : ((W.setDev x { W.dev x with offset := 0 }).schedLib (W.now + W.finishDelay x)
        (W.dev x).aid (.finishCycle x) pFinish).dev x = { W.dev x with offset := 0 } := by
      rw [dev_congr hdevs, hd0]
    have hP' : finP ((W.setDev x { W.dev x with offset := 0 }).schedLib (W.now + W.finishDelay x)
        (W.dev x).aid (.finishCycle x) pFinish).env x = [] := hP.trans h.nofin.2
    have hrem : rem ((W.setDev x { W.dev x with offset := 0 }).schedLib (W.now + W.finishDelay x)
        (W.dev x).aid (.finishCycle x) pFinish).env x = [(W.env.nextUid, W.finishDelay x)] := by
      unfold rem
      rw [hE, hP']
      have hn : ((W.setDev x { W.dev x with offset := 0 }).schedLib (W.now + W.finishDelay x)
        (W.dev x).aid (.finishCycle x) pFinish).env.now = W.now := g.now
      simp only [List.map_cons, List.map_nil, List.append_nil, newEv, Env.newEvent, hn]
      congr 2
      show W.now + W.finishDelay x - W.now = _
      omega
    rw [hrem] at hm
    simp only [List.mem_singleton, Prod.mk.injEq] at hm
    exact ⟨hc, hm.2, hm.1, by rw [hdev]⟩
  · exfalso
    rw [scheduleFinish_nonpos W x (Int.not_lt.1 hc)] at hm
    have hm0 := h.of_fr f0
    obtain ⟨p, hp⟩ := Option.isSome_iff_exists.mp hm0.part
    have l := loc_finishCycle hm0
    have hs := (finishCycle_slots hm0 hp).1
    rw [timerAt_rem_nil (l.at_ hm0.ne_source) hs] at hm
    cases hm

theorem finishDelay_congr {W W' : World} {x : Nat} (hk : (W'.dev x).kind = (W.dev x).kind)
    (hc : (W'.dev x).cycle = (W.dev x).cycle) (ho : (W'.dev x).offset = (W.dev x).offset) :
    W'.finishDelay x = W.finishDelay x := by
  unfold finishDelay cycleTime
  rw [hk, hc, ho]

/-- **The timer any timing device has after accepting a part**, if it has one: created by this
accept, with remaining work `startDelay` (positive); the accepted part is in the input slot. -/
theorem accept_timer_T {w : World} (h : FI w) {x : Nat} (p : Nat) (hx : x < w.devs.length)
    (hT : isT (w.dev x).kind = true) (hacc : w.canAcceptBasic x p = true) {u : Nat} {r : Int}
    (hm : (u, r) ∈ rem (w.acceptPart x p).env x) :
    0 < startDelay w x p ∧ r = startDelay w x p ∧ ((w.acceptPart x p).dev x).part = some p := by
  obtain ⟨hp, ho, hop⟩ := canAccept_T hT hacc
  -- the `Mid` state in which `onReceived` is called
  have hmid : Mid (C02V.acceptPre w x p) x := by
    unfold C02V.acceptPre
    dsimp only
    have f0 := fr_acceptPre0 (X := None_) w x p
    generalize (if (w.dev x).kind == .sink then
      ({ w with delivered := w.delivered ++ w.leavesOf p } : World) else w) = w0 at f0 ⊢
    have h0 : FI w0 := (f0.good h).1
    have e0 := f0.tdm_eq x
    have hT0 : isT (w0.dev x).kind = true := by rw [f0.kind]; exact hT
    have hm := mid_of_accept h0 p (f0.len ▸ hx) hT0
      (by rw [← tdm_part hT0, e0, tdm_part hT]; exact hp)
      (by rw [← tdm_output hT0, e0, tdm_output hT]; exact ho)
      (by rw [operational_eq, e0, ← operational_eq]; exact hop)
    have f2 : Fr None_ (w0.modDev x (fun d => { d with part := some p }))
        (((w0.modDev x (fun d => { d with part := some p })).addHist p x).setWaiting x false false) :=
      (fr_addHist _ _ _).trans (fr_setWaiting _ _ _ _)
    exact hm.of_fr f2
  have hmb : Mid (recvState w x p) x := hmid.of_fr (fr_recvBook (C02V.acceptPre w x p) x p)
  -- the part in the input slot is `p`
  have hpart : ((recvState w x p).dev x).part = some p := by
    have hs : C02V.sv (recvState w x p) = C02V.accept (C02V.sv w) x p (C02V.sdev (w.dev x)) := by
      unfold recvState
      rw [C02V.sv_recvBook, C02V.sv_acceptPre]
    have hd : C02V.sdev ((recvState w x p).dev x) = { C02V.sdev (w.dev x) with part := some p } := by
      have := congrArg (fun a => a.dev x) hs
      simp only [C02V.sv_dev] at this
      rw [this]
      simp [C02V.accept, C02V.SV.dev, C02V.sv, hx]
    exact congrArg C02V.SDev.part hd
  have hcond : ((recvState w x p).operational x && ((recvState w x p).dev x).part.isSome &&
      ((recvState w x p).dev x).output.isNone) = true := by
    simp [hmb.op, hmb.part, hmb.out]
  have hacc_eq : w.acceptPart x p = (recvState w x p).tryMove x := by
    rw [C02V.acceptPart_eq, C02V.onReceived_eq]
    show (if ((recvState w x p).dev x).output.isNone then (recvState w x p).tryMove x
      else recvState w x p) = _
    rw [hmb.out]; rfl
  rw [hacc_eq] at hm ⊢
  have hTb := hmb.kT
  cases hk : ((recvState w x p).dev x).kind
  case processor =>
    rw [tryMove_proc _ hk, if_pos hcond] at hm ⊢
    have hm2 : Mid ((recvState w x p).setDev x
        { (recvState w x p).dev x with lastUseStart := some (recvState w x p).now }) x := by
      -- with a variable in place of `recvState w x p` the six `rfl` do not unfold it
      revert hmb
      generalize recvState w x p = W
      exact fun hmb => hmb.setDev _ rfl rfl rfl rfl rfl rfl
    obtain ⟨a1, a2, _, a4⟩ := sched_timer hm2 hm
    have hd := dev_setDev_same (w := recvState w x p) (d := x)
      (x := { (recvState w x p).dev x with lastUseStart := some (recvState w x p).now }) hmb.hx
    have e : ((recvState w x p).setDev x
        { (recvState w x p).dev x with lastUseStart := some (recvState w x p).now }).finishDelay x =
        startDelay w x p := finishDelay_congr (by rw [hd]) (by rw [hd]) (by rw [hd])
    rw [e] at a1 a2
    exact ⟨a1, a2, by rw [a4, hd]; exact hpart⟩
  case handler =>
    rw [tryMove_handler _ hk, if_pos hcond] at hm ⊢
    obtain ⟨a1, a2, _, a4⟩ := sched_timer hmb hm
    exact ⟨a1, a2, a4.trans hpart⟩
  case sink =>
    have e : (recvState w x p).tryMove x = (recvState w x p).scheduleFinish x := by
      unfold World.tryMove
      simp only [hk, hcond, if_true]
    rw [e] at hm ⊢
    obtain ⟨a1, a2, _, a4⟩ := sched_timer hmb hm
    exact ⟨a1, a2, a4.trans hpart⟩
  all_goals (rw [hk] at hTb; cases hTb)

/-! ### one step -/

/-- **Where a new timer comes from.**  If after a step of the event loop device `x` has a timer
whose uid was not allocated before the step, then the event was live and in the course of its
action — after a sequence of atomic moves from the popped state, at the time of the event — `x`
accepted a part `p` (it could accept it: operational, unblocked, both slots empty), which created
exactly this timer; `p` is in the input slot after the step. -/
theorem birth_step {w w' : World} {e : Event} (h : WI w) (hst : w.step = some (e, w')) {x : Nat}
    (hk : (w.dev x).kind ≠ .source) {u : Nat} {r : Int} (hm : (u, r) ∈ rem w'.env x)
    (hu : w.env.nextUid ≤ u) :
    ∃ env' wm p, w.env.step = some (e, env') ∧ e.live = true ∧
      Moves (fun d => Action.ofNat e.act = .fail d) ({ w with env := env' } : World) wm ∧
      FI wm ∧ wm.now = e.time ∧ x < wm.devs.length ∧ (wm.dev x).kind = (w.dev x).kind ∧
      wm.canAcceptBasic x p = true ∧ rem (wm.acceptPart x p).env x = [(u, r)] ∧
      (w'.dev x).part = ((wm.acceptPart x p).dev x).part := by
  have h' := wi_step h hst
  obtain ⟨env', henv, sk⟩ := step_kind h hst
  have huid : env'.nextUid = w.env.nextUid := (fin_step henv x).2.2.2
  have hn : env'.now = e.time := (fin_step henv x).2.2.1
  have hei : EI env' := h.fi.ei.step henv
  have hold : ∀ r0, (u, r0) ∉ rem env' x := by
    intro r0 hr0
    have := rem_uid_lt hei hr0
    omega
  cases sk with
  | skipped hl hw => subst hw; exact absurd hm (hold r)
  | finish y hl ha hmid hw =>
    exfalso
    by_cases hy : x = y
    · subst hy
      obtain ⟨_, _, _, _, _, _, _, _, hr', _⟩ := finish_step h hst hk hl ha
      rw [hr'] at hm; cases hm
    · have hs := same_of_loc_ne (loc_finishCycle hmid) hy hk
      subst hw
      rw [hs.1] at hm
      exact hold r hm
  | action hl hfi hsrc hw mv =>
    by_cases hF : Action.ofNat e.act = .fail x
    · have := (failed_of_step h hst hl hF).rem
      rw [this] at hm; cases hm
    · obtain ⟨wm, p, m1, g1, g2, g3, g4, g5, g6, g7⟩ :=
        mv.birth hfi (x := x) hk hF hm (by show env'.nextUid ≤ u; omega)
      have gm := m1.good hfi
      have hkm : (wm.dev x).kind = (w.dev x).kind := (gm.2.ka x).1
      have ga : Good wm (wm.acceptPart x p) :=
        (Atom.accept (F := fun _ => False) x p g3 g4 g5).good g1
      have hT : isT (w.dev x).kind = true := by rw [← hkm]; exact g4
      have hT' : isT (w'.dev x).kind = true := by
        rw [((step_spec h hst).choose_spec.2.2.ka x).1]; exact hT
      have hTa : isT ((wm.acceptPart x p).dev x).kind = true := by
        rw [(ga.2.ka x).1]; exact g4
      refine ⟨env', wm, p, henv, hl, m1, g1, g2.trans hn, g3, hkm, g5, g6, ?_⟩
      rw [tdm_part hT', tdm_part hTa] at g7
      exact g7

end C06T
end SimProc
