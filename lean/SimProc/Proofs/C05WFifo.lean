/-
C05W machinery, part 9: how the queue of a buffer evolves during one event (no invariant needed):
entries leave from the front, after their minimum delay; new entries are appended with the current
time.  Holds in every topology, self-loops included.
-/
import SimProc.Proofs.C05WStep
namespace SimProc
namespace C05W
open World C02V

/-- The queue of `y` only grew, by entries stamped with the current time. -/
def QApp (w w' : World) (y : Nat) : Prop :=
  (w'.dev y).delay = (w.dev y).delay ∧
  ∃ new, (w'.dev y).buf = (w.dev y).buf ++ new ∧ ∀ e ∈ new, e.1 = w.now

/-- The queue of `y` lost a prefix of entries whose minimum delay had expired and gained entries
stamped with the current time. -/
def QEv (w w' : World) (y : Nat) : Prop :=
  (w'.dev y).delay = (w.dev y).delay ∧
  ∃ k new, (w'.dev y).buf = (w.dev y).buf.drop k ++ new ∧ (∀ e ∈ new, e.1 = w.now) ∧
    ∀ e ∈ (w.dev y).buf.take k, e.1 + (w.dev y).delay ≤ w.now

theorem QApp.refl (w : World) (y : Nat) : QApp w w y := ⟨rfl, [], by simp, by simp⟩

theorem QApp.of_bdev {w w' : World} {y : Nat} (h : bdev (w'.dev y) = bdev (w.dev y)) : QApp w w' y :=
  ⟨congrArg BDev.delay h, [], by rw [List.append_nil]; exact congrArg BDev.buf h, by simp⟩

theorem QApp.trans {a b c : World} {y : Nat} (hn : b.now = a.now) (h1 : QApp a b y) (h2 : QApp b c y) :
    QApp a c y := by
  obtain ⟨d1, n1, e1, t1⟩ := h1
  obtain ⟨d2, n2, e2, t2⟩ := h2
  refine ⟨d2.trans d1, n1 ++ n2, by rw [e2, e1, List.append_assoc], ?_⟩
  intro e he
  rcases List.mem_append.1 he with he | he
  · exact t1 e he
  · rw [← hn]; exact t2 e he

theorem QApp.qev {w w' : World} {y : Nat} (h : QApp w w' y) : QEv w w' y := by
  obtain ⟨d, n, e, t⟩ := h
  exact ⟨d, 0, n, by simpa using e, t, by simp⟩

theorem QEv.refl (w : World) (y : Nat) : QEv w w y := (QApp.refl w y).qev

theorem QEv.trans {a b c : World} {y : Nat} (hn : b.now = a.now) (h1 : QEv a b y) (h2 : QEv b c y) :
    QEv a c y := by
  obtain ⟨d1, k1, n1, e1, t1, x1⟩ := h1
  obtain ⟨d2, k2, n2, e2, t2, x2⟩ := h2
  refine ⟨d2.trans d1, k1 + k2, n1.drop (k2 - ((a.dev y).buf.drop k1).length) ++ n2, ?_, ?_, ?_⟩
  · rw [e2, e1, List.drop_append, List.drop_drop, List.append_assoc]
  · intro e he
    rcases List.mem_append.1 he with he | he
    · exact t1 e (List.mem_of_mem_drop he)
    · rw [← hn]; exact t2 e he
  · intro e he
    rw [List.take_add] at he
    rcases List.mem_append.1 he with he | he
    · exact x1 e he
    · have : e ∈ (b.dev y).buf.take k2 := by
        rw [e1, List.take_append]
        exact List.mem_append_left _ he
      have := x2 e this
      rw [d1, hn] at this
      exact this

/-! ### one hand-over -/

theorem qapp_acceptPart (w : World) (z p y : Nat) (ho : (w.dev z).output = none)
    (hy : (w.dev y).kind = .buffer) : QApp w (w.acceptPart z p) y := by
  by_cases hyz : y = z
  · subst hyz
    obtain ⟨_, a2, _, _, _, a6, _⟩ := C05.acceptPart_buffer w y p (lt_of_kind_buffer hy) hy ho
    exact ⟨a6, [(w.now, p)], a2, by simp⟩
  · exact QApp.of_bdev ((bo_acceptPart w z p).bdev_eq hyz)

theorem qapp_tryGive (w : World) (l : List Nat) (p y : Nat) (hy : (w.dev y).kind = .buffer) :
    QApp w (tryList givePart w l p).1 y ∧ (tryList givePart w l p).1.now = w.now := by
  cases hb : (tryList givePart w l p).2 with
  | false =>
    have hf := (tryGive_gd w l p).1 hb
    exact ⟨QApp.of_bdev (bdev_of_fr3 hf y), now_of_bv hf.bv⟩
  | true =>
    obtain ⟨_, _, z, w0, hf, _, _, _, ho, _, he⟩ := (tryGive_gd w l p).2 hb
    rw [he]
    have h1 : QApp w w0 y := QApp.of_bdev (bdev_of_fr3 hf y)
    have h2 := qapp_acceptPart w0 z p y ho (by rw [kind_of_fr3 hf]; exact hy)
    exact ⟨QApp.trans (now_of_bv hf.bv) h1 h2, ((bo_acceptPart w0 z p).now).trans (now_of_bv hf.bv)⟩

/-! ### `passHandler`, `bufferLoop`, `passPart` -/

theorem qapp_passHandler (w : World) (x y : Nat) (hy : (w.dev y).kind = .buffer) :
    QApp w (w.passHandler x) y ∧ (w.passHandler x).now = w.now := by
  unfold World.passHandler
  simp only []
  split
  · exact ⟨QApp.refl w y, rfl⟩
  · split
    · exact ⟨QApp.refl w y, rfl⟩
    · rename_i p hp
      have key := qapp_tryGive w (w.sortedDown x) p y hy
      split
      · rename_i w1 h
        rw [h] at key
        have hb : bv ((w1.modDev x (fun d => { d with output := none })).notify x) = bv w1 := by
          rw [bv_notify]; exact bv_modDev_same _ _ _ (fun _ => rfl)
        exact ⟨QApp.trans key.2 key.1 (QApp.of_bdev (bdev_of_bv hb y)), (now_of_bv hb).trans key.2⟩
      · rename_i w1 h
        rw [h] at key
        have hb : bv (w1.modDev x (fun d => { d with waitingDS := true })) = bv w1 :=
          bv_modDev_same _ _ _ (fun _ => rfl)
        exact ⟨QApp.trans key.2 key.1 (QApp.of_bdev (bdev_of_bv hb y)), (now_of_bv hb).trans key.2⟩

theorem qev_bufferLoop (f : Nat) : ∀ (w : World) (x y : Nat), (w.dev y).kind = .buffer →
    QEv w (bufferLoop f w x) y ∧ (bufferLoop f w x).now = w.now := by
  induction f with
  | zero => intro w x y _; exact ⟨QEv.refl w y, rfl⟩
  | succ f ih =>
    intro w x y hy
    rw [C05.bufferLoop_succ]
    split
    · exact ⟨QEv.refl w y, rfl⟩
    · rename_i t p rest hb
      split
      · exact ⟨QEv.refl w y, rfl⟩
      · rename_i hh
        have key := qapp_tryGive w (w.sortedDown x) p y hy
        have hst1 := st_tryGive w (w.sortedDown x) p
        cases hr : tryList givePart w (w.sortedDown x) p with
        | mk w1 b =>
          rw [hr] at key hst1
          simp only [] at key hst1
          cases b with
          | false => exact ⟨key.1.qev, key.2⟩
          | true =>
            simp only []
            have hy2 : ((C05.popHead w1 x (w.leafCount p)).dev y).kind = .buffer := by
              rw [kind_of_st ((popHead_st ..).trans hst1)]; exact hy
            have hn2 : (C05.popHead w1 x (w.leafCount p)).now = w.now := key.2
            obtain ⟨hq, hn⟩ := ih (C05.popHead w1 x (w.leafCount p)) x y hy2
            refine ⟨QEv.trans hn2 ?_ hq, hn.trans hn2⟩
            by_cases hyx : y = x
            · subst hyx
              obtain ⟨d1, n1, e1, t1⟩ := key.1
              have hy1 : y < w1.devs.length := by
                have := congrArg (fun t => t.devs.length) hst1
                simp only [st, List.length_map] at this
                rw [this]; exact lt_of_kind_buffer hy
              have hd2 := C05.popHead_dev w1 y (w.leafCount p) hy1
              refine ⟨by rw [hd2]; exact d1, 1, n1, ?_, t1, ?_⟩
              · rw [hd2]; show (w1.dev y).buf.drop 1 = _
                rw [e1, hb]; rfl
              · intro e he
                rw [hb] at he
                simp only [List.take_succ_cons, List.take_zero, List.mem_singleton] at he
                subst he
                show t + (w.dev y).delay ≤ w.now
                omega
            · have := (popHead_bo w1 x (w.leafCount p)).bdev_eq hyx
              exact (QApp.trans key.2 key.1 (QApp.of_bdev this)).qev

theorem qev_passPart (w : World) (x y : Nat) (hy : (w.dev y).kind = .buffer) :
    QEv w (w.passPart x) y ∧ (w.passPart x).now = w.now := by
  have hfin : ∀ w'' w' : World, bv w'' = bv w' → (QEv w w' y ∧ w'.now = w.now) →
      QEv w w'' y ∧ w''.now = w.now := fun w'' w' hb h =>
    ⟨QEv.trans h.2 h.1 (QApp.of_bdev (bdev_of_bv hb y)).qev, (now_of_bv hb).trans h.2⟩
  have hph : QEv w (w.passHandler x) y ∧ (w.passHandler x).now = w.now :=
    ⟨(qapp_passHandler w x y hy).1.qev, (qapp_passHandler w x y hy).2⟩
  cases hk : (w.dev x).kind
  case source =>
    unfold World.passPart
    simp only [hk]
    repeat' split
    all_goals first
      | exact ⟨QEv.refl w y, rfl⟩
      | exact hph
      | (refine hfin _ (w.passHandler x) ?_ hph
         rw [bv_scheduleFinish, bv_addRec]
         exact bv_modDev_same _ _ _ (fun _ => rfl))
  case buffer =>
    unfold World.passPart
    simp only [hk]
    refine hfin _ (bufferLoop ((w.dev x).buf.length + 1) w x) ?_ (qev_bufferLoop _ w x y hy)
    rw [bv_notify]; split
    · rfl
    · split
      · rw [bv_schedulePass]
      · exact bv_setDev_same _ _ _ rfl
  case batcher =>
    unfold World.passPart
    simp only [hk]
    split
    · have hyx : y ≠ x := by
        rintro rfl; rw [hk] at hy; cases hy
      have hbo := bo_tryMove (w.passHandler x) x
      exact ⟨QEv.trans hph.2 hph.1 (QApp.of_bdev ((BO.bdev_eq hbo hyx))).qev, (BO.now hbo).trans hph.2⟩
    · exact hph
  case sink =>
    have : w.passPart x = w := by unfold World.passPart; simp only [hk]
    rw [this]; exact ⟨QEv.refl w y, rfl⟩
  all_goals
    unfold World.passPart
    simp only [hk]
    exact hph

/-- One event: for every buffer, the queue evolves as described. -/
theorem qev_exec (w : World) (a : Action) (hs : ScriptsNoRC w) (y : Nat)
    (hy : (w.dev y).kind = .buffer) : QEv w (w.exec a) y ∧ (w.exec a).now = w.now := by
  by_cases hp : ∃ d, a = .passPart d
  · obtain ⟨d, rfl⟩ := hp
    exact qev_passPart w d y hy
  · have hq := quiet_exec w a hs (fun d hd => hp ⟨d, hd⟩)
    exact ⟨(QApp.of_bdev (bdev_of_bv hq.1 y)).qev, now_of_bv hq.1⟩

/-! ### the clock only moves when an event is popped -/

/-- No function of the floor moves the clock. -/
theorem now_floor : FloorClosed (fun w w' => w'.now = w.now) :=
  .ofAtoms (fun _ => rfl) (fun h1 h2 => h2.trans h1) (fun w m => now_of_bv (bv_setErr w m))
    (fun _ _ _ => rfl) (fun _ _ _ => rfl) (fun _ _ _ _ => rfl) (fun _ _ _ => rfl)
    (fun w t a act p _ => now_of_bv (bv_schedLib w t a act p)) (fun _ _ h => by cases h <;> rfl)
    (fun _ _ => rfl) (fun _ _ => rfl) (fun _ _ => rfl) (fun _ _ => rfl) (fun _ _ => rfl)
    (fun _ _ => rfl)

theorem now_passPart (w : World) (x : Nat) : (w.passPart x).now = w.now := now_floor.passPart w x

theorem now_exec (w : World) (a : Action) (hs : ScriptsNoRC w) : (w.exec a).now = w.now := by
  by_cases hp : ∃ d, a = .passPart d
  · obtain ⟨d, rfl⟩ := hp
    exact now_passPart w d
  · exact now_of_bv (quiet_exec w a hs (fun d hd => hp ⟨d, hd⟩)).1

end C05W
end SimProc
