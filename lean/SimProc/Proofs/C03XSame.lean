/-
C03W, stage B — `SameD x w w'`: going from `w` to `w'` changed nothing a device `x` sees of itself:
the non-flow fields of device `x`, the number of devices, the clock, the kinds of all devices.
(`C05.Same` without the batch structure of the parts, which a batcher changes.)  A hand-over to a
machine, sink, buffer or BATCHER other than `x` is such a step.
-/
import SimProc.Proofs.C05Lemmas
import SimProc.Props.C17

namespace SimProc
namespace C03W
open World FloorCoreL

structure SameD (x : Nat) (w w' : World) : Prop where
  dev : (w'.dev x).core = (w.dev x).core
  len : w'.devs.length = w.devs.length
  now : w'.now = w.now
  kind : ∀ z, (w'.dev z).kind = (w.dev z).kind

theorem SameD.refl (x : Nat) (w : World) : SameD x w w := ⟨rfl, rfl, rfl, fun _ => rfl⟩

theorem SameD.trans {x : Nat} {w w' w'' : World} (h : SameD x w w') (h' : SameD x w' w'') :
    SameD x w w'' :=
  ⟨h'.dev.trans h.dev, h'.len.trans h.len, h'.now.trans h.now,
    fun z => (h'.kind z).trans (h.kind z)⟩

theorem SameD.of_same {x : Nat} {w w' : World} (h : Same x w w') : SameD x w w' :=
  ⟨h.dev, h.len, h.now, h.kind⟩

theorem SameD.of_core {x : Nat} {w w' : World} (hc : w'.core = w.core) (hn : w'.now = w.now) :
    SameD x w w' := .of_same (.of_core hc hn)

theorem sameD_modDev {x y : Nat} (w : World) (f : Dev → Dev) (hy : y ≠ x)
    (hk : (f (w.dev y)).kind = (w.dev y).kind) : SameD x w (w.modDev y f) :=
  .of_same (same_modDev w f hy hk)

theorem sameD_setDev {x y : Nat} (w : World) (d : Dev) (hy : y ≠ x)
    (hk : d.kind = (w.dev y).kind) : SameD x w (w.setDev y d) :=
  .of_same (same_setDev w d hy hk)

theorem sameD_foldl {α} {x : Nat} (g : World → α → World) (l : List α) (w : World)
    (h : ∀ w a, SameD x w (g w a)) : SameD x w (l.foldl g w) := by
  induction l generalizing w with
  | nil => exact .refl x w
  | cons a l ih => exact (h w a).trans (ih (g w a))

theorem sameD_batcherLoop {x y : Nat} (n : Nat) (w : World) (hy : y ≠ x) :
    SameD x w (batcherLoop n w y) := by
  obtain ⟨hl, hr⟩ := C17.batcherLoop_rest n w y
  refine ⟨by rw [C17.batcherLoop_dev_other n w (Ne.symm hy)], hl, ?_, fun z => ?_⟩
  · have : (batcherLoop n w y).noDevsParts.env = w.noDevsParts.env := by rw [hr]
    exact congrArg Env.now this
  · by_cases hz : z = y
    · subst hz
      obtain ⟨a, b, c, he⟩ := C17.batcherLoop_dev_self n w z
      rw [he]
    · rw [C17.batcherLoop_dev_other n w hz]

theorem sameD_tryMove_batcher {x y : Nat} (w : World) (hy : y ≠ x)
    (hk : (w.dev y).kind = .batcher) : SameD x w (w.tryMove y) := by
  unfold World.tryMove
  simp only [hk]
  repeat' split
  all_goals first
    | exact .refl x w
    | exact sameD_setDev w _ hy hk.symm
    | exact (sameD_batcherLoop _ w hy).trans (.of_same (same_schedulePass x _ y 0))
    | exact sameD_batcherLoop _ w hy

theorem sameD_onReceived_batcher {x y : Nat} (w : World) (p : Nat) (hy : y ≠ x)
    (hk : (w.dev y).kind = .batcher) : SameD x w (w.onReceived y p) := by
  unfold World.onReceived
  simp only [hk]
  have h1 : SameD x w (w.addRec (.received y w.now p (w.part p).quality (w.partValue p))) :=
    .of_same (same_addRec x w _)
  have hk1 : ((w.addRec (.received y w.now p (w.part p).quality (w.partValue p))).dev y).kind =
      .batcher := hk
  generalize w.addRec (.received y w.now p (w.part p).quality (w.partValue p)) = w1 at h1 hk1
  have h2 : SameD x w1 ((w1.dev y).recvCbs.foldl (fun w c => w.applyPartCb y p c) w1) :=
    sameD_foldl _ _ _ (fun w c => .of_same (same_applyPartCb w p c hy))
  have hk2 : (((w1.dev y).recvCbs.foldl (fun w c => w.applyPartCb y p c) w1).dev y).kind =
      .batcher := by rw [h2.kind]; exact hk1
  generalize (w1.dev y).recvCbs.foldl (fun w c => w.applyPartCb y p c) w1 = w2 at h2 hk2
  split
  · exact (h1.trans h2).trans (sameD_tryMove_batcher w2 hy hk2)
  · exact h1.trans h2

theorem sameD_acceptPart_batcher {x y : Nat} (w : World) (p : Nat) (hy : y ≠ x)
    (hk : (w.dev y).kind = .batcher) : SameD x w (w.acceptPart y p) := by
  unfold World.acceptPart
  have hns : ((w.dev y).kind == Kind.sink) = false := by rw [hk]; rfl
  simp only [hns, Bool.false_eq_true, if_false]
  have h1 : SameD x w (w.modDev y (fun d => { d with part := some p })) := sameD_modDev w _ hy rfl
  have h2 : SameD x w ((w.modDev y (fun d => { d with part := some p })).addHist p y) :=
    h1.trans (.of_same (same_addHist x _ p y))
  have h3 : SameD x w (((w.modDev y (fun d => { d with part := some p })).addHist p y).setWaiting y
      false false) := h2.trans (.of_same (same_setWaiting x _ y false false))
  exact h3.trans (sameD_onReceived_batcher _ p hy (by rw [h3.kind]; exact hk))

/-- `give_part` to a machine, sink, buffer or batcher other than `x`. -/
theorem sameD_give {x y : Nat} (f : Nat) (w : World) (p : Nat) (hy : y ≠ x)
    (hk : plainKind (w.dev y).kind ∨ (w.dev y).kind = .batcher) :
    SameD x w (give (f + 1) w y p).1 := by
  rcases hk with hk | hk
  · exact .of_same (same_give f w p hy hk)
  · rw [C17.give_batcher hk]
    split
    · -- with `(w.acceptPart _ _, true).fst` left in the goal, `exact` unfolds `acceptPart` before the projection
      dsimp only
      exact sameD_acceptPart_batcher w p hy hk
    · exact .refl x w

end C03W
end SimProc
