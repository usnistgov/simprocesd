/-
Which handler-like devices a `give` starting at a device can reach (over-approximation on the
static view), and `sortedDown`.
-/
import SimProc.Proofs.Views
namespace SimProc
namespace C02V
open World

namespace ST
def tdflt : TDev := tdev default
def kind (t : ST) (x : Nat) : Kind := (t.devs.getD x tdflt).kind
def down (t : ST) (x : Nat) : List Nat := (t.devs.getD x tdflt).down
def group (t : ST) (x : Nat) : Nat := (t.devs.getD x tdflt).group
end ST

theorem st_get (w : World) (x : Nat) : (st w).devs.getD x ST.tdflt = tdev (w.dev x) := by
  simp only [st, World.dev, List.getD_eq_getElem?_getD, List.getElem?_map, ST.tdflt]
  cases w.devs[x]? <;> rfl

theorem st_kind (w : World) (x : Nat) : (st w).kind x = (w.dev x).kind := by
  unfold ST.kind; rw [st_get]; rfl
theorem st_down (w : World) (x : Nat) : (st w).down x = (w.dev x).down := by
  unfold ST.down; rw [st_get]; rfl
theorem st_group (w : World) (x : Nat) : (st w).group x = (w.dev x).group := by
  unfold ST.group; rw [st_get]; rfl
theorem st_gin (w : World) (g : Nat) : (st w).gin.getD g 0 = (w.groups.getD g default).input := by
  simp only [st, List.getD_eq_getElem?_getD, List.getElem?_map]
  cases w.groups[g]? <;> rfl

theorem tdev_of_st {w w' : World} (h : st w' = st w) (x : Nat) : tdev (w'.dev x) = tdev (w.dev x) := by
  rw [← st_get, ← st_get, h]

theorem kind_of_st {w w' : World} (h : st w' = st w) (x : Nat) : (w'.dev x).kind = (w.dev x).kind :=
  congrArg TDev.kind (tdev_of_st h x)

/-- `Reach t y z`: a `give` to device `y` may end up offering the part to the handler-like device `z`. -/
inductive Reach (t : ST) : Nat → Nat → Prop
  | self (y : Nat) : isHandlerLike (t.kind y) = true → Reach t y y
  | gate (y z u : Nat) : (t.kind y = .gate ∨ t.kind y = .ginput) → z ∈ t.down y → Reach t z u → Reach t y u
  | gpath (y u : Nat) : t.kind y = .gpath → Reach t (t.gin.getD (t.group y) 0) u → Reach t y u
  | goutput (y g z u : Nat) : t.kind y = .goutput → z ∈ t.down g → Reach t z u → Reach t y u

/-! ### `sortedDown` is a rearrangement of `down` -/

theorem mem_insertByKey (key : Nat → Option Int) (x y : Nat) (l : List Nat) :
    y ∈ insertByKey key x l ↔ y = x ∨ y ∈ l := by
  induction l with
  | nil => simp [insertByKey]
  | cons a l ih =>
    unfold insertByKey
    split
    · simp [ih]; constructor
      · rintro (h | h | h) <;> simp [h]
      · rintro (h | h | h) <;> simp [h]
    · simp

theorem mem_stableSort (key : Nat → Option Int) (l : List Nat) (y : Nat) : y ∈ stableSort key l ↔ y ∈ l := by
  unfold stableSort
  have : ∀ (acc : List Nat), y ∈ l.foldl (fun acc x => insertByKey key x acc) acc ↔ y ∈ l ∨ y ∈ acc := by
    induction l with
    | nil => intro acc; simp
    | cons a l ih =>
      intro acc
      simp only [List.foldl_cons, ih, mem_insertByKey, List.mem_cons]
      constructor
      · rintro (h | h | h) <;> simp [h]
      · rintro ((h | h) | h) <;> simp [h]
  simpa using this []

theorem mem_sortedDown (w : World) (x y : Nat) : y ∈ w.sortedDown x ↔ y ∈ (w.dev x).down := by
  unfold World.sortedDown; exact mem_stableSort _ _ _

end C02V
end SimProc
