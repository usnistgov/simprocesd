/-
C03W — the projection `swv` (static part of every device, which device a maintenance target shuts
down, the group table): nothing but `rewire` and `create` changes it.
-/
import SimProc.Proofs.C03WDefs
import SimProc.Proofs.WorldWalk

namespace SimProc
namespace C02V
open World

/-- the static part of the devices and of the maintenance targets -/
def swv (w : World) : List Dev × List (Option Nat) × List Group :=
  (w.devs.map C03W.stat1, w.targets.map (·.dev), w.groups)

theorem swv_setDev_same (w : World) (x : Nat) (d : Dev) (h : C03W.stat1 d = C03W.stat1 (w.dev x)) :
    swv (w.setDev x d) = swv w := by
  simp only [swv, World.setDev]
  rw [map_set_getD_self C03W.stat1 w.devs x default d h]

theorem swv_blind : Blind fun w w' => swv w' = swv w where
  refl := fun _ => rfl
  trans := fun h1 h2 => h2.trans h1
  tables := fun _ _ _ _ _ _ _ _ _ _ _ _ _ _ _ _ _ => rfl
  setDev := fun w x d h => swv_setDev_same w x d (congrArg C03W.stat1 h :)
  setBlockInput := fun w x _ => swv_setDev_same w x _ rfl
  setMaxParts := fun w x _ => swv_setDev_same w x _ rfl
  setInited := fun w x _ => swv_setDev_same w x _ rfl
  addFinSensor := fun w x _ => swv_setDev_same w x _ rfl
  setParams := fun w tgt _ => by
    simp only [swv]
    congr 2
    exact map_set_getD_self (fun t : Target => t.dev) w.targets tgt default _ rfl

section
variable (w : World)
theorem swv_spaceAvailable (x : Nat) : swv (w.spaceAvailable x) = swv w :=
  swv_blind.floor.spaceAvailable w x
end

/-- Operations other than `rewire` and `create` keep the static data. -/
theorem swv_applyOp (w : World) (op : Op) (h1 : ∀ d ups, op ≠ .rewire d ups) (h2 : ∀ s, op ≠ .create s) :
    swv (w.applyOp op).1 = swv w :=
  swv_blind.applyOp w op h2 fun d ups e => absurd e (h1 d ups)

end C02V
end SimProc

namespace SimProc
namespace C03W
open World C02V

theorem noBatch_of_swv {w w' : World} (h : swv w' = swv w) : NoBatch w' ↔ NoBatch w := by
  have h1 : w'.devs.map stat1 = w.devs.map stat1 := congrArg Prod.fst h
  have key : ∀ v : World, NoBatch v ↔ ∀ d ∈ v.devs.map stat1, d.kind ≠ .batcher ∧ d.genBatch = 0 ∧
      d.kind ≠ .gpath ∧ d.kind ≠ .ginput ∧ d.kind ≠ .goutput := by
    intro v
    unfold NoBatch
    simp only [List.mem_map]
    constructor
    · rintro hv d ⟨d0, hd0, rfl⟩; exact hv d0 hd0
    · intro hv d hd; exact hv (stat1 d) ⟨d, hd, rfl⟩
  rw [key, key, h1]

end C03W
end SimProc
