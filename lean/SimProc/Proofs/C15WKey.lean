/-
C15W / C16W — machinery, part 1: the observable key of a world and the abstract transition system
`KStep` of everything the simulator can do to it.

`key w` keeps exactly what the record / counter / value invariants talk about: the environment
(clock and event queue), the data log, per device the fields `kind`, `genBatch`, `bsize`,
`produced`, `costProduced`, `recvCount`, `recvValue`, `level`, `val`, the ghost log `delivered`,
the pools of the resource manager, the values of the maintainers, and the flag `pl` ("no part is a
batch").

`KStep ph k k'` is the reflexive-transitive closure of the "sites" at which the library changes
the key: an operation on the event queue, a plain record stamped with the clock, a faithful
resource-manager call, a part received (sink / buffer / other), a buffer release, a supply by a
source, the cost of a work order, the creation of a batch (only if some device is set up for it),
and the resets of `initialize`.  `ph : Phase` says which of these a piece of code may use
(`mv`, `sup`, `cst`, `ini`); `Phase.run` allows everything but the resets, `Phase.init` only the
resets, `Phase.flow` only hand-overs, `Phase.quiet` none.
Part 2 (`C15WPass.lean`, `C15WWorld.lean`) shows that every function of the model is a `KStep` on
keys; part 3 (`C15WInv.lean`, `C15WCount.lean`) proves the invariants by induction on `KStep`;
part 4 (`C15WReach.lean`) lifts them to every reachable state; `C16WSteps.lean` derives the frames
(who may change what) and the one-step amounts.
-/
import SimProc.Proofs.C15Lemmas
import SimProc.Props.C01
import SimProc.Props.C16
import Lean

namespace SimProc
namespace C15W
open World FloorCoreL C15 RM
open Lean Elab Tactic Meta

/-! ### keys -/

/-- What the invariants read of a device. -/
structure DKey where
  kind : Kind
  /-- the two parameters that make a device create batches (never changed) -/
  genBatch : Int
  bsize : Option Nat
  produced : Int
  costProduced : Int
  recvCount : Int
  recvValue : Int
  level : Nat
  val : AssetVal
deriving DecidableEq, Repr

def dkey (d : Dev) : DKey :=
  ⟨d.kind, d.genBatch, d.bsize, d.produced, d.costProduced, d.recvCount, d.recvValue, d.level, d.val⟩

instance : Inhabited DKey := ⟨dkey default⟩

theorem dkey_default : dkey default = default := rfl

/-- What the invariants read of a world. -/
structure WKey where
  env : Env
  recs : List Rec
  devs : List DKey
  delivered : List Nat
  pools : List (Nat × Int × Int)
  rmInited : Bool
  mvals : List AssetVal
  /-- every part is a leaf (no batch exists) -/
  pl : Bool

namespace WKey
def now (k : WKey) : Int := k.env.now
def dev (k : WKey) (x : Nat) : DKey := k.devs.getD x default
def mval (k : WKey) (m : Nat) : AssetVal := k.mvals.getD m default
def setDev (k : WKey) (x : Nat) (d : DKey) : WKey := { k with devs := k.devs.set x d }
def addRecs (k : WKey) (l : List Rec) : WKey := { k with recs := k.recs ++ l }
end WKey

def key (w : World) : WKey :=
  ⟨w.env, w.recs, w.devs.map dkey, w.delivered, w.rm.pools, w.rm.inited, w.maints.map (·.m.val),
   w.parts.all (fun r => r.kids.isNone)⟩

@[simp] theorem key_now (w : World) : (key w).now = w.now := rfl
@[simp] theorem key_recs (w : World) : (key w).recs = w.recs := rfl
@[simp] theorem key_env (w : World) : (key w).env = w.env := rfl
@[simp] theorem key_delivered (w : World) : (key w).delivered = w.delivered := rfl
@[simp] theorem key_devs_length (w : World) : (key w).devs.length = w.devs.length := by simp [key]

theorem key_dev (w : World) (x : Nat) : (key w).dev x = dkey (w.dev x) := by
  unfold WKey.dev key World.dev
  rw [← dkey_default]
  exact getD_map dkey w.devs x default

theorem key_mval (w : World) (m : Nat) : (key w).mval m = (w.maint m).val := by
  unfold WKey.mval key World.maint
  exact getD_map (fun mw : MaintW => mw.m.val) w.maints m default

/-! ### records -/

def Rec.time : Rec → Int
  | .resUpdate _ t _ _ => t
  | .level _ t _ => t
  | .received _ t _ _ _ => t
  | .produced _ t _ _ _ => t
  | .failure _ t _ => t
  | .supplied _ t _ => t
  | .workOrder _ _ t _ _ _ => t
  | .schedUpdate _ t _ => t

/-- Records whose appearance is tied to no counter, level or pool. -/
def isPlain : Rec → Bool
  | .produced .. => true
  | .failure .. => true
  | .workOrder .. => true
  | .schedUpdate .. => true
  | _ => false

/-! ### resource-manager calls -/

/-- What a call of the resource manager does to pools and log. -/
structure RMok (a b : RM) (recs : List ResRec) : Prop where
  inited : b.inited = a.inited
  faithful : a.inited = true → Faithful a b recs
  silent : a.inited = false → recs = []
  nodup : (a.pools.map (·.1)).Nodup → (b.pools.map (·.1)).Nodup
  /-- a pool that appears is recorded -/
  covers : a.inited = true → ∀ r, (b.lookup r).isSome → (a.lookup r).isSome ∨ (lastFor recs r).isSome

theorem lookup_congr {a b : RM} (h : b.pools = a.pools) (r : Nat) : b.lookup r = a.lookup r := by
  unfold RM.lookup; rw [h]

theorem RMok.refl (a : RM) : RMok a a [] :=
  ⟨rfl, fun _ => Faithful.refl a, fun _ => rfl, id, fun _ _ h => Or.inl h⟩

theorem RMok.of_pools {a b : RM} (hp : b.pools = a.pools) (hi : b.inited = a.inited) : RMok a b [] :=
  ⟨hi, fun _ => (Faithful.refl a).congr hp, fun _ => rfl, fun h => by rw [hp]; exact h,
   fun _ r h => Or.inl (by rw [← lookup_congr hp r]; exact h)⟩

theorem RMok.congr {a b b' : RM} {l : List ResRec} (h : RMok a b l) (hp : b'.pools = b.pools)
    (hi : b'.inited = b.inited) : RMok a b' l :=
  ⟨hi.trans h.inited, fun x => (h.faithful x).congr hp, h.silent, fun x => by rw [hp]; exact h.nodup x,
   fun x r hr => h.covers x r (by rw [← lookup_congr hp r]; exact hr)⟩

theorem recOf_not_inited (rm : RM) (r : Nat) (h : rm.inited = false) : rm.recOf r = [] := by
  unfold RM.recOf; simp [h]

theorem take_silent (rm : RM) (req : Req) (h : rm.inited = false) : (rm.take req).2 = [] := by
  induction req generalizing rm with
  | nil => rfl
  | cons p rest ih =>
    obtain ⟨r, a⟩ := p
    rw [RM.take]
    split
    · exact ih rm h
    · have h1 : (rm.setPool r (rm.usage r + a, rm.capacity r)).inited = false := by
        rw [setPool_inited]; exact h
      simp only [recOf_not_inited _ _ h1, ih _ h1, List.append_nil]

theorem lastFor_recOf (rm : RM) (r : Nat) (h : rm.inited = true) : (lastFor (rm.recOf r) r).isSome := by
  unfold RM.recOf lastFor; simp [h]

theorem take_cons_snd (rm : RM) (r : Nat) (a : Int) (rest : Req) :
    (rm.take ((r, a) :: rest)).2 =
      if a = 0 then (rm.take rest).2
      else (rm.setPool r (rm.usage r + a, rm.capacity r)).recOf r ++
        ((rm.setPool r (rm.usage r + a, rm.capacity r)).take rest).2 := by
  rw [RM.take]
  by_cases h : a = 0 <;> simp [h]

theorem take_covers (rm : RM) (req : Req) (h : rm.inited = true) (r' : Nat)
    (hr : ((rm.take req).1.lookup r').isSome) :
    (rm.lookup r').isSome ∨ (lastFor (rm.take req).2 r').isSome := by
  induction req generalizing rm with
  | nil => exact Or.inl hr
  | cons p rest ih =>
    obtain ⟨r, a⟩ := p
    rw [take_cons] at hr
    rw [take_cons_snd]
    split at hr
    · rename_i h0
      rw [if_pos h0]
      exact ih rm h hr
    · rename_i h0
      rw [if_neg h0]
      have h1 : (rm.setPool r (rm.usage r + a, rm.capacity r)).inited = true := by
        rw [setPool_inited]; exact h
      rw [lastFor_append]
      rcases ih _ h1 hr with h2 | h2
      · rw [lookup_setPool] at h2
        split at h2
        · rename_i e
          subst e
          right
          cases e2 : lastFor ((rm.setPool r' (rm.usage r' + a, rm.capacity r')).take rest).2 r' with
          | some x => simp
          | none => simpa using lastFor_recOf _ r' h1
        · exact Or.inl h2
      · right
        cases e2 : lastFor ((rm.setPool r (rm.usage r + a, rm.capacity r)).take rest).2 r' with
        | some x => simp
        | none => rw [e2] at h2; cases h2

theorem RMok.take (rm : RM) (req : Req) : RMok rm (rm.take req).1 (rm.take req).2 :=
  ⟨take_inited rm req, Faithful.take rm req, take_silent rm req, take_keys_nodup rm req,
   fun h r hr => take_covers rm req h r hr⟩

theorem RMok.credit (rm : RM) (req : Req) : RMok rm (rm.credit req).1 (rm.credit req).2 := by
  rw [credit_eq_take]; exact RMok.take rm _

theorem RMok.setPool (rm : RM) (r : Nat) (v : Int × Int) :
    RMok rm (rm.setPool r v) ((rm.setPool r v).recOf r) :=
  ⟨setPool_inited rm r v, Faithful.setPool rm r v,
   fun h => recOf_not_inited _ _ (by rw [setPool_inited]; exact h), setPool_keys_nodup rm r v,
   fun h r' hr => by
     rw [lookup_setPool] at hr
     split at hr
     · rename_i e; subst e
       exact Or.inr (lastFor_recOf _ r' (by rw [setPool_inited]; exact h))
     · exact Or.inl hr⟩

theorem RMok.add (rm : RM) (r : Nat) (amt : Int) : RMok rm (rm.add r amt).1 (rm.add r amt).2.2.1 := by
  unfold RM.add
  split
  · exact RMok.refl rm
  · split
    · split
      · exact RMok.refl rm
      · exact RMok.setPool rm r _
    · split
      · exact RMok.refl rm
      · exact RMok.setPool rm r _

theorem RMok.reserve (rm : RM) (req : Req) :
    RMok rm (rm.reserve req).1 (rm.reserve req).2.2.2 := by
  rw [reserve_eq]
  split
  · exact RMok.refl rm
  · split
    · exact (RMok.take rm req).congr rfl rfl
    · exact RMok.refl rm

theorem RMok.release (rm : RM) (id : Nat) (part : Option Req) :
    RMok rm (rm.release id part).1 (rm.release id part).2.2.1 := by
  unfold RM.release
  split
  · exact RMok.refl rm
  · split
    · exact (RMok.credit rm _).congr rfl rfl
    · split
      · exact (RMok.credit rm _).congr rfl rfl
      · exact RMok.refl rm

theorem RMok.merge (rm : RM) (a b : Nat) : RMok rm (rm.merge a b).1 [] := by
  unfold RM.merge
  split
  · split
    · exact RMok.refl rm
    · exact RMok.of_pools rfl rfl
  · exact RMok.refl rm
  · exact RMok.refl rm

theorem RMok.register (rm : RM) (req : Req) (cb : Cb) : RMok rm (rm.register req cb).1 [] :=
  RMok.of_pools rfl rfl

/-! ### the transition system -/

/-- What a piece of code is allowed to do to the key (beyond queue operations, plain records and
resource-manager calls): `mv` — hand parts over (receive and release sites); `sup` — let a source
supply; `cst` — charge a maintainer; `ini` — the resets of `initialize`. -/
structure Phase where
  mv : Bool
  sup : Bool
  cst : Bool
  ini : Bool
deriving DecidableEq, Repr

namespace Phase
/-- inside an event -/
def run : Phase := ⟨true, true, true, false⟩
/-- inside `initialize` -/
def init : Phase := ⟨false, false, false, true⟩
/-- inside a hand-over -/
def flow : Phase := ⟨true, false, false, false⟩
/-- the functions that touch neither counters, levels nor values -/
def quiet : Phase := ⟨false, false, false, false⟩
/-- parts may move -/
def moves (ph : Phase) : Prop := ph.mv = true
/-- `ph` allows no more than `ph'` -/
def le (ph ph' : Phase) : Prop :=
  (ph.mv = true → ph'.mv = true) ∧ (ph.sup = true → ph'.sup = true) ∧
  (ph.cst = true → ph'.cst = true) ∧ (ph.ini = true → ph'.ini = true)
end Phase

/-- No device is set up to create batches. -/
def NoBatchK (k : WKey) : Prop := ∀ x, (k.dev x).genBatch = 0 ∧ (k.dev x).bsize = none

/-- The sites at which the library changes the key. -/
inductive KStep (ph : Phase) : WKey → WKey → Prop where
  | refl (k : WKey) : KStep ph k k
  | trans {a b c : WKey} : KStep ph a b → KStep ph b c → KStep ph a c
  /-- an operation on the event queue other than `step`: the clock does not move -/
  | env (k : WKey) (op : EnvOp) (h : op ≠ .step) :
      KStep ph k { k with env := (k.env.apply Arith.exact op).1 }
  /-- a record that belongs to no counter, stamped with the clock -/
  | plain (k : WKey) (r : Rec) (hp : isPlain r = true) (ht : Rec.time r = k.now) :
      KStep ph k (k.addRecs [r])
  /-- a call of the resource manager: its records, stamped, and the new pools -/
  | rm (k : WKey) (a b : RM) (recs : List ResRec) (ha : a.pools = k.pools)
      (hi : a.inited = k.rmInited) (h : RMok a b recs) :
      KStep ph k { k with pools := b.pools, recs := k.recs ++ stamp k.now recs }
  /-- a sink accepts a part with `n` leaves of value `v` -/
  | recvSink (k : WKey) (x p : Nat) (q v : Int) (lv : List Nat) (hph : ph.moves)
      (hx : x < k.devs.length) (hk : (k.dev x).kind = .sink) (hl : k.pl = true → lv.length = 1) :
      KStep ph k
        { k with
          devs := k.devs.set x { k.dev x with
            recvCount := (k.dev x).recvCount + lv.length
            recvValue := (k.dev x).recvValue + v
            val := (k.dev x).val.addValue lblCollected k.now v }
          delivered := k.delivered ++ lv
          recs := k.recs ++ [Rec.received x k.now p q v] }
  /-- a buffer accepts a part with `n` leaves -/
  | recvBuf (k : WKey) (x p n : Nat) (q v : Int) (hph : ph.moves)
      (hx : x < k.devs.length) (hk : (k.dev x).kind = .buffer) :
      KStep ph k
        { k with
          devs := k.devs.set x { k.dev x with level := (k.dev x).level + n }
          recs := k.recs ++ [Rec.level x k.now ((k.dev x).level + n), Rec.received x k.now p q v] }
  /-- any other device accepts a part -/
  | recvOther (k : WKey) (x p : Nat) (q v : Int) (hph : ph.moves)
      (hk1 : (k.dev x).kind ≠ .sink) (hk2 : (k.dev x).kind ≠ .buffer) :
      KStep ph k (k.addRecs [Rec.received x k.now p q v])
  /-- a buffer releases a part with `n` leaves -/
  | release (k : WKey) (x n : Nat) (hph : ph.moves) (hx : x < k.devs.length)
      (hk : (k.dev x).kind = .buffer) :
      KStep ph k
        { k with
          devs := k.devs.set x { k.dev x with level := (k.dev x).level - n }
          recs := k.recs ++ [Rec.level x k.now ((k.dev x).level - n)] }
  /-- a source supplies part `p` of value `v` -/
  | supply (k : WKey) (x p : Nat) (v : Int) (hph : ph.sup = true)
      (hx : x < k.devs.length) (hk : (k.dev x).kind = .source) :
      KStep ph k
        { k with
          devs := k.devs.set x { k.dev x with
            produced := (k.dev x).produced + 1
            costProduced := (k.dev x).costProduced + v
            val := (k.dev x).val.addCost lblSupplied k.now v }
          recs := k.recs ++ [Rec.supplied x k.now p] }
  /-- a maintainer starts a work order of cost `c` -/
  | maintCost (k : WKey) (m : Nat) (c : Int) (hph : ph.cst = true) :
      KStep ph k { k with mvals := k.mvals.set m ((k.mval m).addCost lblWorkOrder k.now c) }
  /-- a device that is set up to create batches creates (or consumes) one -/
  | plSet (k : WKey) (b : Bool) (h : ¬ NoBatchK k) : KStep ph k { k with pl := b }
  /-- `initialize`: the resource manager -/
  | rmInit (k : WKey) (hph : ph.ini = true) (hi : k.rmInited = false) :
      KStep ph k
        { k with
          rmInited := true
          recs := k.recs ++ stamp k.now (k.pools.map (fun p => ⟨p.1, p.2.1, p.2.2⟩)) }
  /-- `initialize`: a device -/
  | devReset (k : WKey) (x : Nat) (hph : ph.ini = true) :
      KStep ph k { k with devs := k.devs.set x { k.dev x with val := (k.dev x).val.reset } }
  /-- `initialize`: a maintainer -/
  | maintReset (k : WKey) (m : Nat) (hph : ph.ini = true) :
      KStep ph k { k with mvals := k.mvals.set m (k.mval m).reset }

variable {ph : Phase}

theorem KStep.cast {k k1 k2 : WKey} (h : KStep ph k k1) (e : k1 = k2) : KStep ph k k2 := e ▸ h

theorem getD_set {α} (l : List α) (x y : Nat) (a d : α) :
    (l.set x a).getD y d = if x = y ∧ x < l.length then a else l.getD y d := by
  by_cases h : x = y
  · subst h
    by_cases hl : x < l.length
    · simp [hl, List.getD_eq_getElem?_getD]
    · simp [hl, List.getD_eq_getElem?_getD]
  · simp [h, List.getD_eq_getElem?_getD, List.getElem?_set_ne h]

theorem addValue_init (a : AssetVal) (l : Nat) (t v : Int) : (a.addValue l t v).init = a.init := by
  unfold AssetVal.addValue; split <;> rfl

/-- What no step changes: the number of devices, their kinds and starting values. -/
theorem KStep.static {k k' : WKey} (h : KStep ph k k') :
    k'.devs.length = k.devs.length ∧ k'.mvals.length = k.mvals.length ∧
    (∀ x, (k'.dev x).kind = (k.dev x).kind ∧ (k'.dev x).val.init = (k.dev x).val.init) ∧
    (∀ m, (k'.mval m).init = (k.mval m).init) := by
  induction h with
  | refl k => exact ⟨rfl, rfl, fun _ => ⟨rfl, rfl⟩, fun _ => rfl⟩
  | trans _ _ ih1 ih2 =>
    exact ⟨ih2.1.trans ih1.1, ih2.2.1.trans ih1.2.1,
      fun x => ⟨(ih2.2.2.1 x).1.trans (ih1.2.2.1 x).1, (ih2.2.2.1 x).2.trans (ih1.2.2.1 x).2⟩,
      fun m => (ih2.2.2.2 m).trans (ih1.2.2.2 m)⟩
  | env k op h => exact ⟨rfl, rfl, fun _ => ⟨rfl, rfl⟩, fun _ => rfl⟩
  | plain k r hp ht => exact ⟨rfl, rfl, fun _ => ⟨rfl, rfl⟩, fun _ => rfl⟩
  | rm k a b recs ha hi h => exact ⟨rfl, rfl, fun _ => ⟨rfl, rfl⟩, fun _ => rfl⟩
  | recvOther k x p q v hph hk1 hk2 => exact ⟨rfl, rfl, fun _ => ⟨rfl, rfl⟩, fun _ => rfl⟩
  | rmInit k hph hi => exact ⟨rfl, rfl, fun _ => ⟨rfl, rfl⟩, fun _ => rfl⟩
  | plSet k b h => exact ⟨rfl, rfl, fun _ => ⟨rfl, rfl⟩, fun _ => rfl⟩
  | maintCost k m c hph =>
    refine ⟨rfl, by simp, fun _ => ⟨rfl, rfl⟩, fun m' => ?_⟩
    simp only [WKey.mval, getD_set]
    split
    · rename_i h; rw [← h.1]; exact addValue_init _ _ _ _
    · rfl
  | maintReset k m hph =>
    refine ⟨rfl, by simp, fun _ => ⟨rfl, rfl⟩, fun m' => ?_⟩
    simp only [WKey.mval, getD_set]
    split
    · rename_i h; rw [← h.1]; rfl
    · rfl
  | _ =>
    refine ⟨by simp, rfl, fun y => ?_, fun _ => rfl⟩
    simp only [WKey.dev, getD_set]
    split
    · rename_i h; rw [← h.1]
      first
        | exact ⟨rfl, rfl⟩
        | exact ⟨rfl, addValue_init _ _ _ _⟩
    · exact ⟨rfl, rfl⟩

/-- More permissions, more steps. -/
theorem KStep.mono {ph ph' : Phase} (hle : ph.le ph') {k k' : WKey} (h : KStep ph k k') : KStep ph' k k' := by
  induction h with
  | refl k => exact .refl k
  | trans _ _ ih1 ih2 => exact .trans ih1 ih2
  | env k op h => exact .env k op h
  | plain k r hp ht => exact .plain k r hp ht
  | rm k a b recs ha hi h => exact .rm k a b recs ha hi h
  | recvSink k x p q v lv hph hx hk hl => exact .recvSink k x p q v lv (hle.1 hph) hx hk hl
  | plSet k b h => exact .plSet k b h
  | recvBuf k x p n q v hph hx hk => exact .recvBuf k x p n q v (hle.1 hph) hx hk
  | recvOther k x p q v hph hk1 hk2 => exact .recvOther k x p q v (hle.1 hph) hk1 hk2
  | release k x n hph hx hk => exact .release k x n (hle.1 hph) hx hk
  | supply k x p v hph hx hk => exact .supply k x p v (hle.2.1 hph) hx hk
  | maintCost k m c hph => exact .maintCost k m c (hle.2.2.1 hph)
  | rmInit k hph hi => exact .rmInit k (hle.2.2.2 hph) hi
  | devReset k x hph => exact .devReset k x (hle.2.2.2 hph)
  | maintReset k m hph => exact .maintReset k m (hle.2.2.2 hph)

theorem Phase.quiet_le (ph : Phase) : Phase.quiet.le ph := by
  unfold Phase.le
  refine ⟨?_, ?_, ?_, ?_⟩ <;> intro h <;> cases h

/-- `f w` is a `KStep` away from `w`. -/
def KS (ph : Phase) (w w' : World) : Prop := KStep ph (key w) (key w')

theorem KS.refl (w : World) : KS ph w w := KStep.refl _
theorem KS.trans {a b c : World} (h1 : KS ph a b) (h2 : KS ph b c) : KS ph a c := KStep.trans h1 h2

theorem KS.of_key {w w' : World} (h : key w' = key w) : KS ph w w' := by
  unfold KS; rw [h]; exact KStep.refl _

theorem KS.trans_key {a b c : World} (h1 : KS ph a b) (h : key c = key b) : KS ph a c :=
  h1.trans (KS.of_key h)

theorem KS.foldl {α} (g : World → α → World) (l : List α) (w : World)
    (h : ∀ w a, KS ph w (g w a)) : KS ph w (l.foldl g w) := by
  induction l generalizing w with
  | nil => exact KS.refl w
  | cons a l ih => exact (h w a).trans (ih _)

theorem KS.ite {c : Prop} [Decidable c] {w a b : World} (ha : KS ph w a) (hb : KS ph w b) :
    KS ph w (if c then a else b) := by
  split
  · exact ha
  · exact hb

theorem KS.of_fst_eq {α} {w w' : World} {e : World × α} {b : α} (he : KS ph w e.1)
    (h : e = (w', b)) : KS ph w w' := by
  subst h; exact he

/-! ### primitives -/

theorem key_setErr (w : World) (m : String) : key (w.setErr m) = key w := by
  unfold setErr; split <;> rfl

theorem KS_setErr (w : World) (m : String) : KS ph w (w.setErr m) := KS.of_key (key_setErr w m)
theorem KS_addRes (w : World) (r : Res) : KS ph w (w.addRes r) := KS.of_key rfl
theorem all_set_of_eq {α} (g : α → Bool) (l : List α) (i : Nat) (a d : α) (h : g a = g (l.getD i d)) :
    (l.set i a).all g = l.all g := by
  have e : ∀ l' : List α, l'.all g = (l'.map g).all id := fun l' => by
    rw [List.all_map]; rfl
  rw [e, e, map_set_of_eq g l i a d h]

theorem key_modPart (w : World) (p : Nat) (f : PartRec → PartRec)
    (h : (f (w.part p)).kids.isNone = (w.part p).kids.isNone) : key (w.modPart p f) = key w := by
  unfold key World.modPart
  simp only
  rw [all_set_of_eq (fun r : PartRec => r.kids.isNone) w.parts p _ default h]

theorem key_newPart (w : World) (r : PartRec) (h : r.kids = none) : key (w.newPart r).1 = key w := by
  unfold key World.newPart
  simp [h]

theorem KS_modPart (w : World) (p : Nat) (f : PartRec → PartRec)
    (h : (f (w.part p)).kids.isNone = (w.part p).kids.isNone) : KS ph w (w.modPart p f) :=
  KS.of_key (key_modPart w p f h)
theorem KS_newPart (w : World) (r : PartRec) (h : r.kids = none) : KS ph w (w.newPart r).1 :=
  KS.of_key (key_newPart w r h)

/-- The key without the flag `pl`. -/
def keyNP (w : World) : WKey := { key w with pl := true }

/-- Everything but `pl` is unchanged, and `pl` is unchanged when no device creates batches. -/
theorem KS_of_NP {w w' : World} (h1 : keyNP w' = keyNP w)
    (h2 : NoBatchK (key w) → (key w').pl = (key w).pl) : KS ph w w' := by
  have e : key w' = { key w with pl := (key w').pl } := by
    have a1 := congrArg WKey.env h1
    have a2 := congrArg WKey.recs h1
    have a3 := congrArg WKey.devs h1
    have a4 := congrArg WKey.delivered h1
    have a5 := congrArg WKey.pools h1
    have a6 := congrArg WKey.rmInited h1
    have a7 := congrArg WKey.mvals h1
    simp only [keyNP] at a1 a2 a3 a4 a5 a6 a7
    cases hk : key w'
    rw [hk] at a1 a2 a3 a4 a5 a6 a7
    simp only at a1 a2 a3 a4 a5 a6 a7
    subst a1 a2 a3 a4 a5 a6 a7
    rfl
  by_cases hb : NoBatchK (key w)
  · apply KS.of_key
    rw [e, h2 hb]
  · unfold KS
    rw [e]
    exact KStep.plSet (key w) _ hb

theorem keyNP_of_key {w w' : World} (h : key w' = key w) : keyNP w' = keyNP w := by
  unfold keyNP; rw [h]


theorem key_setDev (w : World) (x : Nat) (d : Dev) (h : dkey d = dkey (w.dev x)) :
    key (w.setDev x d) = key w := by
  unfold key World.setDev
  simp only
  rw [map_set_of_eq dkey w.devs x d default h]

theorem KS_setDev (w : World) (x : Nat) (d : Dev) (h : dkey d = dkey (w.dev x)) :
    KS ph w (w.setDev x d) := KS.of_key (key_setDev w x d h)

theorem KS_modDev (w : World) (x : Nat) (f : Dev → Dev) (h : dkey (f (w.dev x)) = dkey (w.dev x)) :
    KS ph w (w.modDev x f) := KS_setDev w x _ h

theorem KS_envOp (w : World) (op : EnvOp) (h : op ≠ .step) : KS ph w (w.envOp op) :=
  KStep.env (key w) op h

theorem KS_sched (w : World) (t a : Int) (act : Action) (p : Int) : KS ph w (w.sched t a act p).1 := by
  have h := KStep.env (ph := ph) (key w)
    (.sched t a act.toNat p (weightOf w.seed w.wmod t a act.toNat p)) (by intro h; cases h)
  unfold World.sched
  dsimp only
  split
  · rename_i e heq
    unfold KS
    have : (key w).env.apply Arith.exact
        (.sched t a act.toNat p (weightOf w.seed w.wmod t a act.toNat p)) = (e, EnvOut.ok) := heq
    rw [this] at h
    exact h
  · rename_i hne
    -- rejected: the environment is unchanged
    exact KS.refl w

theorem KS_schedLib (w : World) (t a : Int) (act : Action) (p : Int) :
    KS ph w (w.schedLib t a act p) := by
  have h := KS_sched (ph := ph) w t a act p
  unfold schedLib
  generalize w.sched t a act p = s at h ⊢
  obtain ⟨w', r⟩ := s
  cases r <;> first | exact h | exact h.trans (KS_setErr _ _)

theorem KS_addRec (w : World) (r : Rec) (hp : isPlain r = true) (ht : Rec.time r = w.now) :
    KS ph w (w.addRec r) := KStep.plain (key w) r hp ht

theorem key_foldl_resUpdate (recs : List ResRec) (v : World) :
    key (recs.foldl (fun w r => w.addRec (.resUpdate r.res w.now r.inUse r.cap)) v) =
      { key v with recs := v.recs ++ stamp v.now recs } := by
  induction recs generalizing v with
  | nil => simp [stamp, key]
  | cons r recs ih =>
    rw [List.foldl_cons, ih]
    simp [stamp, key, World.addRec, World.now]

/-- A resource-manager call followed by `rmEffects`. -/
theorem KS_rmStep (w : World) (rm' : RM) (recs : List ResRec) (chk : Bool) (h : RMok w.rm rm' recs) :
    KS ph w (({ w with rm := rm' } : World).rmEffects recs chk) := by
  have h1 : KS ph w (recs.foldl (fun w r => w.addRec (.resUpdate r.res w.now r.inUse r.cap))
      ({ w with rm := rm' } : World)) := by
    unfold KS
    rw [key_foldl_resUpdate]
    have := KStep.rm (ph := ph) (key w) w.rm rm' recs rfl rfl h
    have e : ({ key ({ w with rm := rm' } : World) with
        recs := ({ w with rm := rm' } : World).recs ++ stamp ({ w with rm := rm' } : World).now recs } : WKey) =
        { key w with pools := rm'.pools, recs := (key w).recs ++ stamp (key w).now recs } := by
      unfold key
      simp only [h.inited]
      rfl
    rw [e]
    exact this
  unfold rmEffects
  dsimp only
  split
  · exact h1.trans (KS_schedLib _ _ _ _ _)
  · exact h1

end C15W
end SimProc
