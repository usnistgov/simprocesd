/-
C08S — the idle clock is exact.  Part 2: `Clk X w (f w)` for the functions of `Model/Floor.lean`
(`Stamp` for the notification functions).
-/
import SimProc.Proofs.C08SDefs
import SimProc.Proofs.FloorSt

namespace SimProc
namespace C08S
open World FloorCoreL

/-! ### the view of a device with free slots -/

theorem free_of_slots {d : Dev} (h : (d.part.isNone && d.output.isNone) = true) :
    (cv d).free = true := by
  unfold CV.free cv
  cases isS d.kind <;> simp_all

theorem slots_of_free {d : Dev} (hk : isS d.kind = true) (h : (cv d).free = true) :
    d.part = none ∧ d.output = none := by
  unfold CV.free cv at h
  simp only [hk, if_true, Bool.and_eq_true, Option.isNone_iff_eq_none] at h
  exact h

theorem cv_part {d : Dev} (hk : isS d.kind = true) : (cv d).part = d.part := by simp [cv, hk]
theorem cv_output {d : Dev} (hk : isS d.kind = true) : (cv d).output = d.output := by simp [cv, hk]

/-! ### notifications: only idle clocks are started -/

section notif
variable (w : World)

/-- `_set_waiting_for_part(True)` of a device whose slots are free (or that is not a single-slot
device). -/
theorem Stamp_setWaiting_true (x : Nat)
    (h : isS (w.dev x).kind = true → (cv (w.dev x)).free = true) :
    Stamp w (w.setWaiting x true false) := by
  unfold World.setWaiting
  simp only [Bool.not_true, Bool.false_eq_true, if_false, Bool.not_false, Bool.and_true]
  split
  · exact Stamp.refl w
  · next hs =>
    split
    · refine ⟨rfl, by simp, fun y => ?_⟩
      rw [dev_setDev]
      split
      · next hxy =>
        rw [← hxy.1]
        refine Or.inr ⟨?_, h, rfl⟩
        cases hsn : (w.dev x).since with
        | none => exact hsn
        | some t => rw [hsn] at hs; simp at hs
      · exact Or.inl rfl
    · exact Stamp.refl w

theorem Stamp_schedulePass (x : Nat) (o : Int) : Stamp w (w.schedulePass x o) := by
  unfold World.schedulePass
  dsimp only
  split
  · exact Stamp.refl w
  · refine Stamp.trans ?_ (Stamp_schedLib _ _ _ _ _)
    exact Stamp_setDev_same w x _ rfl

theorem Stamp_notify_aux (f : Nat) :
    ∀ (w : World) (x : Nat), Stamp w (notifyUp f w x) ∧ Stamp w (spaceAvail f w x) := by
  induction f with
  | zero =>
    intro w x
    exact ⟨by unfold notifyUp; exact Stamp_setErr _ _, by unfold spaceAvail; exact Stamp_setErr _ _⟩
  | succ f ih =>
    intro w x
    have hup : ∀ (w : World) (l : List Nat), Stamp w (l.foldl (fun w u => spaceAvail f w u) w) :=
      fun w l => Stamp.foldl _ l w (fun w a => (ih w a).2)
    have hnu : ∀ (w : World) (l : List Nat), Stamp w (l.foldl (fun w u => notifyUp f w u) w) :=
      fun w l => Stamp.foldl _ l w (fun w a => (ih w a).1)
    have h1 : Stamp w (notifyUp (f + 1) w x) := by
      unfold notifyUp
      simp only []
      split
      all_goals first
        | exact hnu _ _
        | exact hup _ _
        | (split   -- devices with one slot
           · exact (Stamp_setWaiting_true w x (fun _ => free_of_slots (by assumption))).trans (hup _ _)
           · exact hup _ _)
        | (rename_i hk   -- buffer
           repeat' split
           all_goals first
             | exact Stamp.refl _
             | exact (Stamp_setWaiting_true w x (fun h => by rw [hk] at h; cases h)).trans (hup _ _))
    refine ⟨h1, ?_⟩
    unfold spaceAvail
    simp only []
    repeat' split
    all_goals first
      | exact Stamp.refl _ | exact (ih w x).1 | exact (ih _ _).2 | exact Stamp_schedulePass ..

theorem Stamp_notifyUp (f : Nat) (x : Nat) : Stamp w (notifyUp f w x) := (Stamp_notify_aux f w x).1
theorem Stamp_spaceAvail (f : Nat) (x : Nat) : Stamp w (spaceAvail f w x) := (Stamp_notify_aux f w x).2
theorem Stamp_notify (x : Nat) : Stamp w (w.notify x) := Stamp_notifyUp w _ x
theorem Stamp_spaceAvailable (x : Nat) : Stamp w (w.spaceAvailable x) := Stamp_spaceAvail w _ x

/-- After `notify x` the clock of an initialised single-slot device `x` with free slots runs. -/
theorem notify_since (x : Nat) (hk : isS (w.dev x).kind = true) (hi : (w.dev x).inited = true)
    (hp : (w.dev x).part = none) (ho : (w.dev x).output = none) :
    ((w.notify x).dev x).since.isSome = true := by
  have hx : x < w.devs.length := by
    apply Nat.lt_of_not_le
    intro h
    rw [dev_of_length_le h] at hi
    cases hi
  -- the first step of the notification stamps the clock
  have key : ∀ w1 : World, Stamp (w.setWaiting x true false) w1 → (w1.dev x).since.isSome = true := by
    intro w1 hs
    have h0 : ((w.setWaiting x true false).dev x).since.isSome = true := by
      unfold World.setWaiting
      dsimp only
      cases hsn : (w.dev x).since with
      | some t => simp [hsn]
      | none => simp [hi, dev_setDev_same hx]
    cases hsn : ((w.setWaiting x true false).dev x).since with
    | none => rw [hsn] at h0; cases h0
    | some t => rw [hs.since_some hsn]; rfl
  show ((notifyUp (2 * w.devs.length + 2 + 1) w x).dev x).since.isSome = true
  rw [notifyUp]
  simp only [hp, ho, Option.isNone_none, Bool.and_self, if_true]
  cases hkk : (w.dev x).kind <;> rw [hkk] at hk <;> first | cases hk | skip
  all_goals
    simp only []
    exact key _ (Stamp.foldl _ _ _ (fun w a => Stamp_spaceAvail w _ a))

end notif

section floor
variable {X : Nat → Prop} (w : World)

theorem Clk_schedulePass (x : Nat) (o : Int) : Clk X w (w.schedulePass x o) := (Stamp_schedulePass w x o).clk
clk_lemma2 Clk_schedulePass
theorem Clk_notify (x : Nat) : Clk X w (w.notify x) := (Stamp_notify w x).clk
clk_lemma1 Clk_notify
theorem Clk_spaceAvailable (x : Nat) : Clk X w (w.spaceAvailable x) := (Stamp_spaceAvailable w x).clk
clk_lemma1 Clk_spaceAvailable

/-! ### functions that do not touch slots or clocks -/

theorem Clk_releaseReserved (x : Nat) : Clk X w (w.releaseReserved x) := by
  unfold World.releaseReserved; clk_auto
clk_lemma1 Clk_releaseReserved

theorem Clk_procAcquire (x : Nat) : Clk X w (w.procAcquire x).1 := by
  unfold World.procAcquire; clk_auto
clk_lemma1 Clk_procAcquire

theorem Clk_applyPartCb (x p : Nat) (c : PartCb) : Clk X w (w.applyPartCb x p c) := by
  rw [applyPartCb_eq]; unfold cbDev; clk_auto
clk_lemma3 Clk_applyPartCb

theorem Clk_addHist (p d : Nat) : Clk X w (w.addHist p d) := by
  unfold World.addHist; clk_auto
clk_lemma2 Clk_addHist

theorem Clk_dropHist (p : Nat) : Clk X w (w.dropHist p) := by
  unfold World.dropHist; clk_auto
clk_lemma1 Clk_dropHist

theorem Clk_senseOutput (s p : Nat) : Clk X w (w.senseOutput s p) := by
  unfold World.senseOutput; clk_auto
clk_lemma2 Clk_senseOutput

theorem Clk_setBlock (x : Nat) (b : Bool) : Clk X w (w.setBlock x b) := by
  unfold World.setBlock; clk_auto
clk_lemma2 Clk_setBlock

theorem Clk_adjustParts (x : Nat) (v : Int) : Clk X w (w.adjustParts x v) := by
  unfold World.adjustParts; clk_auto
clk_lemma2 Clk_adjustParts

theorem Clk_procResourceCb (x : Nat) : Clk X w (w.procResourceCb x) := by
  unfold World.procResourceCb; clk_auto
clk_lemma1 Clk_procResourceCb

theorem Clk_releaseIfIdle (x : Nat) : Clk X w (w.releaseIfIdle x) := by
  unfold World.releaseIfIdle; clk_auto
clk_lemma1 Clk_releaseIfIdle

theorem Clk_genPart (x : Nat) : Clk X w (w.genPart x).1 := by
  cases h : ((w.dev x).genBatch == 0)
  · rw [C02V.genPart_batch w x h]; exact Clk.of_devs rfl rfl
  · rw [C02V.genPart_leaf w x h]; exact Clk.of_devs rfl rfl

end floor

/-! ### what single updates of a device record do to its clock view -/

section pd
variable {X : Prop} {now : Int}

/-- the part in process moves to the output slot -/
theorem PD_move {d : Dev} {p : Nat} (hp : d.part = some p) :
    PD X now (cv d) (cv { d with output := some p, part := none }) := by
  cases hk : isS d.kind with
  | false => exact PD.of_eq (cv_eq_of_mask hk rfl rfl rfl rfl)
  | true =>
    refine ⟨⟨⟨rfl, rfl, Or.inl rfl, ?_⟩, ?_⟩, ?_⟩
    · intro _ _ hf
      simp [CV.free, cv, hk] at hf
    · intro hs _ t ht
      have := (hs hk t ht).1
      simp [CV.free, cv, hk, hp] at this
    · intro _ _ _ _ hf
      simp [CV.free, cv, hk] at hf

/-- a part is accepted: the input slot is filled and the clock stopped -/
theorem PD_accept (d : Dev) (p : Nat) :
    PD X now (cv d) (cv { d with part := some p, since := none }) := by
  refine ⟨⟨⟨rfl, rfl, Or.inr (Or.inl rfl), ?_⟩, ?_⟩, ?_⟩
  · intro _ hm hf
    have hk : isS d.kind = true := isS_of_isM hm
    simp [CV.free, cv, hk] at hf
  · intro _ _ t ht
    cases ht
  · intro _ hk _ _ hf
    have hk : isS d.kind = true := hk
    simp [CV.free, cv, hk] at hf

/-- a slot is emptied (completeness may be lost until the notification that follows) -/
theorem PDs_release_output (d : Dev) (hX : isM d.kind = true → X) :
    PDs X now (cv d) (cv { d with output := none }) := by
  refine ⟨⟨rfl, rfl, Or.inl rfl, fun hnx hm _ => absurd (hX hm) hnx⟩, ?_⟩
  intro hs hk t ht
  have hk : isS d.kind = true := hk
  obtain ⟨hf, hle⟩ := hs hk t ht
  refine ⟨?_, hle⟩
  simp [CV.free, cv, hk] at hf ⊢
  exact hf.1

theorem PDs_release_part (d : Dev) (hX : isM d.kind = true → X) :
    PDs X now (cv d) (cv { d with part := none }) := by
  refine ⟨⟨rfl, rfl, Or.inl rfl, fun hnx hm _ => absurd (hX hm) hnx⟩, ?_⟩
  intro hs hk t ht
  have hk : isS d.kind = true := hk
  obtain ⟨hf, hle⟩ := hs hk t ht
  refine ⟨?_, hle⟩
  simp [CV.free, cv, hk] at hf ⊢
  exact hf.2

/-- a shutdown: the flag is set, the clock stopped -/
theorem PD_stop (d : Dev) (hX : isM d.kind = true → X) (d' : Dev) (h1 : d'.kind = d.kind)
    (h2 : d'.inited = d.inited) (h3 : d'.shutDown = true) (h4 : d'.since = none)
    (_h5 : d'.part = d.part) (_h6 : d'.output = d.output) : PD X now (cv d) (cv d') := by
  refine ⟨⟨⟨h1, h2, Or.inr (Or.inl h4), fun hnx hm _ => absurd (hX hm) hnx⟩, ?_⟩, ?_⟩
  · intro _ _ t ht
    have : d'.since = some t := ht
    rw [h4] at this; cases this
  · intro _ _ _ hsd _
    have : d'.shutDown = false := hsd
    rw [h3] at this; cases this

/-- a restore: only the flag changes (completeness is re-established by the notification) -/
theorem PDs_flag (d d' : Dev) (h1 : d'.kind = d.kind) (h2 : d'.inited = d.inited)
    (h4 : d'.since = d.since) (h5 : d'.part = d.part) (h6 : d'.output = d.output) :
    PDs X now (cv d) (cv d') := by
  have hp : (cv d').part = (cv d).part := by simp [cv, h1, h5]
  have ho : (cv d').output = (cv d).output := by simp [cv, h1, h6]
  have hf : (cv d').free = (cv d).free := by unfold CV.free; rw [hp, ho]
  refine ⟨⟨h1, h2, Or.inl h4, ?_⟩, ?_⟩
  · intro _ _ hfr
    rw [hf] at hfr
    exact ⟨hfr, fun t ht => by show d'.since = some t; rw [h4]; exact ht⟩
  · intro hs hk t ht
    have hk' : isS d.kind = true := by rw [← h1]; exact hk
    have ht' : d.since = some t := by rw [← h4]; exact ht
    rw [hf]
    exact hs hk' t ht'

end pd

/-! ### steps after which completeness has to be re-established at one device -/

/-- `Clk` except that completeness of device `x` may be lost. -/
structure Pre (X : Nat → Prop) (x : Nat) (w w' : World) : Prop where
  now : w'.now = w.now
  len : w'.devs.length = w.devs.length
  dev : ∀ y, PDs (X y) w.now (cv (w.dev y)) (cv (w'.dev y))
  compl : ∀ y, y ≠ x → Complete (cv (w.dev y)) → Complete (cv (w'.dev y))

theorem Clk.pre {X : Nat → Prop} {w w' : World} (h : Clk X w w') (x : Nat) : Pre X x w w' :=
  ⟨h.now, h.len, fun y => (h.dev y).toPDs, fun y _ => (h.dev y).compl⟩

theorem Pre.trans {X : Nat → Prop} {x : Nat} {a b c : World} (h1 : Pre X x a b) (h2 : Pre X x b c) :
    Pre X x a c :=
  ⟨h2.now.trans h1.now, h2.len.trans h1.len, fun y => (h1.dev y).trans (h1.now ▸ h2.dev y),
    fun y hy hc => h2.compl y hy (h1.compl y hy hc)⟩

theorem Pre.close {X : Nat → Prop} {x : Nat} {w w' : World} (h : Pre X x w w')
    (hc : Complete (cv (w'.dev x))) : Clk X w w' :=
  ⟨h.now, h.len, fun y => ⟨h.dev y, fun hcy => by
    by_cases hy : y = x
    · subst hy; exact hc
    · exact h.compl y hy hcy⟩⟩

theorem Pre.kind {X : Nat → Prop} {x : Nat} {w w' : World} (h : Pre X x w w') (y : Nat) :
    (w'.dev y).kind = (w.dev y).kind := (h.dev y).kind

theorem Pre_setDev {X : Nat → Prop} (w : World) (x : Nat) (d : Dev)
    (h : PDs (X x) w.now (cv (w.dev x)) (cv d)) : Pre X x w (w.setDev x d) := by
  refine ⟨rfl, by simp, fun y => ?_, fun y hy hc => ?_⟩
  · rw [dev_setDev]
    split
    · next hxy => rw [← hxy.1]; exact h
    · exact PDs.refl _ _ _
  · rw [dev_setDev_ne (Ne.symm hy)]; exact hc

/-- A device index out of range reads the default device, which is not initialised. -/
theorem complete_of_ge {w : World} {x : Nat} (h : w.devs.length ≤ x) : Complete (cv (w.dev x)) := by
  rw [dev_of_length_le h]
  intro _ hi
  cases hi

section floor2
variable {X : Nat → Prop} (w : World)

/-! ### the end of a cycle -/

theorem Clk_finishCycleHandler (x : Nat) : Clk X w (w.finishCycleHandler x) := by
  unfold World.finishCycleHandler
  dsimp only
  split
  · clk_auto
  · split
    · clk_auto
    · next p hp =>
      split
      · clk_auto
      · refine Clk.trans ?_ (Clk_schedulePass _ _ _)
        exact Clk_setDev w x _ (PD_move hp)
clk_lemma1 Clk_finishCycleHandler

/-- **A slot is emptied and the upstream devices are told**: the clock of `x` is started when both
slots are free now. -/
theorem Clk_release_notify (x : Nat) (hX : isM (w.dev x).kind = true → X x) :
    Clk X w ((w.modDev x (fun d => { d with output := none })).notify x) := by
  have h1 : Pre X x w (w.modDev x (fun d => { d with output := none })) :=
    Pre_setDev w x _ (PDs_release_output _ hX)
  have hS := Stamp_notify (w.modDev x (fun d => { d with output := none })) x
  refine (h1.trans ((hS.clk (X := X)).pre x)).close ?_
  intro hk hi _ hf
  obtain ⟨e1, e2, _, e4, e5⟩ := hS.fields x
  generalize hW : w.modDev x (fun d => { d with output := none }) = W at *
  have hk1 : isS (W.dev x).kind = true := by
    have : (cv ((W.notify x).dev x)).kind = (W.dev x).kind := e1
    rw [← this]; exact hk
  have hi1 : (W.dev x).inited = true := by
    have : (cv ((W.notify x).dev x)).inited = (W.dev x).inited := e2
    rw [← this]; exact hi
  have hf1 : (cv (W.dev x)).free = true := by
    unfold CV.free at hf ⊢
    rw [← e4, ← e5]; exact hf
  obtain ⟨hp, ho⟩ := slots_of_free hk1 hf1
  exact notify_since W x hk1 hi1 hp ho

theorem Clk_genPart' (x : Nat) : Clk X w (w.genPart x).1 := Clk_genPart w x

theorem finishCycle_source_eq (x : Nat) (hk : (w.dev x).kind = .source) :
    w.finishCycle x =
      (if (w.dev x).output.isNone then
        ((w.genPart x).1.modDev x (fun d => { d with output := some (w.genPart x).2 })).addHist
          (w.genPart x).2 x
       else w).schedulePass x 0 := by
  unfold World.finishCycle
  simp only [hk]

theorem Clk_finishCycle_source (x : Nat) (hk : (w.dev x).kind = .source) :
    Clk X w (w.finishCycle x) := by
  rw [finishCycle_source_eq w x hk]
  refine Clk.trans ?_ (Clk_schedulePass _ _ _)
  split
  · have h1 : Clk X w (w.genPart x).1 := Clk_genPart w x
    generalize w.genPart x = g at h1 ⊢
    obtain ⟨w1, p⟩ := g
    have hT : isS (w1.dev x).kind = false := by rw [h1.kind, hk]; rfl
    have h2 : Clk X w1 (w1.modDev x (fun d => { d with output := some p })) :=
      Clk_modDev_mask w1 x _ hT (fun _ => ⟨rfl, rfl, rfl, rfl⟩)
    exact (h1.trans h2).trans (Clk_addHist _ _ _)
  · exact Clk.refl _ _

theorem Clk_finishCycle (x : Nat) : Clk X w (w.finishCycle x) := by
  cases hk : (w.dev x).kind
  case source => exact Clk_finishCycle_source w x hk
  case sink =>
    unfold World.finishCycle
    simp only [hk]
    refine Clk.trans (Clk_finishCycleHandler w x) (Clk_release_notify _ x ?_)
    intro h
    rw [(Clk_finishCycleHandler (X := X) w x).kind x, hk] at h
    cases h
  case processor =>
    unfold World.finishCycle
    extract_lets d w0 wH wS dH wT wR
    have hd : d.kind = .processor := hk
    simp only [hd]
    have hT : Clk X w wT := (Clk_finishCycleHandler w x).trans (Clk_setDev_same _ _ _ rfl)
    have hR : Clk X w wR := by
      unfold wR
      split
      · exact hT.trans (Clk_schedLib _ _ _ _ _)
      · exact hT
    split
    · exact hR
    · refine Clk.trans ?_ (Clk_addRec _ _)
      refine Clk.trans ?_ (Clk.foldl _ _ _ (fun _ _ => Clk_senseOutput _ _ _))
      exact hR.trans (Clk.foldl _ _ _ (fun _ _ => Clk_applyPartCb _ _ _ _))
  all_goals
    unfold World.finishCycle
    simp only [hk]
    exact Clk_finishCycleHandler w x
clk_lemma1 Clk_finishCycle

theorem Clk_scheduleFinish (x : Nat) : Clk X w (w.scheduleFinish x) := by
  unfold World.scheduleFinish
  clk_auto
clk_lemma1 Clk_scheduleFinish

end floor2

end C08S
end SimProc
