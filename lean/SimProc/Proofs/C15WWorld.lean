/-
C15W / C16W — machinery, part 2b: the functions of `Model/World.lean` (scripted operations, events,
the event loop, initialisation) are `KStep`s / `KRun`s on keys, provided the scripts create no
assets (`NoCreate`).
-/
import SimProc.Proofs.C15WPass
import SimProc.Proofs.StaticWorld

namespace SimProc
namespace C15W
open World FloorCoreL C15 RM
variable {ph : Phase}

/-! ### initialisation of a device -/

theorem KS_devResetSite (hph : ph.ini = true) (w : World) (x : Nat) :
    KS ph w (w.modDev x (fun d => { d with inited := true, val := d.val.reset })) := by
  unfold KS
  refine (KStep.devReset (key w) x hph).cast ?_
  show _ = key (w.setDev x _)
  rw [key_setDev_eq]
  simp only [WKey.setDev, key_dev]
  rfl

theorem KS_initDev (hph : ph.ini = true) (w : World) (x : Nat) : KS ph w (w.initDev x) := by
  unfold initDev
  dsimp only
  refine KS.trans (KS_devResetSite hph w x) ?_
  split
  iterate 4 exact KS.refl _
  · exact (KS_setWaiting _ _ _ _).trans (KS_modDev _ x _ rfl)
  · exact (KS_setWaiting _ _ _ _).trans (KS_scheduleFinish _ _)
  · exact KS_setWaiting _ _ _ _

/-! ### maintainers, schedulers, sensors -/

theorem key_modMaint (w : World) (m : Nat) (f : Maint → Maint)
    (h : (f (w.maint m)).val = (w.maint m).val) : key (w.modMaint m f) = key w := by
  unfold key World.modMaint
  simp only
  rw [map_set_of_eq (fun mw : MaintW => mw.m.val) w.maints m _ default h]

theorem KS_modMaint (w : World) (m : Nat) (f : Maint → Maint)
    (h : (f (w.maint m)).val = (w.maint m).val) : KS ph w (w.modMaint m f) :=
  KS.of_key (key_modMaint w m f h)

theorem KS_startOrders (w : World) (m : Nat) (st : List Order) : KS ph w (w.startOrders m st) := by
  unfold startOrders
  ks_auto

macro_rules | `(tactic| ks_step) => `(tactic| with_reducible apply KS.trans (h2 := KS_startOrders _ _ _))

theorem KS_schedUpdate (w : World) (s : Nat) (advance : Bool) : KS ph w (w.schedUpdate s advance) := by
  unfold schedUpdate
  dsimp only
  ks_auto

theorem KS_periodicSense (w : World) (s : Nat) : KS ph w (w.periodicSense s) := by
  unfold periodicSense
  dsimp only
  ks_auto

theorem KS_setVar (w : World) (h : Nat) (v : Option Nat) : KS ph w (w.setVar h v) := by
  unfold World.setVar
  dsimp only
  ks_auto

macro_rules | `(tactic| ks_step) => `(tactic| with_reducible apply KS.trans (h2 := KS_setVar _ _ _))

/-! ### scripted operations -/

def Op.isCreate : Op → Bool
  | .create _ => true
  | _ => false

theorem scanQ_val (mm : Maint) (q : List Order) : (mm.scanQ q).1.val = mm.val := by
  induction q generalizing mm with
  | nil => rfl
  | cons o rest ih =>
    rw [Maint.scanQ]
    split
    · dsimp only; rw [ih]
    · dsimp only; rw [ih]

theorem tryWork_val (mm : Maint) : mm.tryWork.1.val = mm.val := by
  unfold Maint.tryWork
  dsimp only
  exact scanQ_val mm mm.queue

theorem create_val (mm : Maint) (tgt : Nat) (tag need info : Int) :
    (mm.create tgt tag need info).1.val = mm.val := by
  unfold Maint.create
  split
  · rfl
  · dsimp only
    rw [tryWork_val]

theorem KS_applyOp (w : World) (op : Op) (h : Op.isCreate op = false) : KS ph w (w.applyOp op).1 := by
  cases op with
  | create s => cases h
  | addRes r amt => exact KS_rmStep w _ _ _ (RMok.add w.rm r amt)
  | reserve hd req =>
    simp only [World.applyOp]
    split
    · exact KS.refl _
    · exact (KS_rmStep w _ _ false (RMok.reserve w.rm req)).trans (KS_setVar _ _ _)
  | release hd part =>
    simp only [World.applyOp]
    split
    · exact KS.refl _
    · rename_i id _
      exact KS_rmStep w _ _ _ (RMok.release w.rm id part)
  | merge h1 h2 =>
    simp only [World.applyOp]
    split
    · exact KS.refl _
    · split
      · exact KS.refl _
      · rename_i a _ _ b _
        exact KS_rmStep w _ [] false (RMok.merge w.rm a b)
  | register k req => exact KS_rmStep w _ [] _ (RMok.register w.rm req (.script k))
  | shutdown d =>
    simp only [World.applyOp]
    split
    · exact KS.refl _
    · exact KS_shutdownDev _ _ _ _
  | restore d =>
    simp only [World.applyOp]
    split
    · exact KS.refl _
    · exact KS_restoreDev _ _
  | block d b => exact KS_setBlock _ _ _
  | adjust d n => exact KS_adjustParts _ _ _
  | rewire d ups => exact KS_rewire _ _ _
  | workOrder m tgt tag info =>
    simp only [World.applyOp]
    refine KS.trans ?_ (KS_startOrders _ _ _)
    have hm : KS ph w (w.modMaint m fun _ =>
        ((w.maint m).create tgt tag (w.targetParams tgt tag).2.1 info).1) :=
      KS_modMaint w m _ (create_val _ _ _ _ _)
    split
    · exact hm.trans (KS_addRec _ _ rfl rfl)
    · exact hm
  | addSensor c s =>
    simp only [World.applyOp]
    split
    · exact KS.refl _
    · exact KS.of_key rfl
  | sched t a k p => exact KS_sched w _ _ _ _
  | schedRel dt a k p => exact KS_sched w _ _ _ _
  | pause a => exact KS_envOp_pause w a
  | unpause a => exact KS_envOp_unpause w a
  | cancel a => exact KS_envOp_cancel w a
  | schedFail d t =>
    simp only [World.applyOp]
    split
    · exact KS.refl w
    · exact KS_sched w _ _ _ _
  | schedFailRel d dt =>
    simp only [World.applyOp]
    split
    · exact KS.refl w
    · exact KS_sched w _ _ _ _
  | setCycle d c =>
    simp only [World.applyOp]
    split
    · exact KS.refl w
    · exact KS_modDev w d _ rfl
  | offsetNext d o => exact KS_modDev w d _ rfl
  | setParams tgt tag dur need cost => exact KS.of_key rfl
  | regObj s obj ovr => exact KS.of_key rfl
  | unregObj s obj => exact KS.of_key rfl
  | setVar k v => exact KS.of_key rfl

theorem KS_applyOps (ops : List Op) (w : World) (h : ∀ op ∈ ops, Op.isCreate op = false) :
    KS ph w (w.applyOps ops) := by
  induction ops generalizing w with
  | nil => exact KS.refl _
  | cons op ops ih =>
    unfold applyOps
    rw [List.foldl_cons]
    exact ((KS_applyOp w op (h op (List.mem_cons_self ..))).trans (KS_addRes _ _)).trans
      (ih _ (fun o ho => h o (List.mem_cons_of_mem _ ho)))

/-- The scripts create no assets. -/
def NoCreate (w : World) : Prop := ∀ l ∈ w.scripts, ∀ op ∈ l, Op.isCreate op = false

instance (w : World) : Decidable (NoCreate w) := by unfold NoCreate; infer_instance

theorem NoCreate.of_scripts {w w' : World} (h : NoCreate w) (e : w'.scripts = w.scripts) : NoCreate w' := by
  unfold NoCreate; rw [e]; exact h

theorem KS_runScript (w : World) (k : Nat) (h : NoCreate w) : KS ph w (w.runScript k) := by
  unfold runScript
  apply KS_applyOps
  intro op hop
  by_cases hk : k < w.scripts.length
  · have : w.scripts.getD k [] = w.scripts[k] := by simp [List.getD_eq_getElem?_getD, hk]
    rw [this] at hop
    exact h _ (List.getElem_mem hk) op hop
  · have : w.scripts.getD k [] = [] := by simp [List.getD_eq_getElem?_getD, Nat.le_of_not_lt hk]
    rw [this] at hop; cases hop

/-! ### the availability check, the maintainer's events -/

theorem KS_scanWaiting (n : Nat) (w : World) (i : Nat) (h : NoCreate w) :
    KS ph w (scanWaiting scanOps n w i) := by
  induction n generalizing w i with
  | zero => exact KS.refl _
  | succ n ih =>
    rw [scanWaiting]
    split
    · exact KS.refl _
    · split
      · rename_i req cb _ _
        have h1 : KS ph w (scanOps.call w cb req) ∧ (scanOps.call w cb req).scripts = w.scripts := by
          cases cb with
          | script k =>
            exact ⟨(KS_addRes w _).trans (KS_runScript _ k h), (C02V.scr_runScript _ k).trans rfl⟩
          | proc d => exact ⟨KS_procResourceCb w d, C02V.scr_floor.procResourceCb w d⟩
        have h2 : KS ph (scanOps.call w cb req) (scanOps.erase (scanOps.call w cb req) i) :=
          KS_rmStep _ _ [] false (RMok.of_pools rfl rfl)
        exact (h1.1.trans h2).trans (ih _ _ (h.of_scripts h1.2))
      · exact ih _ _ h

theorem KS_rmCheck (w : World) (h : NoCreate w) : KS ph w w.rmCheck := KS_scanWaiting _ _ _ h

theorem KS_hookStart (w : World) (tgt : Nat) (tag : Int) (h : NoCreate w) :
    KS ph w (w.hookStart tgt tag) := by
  unfold hookStart
  dsimp only
  split
  · exact (KS_addRes w _).trans (KS_shutdownDev _ _ _ _)
  · split
    · exact (KS_addRes w _).trans (KS_runScript _ _ h)
    · exact KS_addRes w _

theorem KS_hookEnd (w : World) (tgt : Nat) (tag : Int) (h : NoCreate w) :
    KS ph w (w.hookEnd tgt tag) := by
  unfold hookEnd
  dsimp only
  split
  · exact (KS_addRes w _).trans (KS_restoreDev _ _)
  · split
    · exact (KS_addRes w _).trans (KS_runScript _ _ h)
    · exact KS_addRes w _

/-- The site: the maintainer is charged the cost of the order it starts. -/
theorem KS_startCostSite (hph : ph.cst = true) (w : World) (m : Nat) (c : Int) :
    KS ph w (w.modMaint m (fun mm => mm.startCost w.now c)) := by
  unfold KS
  refine (KStep.maintCost (key w) m c hph).cast ?_
  unfold key World.modMaint
  simp only [List.map_set, WKey.mval, WKey.now]
  congr 2
  exact (getD_map (fun mw : MaintW => mw.m.val) w.maints m default).symm ▸ rfl

theorem KS_startWork (hph : ph.cst = true) (w : World) (m seq : Nat) (h : NoCreate w) :
    KS ph w (w.startWork m seq) := by
  unfold startWork
  split
  · exact KS_setErr _ _
  · rename_i o _
    dsimp only
    refine KS.trans ?_ (KS_schedLib _ _ _ _ _)
    refine KS.trans ?_ (KS_hookStart _ _ _ ?_)
    · exact (KS_addRec w _ rfl rfl).trans (KS_startCostSite hph _ m _)
    · exact h.of_scripts rfl

theorem KS_finishWork (w : World) (m seq : Nat) (h : NoCreate w) : KS ph w (w.finishWork m seq) := by
  unfold finishWork
  split
  · exact KS_setErr _ _
  · rename_i o _
    dsimp only
    refine KS.trans ?_ (KS_startOrders _ _ _)
    refine KS.trans ?_ (KS_modMaint _ _ _ ?_)
    · refine KS.trans ?_ (KS_addRec _ _ rfl rfl)
      exact (KS_hookEnd w _ _ h).trans (KS_modMaint _ _ _ rfl)
    · exact tryWork_val _

/-! ### events -/

theorem KS_exec (w : World) (a : Action) (h : NoCreate w)
    (hp : ∀ d, a = .passPart d → ph.moves ∧ ((w.dev d).kind = .source → ph.sup = true))
    (hc : ∀ m o, a = .startWork m o → ph.cst = true) : KS ph w (w.exec a) := by
  cases a with
  | terminate => exact KS.refl _
  | script k => exact KS_runScript w k h
  | finishCycle d => exact KS_finishCycle w d
  | passPart d => exact KS_passPart (hp d rfl).1 w d (hp d rfl).2
  | fail d => exact KS_failDev w d
  | releaseIfIdle d => exact KS_releaseIfIdle w d
  | rmCheck => exact KS_rmCheck w h
  | startWork m o => exact KS_startWork (hc m o rfl) w m o h
  | finishWork m o => exact KS_finishWork w m o h
  | schedUpdate s => exact KS_schedUpdate w s true
  | periodicSense s => exact KS_periodicSense w s
  | unknown n => exact KS_setErr _ _

/-! ### the event loop -/

/-- Runs of the event loop on keys: steps of event actions and pops of the event queue. -/
inductive KRun : WKey → WKey → Prop where
  | refl (k : WKey) : KRun k k
  | trans {a b c : WKey} : KRun a b → KRun b c → KRun a c
  | act {a b : WKey} : KStep .run a b → KRun a b
  | pop (k : WKey) : KRun k { k with env := (k.env.apply Arith.exact .step).1 }

theorem step_cases {w w' : World} {e : Event} (h : w.step = some (e, w')) :
    ∃ env', w.env.step = some (e, env') ∧
      w' = if e.live then ({ w with env := env' } : World).exec (Action.ofNat e.act)
           else { w with env := env' } := by
  unfold World.step at h
  split at h
  · cases h
  · rename_i e' env' henv
    simp only [Option.some.injEq, Prod.mk.injEq] at h
    obtain ⟨rfl, rfl⟩ := h
    exact ⟨env', henv, rfl⟩

theorem KRun_pop_world (w : World) (e : Event) (env' : Env) (h : w.env.step = some (e, env')) :
    KRun (key w) (key ({ w with env := env' } : World)) := by
  have := KRun.pop (key w)
  have e1 : ((key w).env.apply Arith.exact .step).1 = env' := by
    show (w.env.apply Arith.exact .step).1 = env'
    simp only [Env.apply, h]
  rw [e1] at this
  exact this

theorem KRun_step {w w' : World} {e : Event} (hn : NoCreate w) (h : w.step = some (e, w')) :
    KRun (key w) (key w') ∧ NoCreate w' := by
  obtain ⟨env', henv, rfl⟩ := step_cases h
  have h1 := KRun_pop_world w e env' henv
  have hn1 : NoCreate ({ w with env := env' } : World) := hn.of_scripts rfl
  split
  · exact ⟨h1.trans (KRun.act (KS_exec (ph := .run) _ _ hn1 (fun _ _ => ⟨rfl, fun _ => rfl⟩) (fun _ _ _ => rfl))), hn1.of_scripts (C02V.scr_exec _ _)⟩
  · exact ⟨h1, hn1⟩

theorem KRun_runLoop (n : Nat) (w : World) (hn : NoCreate w) :
    KRun (key w) (key (runLoop n w)) ∧ NoCreate (runLoop n w) := by
  induction n generalizing w with
  | zero =>
    unfold runLoop
    exact ⟨KRun.act (KS_setErr (ph := .run) w _), hn.of_scripts (C02V.scr_setErr ..)⟩
  | succ n ih =>
    unfold runLoop
    split
    · split
      · exact ⟨KRun.refl _, hn⟩
      · rename_i e w' hst
        have h1 := KRun_step hn hst
        have h2 := ih w' h1.2
        exact ⟨h1.1.trans h2.1, h2.2⟩
    · exact ⟨KRun.refl _, hn⟩

theorem KS_runBegin (w : World) (d : Int) : KS ph w (w.runBegin d).1 := by
  unfold World.runBegin
  dsimp only
  have h := KStep.env (ph := ph) (key w)
    (.runBegin d (weightOf w.seed w.wmod (w.env.now + d) (-1) terminateAct pTerminate))
    (by intro h; cases h)
  split
  · exact KS.refl _
  · rename_i e heq
    unfold KS
    refine h.cast ?_
    show ({ key w with env := (w.env.apply Arith.exact _).1 } : WKey) = _
    simp only [Env.apply, heq]
    rfl

/-! ### initialisation -/

theorem KS_maintResetSite (hph : ph.ini = true) (w : World) (m : Nat) :
    KS ph w (w.initAsset (.maint m)) := by
  unfold KS
  refine (KStep.maintReset (key w) m hph).cast ?_
  unfold key initAsset
  simp only [List.map_set, WKey.mval]
  congr 2
  exact (getD_map (fun mw : MaintW => mw.m.val) w.maints m default).symm ▸ rfl

theorem KS_initAsset (hph : ph.ini = true) (w : World) (a : AssetRef) : KS ph w (w.initAsset a) := by
  cases a with
  | dev d => exact KS_initDev hph w d
  | maint m => exact KS_maintResetSite hph w m
  | sched s => exact KS_schedUpdate w s false
  | sensor s =>
    unfold initAsset
    dsimp only
    ks_auto
  | cms c => exact KS.refl _

theorem KS_simulateInit (hph : ph.ini = true) (w : World) (hi : w.rm.inited = false) :
    KS ph w w.simulateInit := by
  unfold simulateInit
  split
  · exact KS.refl _
  · dsimp only
    ks_struct
    refine KS.trans ?_ (KS.foldl _ _ _ (fun w a => KS_initAsset hph w a))
    have h1 : KS ph w (((w.rm.init).2.1).foldl
        (fun w r => w.addRec (.resUpdate r.res w.now r.inUse r.cap))
        ({ w with rm := (w.rm.init).1 } : World)) := by
      unfold KS
      rw [key_foldl_resUpdate]
      refine (KStep.rmInit (key w) hph hi).cast ?_
      rfl
    unfold rmEffects
    dsimp only
    split
    · exact h1.trans (KS_schedLib _ _ _ _ _)
    · exact h1

end C15W
end SimProc
