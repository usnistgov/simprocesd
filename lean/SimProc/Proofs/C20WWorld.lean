/-
C20W — machinery, part 3: the registration key under the functions of `Model/World.lean`.
`initAsset` raises exactly one flag, a constructor call pushes exactly one component and one
registration entry (and raises the flag at once on a started system), `simulateInit` sweeps the
registration list; everything else keeps the key, or (scripts, callbacks, hooks: they may contain
constructor calls) keeps the registration invariant.
-/
import SimProc.Proofs.C20WReg
import SimProc.Proofs.WorldPres

namespace SimProc
namespace C20W
open World FloorCoreL RKey

/-! ### small state updates -/

@[simp] theorem RK_modMaint (w : World) (m : Nat) (f : Maint → Maint) :
    RK (w.modMaint m f) = RK w := by
  unfold modMaint
  exact RK_setMaint w m _ rfl
@[simp] theorem RK_setVar (w : World) (h : Nat) (v : Option Nat) : RK (w.setVar h v) = RK w := rfl

eq_rule RK_modMaint _ _ _
eq_rule RK_setVar _ _ _

theorem Same_startOrders (w : World) (m : Nat) (st : List Order) : Same w (w.startOrders m st) := by
  unfold startOrders
  rk_auto

same_rule Same_startOrders _ _ _

theorem Same_schedUpdate (w : World) (s : Nat) (advance : Bool) :
    Same w (w.schedUpdate s advance) := by
  unfold schedUpdate
  dsimp only
  rk_auto

same_rule Same_schedUpdate _ _ _

theorem Same_periodicSense (w : World) (s : Nat) : Same w (w.periodicSense s) := by
  unfold periodicSense
  dsimp only
  rk_auto

/-! ### `initAsset` raises one flag -/

theorem map_set_modify {α β} (f : α → β) (g : β → β) (F : α → α) (l : List α) (x : Nat) (dflt : α)
    (h : ∀ a, f (F a) = g (f a)) :
    (l.set x (F (l.getD x dflt))).map f = (l.map f).modify x g := by
  apply List.ext_getElem?
  intro j
  rw [List.getElem?_modify, List.getElem?_map, List.getElem?_map, List.getElem?_set]
  by_cases hxj : x = j
  · subst hxj
    by_cases hx : x < l.length
    · simp [hx, List.getD_eq_getElem?_getD, h]
    · simp [hx]
  · simp [hxj]

theorem RK_initFlag (w : World) (x : Nat) :
    RK (w.modDev x (fun d => { d with inited := true, val := d.val.reset })) = (RK w).init (.dev x) := by
  unfold RK modDev setDev World.dev RKey.init
  simp only
  rw [map_set_modify dk (fun e => (e.1, e.2.1, true))
    (fun d => { d with inited := true, val := d.val.reset }) w.devs x default (fun _ => rfl)]

theorem RK_initDev (w : World) (x : Nat) : RK (w.initDev x) = (RK w).init (.dev x) := by
  rw [← RK_initFlag]
  show Same (w.modDev x (fun d => { d with inited := true, val := d.val.reset })) (w.initDev x)
  unfold initDev
  dsimp only
  rk_auto

/-- The first step of the initialisation of a sensor. -/
def initSensorFlag (w : World) (s : Nat) : World :=
  let sw := w.sensors.getD s default
  { w with sensors := w.sensors.set s { sw with s := sw.s.reset, registered := true } }

theorem RK_initAsset (w : World) (a : AssetRef) : RK (w.initAsset a) = (RK w).init a := by
  cases a with
  | dev d => exact RK_initDev w d
  | maint m =>
    unfold initAsset RK RKey.init
    simp only
    rw [map_set_modify mk (fun e => (e.1, true))
      (fun mw => { mw with inited := true, m := { mw.m with val := mw.m.val.reset } }) w.maints m default
      (fun _ => rfl)]
  | sched s => exact Same_schedUpdate w s false
  | sensor s =>
    have h1 : RK (initSensorFlag w s) = (RK w).init (.sensor s) := by
      unfold initSensorFlag
      unfold RK RKey.init
      simp only
      rw [map_set_modify sk (fun e => (e.1, true))
        (fun sw => { sw with s := sw.s.reset, registered := true }) w.sensors s default (fun _ => rfl)]
    rw [← h1]
    show Same _ (w.initAsset (.sensor s))
    unfold initAsset
    dsimp only
    rk_auto
    all_goals exact Same.refl _
  | cms c => rfl

/-! ### constructors -/

open C02V in
theorem RK_addDev1 (w : World) (d : Dev) : RK (addDev1 w d) = (RK w).pushDev d.kind d.inited := by
  simp [RK, addDev1, pushDev, dk]

open C02V in
theorem Same_regPath (w : World) (d : Dev) (i : Nat) : Same w (regPath w d i) := by
  unfold regPath
  split <;> exact Same.refl _

open C02V in
/-- The registration half of a constructor call: everything `addDev` does before it looks at
`started`. -/
def regDev (w : World) (d : Dev) : World :=
  regPath ((addDev1 w d).rewire w.devs.length d.up) d w.devs.length

open C02V in
theorem addDev_eq_regDev (w : World) (d : Dev) :
    w.addDev d = if (regDev w d).started then (regDev w d).initAsset (.dev w.devs.length) else regDev w d :=
  rfl

open C02V in
theorem RK_regDev (w : World) (d : Dev) : RK (regDev w d) = (RK w).pushDev d.kind d.inited := by
  unfold regDev
  rw [Same_regPath _ _ _, Same_rewire _ _ _, RK_addDev1]

theorem RK_addDev (w : World) (d : Dev) (hd : d.inited = false) :
    RK (w.addDev d) = (RK w).pushDev d.kind w.started := by
  have hs : (regDev w d).started = w.started := by
    have := congrArg RKey.started (RK_regDev w d); exact this
  have hl : (RK w).devs.length = w.devs.length := by simp [RK]
  rw [addDev_eq_regDev, hs]
  cases hst : w.started
  · simp only [Bool.false_eq_true, if_false]
    rw [RK_regDev, hd]
  · simp only [if_true]
    rw [RK_initAsset, RK_regDev, hd, ← hl, init_pushDev]

/-- From the key of the new world: the invariant, `started`, the registration list. -/
theorem Pv.of_key {w w' : World} {k' : RKey} (hk : RK w' = k') (hreg : RegK (RK w) → RegK k')
    (hst : k'.started = w.started) (hpre : w.assets <+: k'.assets) : Pv w w' := by
  intro r
  refine ⟨?_, ?_, ?_⟩
  · unfold Reg at *; rw [hk]; exact hreg r
  · have := congrArg RKey.started hk; exact this.trans hst
  · have : w'.assets = k'.assets := congrArg RKey.assets hk
    rw [this]; exact hpre

theorem Pv_addDev (w : World) (d : Dev) (hd : d.inited = false) : Pv w (w.addDev d) :=
  Pv.of_key (RK_addDev w d hd) (fun r => regK_pushDev r d.kind) rfl (List.prefix_append _ _)

theorem started_eq (k : RKey) (b : Bool) (h : k.started = b) : k.started = b := h

theorem RK_addMaint (w : World) (cap : Option Int) (v : Int) :
    RK (w.addAsset (.maint cap v)) = (RK w).pushMaint w.started := by
  have hl : (RK w).maints.length = w.maints.length := by simp [RK]
  unfold addAsset
  dsimp only
  cases hst : w.started
  · simp [RK, pushMaint, mk, hst]
  · simp only [if_true]
    rw [RK_initAsset, ← hl, ← init_pushMaint]
    congr 1
    simp [RK, pushMaint, mk, hst]

theorem RK_addSched (w : World) (tt : List (Int × Int)) (cyc : Bool) :
    RK (w.addAsset (.sched tt cyc)) = (RK w).pushSched := by
  unfold addAsset
  dsimp only
  cases hst : w.started
  · simp [RK, pushSched, hst]
  · simp only [if_true]
    rw [RK_initAsset]
    simp [RK, pushSched, hst, RKey.init]

theorem RK_addSensor (w : World) (sw : SensorW) (hreg : sw.registered = false) :
    RK (w.addAsset (.sensor sw)) = (RK w).pushSensor w.started := by
  have hl : (RK w).sensors.length = w.sensors.length := by simp [RK]
  unfold addAsset
  dsimp only
  cases hst : w.started
  · simp [RK, pushSensor, sk, hst, hreg]
  · simp only [if_true]
    rw [RK_initAsset, ← hl, ← init_pushSensor]
    congr 1
    simp [RK, pushSensor, sk, hst, hreg]

theorem RK_addCms (w : World) : RK (w.addAsset .cms) = (RK w).pushCms := by
  simp [addAsset, RK, pushCms]

/-- A group: two device constructors (input and output controller), two registration entries. -/
theorem RK_addGroup (w : World) (gid : Nat) (dvs ins outs : List Nat) :
    RK (w.addAsset (.group gid dvs ins outs)) =
      (((RK w).pushDev .ginput w.started).pushDev .goutput w.started) := by
  unfold addAsset
  dsimp only
  rw [Same_rewire _ _ _, RK_addDev _ _ rfl, Same.foldl _ _ _ (fun _ _ => Same_rewire _ _ _),
    RK_addDev _ _ rfl]
  have h1 : ∀ (w0 : World) (l : List Nat) (c : Nat),
      (List.foldl (fun w_1 d => w_1.rewire d [c]) (w0.addDev { kind := .ginput, group := gid }) l).started =
        w0.started := by
    intro w0 l c
    rw [(Same.foldl _ _ _ (fun _ _ => Same_rewire _ _ _)).started]
    have := congrArg RKey.started (RK_addDev w0 { kind := .ginput, group := gid } rfl)
    exact this
  rw [h1]
  rfl

theorem Pv_addAsset (w : World) (spec : AssetSpec) (hs : specFresh spec = true) :
    Pv w (w.addAsset spec) := by
  cases spec with
  | dev d => exact Pv_addDev w d (by simpa [specFresh] using hs)
  | group gid devs ins outs =>
    unfold addAsset
    dsimp only
    refine Pv.trans_same ?_ (Same_rewire _ _ _)
    refine Pv.trans ?_ (Pv_addDev _ _ rfl)
    refine Pv.trans_same ?_ (Same.foldl _ _ _ (fun _ _ => Same_rewire _ _ _))
    refine Pv.trans ?_ (Pv_addDev _ _ rfl)
    exact Pv.of_same rfl
  | maint cap v =>
    exact Pv.of_key (RK_addMaint w cap v) regK_pushMaint rfl (List.prefix_append _ _)
  | sched tt cyc =>
    exact Pv.of_key (RK_addSched w tt cyc) regK_pushSched rfl (List.prefix_append _ _)
  | sensor sw =>
    exact Pv.of_key (RK_addSensor w sw (by simpa [specFresh] using hs)) regK_pushSensor rfl
      (List.prefix_append _ _)
  | cms =>
    exact Pv.of_key (RK_addCms w) regK_pushCms rfl (List.prefix_append _ _)

/-! ### scripted operations -/

theorem RK_addSensorUpd (w : World) (cs : List (List Nat)) (s : Nat) (x : SensorW)
    (h : sk x = sk (w.sensors.getD s default)) :
    RK ({ w with cmsSensors := cs, sensors := w.sensors.set s x } : World) =
      { RK w with ncms := cs.length } := by
  unfold RK
  simp only
  rw [map_set_of_eq sk w.sensors s x default h]

theorem Pv_applyOp (w : World) (op : Op) (h : opFresh op = true) : Pv w (w.applyOp op).1 := by
  cases op
  case create spec => exact Pv_addAsset w spec h
  case addSensor c s =>
    unfold applyOp
    dsimp only
    split
    · exact Pv.refl _
    · refine Pv.of_key rfl ?_ rfl (List.prefix_refl _)
      intro r
      rename_i hc
      generalize hcs : (if w.cmsSensors.length ≤ c then
        w.cmsSensors ++ List.replicate (c + 1 - w.cmsSensors.length) [] else w.cmsSensors) = cs
      have hlen : w.cmsSensors.length ≤ cs.length := by
        rw [← hcs]; split <;> simp
      have key := RK_addSensorUpd w (cs.set c (w.cmsSensors.getD c [] ++ [s])) s
        { w.sensors.getD s default with s := (w.sensors.getD s default).s.addCb (1000 + c) } rfl
      simp only [List.length_set] at key
      refine key ▸ ?_
      exact regK_ncms r _ hlen
  all_goals
    unfold applyOp
    try dsimp only
    repeat' first
      | pv_step
      | exact Pv.of_same (RK_sched _ _ _ _ _)
      | split
      | dsimp only

theorem assets_plain :
    PlainClosed fun w w' => w'.assets = w.assets ∧ w'.started = w.started where
  refl := fun _ => ⟨rfl, rfl⟩
  trans := fun h1 h2 => ⟨h2.1.trans h1.1, h2.2.trans h1.2⟩
  tables := fun _ _ _ _ _ _ _ _ => ⟨rfl, rfl⟩
  rmEffects := fun w recs chk => have h : Same w _ := RK_rmEffects w recs chk; ⟨h.assets, h.started⟩
  schedScript := fun w t a _ p => have h : Same w _ := RK_sched w t a _ p; ⟨h.assets, h.started⟩
  orderRec := fun _ _ _ _ _ => ⟨rfl, rfl⟩
  startOrders := fun w m st => ⟨(Same_startOrders w m st).assets, (Same_startOrders w m st).started⟩
  setBlock := fun w d b => ⟨(Same_setBlock w d b).assets, (Same_setBlock w d b).started⟩
  setCycle := fun _ _ _ => ⟨rfl, rfl⟩
  addOffset := fun _ _ _ => ⟨rfl, rfl⟩
  setParams := fun _ _ _ => ⟨rfl, rfl⟩

/-- A scripted operation other than a constructor call changes neither the registration list nor
the `started` flag. -/
theorem applyOp_assets (w : World) (op : Op) (h : ∀ s, op ≠ .create s) :
    (w.applyOp op).1.assets = w.assets ∧ (w.applyOp op).1.started = w.started := by
  have same : ∀ {w'}, Same w w' → w'.assets = w.assets ∧ w'.started = w.started :=
    fun s => ⟨s.assets, s.started⟩
  cases op with
  | create spec => exact absurd rfl (h spec)
  | pause a => exact ⟨rfl, rfl⟩
  | unpause a => exact ⟨rfl, rfl⟩
  | cancel a => exact ⟨rfl, rfl⟩
  | shutdown d =>
    rw [World.applyOp]
    split
    · exact ⟨rfl, rfl⟩
    · exact same (Same.floor.shutdownDev w d _ _)
  | restore d =>
    rw [World.applyOp]
    split
    · exact ⟨rfl, rfl⟩
    · exact same (Same.floor.restoreDev w d)
  | rewire d ups => exact same (Same_rewire w d ups)
  | _ =>
    exact assets_plain.applyOp w _ rfl (fun t _ _ => same (RK_sched w t _ _ _))
      fun d n _ => same (Same_adjustParts w d n)

theorem Pv_applyOps (w : World) (ops : List Op) (h : ∀ op ∈ ops, opFresh op = true) :
    Pv w (w.applyOps ops) := by
  unfold applyOps
  induction ops generalizing w with
  | nil => exact Pv.refl _
  | cons op ops ih =>
    rw [List.foldl_cons]
    refine Pv.trans ?_ (ih _ (fun o ho => h o (List.mem_cons_of_mem _ ho)))
    exact (Pv_applyOp w op (h op List.mem_cons_self)).trans_eq (RK_addRes _ _)

theorem Pv_runScript (w : World) (k : Nat) : Pv w (w.runScript k) := by
  refine Pv.with_reg fun g => ?_
  unfold runScript
  refine Pv_applyOps _ _ ?_
  intro op hop
  obtain ⟨s, hs, hm⟩ := mem_getD_nil hop
  exact g.scripts s hs op hm

macro_rules | `(tactic| pv_step) => `(tactic| with_reducible apply Pv.trans (h2 := Pv_runScript _ _))

/-! ### resource availability check -/

theorem Pv_scanWaiting (n : Nat) (w : World) (i : Nat) : Pv w (scanWaiting scanOps n w i) := by
  induction n generalizing w i with
  | zero => exact Pv.refl _
  | succ n ih =>
    rw [scanWaiting]
    split
    · exact Pv.refl _
    · split
      · refine Pv.trans ?_ (ih _ _)
        show Pv w (scanOps.erase (scanOps.call w _ _) i)
        unfold scanOps
        dsimp only
        pv_auto
      · exact ih _ _

theorem Pv_rmCheck (w : World) : Pv w w.rmCheck := Pv_scanWaiting _ _ _

/-! ### maintainer events -/

theorem Pv_hookStart (w : World) (tgt : Nat) (tag : Int) : Pv w (w.hookStart tgt tag) := by
  unfold hookStart
  dsimp only
  pv_auto

theorem Pv_hookEnd (w : World) (tgt : Nat) (tag : Int) : Pv w (w.hookEnd tgt tag) := by
  unfold hookEnd
  dsimp only
  pv_auto

macro_rules | `(tactic| pv_step) => `(tactic| with_reducible apply Pv.trans (h2 := Pv_hookStart _ _ _))
macro_rules | `(tactic| pv_step) => `(tactic| with_reducible apply Pv.trans (h2 := Pv_hookEnd _ _ _))
macro_rules | `(tactic| pv_step) => `(tactic| with_reducible apply Pv.trans (h2 := Pv_rmCheck _))

theorem Pv_startWork (w : World) (m seq : Nat) : Pv w (w.startWork m seq) := by
  unfold startWork
  dsimp only
  pv_auto

theorem Pv_finishWork (w : World) (m seq : Nat) : Pv w (w.finishWork m seq) := by
  unfold finishWork
  dsimp only
  pv_auto

/-! ### events -/

theorem Pv_exec (w : World) (a : Action) : Pv w (w.exec a) := by
  unfold exec
  split
  · exact Pv.refl _
  · exact Pv_runScript _ _
  · exact Pv.of_same (Same.floor.finishCycle _ _)
  · exact Pv.of_same (Same.floor.passPart _ _)
  · exact Pv.of_same (Same.floor.failDev _ _)
  · exact Pv.of_same (Same.floor.releaseIfIdle _ _)
  · exact Pv_rmCheck _
  · exact Pv_startWork _ _ _
  · exact Pv_finishWork _ _ _
  · exact Pv.of_same (Same_schedUpdate _ _ _)
  · exact Pv.of_same (Same_periodicSense _ _)
  · exact Pv.of_same (RK_setErr _ _)

theorem Pv_step {w w' : World} {e : Event} (h : w.step = some (e, w')) : Pv w w' := by
  unfold World.step at h
  split at h
  · cases h
  · rename_i e0 env' hs
    cases h
    split
    · refine Pv.trans ?_ (Pv_exec _ _)
      exact Pv.of_same rfl
    · exact Pv.of_same rfl

theorem Same_runBegin (w : World) (d : Int) : Same w (w.runBegin d).1 := by
  unfold World.runBegin
  dsimp only
  split <;> exact Same.refl _

theorem Pv_runLoop (n : Nat) (w : World) : Pv w (runLoop n w) := by
  induction n generalizing w with
  | zero => exact Pv.of_same (RK_setErr _ _)
  | succ n ih =>
    rw [runLoop]
    split
    · split
      · exact Pv.refl _
      · rename_i hs
        exact (Pv_step hs).trans (ih _)
    · exact Pv.refl _

/-! ### `simulateInit` -/

theorem RK_sweep (w : World) (l : List AssetRef) :
    RK (l.foldl (fun w a => w.initAsset a) w) = (RK w).sweep l := by
  induction l generalizing w with
  | nil => rfl
  | cons a l ih => rw [List.foldl_cons, ih, RK_initAsset, sweep_cons]

theorem RK_simulateInit (w : World) (h : w.started = false) :
    RK w.simulateInit = { (RK w).sweep w.assets with started := true } := by
  unfold simulateInit
  rw [if_neg (by simp [h])]
  dsimp only
  have h1 : RK (({ w with rm := w.rm.init.1 } : World).rmEffects w.rm.init.2.1 w.rm.init.2.2) = RK w := by
    rw [RK_rmEffects]; rfl
  have h2 : (({ w with rm := w.rm.init.1 } : World).rmEffects w.rm.init.2.1 w.rm.init.2.2).assets = w.assets := by
    have := congrArg RKey.assets h1; exact this
  show ({ RK (List.foldl _ _ _) with started := true } : RKey) = _
  rw [RK_sweep, h1, h2]

theorem reg_simulateInit (w : World) (r : Reg w) : Reg w.simulateInit := by
  cases hst : w.started
  · unfold Reg at *
    rw [RK_simulateInit w hst]
    exact regK_start r
  · unfold simulateInit
    rw [if_pos hst]
    exact r

end C20W
end SimProc
