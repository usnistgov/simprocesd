/-
C19D — machinery, part 2: the world invariant `WS C B w` (sensor anchors `B`), the relation
`FrS C w w'` ("`w'` keeps the invariant of `w`, the anchors of the existing sensors are kept, sensors
appended meanwhile are anchored at the clock") and `FrS C w (f w)` for every function that can run
inside an event action, `create (.sensor …)` of a periodic sensor included.

Method (that of `Proofs/C18DWorld.lean`): the frame lemmas `Fr` of C18W are applied to the twin
world WITHOUT scripts (`noScr w`); the registry facts are those of C20W (`Reg`, `Pv`, `Same`).
-/
import SimProc.Proofs.C19DInv
import SimProc.Proofs.C18DWorld

namespace SimProc
namespace C19D
open World FloorCoreL C18W C19W
open C03W (es noScr)
open C18D (Ctx idOK es_self applyOp_scripts reg_dev_aid_le fresh_noScr ctxOf)

/-! ### the class of operations -/

/-- **`sensNew`**: the payload of a sensor constructed while running — a PERIODIC sensor, interval
not negative, not yet registered (what the constructor produces).  Its stored series need not be
empty: initialisation resets them.  The asset id is the one the registry hands out. -/
def sensNew (sw : SensorW) : Bool :=
  (sw.s.kind == .periodic) && decide (0 ≤ sw.s.interval) && !sw.registered

/-- Operations of the dynamic class: as in C18W, plus constructor calls for periodic sensors
(`sensNew`), maintainers and cms. -/
def opDS (ta0 : List Int) (bound : Nat) : Op → Bool
  | .pause a => idOK ta0 bound a
  | .unpause a => idOK ta0 bound a
  | .cancel a => idOK ta0 bound a
  | .create (.sensor sw) => sensNew sw
  | .create (.maint _ _) => true
  | .create .cms => true
  | .create _ => false
  | _ => true

/-- **The world invariant.** -/
structure WS (C : Ctx) (B : Nat → Int) (w : World) : Prop where
  gs : GS C.P B w.env (tk (noScr w))
  inv : C01.Inv w.env
  reg : C20W.Reg w
  started : w.started = true
  scr : ∀ l ∈ w.scripts, ∀ op ∈ l, opDS C.ta0 C.bound op = true
  tab : ∀ a ∈ (tk w).ta, a ∈ C.ta0 ∨ (C.bound : Int) < a
  bnd : C.bound ≤ w.assets.length

/-- the anchors after something happened in `w`: existing sensors keep theirs, new ones are
anchored at the clock -/
def extB (B : Nat → Int) (w : World) : Nat → Int := fun s => if s < w.sensors.length then B s else w.now

def FrS (C : Ctx) (w w' : World) : Prop :=
  ∀ B, WS C B w → WS C (extB B w) w' ∧ w'.now = w.now ∧ w.sensors.length ≤ w'.sensors.length

theorem WS.congrB {C : Ctx} {B B' : Nat → Int} {w : World} (h : WS C B w)
    (hB : ∀ s, s < w.sensors.length → B' s = B s) : WS C B' w :=
  ⟨h.gs.congrB hB, h.inv, h.reg, h.started, h.scr, h.tab, h.bnd⟩

theorem FrS.refl (C : Ctx) (w : World) : FrS C w w := fun B h =>
  ⟨h.congrB (fun s hs => by simp [extB, hs]), rfl, Nat.le_refl _⟩

theorem extB_extB (B : Nat → Int) {w w1 : World} (hn : w1.now = w.now)
    (hl : w.sensors.length ≤ w1.sensors.length) : extB (extB B w) w1 = extB B w := by
  funext s
  unfold extB
  by_cases h1 : s < w1.sensors.length
  · simp [h1]
  · have h2 : ¬ s < w.sensors.length := by omega
    simp [h1, h2, hn]

theorem FrS.trans {C : Ctx} {a b c : World} (h1 : FrS C a b) (h2 : FrS C b c) : FrS C a c := by
  intro B h
  obtain ⟨g1, n1, l1⟩ := h1 B h
  obtain ⟨g2, n2, l2⟩ := h2 _ g1
  rw [extB_extB B n1 l1] at g2
  exact ⟨g2, n2.trans n1, Nat.le_trans l1 l2⟩

theorem FrS.with {C : Ctx} {w w' : World} (h : ∀ B, WS C B w → FrS C w w') : FrS C w w' :=
  fun B hw => h B hw B hw

/-- A frame of the script-less twin that keeps the registry invariant and the scripts. -/
theorem FrS.prim {C : Ctx} {w w' : World} (h1 : Fr (noScr w) (noScr w')) (h2 : C20W.Pv w w')
    (h3 : w'.scripts = w.scripts) : FrS C w w' := by
  intro B hw
  obtain ⟨g, i, n, l, t⟩ := GS.fr (w := noScr w) (w' := noScr w') hw.gs hw.inv h1
  obtain ⟨r, st, pf⟩ := h2 hw.reg
  have l' : w'.sensors.length = w.sensors.length := l
  refine ⟨⟨g.congrB (fun s hs => ?_), i, r, st.trans hw.started, ?_, ?_, ?_⟩, n, Nat.le_of_eq l'.symm⟩
  · have : s < w.sensors.length := by rw [← l']; exact hs
    simp [extB, this]
  · rw [h3]; exact hw.scr
  · intro a ha
    have t' : (tk w').ta = (tk w).ta := t
    rw [t'] at ha
    exact hw.tab a ha
  · exact Nat.le_trans hw.bnd pf.length_le

theorem FrS.same {C : Ctx} {w w' : World} (h1 : Fr (noScr w) (noScr w')) (h2 : C20W.Same w w') :
    FrS C w w' := FrS.prim h1 (C20W.Pv.of_same h2) h2.scripts

/-- Functions that are blind to the scripts. -/
theorem FrS.blind {C : Ctx} {f : World → World} (hb : ∀ w s, f (es w s) = es (f w) s)
    (hf : ∀ w, Fr w (f w)) (hs : ∀ w, C20W.Same w (f w)) (w : World) : FrS C w (f w) := by
  refine FrS.same ?_ (hs w)
  show Fr (es w []) (es (f w) [])
  rw [← hb]
  exact hf _

/-! ### primitives -/

theorem FrS_addRes {C : Ctx} (w : World) (r : Res) (h : trackedRes r = false) : FrS C w (w.addRes r) :=
  FrS.same (Fr.of_view (view_addRes (noScr w) r h)) (C20W.Same.of_eq rfl)

theorem FrS_addRec {C : Ctx} (w : World) (r : Rec) (h : trackedRec r = false) : FrS C w (w.addRec r) :=
  FrS.same (Fr.of_view (view_addRec (noScr w) r h)) (C20W.Same.of_eq rfl)

theorem FrS_setErr {C : Ctx} (w : World) (m : String) : FrS C w (w.setErr m) :=
  FrS.blind (fun w s => C03W.es_setErr w s m) (fun w => Fr.of_view (view_setErr w m))
    (fun w => C20W.Same.of_eq (C20W.RK_setErr w m)) w

theorem FrS_modMaint {C : Ctx} (w : World) (m : Nat) (f : Maint → Maint) : FrS C w (w.modMaint m f) :=
  FrS.same (Fr.of_view rfl) (C20W.Same.of_eq (by
    unfold modMaint
    exact C20W.RK_setMaint w m _ rfl))

theorem FrS_schedLib {C : Ctx} (w : World) (t a : Int) (act : Action) (p : Int)
    (h : isTrackedAct act = false) : FrS C w (w.schedLib t a act p) :=
  FrS.blind (fun w s => C03W.es_schedLib w s t a act p) (fun w => Fr_schedLib w t a act p h)
    (fun w => C20W.Same.of_eq (C20W.RK_schedLib w t a act p)) w

theorem FrS_shutdownDev {C : Ctx} (w : World) (x : Nat) (f : Bool) (lost : Option Nat) :
    FrS C w (w.shutdownDev x f lost) :=
  FrS.blind (fun w s => C03W.es_shutdownDev w s x f lost) (fun w => Fr.floor.shutdownDev w x f lost)
    (fun w => C20W.Same.floor.shutdownDev w x f lost) w

theorem FrS_restoreDev {C : Ctx} (w : World) (x : Nat) : FrS C w (w.restoreDev x) :=
  FrS.blind (fun w s => C03W.es_restoreDev w s x) (fun w => Fr.floor.restoreDev w x)
    (fun w => C20W.Same.floor.restoreDev w x) w

/-! ### scripted operations -/

theorem not_mem_ta {C : Ctx} {B : Nat → Int} {w : World} (hw : WS C B w) {a : Int}
    (h : idOK C.ta0 C.bound a = true) : (!(tk (noScr w)).ta.contains a) = true := by
  simp only [idOK, Bool.and_eq_true, Bool.not_eq_true', decide_eq_true_eq] at h
  simp only [Bool.not_eq_true', List.contains_eq_mem, decide_eq_false_iff_not]
  intro hm
  rcases hw.tab a hm with h1 | h1
  · have : C.ta0.contains a = true := by simpa using h1
    rw [h.1] at this; cases this
  · omega

theorem FrS_applyOp_nc {C : Ctx} (w : World) (op : Op) (h : opDS C.ta0 C.bound op = true)
    (hnc : ∀ sp, op ≠ .create sp) : FrS C w (w.applyOp op).1 := by
  refine FrS.with fun B hw => ?_
  have hok : opOK (tk (noScr w)).ta op = true := by
    cases op
    case pause a => exact not_mem_ta hw h
    case unpause a => exact not_mem_ta hw h
    case cancel a => exact not_mem_ta hw h
    case create sp => exact absurd rfl (hnc sp)
    all_goals rfl
  have hfresh : C20W.opFresh op = true := by
    cases op
    case create sp => exact absurd rfl (hnc sp)
    all_goals rfl
  refine FrS.prim ?_ (C20W.Pv_applyOp w op hfresh) (applyOp_scripts w op hnc)
  have := Fr_applyOp (es w []) op hok
  rw [C03W.es_applyOp w [] op hnc] at this
  exact this

/-- the sensor a constructor call registers -/
def newSens (w : World) (sw : SensorW) : SensorW := { sw with aid := w.assets.length + 1 }

/-- registration of a sensor -/
def regSens (w : World) (x : SensorW) : World :=
  { w with sensors := w.sensors ++ [x], assets := w.assets ++ [AssetRef.sensor w.sensors.length] }

theorem addSens_eq (w : World) (sw : SensorW) (hst : w.started = true) :
    w.addAsset (.sensor sw) = (regSens w (newSens w sw)).initAsset (.sensor w.sensors.length) := by
  unfold addAsset
  dsimp only
  split
  · rfl
  · rename_i hc; exact absurd hst hc

theorem initAsset_scripts (w : World) (a : AssetRef) : (w.initAsset a).scripts = w.scripts := by
  have := C03W.es_initAsset w w.scripts a
  rw [es_self] at this
  rw [this]
  rfl

/-- **A periodic sensor constructed while the simulation runs**: the invariant is kept, the new
sensor is anchored at the clock. -/
theorem FrS_createSens {C : Ctx} (w : World) (sw : SensorW) (h : sensNew sw = true) :
    FrS C w (w.addAsset (.sensor sw)) := by
  intro B hw
  simp only [sensNew, Bool.and_eq_true, beq_iff_eq, decide_eq_true_eq, Bool.not_eq_true'] at h
  obtain ⟨⟨hkind, hivl⟩, hreg⟩ := h
  have hpv := C20W.Pv_addAsset w (.sensor sw) (by simp [C20W.specFresh, hreg]) hw.reg
  rw [addSens_eq w sw hw.started] at hpv ⊢
  obtain ⟨x, hx⟩ : ∃ x, x = newSens w sw := ⟨_, rfl⟩
  rw [← hx] at hpv ⊢
  obtain ⟨w1, hw1⟩ : ∃ w1, regSens w x = w1 := ⟨_, rfl⟩
  rw [hw1] at hpv ⊢
  have hx : newSens w sw = x := hx.symm
  have htk : tk (noScr w1) = pushN (tk (noScr w)) x := by subst hw1; rfl
  have henv : w1.env = w.env := by subst hw1; rfl
  have hxk : x.s.kind = .periodic := by subst hx; exact hkind
  have hxi : 0 ≤ x.s.interval := by subst hx; exact hivl
  have hxr : x.registered = false := by subst hx; exact hreg
  have haid : x.aid ≠ 0 ∧ ∀ k ∈ (tk (noScr w)).dk, k.1 ≠ x.aid := by
    subst hx
    refine ⟨by show (w.assets.length : Int) + 1 ≠ 0; omega, fun k hk => ?_⟩
    obtain ⟨d, hd, rfl⟩ := List.mem_map.mp hk
    have := reg_dev_aid_le hw.reg d hd
    show d.aid ≠ (w.assets.length : Int) + 1
    omega
  obtain ⟨p1, p2, p3, p4, p5⟩ := hw.gs.push x hxr (fun _ => hxi) haid rfl
  have hi : w.sensors.length < (pushN (tk (noScr w)) x).sensors.length := by
    show w.sensors.length < (w.sensors ++ [x]).length
    simp
  have hgetx : (pushN (tk (noScr w)) x).sensors.getD w.sensors.length default = x :=
    getD_append_singleton _ _ _
  have ha := initSensor_refines (noScr w1) w.sensors.length (by
    intro _
    have : (noScr w1).sensors.getD w.sensors.length default = x := by
      have := hgetx; rw [← htk] at this; exact this
    rw [this]; exact hxi)
  have hes : (noScr w1).initAsset (.sensor w.sensors.length) =
      noScr (w1.initAsset (.sensor w.sensors.length)) := C03W.es_initAsset w1 [] _
  rw [hes, htk] at ha
  have henv' : (noScr w1).env = w.env := henv
  rw [henv'] at ha
  have hgs : GS C.P (extB B w) (w1.initAsset (.sensor w.sensors.length)).env
      (tk (noScr (w1.initAsset (.sensor w.sensors.length)))) := by
    refine GS.sens_start p1 p2 (fun s hne => ?_) p4 hi (by
      show ((pushN (tk (noScr w)) x).sensors.getD w.sensors.length default).s.kind = _
      rw [hgetx]; exact hxk) p5 (by
      show (if w.sensors.length < w.sensors.length then _ else _) = _
      rw [if_neg (Nat.lt_irrefl _)]; rfl) ha
    have := p3 s hne
    unfold SensD at this ⊢
    refine ⟨fun hc => ?_, this.2⟩
    have hlt : s < w.sensors.length := by
      have : s < (w.sensors ++ [x]).length := hc
      have hne' : s ≠ w.sensors.length := hne
      simp at this
      omega
    simp only [extB, hlt, if_true]
    exact this.1 hc
  have hfr := ha.frame
  have hlen : (w1.initAsset (.sensor w.sensors.length)).sensors.length = w.sensors.length + 1 := by
    have := (lengths_of_sstat hfr.sstat).2.1
    have e : (w1.initAsset (.sensor w.sensors.length)).sensors.length =
        (pushN (tk (noScr w)) x).sensors.length := this
    rw [e]
    show (w.sensors ++ [x]).length = _
    simp
  refine ⟨⟨hgs, hfr.inv hw.inv, hpv.1, hpv.2.1.trans hw.started, ?_, ?_, ?_⟩, hfr.now, ?_⟩
  · rw [initAsset_scripts]; subst hw1; exact hw.scr
  · intro a ha'
    have e1 : (tk (w1.initAsset (.sensor w.sensors.length))).ta = (pushN (tk (noScr w)) x).ta := by
      have := ta_of_sstat hfr.sstat
      exact this
    rw [e1] at ha'
    have : a ∈ (tk w).ta ∨ a = x.aid := by
      simp only [TK.ta, pushN, List.map_append, List.mem_append, List.mem_map, List.map_cons,
        List.map_nil, List.mem_singleton] at ha' ⊢
      rcases ha' with ha' | ha' | ha'
      · exact Or.inl (Or.inl ha')
      · exact Or.inl (Or.inr ha')
      · exact Or.inr ha'
    rcases this with hm | rfl
    · exact hw.tab a hm
    · right
      subst hx
      have := hw.bnd
      show (C.bound : Int) < (w.assets.length : Int) + 1
      omega
  · exact Nat.le_trans hw.bnd hpv.2.2.length_le
  · rw [hlen]; omega

theorem FrS_applyOp {C : Ctx} (w : World) (op : Op) (h : opDS C.ta0 C.bound op = true) :
    FrS C w (w.applyOp op).1 := by
  by_cases hnc : ∀ sp, op ≠ .create sp
  · exact FrS_applyOp_nc w op h hnc
  · have : ∃ sp, op = .create sp := by
      cases op
      case create sp => exact ⟨sp, rfl⟩
      all_goals exact absurd (fun sp he => by cases he) hnc
    obtain ⟨sp, rfl⟩ := this
    show FrS C w (w.addAsset sp)
    cases sp with
    | sensor sw => exact FrS_createSens w sw h
    | maint cap v =>
      refine FrS.prim (Fr.of_view ?_) (C20W.Pv_addAsset w _ rfl) ?_
      · unfold addAsset; dsimp only; split <;> rfl
      · unfold addAsset; dsimp only; split <;> rfl
    | cms => exact FrS.prim (Fr.of_view rfl) (C20W.Pv_addAsset w _ rfl) rfl
    | dev d => cases h
    | group g a b c => cases h
    | sched tt cyc => cases h

theorem FrS_applyOps {C : Ctx} (w : World) (ops : List Op) (h : ∀ op ∈ ops, opDS C.ta0 C.bound op = true) :
    FrS C w (w.applyOps ops) := by
  unfold applyOps
  induction ops generalizing w with
  | nil => exact FrS.refl C w
  | cons op ops ih =>
    rw [List.foldl_cons]
    refine ((FrS_applyOp w op (h op List.mem_cons_self)).trans
      (FrS_addRes _ _ (applyOp_res w op))).trans (ih _ (fun o ho => h o (List.mem_cons_of_mem _ ho)))

/-! ### scripts, resource check, maintainer events, `exec` -/

/-- `FrS`, under the world invariant (which says that the scripts are of the dynamic class),
contains what scripts, call-backs of the resource manager and work orders do. -/
theorem FrS.scripts {C : Ctx} : ScriptClosed (fun w => ∃ B, WS C B w) (FrS C) where
  refl w _ := FrS.refl C w
  trans := FrS.trans
  inv := fun ⟨B, hw⟩ r => ⟨_, (r B hw).1⟩
  applyOp := fun w op ⟨_, hw⟩ ⟨l, hl, hop⟩ => FrS_applyOp w op (hw.scr l hl op hop)
  addRes w r _ h := FrS_addRes w r (untracked_of_plain h)
  erase _ _ _ := FrS.same (Fr.of_view rfl) (C20W.Same.of_eq rfl)
  procResourceCb w _ _ d _ _ _ :=
    FrS.blind (fun w s => C03W.es_procResourceCb w s d) (fun w => Fr.floor.procResourceCb w d)
      (fun w => C20W.Same_procResourceCb w d) w
  modMaint w m f _ := FrS_modMaint w m f
  addRec w _ _ _ _ _ _ _ := FrS_addRec w _ rfl
  schedLib w t _ _ _ _ he := by cases he <;> exact FrS_schedLib w t _ _ _ rfl
  shutdownDev w _ d _ _ := FrS_shutdownDev w d _ _
  restoreDev w _ d _ _ := FrS_restoreDev w d
  setErr w m _ _ := FrS_setErr w m

/-- The action of every event other than a scheduler transition / a periodic measurement. -/
theorem FrS_exec {C : Ctx} (w : World) (a : Action) (h : isTrackedAct a = false) : FrS C w (w.exec a) := by
  unfold exec
  split
  · exact FrS.refl C _
  · exact FrS.with fun B hw => FrS.scripts.runScript _ _ ⟨B, hw⟩
  · exact FrS.blind (fun w s => C03W.es_finishCycle w s _) (fun w => Fr.floor.finishCycle w _)
      (fun w => C20W.Same.floor.finishCycle w _) w
  · exact FrS.blind (fun w s => C03W.es_passPart w s _) (fun w => Fr.floor.passPart w _)
      (fun w => C20W.Same.floor.passPart w _) w
  · exact FrS.blind (fun w s => C03W.es_failDev w s _) (fun w => Fr.floor.failDev w _)
      (fun w => C20W.Same.floor.failDev w _) w
  · exact FrS.blind (fun w s => C03W.es_releaseIfIdle w s _) (fun w => Fr.floor.releaseIfIdle w _)
      (fun w => C20W.Same.floor.releaseIfIdle w _) w
  · exact FrS.with fun B hw => FrS.scripts.rmCheck _ ⟨B, hw⟩
  · exact FrS.with fun B hw => FrS.scripts.startWork _ _ _ ⟨B, hw⟩
  · exact FrS.with fun B hw => FrS.scripts.finishWork _ _ _ ⟨B, hw⟩
  · cases h
  · cases h
  · exact FrS_setErr _ _

/-! ### the event loop -/

/-- the anchors after a step `w → w'`: sensors constructed during the step are anchored at the
time of the step -/
def stepB (B : Nat → Int) (w w' : World) : Nat → Int :=
  fun s => if s < w.sensors.length then B s else w'.now

theorem WS.of_same {C : Ctx} {B : Nat → Int} {w w' : World} (h : WS C B w)
    (g : GS C.P B w'.env (tk (noScr w'))) (hi : C01.Inv w'.env) (hs : C20W.Same w w')
    (hta : (tk w').ta = (tk w).ta) : WS C (stepB B w w') w' := by
  refine ⟨g.congrB (fun s hs' => ?_), hi, ?_, hs.started.trans h.started, ?_, ?_, ?_⟩
  · have : s < w.sensors.length := by rw [← hs.sensors_length]; exact hs'
    simp [stepB, this]
  · have := h.reg; unfold C20W.Reg at *; rw [hs]; exact this
  · rw [hs.scripts]; exact h.scr
  · rw [hta]; exact h.tab
  · rw [hs.assets]; exact h.bnd

/-- **One step of the event loop keeps the invariant.** -/
theorem WS.step {C : Ctx} {B : Nat → Int} {w w' : World} {ev : Event} (h : WS C B w)
    (hst : w.step = some (ev, w')) : WS C (stepB B w w') w' ∧ w.sensors.length ≤ w'.sensors.length := by
  obtain ⟨es, he, rfl⟩ := step_cases hst
  have hi1 : C01.Inv (popEnv w.env ev es) :=
    C01.inv_step h.inv (Env.step_some.mpr ⟨es, he, rfl⟩)
  have hsame0 : C20W.Same w ({ w with env := popEnv w.env ev es } : World) := C20W.Same.of_eq rfl
  by_cases ht : tracked ev = true
  · have hown := h.gs.owner (x := ev) (by rw [he]; simp) ht
    rcases hown with ⟨s, hs, h2, h3, _, _⟩ | ⟨s, hs, h2, _, hk, _⟩
    · obtain ⟨_, hcan, _⟩ := ((h.gs.sched s).1 ⟨h2, h3⟩).pop he hs false
      have hlive : ev.live = true := by simp [Event.live, hcan]
      have hact : ev.act = 9 + 16 * s := by simpa [suEv] using hs
      rw [if_pos hlive, hact, ofNat_su]
      show WS C _ (({ w with env := popEnv w.env ev es } : World).schedUpdate s true) ∧ _
      have ha := schedUpdate_refines (noScr ({ w with env := popEnv w.env ev es } : World)) s true
        (h.gs.sok.dur_at s)
      rw [show (noScr ({ w with env := popEnv w.env ev es } : World)).schedUpdate s true =
        noScr (({ w with env := popEnv w.env ev es } : World).schedUpdate s true) from
        C03W.es_schedUpdate _ [] _ _] at ha
      have hsame := hsame0.trans (C20W.Same_schedUpdate ({ w with env := popEnv w.env ev es } : World) s true)
      exact ⟨h.of_same (h.gs.sched_adv h.inv he hs ha) (ha.frame.inv hi1) hsame
        (by have := ta_of_sstat ha.frame.sstat; exact this),
        Nat.le_of_eq hsame.sensors_length.symm⟩
    · have hnow : w.env.now ≤ ev.time := h.inv.future ev (by rw [he]; exact List.mem_cons_self)
      obtain ⟨_, hcan, _⟩ := (((h.gs.sens s).1 h2).1 hk).pop he hs hnow false
      have hlive : ev.live = true := by simp [Event.live, hcan]
      have hact : ev.act = 10 + 16 * s := by simpa [psEv] using hs
      rw [if_pos hlive, hact, ofNat_ps]
      show WS C _ (({ w with env := popEnv w.env ev es } : World).periodicSense s) ∧ _
      have ha := periodicSense_refines (noScr ({ w with env := popEnv w.env ev es } : World)) s
        (h.gs.sok.ivl_at s hk)
      rw [show (noScr ({ w with env := popEnv w.env ev es } : World)).periodicSense s =
        noScr (({ w with env := popEnv w.env ev es } : World).periodicSense s) from
        C03W.es_periodicSense _ [] _] at ha
      have hsame := hsame0.trans (C20W.Same_periodicSense ({ w with env := popEnv w.env ev es } : World) s)
      exact ⟨h.of_same (h.gs.sense_adv h.inv he hs (by rw [List.length_map]; rfl) ha) (ha.frame.inv hi1)
        hsame (by have := ta_of_sstat ha.frame.sstat; exact this), Nat.le_of_eq hsame.sensors_length.symm⟩
  · have ht' : tracked ev = false := by simpa using ht
    have h1 : WS C B ({ w with env := popEnv w.env ev es } : World) :=
      ⟨h.gs.pop_untracked h.inv he ht', hi1, h.reg, h.started, h.scr, h.tab, h.bnd⟩
    split
    · obtain ⟨g, n, l⟩ := FrS_exec (C := C) _ _ (isTrackedAct_ofNat ht') B h1
      refine ⟨?_, l⟩
      have : stepB B w (({ w with env := popEnv w.env ev es } : World).exec (Action.ofNat ev.act)) =
          extB B ({ w with env := popEnv w.env ev es } : World) := by
        funext s
        simp only [stepB, extB, n]
      rw [this]; exact g
    · exact ⟨h1.congrB (fun s hs => by simp [stepB] at hs ⊢; intro hc; omega), Nat.le_refl _⟩

/-- the anchors after the loop of `Environment.run` -/
def runB : Nat → (Nat → Int) → World → (Nat → Int)
  | 0, B, _ => B
  | f + 1, B, w =>
    if w.env.running then
      match w.step with
      | none => B
      | some (_, w') => runB f (stepB B w w') w'
    else B

theorem WS.runLoop {C : Ctx} (n : Nat) : ∀ {B : Nat → Int} {w : World}, WS C B w →
    WS C (runB n B w) (runLoop n w) ∧ (∀ s, s < w.sensors.length → runB n B w s = B s) ∧
    w.sensors.length ≤ (runLoop n w).sensors.length := by
  induction n with
  | zero =>
    intro B w h
    obtain ⟨g, _, l⟩ := FrS_setErr (C := C) w "fuel" B h
    exact ⟨g.congrB (fun s hs => by
      have : s < w.sensors.length := by
        have e : (w.setErr "fuel").sensors.length = w.sensors.length :=
          (C20W.Same.of_eq (C20W.RK_setErr w "fuel")).sensors_length
        rw [← e]; exact hs
      simp [runB, extB, this]), fun _ _ => rfl, l⟩
  | succ n ih =>
    intro B w h
    rw [World.runLoop, runB]
    split
    · cases hst : w.step with
      | none => exact ⟨h, fun _ _ => rfl, Nat.le_refl _⟩
      | some q =>
        obtain ⟨e, w'⟩ := q
        obtain ⟨g, l⟩ := h.step hst
        obtain ⟨g2, a2, l2⟩ := ih g
        refine ⟨g2, fun s hs => ?_, Nat.le_trans l l2⟩
        show runB n (stepB B w w') w' s = B s
        rw [a2 s (by omega)]
        simp [stepB, hs]
    · exact ⟨h, fun _ _ => rfl, Nat.le_refl _⟩

theorem WS.runBegin {C : Ctx} {B : Nat → Int} {w : World} (h : WS C B w) (d : Int) :
    WS C B (w.runBegin d).1 := by
  have hsame := C20W.Same_runBegin w d
  have key : GS C.P B (w.runBegin d).1.env (tk (noScr (w.runBegin d).1)) ∧ C01.Inv (w.runBegin d).1.env ∧
      (tk (w.runBegin d).1).ta = (tk w).ta := by
    unfold World.runBegin
    dsimp only
    split
    · exact ⟨h.gs, h.inv, rfl⟩
    · rename_i e hs
      unfold Env.runBegin at hs
      obtain ⟨_, rfl⟩ := Env.schedule_some.mp hs
      have hinv : C01.Inv (Env.withEvent { w.env with terminated := false } (Arith.exact.add w.env.now d)
          (-1) terminateAct prioTerminate
          (weightOf w.seed w.wmod (w.env.now + d) (-1) terminateAct pTerminate)) :=
        C01.inv_runBegin Arith.exact h.inv (by unfold Env.runBegin; exact hs)
      refine ⟨h.gs.env ?_ rfl (Int.le_refl _), hinv, rfl⟩
      exact C06W.filter_insort_neg _ _ _ rfl
  exact (h.of_same key.1 key.2.1 hsame key.2.2).congrB (fun s hs => by
    have : s < w.sensors.length := by rw [← hsame.sensors_length]; exact hs
    simp [stepB, this])

/-- outside operations of the dynamic class -/
theorem WS.applyOps {C : Ctx} {B : Nat → Int} {w : World} (h : WS C B w) (ops : List Op)
    (hops : ∀ op ∈ ops, opDS C.ta0 C.bound op = true) :
    WS C (extB B w) (w.applyOps ops) ∧ (w.applyOps ops).now = w.now ∧
    w.sensors.length ≤ (w.applyOps ops).sensors.length := FrS_applyOps w ops hops B h

/-! ### initialisation -/

theorem ws_init {w0 : World} (hs : C18W.Static (noScr w0)) (hf : C18W.Fresh w0) (hr : C20W.Reg w0)
    (hscr : ∀ l ∈ w0.scripts, ∀ op ∈ l, opDS (tk w0).ta w0.assets.length op = true) :
    WS (ctxOf w0) (fun _ => w0.now) w0.simulateInit := by
  have hg := ginit_simulateInit hs (fresh_noScr hf)
  rw [show (noScr w0).simulateInit = noScr w0.simulateInit from C03W.es_simulateInit w0 []] at hg
  have hl := hg.lengths
  have hlen : w0.simulateInit.sensors.length = w0.sensors.length := by
    have := hl.2
    simp only [sstat, List.length_map] at this
    exact this
  have hscripts : w0.simulateInit.scripts = w0.scripts := by
    have := C03W.es_simulateInit w0 w0.scripts
    rw [es_self] at this
    rw [this]; rfl
  have hassets : w0.simulateInit.assets = w0.assets := by
    have := congrArg C20W.RKey.assets (C20W.RK_simulateInit w0 hf.notStarted)
    simpa [C20W.RK] using this
  refine ⟨GS.of_gi hg.gi (fun s hs' => ?_), hg.inv, C20W.reg_simulateInit w0 hr,
    C20W.simulateInit_started w0, ?_, ?_, ?_⟩
  · exact C20W.sensor_registered hr s (by rw [← hlen]; exact hs')
  · rw [hscripts]; exact hscr
  · intro a ha
    left
    have := ta_of_sstat hg.ss
    have e : (tk w0.simulateInit).ta = (tk w0).ta := this
    rw [e] at ha
    exact ha
  · rw [hassets]; exact Nat.le_refl _

end C19D
end SimProc
