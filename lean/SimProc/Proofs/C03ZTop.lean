/-
C03Z, part 2b: the functions local to one device that is not a batcher unpack and pack nothing
(`TLK`): what the device holds afterwards it held before or has just been generated, the kids of the
existing batches are untouched, no batch under construction appears, and the parts of a newly
generated batch are newly generated parts.  (A second instance of `C08W.TopClosed`.)
-/
import SimProc.Proofs.C03ZView

namespace SimProc
namespace C03Z
open World C02V C08L C08W C03W C02V.SVBatchAux

theorem tlk_setDev (w : World) (x : Nat) (d' : Dev)
    (h : ∀ q ∈ (sdev d').held, q ∈ (sdev (w.dev x)).held)
    (hp : ∀ b, d'.inprog = some b → (w.dev x).inprog = some b) :
    TLK x (sv w) (sv (w.setDev x d')) := by
  refine ⟨tlv_setDev w x d' h, ?_, ?_⟩
  · by_cases hx : x < w.devs.length
    · rw [sv_setDev]
      have hxg := sv_get w x hx
      have hxl : x < (sv w).devs.length := (List.getElem?_eq_some_iff.1 hxg).1
      intro d0 hd0
      simp only [SV.setDev] at hd0
      rw [List.getElem?_set_self hxl] at hd0
      cases hd0
      exact ⟨_, hxg, hp⟩
    · rw [setDev_of_ge w x d' (Nat.le_of_not_lt hx)]
      exact fun d0 hd0 => ⟨d0, hd0, fun _ hb => hb⟩
  · intro q l k hq hl _
    have hk : (sv (w.setDev x d')).kids = (sv w).kids := by
      by_cases hx : x < w.devs.length
      · rw [sv_setDev]; rfl
      · rw [setDev_of_ge w x d' (Nat.le_of_not_lt hx)]
    rw [hk] at hl
    have := kids_lt hl
    omega

theorem tlk_gen {z : Nat} {a a' : SV} (h : Gen z a a') : TLK z a a' := by
  refine ⟨tlv_gen h, ?_, ?_⟩
  · cases h with
    | leaf d hz hk ho =>
      have hzl : z < a.devs.length := (List.getElem?_eq_some_iff.1 hz).1
      intro d0 hd0
      change (a.devs.set z _)[z]? = some d0 at hd0
      rw [List.getElem?_set_self hzl] at hd0
      cases hd0
      exact ⟨d, hz, fun _ hb => hb⟩
    | batch d n hz hk ho =>
      have hzl : z < a.devs.length := (List.getElem?_eq_some_iff.1 hz).1
      intro d0 hd0
      change (a.devs.set z _)[z]? = some d0 at hd0
      rw [List.getElem?_set_self hzl] at hd0
      cases hd0
      exact ⟨d, hz, fun _ hb => hb⟩
  · cases h with
    | leaf d hz hk ho =>
      intro q l k hq hl _
      exfalso
      change (a.kids ++ [none])[q]? = some (some l) at hl
      rw [List.getElem?_append_right hq] at hl
      rcases Nat.eq_zero_or_pos (q - a.kids.length) with h3 | h3
      · simp [h3] at hl
      · have : ([none] : List (Option (List Nat)))[q - a.kids.length]? = none := by
          rw [List.getElem?_eq_none_iff]; simp; omega
        rw [this] at hl; simp at hl
    | batch d n hz hk ho =>
      intro q l k hq hl hk'
      change (a.kids ++ List.replicate n none ++ [some (List.range' a.kids.length n)])[q]? =
        some (some l) at hl
      rw [List.append_assoc] at hl
      have := getElem?_batch_some _ _ _ _ _ hq hl
      subst this
      rw [List.mem_range'_1] at hk'
      exact hk'.1

theorem tlk_top : TopClosed TLK where
  refl := TLK.refl
  trans := TLK.trans
  setDev := tlk_setDev
  gen := tlk_gen

theorem tlk_finishCycle (w : World) (x : Nat) : TLK x (sv w) (sv (w.finishCycle x)) :=
  tlk_top.finishCycle w x

theorem tlk_scheduleFinish (w : World) (x : Nat) : TLK x (sv w) (sv (w.scheduleFinish x)) :=
  tlk_top.scheduleFinish w x

theorem tlk_tryMove (w : World) (x : Nat) (hk : (w.dev x).kind ≠ .batcher) :
    TLK x (sv w) (sv (w.tryMove x)) := tlk_top.tryMove w x hk

theorem tlk_acceptPart (w : World) (x p : Nat) (hk : (w.dev x).kind ≠ .batcher) :
    TLK x (accept (sv w) x p (sdev (w.dev x))) (sv (w.acceptPart x p)) := tlk_top.acceptPart w x p hk

end C03Z
end SimProc
