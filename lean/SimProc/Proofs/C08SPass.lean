/-
C08S — the idle clock is exact.  Part 3: `Clk X w (f w)` for accepting and handing over parts
(batcher, `tryMove`, `onReceived`, `acceptPart`, `give`, `passHandler`, `bufferLoop`, `passPart`)
and for shutdown, failure and restore.
-/
import SimProc.Proofs.C08SFloor
import SimProc.Proofs.FloorGive

namespace SimProc
namespace C08S
open World FloorCoreL

section pass
variable {X : Nat → Prop} (w : World)

/-! ### the batcher and the buffer: their slots are masked -/

macro "cmask_hf" : tactic => `(tactic| first
  | exact fun _ => ⟨rfl, rfl, rfl, rfl⟩
  | exact ⟨rfl, rfl, rfl, rfl⟩)
macro "cmask_peel" : tactic => `(tactic| (
  (first
    | refine Clk.trans ?_ (Clk_modDev_mask _ _ _ ?_ ?hf)
    | refine Clk.trans ?_ (Clk_setDev_mask _ _ _ ?_ ?hf))
  (case hf => cmask_hf)))

theorem Clk_batchGet (x p : Nat) (hk : isS (w.dev x).kind = false) : Clk X w (C02V.batchGet w x p).1 := by
  unfold C02V.batchGet
  split
  · dsimp only
    split
    · cmask_peel
      · exact Clk_modPart w _ _
      · exact hk
    · exact Clk_modPart w _ _
  · dsimp only
    cmask_peel
    · exact Clk.refl _ _
    · exact hk

theorem Clk_batchShell (x : Nat) (hk : isS (w.dev x).kind = false) : Clk X w (C02V.batchShell w x).1 := by
  unfold C02V.batchShell
  split
  · exact Clk.refl _ _
  · dsimp only [World.newPart]
    cmask_peel
    · exact Clk.of_devs rfl rfl
    · exact hk

theorem Clk_batchAdd (x t : Nat) (hk : isS (w.dev x).kind = false) : Clk X w (C02V.batchAdd w x t) := by
  unfold C02V.batchAdd
  split
  · cmask_peel
    · exact Clk.refl _ _
    · exact hk
  · have h1 := Clk_batchShell (X := X) w x hk
    have hk1 : isS ((C02V.batchShell w x).1.dev x).kind = false := by rw [h1.kind]; exact hk
    dsimp only
    split
    · cmask_peel
      · exact h1.trans (Clk_modPart _ _ _)
      · exact hk1
    · exact h1.trans (Clk_modPart _ _ _)

theorem Clk_batcherLoop (f : Nat) : ∀ (w : World) (x : Nat), isS (w.dev x).kind = false →
    Clk X w (batcherLoop f w x) := by
  induction f with
  | zero => intro w x _; exact Clk.refl _ _
  | succ f ih =>
    intro w x hk
    rw [C02V.batcherLoop_succ]
    split
    · rename_i p _ _
      have h1 := Clk_batchGet (X := X) w x p hk
      have hk1 : isS ((C02V.batchGet w x p).1.dev x).kind = false := by rw [h1.kind]; exact hk
      have h2 := Clk_batchAdd (X := X) (C02V.batchGet w x p).1 x (C02V.batchGet w x p).2 hk1
      have hk2 : isS ((C02V.batchAdd (C02V.batchGet w x p).1 x (C02V.batchGet w x p).2).dev x).kind = false := by
        rw [h2.kind]; exact hk1
      exact (h1.trans h2).trans (ih _ x hk2)
    · exact Clk.refl _ _

theorem Clk_tryMove (x : Nat) : Clk X w (w.tryMove x) := by
  unfold World.tryMove
  dsimp only
  split
  · -- buffer
    next hk =>
    have hT : isS (w.dev x).kind = false := by rw [hk]; rfl
    split
    · exact Clk.refl _ _
    · split
      · refine Clk.trans ?_ (Clk_schedulePass _ _ _)
        refine Clk.trans ?_ (Clk_notify _ _)
        cmask_peel
        · exact Clk.refl _ _
        · exact hT
      · refine Clk.trans ?_ (Clk_notify _ _)
        cmask_peel
        · exact Clk.refl _ _
        · exact hT
  · -- batcher
    next hk =>
    have hT : isS (w.dev x).kind = false := by rw [hk]; rfl
    repeat' split
    all_goals first
      | with_reducible exact Clk.refl _ _
      | with_reducible exact Clk_batcherLoop _ _ _ hT
      | (with_reducible refine Clk.trans ?_ (Clk_schedulePass _ _ _)
         exact Clk_batcherLoop _ _ _ hT)
      | (cmask_peel
         · exact Clk.refl _ _
         · exact hT)
  · clk_auto
  · clk_auto
clk_lemma1 Clk_tryMove

/-! ### accepting a part -/

theorem Clk_recvBook (x p : Nat) : Clk X w (C02V.recvBook w x p) := by
  unfold C02V.recvBook
  clk_auto

theorem Clk_onReceived (x p : Nat) : Clk X w (w.onReceived x p) := by
  rw [C02V.onReceived_eq]
  split
  · exact (Clk_recvBook w x p).trans (Clk_tryMove _ _)
  · exact Clk_recvBook w x p
clk_lemma2 Clk_onReceived

/-- The head of `_accept_part`: the input slot is filled and the clock stopped. -/
theorem Clk_acceptHead (x p : Nat) :
    Clk X w (((w.modDev x (fun d => { d with part := some p })).addHist p x).setWaiting x false false) := by
  rw [setWaiting_false]
  refine ⟨by simp, by simp, fun y => ?_⟩
  rw [dev_setDev, dev_addHist]
  have hl : ((w.modDev x (fun d => { d with part := some p })).addHist p x).devs.length =
      w.devs.length := by simp
  rw [hl]
  split
  · next hxy =>
    rw [dev_modDev_same hxy.2, ← hxy.1]
    exact PD_accept _ _
  · next hxy =>
    rw [dev_addHist, dev_modDev]
    rw [if_neg hxy]
    exact PD.refl _ _ _

theorem Clk_acceptPart (x p : Nat) : Clk X w (w.acceptPart x p) := by
  unfold World.acceptPart
  dsimp only
  refine Clk.trans ?_ (Clk_onReceived _ _ _)
  refine Clk.trans ?_ (Clk_acceptHead _ _ _)
  split
  · exact Clk.of_devs rfl rfl
  · exact Clk.refl _ _

/-! ### handing parts over -/

theorem Clk_tryList (g : World → Nat → Nat → World × Bool)
    (hg : ∀ w y p, Clk X w (g w y p).1) (w : World) (l : List Nat) (p : Nat) :
    Clk X w (tryList g w l p).1 := by
  induction l generalizing w with
  | nil => exact Clk.refl _ w
  | cons y ys ih =>
    rw [tryList]
    have h := hg w y p
    split
    · rename_i heq; rw [heq] at h; exact h
    · rename_i heq; rw [heq] at h; exact h.trans (ih _)

/-- After a `split` on a pair-valued call: use the fact `t` about the call. -/
macro "clk_heq " t:term : tactic =>
  `(tactic| (rename_i heq; with_reducible apply Clk.trans (h2 := Clk.of_fst_eq $t heq)))

theorem Clk_give (n : Nat) : ∀ (w : World) (x p : Nat), Clk X w (give n w x p).1 := by
  induction n with
  | zero => intro w x p; exact Clk_setErr _ _
  | succ n ih =>
    intro w x p
    have hT : ∀ w l p, Clk X w (tryList (give n) w l p).1 := Clk_tryList _ ih
    rw [give]
    dsimp only
    repeat' first
      | clk
      | with_reducible apply Clk.trans (h2 := Clk_acceptPart _ _ _)
      | with_reducible exact hT _ _ _
      | with_reducible exact ih _ _ _
      | clk_heq (hT _ _ _)
      | clk_heq (ih _ _ _)
      | clk_heq (Clk_procAcquire _ _)
      | split

theorem Clk_givePart (x p : Nat) : Clk X w (w.givePart x p).1 := Clk_give _ _ _ _

theorem Clk_tryList_givePart (l : List Nat) (p : Nat) : Clk X w (tryList givePart w l p).1 :=
  Clk_tryList _ (fun w y p => Clk_givePart w y p) _ _ _

theorem Clk_passHandler (x : Nat) (hX : isM (w.dev x).kind = true → X x) :
    Clk X w (w.passHandler x) := by
  unfold World.passHandler
  dsimp only
  split
  · exact Clk.refl _ _
  · split
    · exact Clk.refl _ _
    · next p _ =>
      have hT := Clk_tryList_givePart (X := X) w (w.sortedDown x) p
      split
      · next w' heq =>
        rw [heq] at hT
        refine hT.trans (Clk_release_notify _ x ?_)
        intro h
        rw [hT.kind x] at h
        exact hX h
      · next w' heq =>
        rw [heq] at hT
        refine hT.trans ?_
        clk_auto

theorem Clk_bufferLoop (n : Nat) : ∀ (w : World) (x : Nat), Clk X w (bufferLoop n w x) := by
  induction n with
  | zero => intro w x; exact Clk.refl _ _
  | succ n ih =>
    intro w x
    rw [bufferLoop]
    dsimp only
    repeat' first
      | clk
      | with_reducible apply Clk.trans (h2 := ih _ _)
      | clk_heq (Clk_tryList_givePart _ _ _)
      | split
clk_lemma2 Clk_bufferLoop

theorem Clk_passPart (x : Nat) (hX : isM (w.dev x).kind = true → X x) : Clk X w (w.passPart x) := by
  unfold World.passPart
  extract_lets d rem wP wB dB wS
  have hP : Clk X w wP := Clk_passHandler w x hX
  clear_value rem
  split
  · repeat' first | split | (dsimp only; split)
    all_goals first
      | with_reducible exact Clk.refl _ _
      | with_reducible exact hP
      | (refine Clk.trans ?_ (Clk_scheduleFinish _ _)
         refine Clk.trans ?_ (Clk_addRec _ _)
         exact hP.trans (Clk_modDev_same _ _ _ rfl))
  · have hB : Clk X w wB := Clk_bufferLoop _ w x
    refine Clk.trans ?_ (Clk_notify _ _)
    unfold wS
    split
    · exact hB
    · dsimp only
      split
      · exact hB.trans (Clk_schedulePass _ _ _)
      · exact hB.trans (Clk_setDev_same _ _ _ rfl)
  · split
    · exact hP.trans (Clk_tryMove _ _)
    · exact hP
  · exact Clk.refl _ _
  · exact hP

/-! ### shutdown, failure, restore -/

theorem Clk_shutdownDev (x : Nat) (isF : Bool) (lost : Option Nat)
    (hX : isM (w.dev x).kind = true → X x) : Clk X w (w.shutdownDev x isF lost) := by
  cases hs : (w.dev x).shutDown with
  | true =>
    rw [shutdownDev_eq_down w x isF lost hs]
    split
    · exact Clk.of_devs rfl rfl
    · exact Clk.refl _ _
  | false =>
    by_cases hx : x < w.devs.length
    · rw [shutdownDev_eq_up w isF lost hx hs]
      refine ⟨?_, by simp, fun y => ?_⟩
      · cases isF <;> rfl
      · show PD (X y) w.now (cv (w.dev y)) (cv ((w.setDev x (shutDev w.now (w.dev x))).dev y))
        rw [dev_setDev]
        split
        · next hxy =>
          rw [← hxy.1]
          exact PD_stop _ hX _ rfl rfl rfl rfl rfl rfl
        · exact PD.refl _ _ _
    · -- a device that does not exist: nothing but the queue and the log change
      have hx' : w.devs.length ≤ x := Nat.le_of_not_lt hx
      have hsd : ∀ (W : World) (d : Dev), W.devs.length = w.devs.length → W.setDev x d = W :=
        fun W d hW => dev_setDev_out_of_range (by rw [hW]; exact hx')
      unfold World.shutdownDev
      simp only [hs, Bool.false_eq_true, if_false]
      rw [setWaiting_false]
      rw [hsd _ _ (by cases isF <;> simp), hsd _ _ (by cases isF <;> simp), hsd _ _ rfl]
      clk_auto

theorem shutdownDev_shut (x : Nat) (isF : Bool) (lost : Option Nat) (hx : x < w.devs.length) :
    ((w.shutdownDev x isF lost).dev x).shutDown = true := by
  cases hs : (w.dev x).shutDown with
  | true =>
    rw [shutdownDev_eq_down w x isF lost hs]
    split
    · exact hs
    · exact hs
  | false =>
    rw [shutdownDev_eq_up w isF lost hx hs]
    show ((w.setDev x (shutDev w.now (w.dev x))).dev x).shutDown = true
    rw [dev_setDev_same hx]
    rfl

/-- **A failure**: the part in process is lost, the machine is down, its clock stopped. -/
theorem Clk_failDev (x : Nat) (hX : isM (w.dev x).kind = true → X x) : Clk X w (w.failDev x) := by
  rw [failDev_eq_c13]
  generalize hW : ({ w with lost := w.lost ++ w.lostLeaves x } : World) = W
  have h0 : Clk X w W := by rw [← hW]; exact Clk.of_devs rfl rfl
  have hdev : W.dev x = w.dev x := by rw [← hW]; rfl
  have hX' : isM (W.dev x).kind = true → X x := by rw [hdev]; exact hX
  rw [← hdev]
  generalize (W.dev x).part = lost
  unfold failPre
  have h1 : Pre X x W (W.modDev x (fun d => { d with part := none })) :=
    Pre_setDev W x _ (PDs_release_part _ hX')
  have h2 : Pre X x W (((W.modDev x (fun d => { d with part := none })).releaseReserved x).addRec
      (.failure x W.now lost)) :=
    h1.trans (((Clk_releaseReserved _ _).trans (Clk_addRec _ _)).pre x)
  generalize ((W.modDev x (fun d => { d with part := none })).releaseReserved x).addRec
      (.failure x W.now lost) = W2 at h2 ⊢
  have hX2 : isM (W2.dev x).kind = true → X x := by rw [h2.kind]; exact hX'
  have h3 : Pre X x W (W2.shutdownDev x true lost) :=
    h2.trans ((Clk_shutdownDev W2 x true lost hX2).pre x)
  refine h0.trans (h3.close ?_)
  by_cases hx : x < W2.devs.length
  · intro _ _ hsd _
    rw [show (cv ((W2.shutdownDev x true lost).dev x)).shutDown =
      ((W2.shutdownDev x true lost).dev x).shutDown from rfl, shutdownDev_shut W2 x true lost hx] at hsd
    cases hsd
  · exact complete_of_ge (by rw [h3.len, ← h2.len]; exact Nat.le_of_not_lt hx)

/-- **A restore**: the clock of a machine whose slots are free is started. -/
theorem Clk_restoreDev (x : Nat) : Clk X w (w.restoreDev x) := by
  cases hs : (w.dev x).shutDown with
  | false => rw [restoreDev_eq_up w x hs]; exact Clk.refl _ _
  | true =>
    have hx := lt_of_shutDown hs
    rw [restoreDev_eq_down w x hs]
    dsimp only
    have hd1 : (w.restorePre x).dev x = { w.dev x with shutDown := false, lastRestore := some w.now } := by
      unfold restorePre; rw [dev_envOp, dev_setDev_same hx]
    have h1 : Pre X x w (w.restorePre x) := by
      unfold restorePre
      refine (Pre_setDev w x _ ?_).trans ((Clk_envOp_unpause _ _).pre x)
      exact PDs_flag _ _ rfl rfl rfl rfl rfl
    have hS : Stamp (w.restorePre x) ((w.restorePre x).restoreFlow x) := by
      unfold restoreFlow
      repeat' split
      all_goals first
        | exact Stamp.refl _ | exact Stamp_schedulePass _ _ _ | exact Stamp_notify _ _
    have h2 : Pre X x w ((w.restorePre x).restoreFlow x) := h1.trans ((hS.clk (X := X)).pre x)
    generalize hW1 : w.restorePre x = W1 at *
    generalize hW2 : W1.restoreFlow x = W2 at *
    -- the last two steps do not touch the clock view
    have hfin : ∀ W3 : World, Clk X W2 W3 → (cv (W3.dev x) = cv (W2.dev x)) →
        Clk X w W3 := by
      intro W3 h3 he
      refine (h2.trans (h3.pre x)).close ?_
      rw [he]
      intro hk hi _ hf
      obtain ⟨e1, e2, _, e4, e5⟩ := hS.fields x
      have hk1 : isS (W1.dev x).kind = true := by
        have : (cv (W2.dev x)).kind = (W1.dev x).kind := e1
        rw [← this]; exact hk
      have hi1 : (W1.dev x).inited = true := by
        have : (cv (W2.dev x)).inited = (W1.dev x).inited := e2
        rw [← this]; exact hi
      have hf1 : (cv (W1.dev x)).free = true := by
        unfold CV.free at hf ⊢
        rw [← e4, ← e5]; exact hf
      obtain ⟨hp, ho⟩ := slots_of_free hk1 hf1
      have : W2 = W1.notify x := by
        rw [← hW2]
        unfold restoreFlow
        simp [hp, ho]
      rw [this]
      exact notify_since W1 x hk1 hi1 hp ho
    split
    · refine hfin _ ?_ ?_
      · exact Clk.trans (b := W2.modDev x (fun d => { d with lastUseStart := some W2.now }))
          (Clk_modDev_same _ _ _ rfl) (Clk.of_devs rfl rfl)
      · show cv ((W2.modDev x (fun d => { d with lastUseStart := some W2.now })).dev x) = _
        rw [dev_modDev]
        split <;> rfl
    · exact hfin _ (Clk.of_devs rfl rfl) rfl

end pass

end C08S
end SimProc
