/-
C04 (general serial line) — layer 1: the reachable worlds of a serial line in closed form
(`W P s`), the model functions mirrored as transformers of the varying part `S`, and the
commutation lemmas `f (W P s) = W P (fS s)`.
-/
import SimProc.Proofs.C04SourceSink

set_option linter.unusedSimpArgs false
set_option linter.unusedVariables false

namespace SimProc
namespace C04W
open World C04

/-- Parameters of the scenario. -/
structure Par where
  L : Line
  seed : Nat
  wmod : Nat

/-- The varying part of a reachable world. -/
structure S where
  now : Int := 0
  evs : List Event := []
  term : Bool := true
  uid : Nat := 0
  recs : List Rec := []
  parts : List PartRec := []
  gen : List Nat := []
  del : List Nat := []
  ds : List Dev := []
  started : Bool := true

/-- The reachable worlds of a serial-line scenario. -/
def W (P : Par) (s : S) : World :=
  { env := { now := s.now, events := s.evs, terminated := s.term, nextUid := s.uid }
    seed := P.seed, wmod := P.wmod
    recs := s.recs
    rm := { inited := true }
    devs := s.ds
    parts := s.parts
    assets := (List.range (P.L.n + 1)).map AssetRef.dev
    started := s.started
    generated := s.gen
    delivered := s.del }

/-- The event `schedule_event` creates. -/
def mkEv (P : Par) (uid : Nat) (t asset : Int) (a : Action) (prio : Int) : Event :=
  { uid := uid, time := t, prio := prio, weight := weightOf P.seed P.wmod t asset a.toNat prio,
    asset := asset, act := a.toNat }

/-! ### primitive transformers -/

def dv (s : S) (j : Nat) : Dev := s.ds.getD j default
def setD (s : S) (j : Nat) (d : Dev) : S := { s with ds := s.ds.set j d }
def push (P : Par) (s : S) (t a : Int) (act : Action) (prio : Int) : S :=
  { s with evs := insort (mkEv P s.uid t a act prio) s.evs, uid := s.uid + 1 }
def addR (s : S) (r : Rec) : S := { s with recs := s.recs ++ [r] }

@[simp] theorem W_dev (P : Par) (s : S) (j : Nat) : (W P s).dev j = dv s j := rfl
@[simp] theorem W_now (P : Par) (s : S) : (W P s).now = s.now := rfl
@[simp] theorem W_setDev (P : Par) (s : S) (j : Nat) (d : Dev) :
    (W P s).setDev j d = W P (setD s j d) := rfl
@[simp] theorem W_modDev (P : Par) (s : S) (j : Nat) (f : Dev → Dev) :
    (W P s).modDev j f = W P (setD s j (f (dv s j))) := rfl
@[simp] theorem W_addRec (P : Par) (s : S) (r : Rec) : (W P s).addRec r = W P (addR s r) := rfl
@[simp] theorem W_fuel (P : Par) (s : S) : (W P s).fuel = 2 * s.ds.length + 3 := rfl
@[simp] theorem W_parts (P : Par) (s : S) : (W P s).parts = s.parts := rfl

theorem W_schedLib (P : Par) (s : S) (t asset : Int) (a : Action) (prio : Int) (h : s.now ≤ t) :
    (W P s).schedLib t asset a prio = W P (push P s t asset a prio) := by
  have : ¬ t < s.now := by omega
  simp [schedLib, sched, Env.apply, Env.schedule, W, this, mkEv, Env.newEvent, push]

@[simp] theorem setD_now (s : S) (j : Nat) (d : Dev) : (setD s j d).now = s.now := rfl
@[simp] theorem setD_evs (s : S) (j : Nat) (d : Dev) : (setD s j d).evs = s.evs := rfl
@[simp] theorem setD_term (s : S) (j : Nat) (d : Dev) : (setD s j d).term = s.term := rfl
@[simp] theorem setD_recs (s : S) (j : Nat) (d : Dev) : (setD s j d).recs = s.recs := rfl
@[simp] theorem setD_parts (s : S) (j : Nat) (d : Dev) : (setD s j d).parts = s.parts := rfl
@[simp] theorem setD_len (s : S) (j : Nat) (d : Dev) : (setD s j d).ds.length = s.ds.length := by
  simp [setD]
@[simp] theorem push_now (P : Par) (s : S) (t a : Int) (act : Action) (prio : Int) :
    (push P s t a act prio).now = s.now := rfl
@[simp] theorem push_ds (P : Par) (s : S) (t a : Int) (act : Action) (prio : Int) :
    (push P s t a act prio).ds = s.ds := rfl
@[simp] theorem push_term (P : Par) (s : S) (t a : Int) (act : Action) (prio : Int) :
    (push P s t a act prio).term = s.term := rfl
@[simp] theorem push_recs (P : Par) (s : S) (t a : Int) (act : Action) (prio : Int) :
    (push P s t a act prio).recs = s.recs := rfl
@[simp] theorem push_parts (P : Par) (s : S) (t a : Int) (act : Action) (prio : Int) :
    (push P s t a act prio).parts = s.parts := rfl
@[simp] theorem push_evs (P : Par) (s : S) (t a : Int) (act : Action) (prio : Int) :
    (push P s t a act prio).evs = insort (mkEv P s.uid t a act prio) s.evs := rfl
@[simp] theorem addR_now (s : S) (r : Rec) : (addR s r).now = s.now := rfl
@[simp] theorem addR_ds (s : S) (r : Rec) : (addR s r).ds = s.ds := rfl
@[simp] theorem addR_evs (s : S) (r : Rec) : (addR s r).evs = s.evs := rfl
@[simp] theorem addR_term (s : S) (r : Rec) : (addR s r).term = s.term := rfl
@[simp] theorem addR_parts (s : S) (r : Rec) : (addR s r).parts = s.parts := rfl
@[simp] theorem addR_recs (s : S) (r : Rec) : (addR s r).recs = s.recs ++ [r] := rfl

@[simp] theorem dv_push (P : Par) (s : S) (t a : Int) (act : Action) (prio : Int) (j : Nat) :
    dv (push P s t a act prio) j = dv s j := rfl
@[simp] theorem dv_addR (s : S) (r : Rec) (j : Nat) : dv (addR s r) j = dv s j := rfl

theorem dv_setD_same (s : S) (j : Nat) (d : Dev) (h : j < s.ds.length) : dv (setD s j d) j = d := by
  simp [dv, setD, List.getD_eq_getElem?_getD, h]

theorem dv_setD_ne (s : S) (j i : Nat) (d : Dev) (h : i ≠ j) : dv (setD s j d) i = dv s i := by
  simp [dv, setD, List.getD_eq_getElem?_getD, List.getElem?_set_ne (Ne.symm h)]

theorem dv_setD (s : S) (j i : Nat) (d : Dev) (h : j < s.ds.length) :
    dv (setD s j d) i = if i = j then d else dv s i := by
  split
  · next e => subst e; exact dv_setD_same s i d h
  · next e => exact dv_setD_ne s j i d e

/-! ### static part of the devices -/

/-- The fields of a device that never change during a run of a serial line. -/
structure SV where
  kind : Kind
  aid : Int
  up : List Nat
  down : List Nat
  inited : Bool
  blockInput : Bool
  offset : Int
  recvCbs : List PartCb
  shutDown : Bool
  resReq : Option Req
  reserved : Option Nat
  finCbs : List PartCb
  finSensors : List Nat
  genBatch : Int
  genValue : Int
  genQuality : Int
  cycle : Int
  delay : Int
  cap : Option Nat
  maxParts : Option Int
  collect : Bool

def sview (d : Dev) : SV :=
  ⟨d.kind, d.aid, d.up, d.down, d.inited, d.blockInput, d.offset, d.recvCbs, d.shutDown, d.resReq,
   d.reserved, d.finCbs, d.finSensors, d.genBatch, d.genValue, d.genQuality, d.cycle, d.delay, d.cap,
   d.maxParts, d.collect⟩

/-- Station record of device `j`. -/
def stn (L : Line) (j : Nat) : Station := L.stations.getD j default

def kindOf (L : Line) (j : Nat) : Kind :=
  if j = 0 then .source else if j = L.n then .sink else
  match (stn L j).kind with
  | .handler => .handler
  | .processor => .processor
  | .buffer => .buffer

def isBuf (L : Line) (j : Nat) : Bool := kindOf L j == .buffer

/-- The static view of device `j` of the line. -/
def refSV (L : Line) (j : Nat) : SV :=
  { kind := kindOf L j, aid := (j : Int) + 1
    up := if j = 0 then [] else [j - 1]
    down := if j = L.n then [] else [j + 1]
    inited := true, blockInput := false, offset := 0, recvCbs := [], shutDown := false
    resReq := none, reserved := none, finCbs := [], finSensors := [], genBatch := 0, genValue := 0
    genQuality := 1
    cycle := if isBuf L j then 0 else (stn L j).c
    delay := if isBuf L j then (stn L j).c else 0
    cap := if isBuf L j then (stn L j).cap else none
    maxParts := if j = 0 then L.budget.map Int.ofNat else none
    collect := false }

def StatDev (L : Line) (j : Nat) (d : Dev) : Prop := sview d = refSV L j

/-- All devices of the line have their static fields. -/
def Stat (L : Line) (ds : List Dev) : Prop :=
  ds.length = L.n + 1 ∧ ∀ j, j ≤ L.n → StatDev L j (ds.getD j default)

theorem Stat.dev {L : Line} {s : S} (h : Stat L s.ds) {j : Nat} (hj : j ≤ L.n) :
    sview (dv s j) = refSV L j := h.2 j hj

theorem Stat.lt {L : Line} {s : S} (h : Stat L s.ds) {j : Nat} (hj : j ≤ L.n) : j < s.ds.length := by
  rw [h.1]; omega

theorem Stat.setD {L : Line} {s : S} (h : Stat L s.ds) {j : Nat} {d : Dev}
    (hd : sview d = sview (dv s j)) : Stat L (setD s j d).ds := by
  refine ⟨by rw [setD_len]; exact h.1, fun i hi => ?_⟩
  show StatDev L i (dv (C04W.setD s j d) i)
  by_cases e : i = j
  · subst e
    rw [dv_setD_same _ _ _ (h.lt hi)]
    exact hd.trans (h.dev hi)
  · rw [dv_setD_ne _ _ _ _ e]; exact h.2 i hi

theorem kindOf_cases (L : Line) (j : Nat) :
    kindOf L j = .source ∨ kindOf L j = .handler ∨ kindOf L j = .processor ∨ kindOf L j = .buffer ∨
      kindOf L j = .sink := by
  unfold kindOf
  split
  · simp
  · split
    · simp
    · split <;> simp

/-- Facts about device `j` read off the static view. -/
structure DevFacts (L : Line) (j : Nat) (d : Dev) : Prop where
  kind : d.kind = kindOf L j
  aid : d.aid = (j : Int) + 1
  up : d.up = if j = 0 then [] else [j - 1]
  down : d.down = if j = L.n then [] else [j + 1]
  inited : d.inited = true
  blockInput : d.blockInput = false
  offset : d.offset = 0
  recvCbs : d.recvCbs = []
  shutDown : d.shutDown = false
  resReq : d.resReq = none
  reserved : d.reserved = none
  finCbs : d.finCbs = []
  finSensors : d.finSensors = []
  genBatch : d.genBatch = 0
  genValue : d.genValue = 0
  genQuality : d.genQuality = 1
  cycle : d.cycle = if isBuf L j then 0 else (stn L j).c
  delay : d.delay = if isBuf L j then (stn L j).c else 0
  cap : d.cap = if isBuf L j then (stn L j).cap else none
  maxParts : d.maxParts = if j = 0 then L.budget.map Int.ofNat else none
  collect : d.collect = false

theorem StatDev.facts {L : Line} {j : Nat} {d : Dev} (h : sview d = refSV L j) : DevFacts L j d := by
  simp only [sview, refSV, SV.mk.injEq] at h
  obtain ⟨h1, h2, h3, h4, h5, h6, h7, h8, h9, h10, h11, h12, h13, h14, h15, h16, h17, h18, h19, h20,
    h21⟩ := h
  exact ⟨h1, h2, h3, h4, h5, h6, h7, h8, h9, h10, h11, h12, h13, h14, h15, h16, h17, h18, h19, h20, h21⟩

theorem Stat.facts {L : Line} {s : S} (h : Stat L s.ds) {j : Nat} (hj : j ≤ L.n) :
    DevFacts L j (dv s j) := StatDev.facts (h.dev hj)

theorem W_operational (P : Par) (s : S) (j : Nat) (h : (dv s j).shutDown = false) :
    (W P s).operational j = true := by
  unfold operational
  rw [W_dev]
  split <;> simp [h]

/-! ### scheduling a hand-over attempt, notifications -/

/-- `_schedule_pass_part_downstream(off)`. -/
def passS (P : Par) (s : S) (j : Nat) (off : Int) : S :=
  push P (setD s j { dv s j with waitingDS := false }) (s.now + off) (dv s j).aid (.passPart j) pPassPart

theorem W_schedulePass (P : Par) (s : S) (j : Nat) (off : Int) (hk : (dv s j).kind ≠ .sink)
    (h0 : 0 ≤ s.now) (ho : 0 ≤ off) :
    (W P s).schedulePass j off = W P (passS P s j off) := by
  have h1 : ¬ s.now + off < 0 := by omega
  unfold schedulePass passS
  simp only [W_dev, W_setDev, W_now, setD_now, h1, if_false]
  cases hk' : (dv s j).kind <;> first | exact absurd hk' hk | (rw [W_schedLib _ _ _ _ _ _ (by simp; omega)])

/-- `space_available_downstream()` of a device with one slot or a buffer. -/
def wakeS (P : Par) (s : S) (u : Nat) : S :=
  if (dv s u).waitingDS then passS P s u 0 else s

/-- `_set_waiting_for_part(True)`. -/
def waitS0 (s : S) (j : Nat) : S :=
  if (dv s j).since.isSome then s else setD s j { dv s j with since := some s.now }

/-- The `_set_waiting_for_part(True)` of a notification: a device with one slot starts its idle
clock only when both of its slots are free (repair of finding F13); a buffer always does. -/
def waitS (s : S) (j : Nat) : S :=
  if (dv s j).kind = .buffer ∨ ((dv s j).part.isNone && (dv s j).output.isNone) then waitS0 s j
  else s

def bufRoom (d : Dev) : Bool :=
  match d.cap with
  | none => true
  | some c => decide (d.level < c)

/-- `notify_upstream_of_available_space()`. -/
def notifyS (P : Par) (s : S) (j : Nat) : S :=
  if (dv s j).kind = .buffer ∧ bufRoom (dv s j) = false then s
  else if j = 0 then waitS s j else wakeS P (waitS s j) (j - 1)

theorem W_setWaiting_true (P : Par) (s : S) (j : Nat) (hi : (dv s j).inited = true) :
    (W P s).setWaiting j true false = W P (waitS0 s j) := by
  unfold setWaiting waitS0
  simp only [W_dev, W_now, W_setDev, hi]
  cases h : (dv s j).since <;> simp

theorem W_waitS_buf (P : Par) (s : S) (j : Nat) (hi : (dv s j).inited = true)
    (hk : (dv s j).kind = .buffer) :
    (W P s).setWaiting j true false = W P (waitS s j) := by
  rw [W_setWaiting_true P s j hi]; unfold waitS; rw [if_pos (Or.inl hk)]

theorem W_waitS_slot (P : Par) (s : S) (j : Nat) (hi : (dv s j).inited = true)
    (hk : (dv s j).kind ≠ .buffer) :
    (if (dv s j).part.isNone && (dv s j).output.isNone then (W P s).setWaiting j true false
      else W P s) = W P (waitS s j) := by
  unfold waitS
  by_cases hf : ((dv s j).part.isNone && (dv s j).output.isNone) = true
  · rw [if_pos hf, if_pos (Or.inr hf)]; exact W_setWaiting_true P s j hi
  · rw [if_neg hf, if_neg (by simp [hk, hf])]

theorem W_setWaiting_false (P : Par) (s : S) (j : Nat) :
    (W P s).setWaiting j false false = W P (setD s j { dv s j with since := none }) := by
  unfold setWaiting
  simp

theorem kindOf_ne_sink (L : Line) (u : Nat) (hu : u < L.n) : kindOf L u ≠ .sink := by
  unfold kindOf
  split
  · simp
  · rw [if_neg (by omega)]; split <;> simp

theorem W_spaceAvail (P : Par) (s : S) (f u : Nat) (hS : Stat P.L s.ds) (hu : u < P.L.n)
    (h0 : 0 ≤ s.now) :
    spaceAvail (f + 1) (W P s) u = W P (wakeS P s u) := by
  have hf := hS.facts (Nat.le_of_lt hu)
  have hop := W_operational P s u hf.shutDown
  have hk := hf.kind
  have hns : (dv s u).kind ≠ .sink := by rw [hk]; exact kindOf_ne_sink _ _ hu
  rw [spaceAvail.eq_2]
  simp only [W_dev, hop, Bool.true_and]
  unfold wakeS
  rcases kindOf_cases P.L u with h | h | h | h | h <;> rw [h] at hk <;> simp only [hk] <;>
    first
    | (split
       · exact W_schedulePass P s u 0 hns h0 (Int.le_refl _)
       · rfl)
    | exact absurd hk hns

theorem waitS_stat {L : Line} {s : S} (hS : Stat L s.ds) (j : Nat) : Stat L (waitS s j).ds := by
  unfold waitS waitS0
  split
  · split
    · exact hS
    · exact hS.setD rfl
  · exact hS

@[simp] theorem waitS_now (s : S) (j : Nat) : (waitS s j).now = s.now := by
  unfold waitS waitS0
  split
  · split <;> rfl
  · rfl

theorem dv_waitS_up (s : S) (j : Nat) (h : j < s.ds.length) :
    (dv (waitS s j) j).up = (dv s j).up := by
  unfold waitS waitS0
  split
  · split
    · rfl
    · rw [dv_setD_same _ _ _ h]
  · rfl

theorem W_notify (P : Par) (s : S) (j : Nat) (hS : Stat P.L s.ds) (hj : j ≤ P.L.n)
    (h0 : 0 ≤ s.now) :
    (W P s).notify j = W P (notifyS P s j) := by
  have hf := hS.facts hj
  have hk := hf.kind
  have hup := hf.up
  have hS' := waitS_stat hS j
  have key : (List.foldl (fun w u => spaceAvail (2 * s.ds.length + 1 + 1) w u)
        (W P (waitS s j)) (dv (waitS s j) j).up) =
      W P (if j = 0 then waitS s j else wakeS P (waitS s j) (j - 1)) := by
    rw [dv_waitS_up _ _ (hS.lt hj), hup]
    by_cases e : j = 0
    · simp [e]
    · simp only [e, if_false, List.foldl_cons, List.foldl_nil]
      exact W_spaceAvail P _ _ _ hS' (by omega) (by simpa using h0)
  show notifyUp (2 * s.ds.length + 1 + 1 + 1) (W P s) j = _
  rw [notifyUp.eq_2]
  unfold notifyS
  simp only [W_dev]
  have hslot : (dv s j).kind ≠ .buffer →
      (if (dv s j).part.isNone && (dv s j).output.isNone then (W P s).setWaiting j true false
        else W P s) = W P (waitS s j) := W_waitS_slot P s j hf.inited
  have hbuf : (dv s j).kind = .buffer → (W P s).setWaiting j true false = W P (waitS s j) :=
    W_waitS_buf P s j hf.inited
  by_cases hb : (dv s j).kind = .buffer
  case neg =>
    have hs := hslot hb
    by_cases hfree : ((dv s j).part.isNone && (dv s j).output.isNone) = true
    · rw [if_pos hfree] at hs
      rcases kindOf_cases P.L j with h | h | h | h | h <;> rw [h] at hk <;>
        first
        | exact absurd hk hb
        | (simp only [hk, hfree, if_true]
           simp only [hs, W_dev, key, reduceCtorEq, false_and, if_false, true_and])
    · rw [if_neg hfree] at hs
      rcases kindOf_cases P.L j with h | h | h | h | h <;> rw [h] at hk <;>
        first
        | exact absurd hk hb
        | (simp only [hk, hfree, if_false]
           simp only [hs, W_dev, key, reduceCtorEq, false_and, if_false, true_and])
  -- buffer
  simp only [hb]
  simp only [hbuf hb, W_dev, key, reduceCtorEq, false_and, if_false, true_and]
  unfold bufRoom
  cases hc : (dv s j).cap with
  | none => simp
  | some c =>
    by_cases hl : (dv s j).level < c <;> simp [hl]


/-! ### end of a cycle -/

theorem setD_self (s : S) (j : Nat) : setD s j (dv s j) = s := by
  cases s with
  | mk now evs term uid recs parts gen del ds started =>
    simp only [setD, dv, S.mk.injEq, true_and, and_true]
    apply List.ext_getElem?
    intro i
    simp only [List.getElem?_set, List.getD_eq_getElem?_getD]
    split
    · next h => subst h; split
                · next h2 => simp [List.getElem?_eq_getElem h2]
                · next h2 => simp [List.getElem?_eq_none (Nat.le_of_not_lt h2)]
    · rfl

theorem setD_setD (s : S) (j : Nat) (d d' : Dev) : setD (setD s j d) j d' = setD s j d' := by
  simp [setD, List.set_set]

/-- `PartHandler._finish_cycle`: the part moves to the output slot, a hand-over is requested. -/
def finishHS (P : Par) (s : S) (j p : Nat) : S :=
  passS P (setD s j { dv s j with output := some p, part := none }) j 0

theorem W_finishCycleHandler (P : Par) (s : S) (j p : Nat) (hsd : (dv s j).shutDown = false)
    (hk : (dv s j).kind ≠ .sink) (hp : (dv s j).part = some p) (ho : (dv s j).output = none)
    (h0 : 0 ≤ s.now) (hj : j < s.ds.length) :
    (W P s).finishCycleHandler j = W P (finishHS P s j p) := by
  unfold finishCycleHandler finishHS
  simp only [W_operational P s j hsd, W_dev, hp, ho, W_setDev]
  simp only [Bool.not_true, Bool.false_eq_true, if_false, Option.isSome_none]
  exact W_schedulePass P _ j 0 (by rw [dv_setD_same _ _ _ hj]; exact hk) h0 (Int.le_refl _)

theorem W_finishCycle_handler (P : Par) (s : S) (j p : Nat) (hsd : (dv s j).shutDown = false)
    (hk : (dv s j).kind = .handler) (hp : (dv s j).part = some p) (ho : (dv s j).output = none)
    (h0 : 0 ≤ s.now) (hj : j < s.ds.length) :
    (W P s).finishCycle j = W P (finishHS P s j p) := by
  unfold finishCycle
  simp only [W_dev, hk]
  exact W_finishCycleHandler P s j p hsd (by rw [hk]; simp) hp ho h0 hj


theorem dv_passS_same (P : Par) (s : S) (j : Nat) (off : Int) (hj : j < s.ds.length) :
    dv (passS P s j off) j = { dv s j with waitingDS := false } := by
  unfold passS
  rw [dv_push, dv_setD_same _ _ _ hj]

theorem dv_passS_ne (P : Par) (s : S) (j i : Nat) (off : Int) (h : i ≠ j) :
    dv (passS P s j off) i = dv s i := by
  unfold passS
  rw [dv_push, dv_setD_ne _ _ _ _ h]

@[simp] theorem passS_now (P : Par) (s : S) (j : Nat) (off : Int) : (passS P s j off).now = s.now := rfl
@[simp] theorem passS_parts (P : Par) (s : S) (j : Nat) (off : Int) : (passS P s j off).parts = s.parts := rfl
@[simp] theorem passS_recs (P : Par) (s : S) (j : Nat) (off : Int) : (passS P s j off).recs = s.recs := rfl
@[simp] theorem passS_len (P : Par) (s : S) (j : Nat) (off : Int) :
    (passS P s j off).ds.length = s.ds.length := by simp [passS]

theorem W_partValue (P : Par) (s : S) (p : Nat) (h : SS.PartsOK s.parts) : (W P s).partValue p = 0 :=
  SS.partValue_ok _ h p

/-- `PartProcessor._finish_cycle`. -/
def finishPS (P : Par) (s : S) (j p : Nat) : S :=
  let s1 := finishHS P s j p
  let d := dv s1 j
  let s2 := setD s1 j { d with timeInUse := d.timeInUse + (s.now - d.lastUseStart.getD s.now),
                               lastUseStart := none }
  addR s2 (.produced j s.now p (s.parts.getD p default).quality 0)

theorem W_finishCycle_processor (P : Par) (s : S) (j p : Nat) (hsd : (dv s j).shutDown = false)
    (hk : (dv s j).kind = .processor) (hp : (dv s j).part = some p) (ho : (dv s j).output = none)
    (hr : (dv s j).reserved = none) (hc : (dv s j).finCbs = []) (hfs : (dv s j).finSensors = [])
    (hok : SS.PartsOK s.parts)
    (h0 : 0 ≤ s.now) (hj : j < s.ds.length) :
    (W P s).finishCycle j = W P (finishPS P s j p) := by
  have hpv : ∀ s' : S, s'.parts = s.parts → (W P s').partValue p = 0 := fun s' h =>
    W_partValue P s' p (by rw [h]; exact hok)
  unfold finishCycle
  simp only [W_dev, hk]
  rw [W_finishCycleHandler P s j p hsd (by rw [hk]; simp) hp ho h0 hj]
  simp only [W_dev, W_setDev, W_now, finishPS, finishHS, dv_setD_same, dv_passS_same, setD_len, passS_len,
    hj, hr, hc, hfs,
    Option.isSome_none, Bool.false_eq_true, if_false,
    List.foldl_nil, W_addRec, W_now, passS_now, setD_now, passS_parts, setD_parts, World.part, W_parts]
  rw [hpv _ (by simp)]


/-- `Sink._finish_cycle`: the slot is free again, the upstream device is told so. -/
def finishKS (P : Par) (s : S) (j : Nat) : S :=
  notifyS P (setD s j { dv s j with output := none, part := none }) j

theorem W_finishCycle_sink (P : Par) (s : S) (j p : Nat) (hS : Stat P.L s.ds) (hjn : j = P.L.n)
    (hk : (dv s j).kind = .sink) (hp : (dv s j).part = some p) (ho : (dv s j).output = none)
    (h0 : 0 ≤ s.now) :
    (W P s).finishCycle j = W P (finishKS P s j) := by
  have hj : j < s.ds.length := hS.lt (by omega)
  have hsd := (hS.facts (by omega : j ≤ P.L.n)).shutDown
  unfold finishCycle
  simp only [W_dev, hk]
  unfold finishCycleHandler finishKS schedulePass
  simp only [W_dev, W_operational P s j hsd, hp, ho, W_setDev, W_modDev, dv_setD_same, hj,
    setD_setD, Bool.not_true, Bool.false_eq_true, if_false, Option.isSome_none, hk]
  exact W_notify P _ j (hS.setD (by simp [sview, hk])) (by omega) h0

/-- `Source._finish_cycle`: the next part is created and a hand-over is requested. -/
def genS (P : Par) (s : S) : S :=
  passS P { setD s 0 { dv s 0 with output := some s.parts.length } with
            parts := SS.histAdd (s.parts ++ [{ quality := 1, value := 0 }]) s.parts.length 0
            gen := s.gen ++ [s.parts.length] } 0 0

theorem W_finishCycle_source (P : Par) (s : S) (hk : (dv s 0).kind = .source)
    (ho : (dv s 0).output = none) (hb : (dv s 0).genBatch = 0) (hq : (dv s 0).genQuality = 1)
    (hv : (dv s 0).genValue = 0) (hok : SS.PartsOK s.parts) (h0 : 0 ≤ s.now) (hj : 0 < s.ds.length) :
    (W P s).finishCycle 0 = W P (genS P s) := by
  have e4 : ∀ (w : World) (p : Nat), SS.PartsOK w.parts →
      w.addHist p 0 = { w with parts := SS.histAdd w.parts p 0 } := fun w p h => SS.addHist_ok w h p 0
  have hok' := SS.PartsOK_append hok 1
  unfold finishCycle
  simp only [W_dev, hk, ho, Option.isNone_none, if_true, genPart, hb, hq, hv, newPart]
  simp only [BEq.rfl, if_true]
  rw [e4 _ _ (by exact hok')]
  have : ∀ s' : S, (dv s' 0).kind = .source → s'.now = s.now → (W P s').schedulePass 0 0 = W P (passS P s' 0 0) :=
    fun s' h1 h2 => W_schedulePass P s' 0 0 (by rw [h1]; simp) (by omega) (Int.le_refl _)
  unfold genS
  rw [← this]
  · rfl
  · show (dv (setD s 0 _) 0).kind = _
    rw [dv_setD_same _ _ _ hj]; exact hk
  · rfl


theorem dev_offset_self (d : Dev) (h : d.offset = 0) : { d with offset := 0 } = d := by
  cases d; simp at h; simp [h]

/-- End of the cycle of a handler, processor or sink. -/
def finishS (P : Par) (s : S) (j p : Nat) : S :=
  match (dv s j).kind with
  | .processor => finishPS P s j p
  | .sink => finishKS P s j
  | _ => finishHS P s j p

/-- `_schedule_finish_cycle()` of a handler, processor or sink holding part `p`. -/
def schedFinS (P : Par) (s : S) (j p : Nat) : S :=
  if (dv s j).cycle ≤ 0 then finishS P s j p
  else push P s (s.now + (dv s j).cycle) (dv s j).aid (.finishCycle j) pFinish

theorem kindOf_mid (L : Line) (j : Nat) (h0 : 0 < j) (hn : j < L.n) :
    kindOf L j = .handler ∨ kindOf L j = .processor ∨ kindOf L j = .buffer := by
  unfold kindOf
  rw [if_neg (by omega), if_neg (by omega)]
  split <;> simp

theorem kindOf_zero (L : Line) : kindOf L 0 = .source := by simp [kindOf]
theorem kindOf_n (L : Line) : kindOf L L.n = .sink := by
  unfold kindOf
  rw [if_neg (by unfold Line.n; omega), if_pos rfl]

theorem kindOf_source_iff (L : Line) (j : Nat) (hj : j ≤ L.n) : kindOf L j = .source ↔ j = 0 := by
  constructor
  · intro h
    by_cases e : j = 0
    · exact e
    · by_cases e2 : j = L.n
      · subst e2; rw [kindOf_n] at h; cases h
      · rcases kindOf_mid L j (by omega) (by omega) with h' | h' | h' <;> rw [h'] at h <;> cases h
  · intro e; subst e; exact kindOf_zero L

theorem kindOf_sink_iff (L : Line) (j : Nat) (hj : j ≤ L.n) : kindOf L j = .sink ↔ j = L.n := by
  constructor
  · intro h
    by_cases e : j = L.n
    · exact e
    · exact absurd h (kindOf_ne_sink L j (by omega))
  · intro e; subst e; exact kindOf_n L

theorem W_finishCycle (P : Par) (s : S) (j p : Nat) (hS : Stat P.L s.ds) (hj : j ≤ P.L.n)
    (hns : (dv s j).kind ≠ .source) (hnb : (dv s j).kind ≠ .buffer)
    (hp : (dv s j).part = some p) (ho : (dv s j).output = none) (hok : SS.PartsOK s.parts)
    (h0 : 0 ≤ s.now) :
    (W P s).finishCycle j = W P (finishS P s j p) := by
  have hf := hS.facts hj
  have hlt := hS.lt hj
  unfold finishS
  rcases kindOf_cases P.L j with h | h | h | h | h <;> rw [← hf.kind] at h
  · exact absurd h hns
  · rw [h]; exact W_finishCycle_handler P s j p hf.shutDown h hp ho h0 hlt
  · rw [h]; exact W_finishCycle_processor P s j p hf.shutDown h hp ho hf.reserved hf.finCbs hf.finSensors
      hok h0 hlt
  · exact absurd h hnb
  · rw [h]
    have : j = P.L.n := (kindOf_sink_iff P.L j hj).1 (by rw [← hf.kind]; exact h)
    exact W_finishCycle_sink P s j p hS this h hp ho h0

theorem W_scheduleFinish (P : Par) (s : S) (j p : Nat) (hS : Stat P.L s.ds) (hj : j ≤ P.L.n)
    (hns : (dv s j).kind ≠ .source) (hnb : (dv s j).kind ≠ .buffer)
    (hp : (dv s j).part = some p) (ho : (dv s j).output = none) (hok : SS.PartsOK s.parts)
    (h0 : 0 ≤ s.now) (hc : 0 ≤ (dv s j).cycle) :
    (W P s).scheduleFinish j = W P (schedFinS P s j p) := by
  have hf := hS.facts hj
  have hct : (W P s).cycleTime j = (dv s j).cycle := by
    unfold cycleTime
    rw [W_dev]
    split
    · next h => exact absurd h hnb
    · rfl
  have hneg : (if (dv s j).cycle < 0 then 0 else (dv s j).cycle) = (dv s j).cycle := if_neg (by omega)
  unfold scheduleFinish schedFinS
  simp only [hct, W_dev, hf.offset, Int.add_zero, W_setDev, dev_offset_self _ hf.offset, setD_self,
    hneg, W_now]
  split
  · exact W_finishCycle P s j p hS hj hns hnb hp ho hok h0
  · exact W_schedLib P s _ _ _ _ (by omega)


/-! ### accepting a part -/

def setParts (s : S) (ps : List PartRec) : S := { s with parts := ps }
def addDel (s : S) (p : Nat) : S := { s with del := s.del ++ [p] }

@[simp] theorem setParts_now (s : S) (ps : List PartRec) : (setParts s ps).now = s.now := rfl
@[simp] theorem setParts_ds (s : S) (ps : List PartRec) : (setParts s ps).ds = s.ds := rfl
@[simp] theorem setParts_parts (s : S) (ps : List PartRec) : (setParts s ps).parts = ps := rfl
@[simp] theorem setParts_evs (s : S) (ps : List PartRec) : (setParts s ps).evs = s.evs := rfl
@[simp] theorem setParts_recs (s : S) (ps : List PartRec) : (setParts s ps).recs = s.recs := rfl
@[simp] theorem setParts_term (s : S) (ps : List PartRec) : (setParts s ps).term = s.term := rfl
@[simp] theorem dv_setParts (s : S) (ps : List PartRec) (j : Nat) : dv (setParts s ps) j = dv s j := rfl
@[simp] theorem addDel_now (s : S) (p : Nat) : (addDel s p).now = s.now := rfl
@[simp] theorem addDel_ds (s : S) (p : Nat) : (addDel s p).ds = s.ds := rfl
@[simp] theorem addDel_parts (s : S) (p : Nat) : (addDel s p).parts = s.parts := rfl
@[simp] theorem addDel_evs (s : S) (p : Nat) : (addDel s p).evs = s.evs := rfl
@[simp] theorem addDel_recs (s : S) (p : Nat) : (addDel s p).recs = s.recs := rfl
@[simp] theorem addDel_term (s : S) (p : Nat) : (addDel s p).term = s.term := rfl
@[simp] theorem dv_addDel (s : S) (p : Nat) (j : Nat) : dv (addDel s p) j = dv s j := rfl

/-- The part `p` is put into the input slot of device `i` (`_accept_part` up to the call of
`_on_received_new_part`). -/
def takeS (s : S) (i p : Nat) : S :=
  let s2 := setD s i { dv s i with part := some p }
  let s3 := setParts s2 (SS.histAdd s.parts p i)
  setD s3 i { dv s3 i with since := none }

/-- Quality of part `p` as logged when device `i` receives it. -/
def qual (s : S) (p i : Nat) : Int := ((SS.histAdd s.parts p i).getD p default).quality

theorem W_setParts (P : Par) (s : S) (ps : List PartRec) :
    ({ W P s with parts := ps } : World) = W P (setParts s ps) := rfl

theorem W_take (P : Par) (s : S) (i p : Nat) (hok : SS.PartsOK s.parts) :
    (((W P s).modDev i (fun d => { d with part := some p })).addHist p i).setWaiting i false false =
      W P (takeS s i p) := by
  rw [W_modDev, SS.addHist_ok _ (by exact hok), W_setParts]
  exact W_setWaiting_false P _ i

theorem takeS_ok {s : S} (hok : SS.PartsOK s.parts) (i p : Nat) : SS.PartsOK (takeS s i p).parts :=
  SS.PartsOK_histAdd hok p i

theorem dv_takeS_same (s : S) (i p : Nat) (h : i < s.ds.length) :
    dv (takeS s i p) i = { dv s i with part := some p, since := none } := by
  simp only [takeS, dv_setD_same, dv_setParts, setParts_ds, setD_len, h]

theorem dv_takeS_ne (s : S) (i p j : Nat) (h : j ≠ i) : dv (takeS s i p) j = dv s j := by
  simp only [takeS, dv_setD_ne _ _ _ _ h, dv_setParts]

@[simp] theorem takeS_now (s : S) (i p : Nat) : (takeS s i p).now = s.now := rfl
@[simp] theorem takeS_len (s : S) (i p : Nat) : (takeS s i p).ds.length = s.ds.length := by
  simp [takeS]
@[simp] theorem takeS_parts (s : S) (i p : Nat) : (takeS s i p).parts = SS.histAdd s.parts p i := rfl
@[simp] theorem takeS_evs (s : S) (i p : Nat) : (takeS s i p).evs = s.evs := rfl
@[simp] theorem takeS_recs (s : S) (i p : Nat) : (takeS s i p).recs = s.recs := rfl
@[simp] theorem takeS_term (s : S) (i p : Nat) : (takeS s i p).term = s.term := rfl

theorem takeS_stat {L : Line} {s : S} (hS : Stat L s.ds) (i p : Nat) : Stat L (takeS s i p).ds := by
  have h1 : Stat L (setD s i { dv s i with part := some p }).ds := hS.setD rfl
  have h2 : Stat L (setParts (setD s i { dv s i with part := some p }) (SS.histAdd s.parts p i)).ds := h1
  exact h2.setD rfl

/-- handler -/
def acceptHS (P : Par) (s : S) (i p : Nat) : S :=
  schedFinS P (addR (takeS s i p) (.received i s.now p (qual s p i) 0)) i p

theorem W_accept_handler (P : Par) (s : S) (i p : Nat) (hS : Stat P.L s.ds) (hi : i ≤ P.L.n)
    (hk : (dv s i).kind = .handler) (ho : (dv s i).output = none) (hok : SS.PartsOK s.parts)
    (h0 : 0 ≤ s.now) (hc : 0 ≤ (dv s i).cycle) :
    (W P s).acceptPart i p = W P (acceptHS P s i p) := by
  have hf := hS.facts hi
  have hlt := hS.lt hi
  have hok' := takeS_ok hok i p
  have hpv : ∀ s' : S, s'.parts = (takeS s i p).parts → (W P s').partValue p = 0 := fun s' h =>
    W_partValue P s' p (by rw [h]; exact hok')
  unfold acceptPart
  simp only [W_dev, hk]
  simp only [show ((Kind.handler == Kind.sink) = false) from rfl, Bool.false_eq_true, if_false]
  rw [W_take P s i p hok]
  unfold onReceived tryMove acceptHS
  simp only [W_dev, dv_takeS_same, hlt, hk, W_addRec, dv_addR, W_now, takeS_now, hf.recvCbs, List.foldl_nil,
    ho, Option.isNone_none, if_true, W_operational _ _ _ hf.shutDown, Bool.true_and,
    Option.isSome_some, World.part, W_parts, takeS_parts, hpv _ rfl, qual]
  have e1 : (dv (takeS s i p) i).kind ≠ .source := by simp [dv_takeS_same, hlt, hk]
  have e2 : (dv (takeS s i p) i).kind ≠ .buffer := by simp [dv_takeS_same, hlt, hk]
  have e3 : (dv (takeS s i p) i).part = some p := by simp [dv_takeS_same, hlt]
  have e4 : (dv (takeS s i p) i).output = none := by simp [dv_takeS_same, hlt, ho]
  have e5 : 0 ≤ (dv (takeS s i p) i).cycle := by simpa [dv_takeS_same, hlt] using hc
  have := W_scheduleFinish P (addR (takeS s i p) (.received i s.now p (qual s p i) 0)) i p
    (takeS_stat hS i p) hi e1 e2 e3 e4 hok' h0 e5
  have hop := W_operational P (addR (takeS s i p) (.received i s.now p (qual s p i) 0)) i
    ((takeS_stat hS i p).facts hi).shutDown
  unfold qual at hop this
  simp only [hop, Bool.true_and, if_true]
  exact this

/-- processor -/
def acceptPS (P : Par) (s : S) (i p : Nat) : S :=
  let s1 := addR (takeS s i p) (.received i s.now p (qual s p i) 0)
  schedFinS P (setD s1 i { dv s1 i with lastUseStart := some s.now }) i p

theorem W_accept_processor (P : Par) (s : S) (i p : Nat) (hS : Stat P.L s.ds) (hi : i ≤ P.L.n)
    (hk : (dv s i).kind = .processor) (ho : (dv s i).output = none) (hok : SS.PartsOK s.parts)
    (h0 : 0 ≤ s.now) (hc : 0 ≤ (dv s i).cycle) :
    (W P s).acceptPart i p = W P (acceptPS P s i p) := by
  have hf := hS.facts hi
  have hlt := hS.lt hi
  have hok' := takeS_ok hok i p
  have hpv : ∀ s' : S, s'.parts = (takeS s i p).parts → (W P s').partValue p = 0 := fun s' h =>
    W_partValue P s' p (by rw [h]; exact hok')
  have hop := W_operational P (addR (takeS s i p) (.received i s.now p (qual s p i) 0)) i
    ((takeS_stat hS i p).facts hi).shutDown
  unfold qual at hop
  unfold acceptPart
  simp only [W_dev, hk]
  simp only [show ((Kind.processor == Kind.sink) = false) from rfl, Bool.false_eq_true, if_false]
  rw [W_take P s i p hok]
  unfold onReceived tryMove acceptPS qual
  simp only [W_dev, dv_takeS_same, hlt, hk, W_addRec, dv_addR, W_now, takeS_now, hf.recvCbs, List.foldl_nil,
    ho, Option.isNone_none, if_true, Bool.true_and, W_setDev, addR_now,
    Option.isSome_some, World.part, W_parts, takeS_parts, hpv _ rfl, hop]
  have hS1 : ∀ r, Stat P.L (addR (takeS s i p) r).ds := fun r => takeS_stat hS i p
  generalize hX : setD (addR (takeS s i p) _) i _ = X
  have hSX : Stat P.L X.ds := by
    rw [← hX]; exact (hS1 _).setD (by simp [sview, dv_takeS_same, hlt, hk, hf.recvCbs])
  refine W_scheduleFinish P X i p hSX hi ?_ ?_ ?_ ?_ ?_ ?_ ?_ <;> rw [← hX]
  · simp [dv_setD_same, hlt]
  · simp [dv_setD_same, hlt]
  · simp [dv_setD_same, hlt]
  · simp [dv_setD_same, hlt]
  · rw [setD_parts, addR_parts]; exact hok'
  · rw [setD_now, addR_now, takeS_now]; exact h0
  · simpa [dv_setD_same, hlt] using hc

@[simp] theorem W_partValue_setD (P : Par) (s : S) (j : Nat) (d : Dev) (p : Nat) :
    (W P (setD s j d)).partValue p = (W P s).partValue p := rfl
@[simp] theorem W_partValue_addR (P : Par) (s : S) (r : Rec) (p : Nat) :
    (W P (addR s r)).partValue p = (W P s).partValue p := rfl
@[simp] theorem W_leafCount_setD (P : Par) (s : S) (j : Nat) (d : Dev) (p : Nat) :
    (W P (setD s j d)).leafCount p = (W P s).leafCount p := rfl
@[simp] theorem W_leafCount_addR (P : Par) (s : S) (r : Rec) (p : Nat) :
    (W P (addR s r)).leafCount p = (W P s).leafCount p := rfl

theorem W_addDel (P : Par) (s : S) (p : Nat) :
    ({ W P s with delivered := (W P s).delivered ++ [p] } : World) = W P (addDel s p) := rfl

/-- sink -/
def acceptKS (P : Par) (s : S) (i p : Nat) : S :=
  let s0 := takeS (addDel s p) i p
  let d := dv s0 i
  let s1 := setD s0 i { d with recvCount := d.recvCount + ((1 : Nat) : Int), recvValue := d.recvValue + 0,
                               val := d.val.addValue lblCollected s.now 0,
                               collected := if d.collect then d.collected ++ [p] else d.collected }
  schedFinS P (addR s1 (.received i s.now p (qual s p i) 0)) i p

theorem W_accept_sink (P : Par) (s : S) (i p : Nat) (hS : Stat P.L s.ds) (hi : i ≤ P.L.n)
    (hk : (dv s i).kind = .sink) (ho : (dv s i).output = none) (hok : SS.PartsOK s.parts)
    (h0 : 0 ≤ s.now) (hc : 0 ≤ (dv s i).cycle) :
    (W P s).acceptPart i p = W P (acceptKS P s i p) := by
  have hf := hS.facts hi
  have hlt := hS.lt hi
  have hok' := takeS_ok hok i p
  have hpv : ∀ s' : S, s'.parts = (takeS s i p).parts → (W P s').partValue p = 0 := fun s' h =>
    W_partValue P s' p (by rw [h]; exact hok')
  have hlc : ∀ s' : S, s'.parts = (takeS s i p).parts → (W P s').leafCount p = 1 := fun s' h =>
    SS.leafCount_ok _ (by show SS.PartsOK s'.parts; rw [h]; exact hok') p
  have hS0 : Stat P.L (takeS (addDel s p) i p).ds := takeS_stat (s := addDel s p) hS i p
  unfold acceptPart
  simp only [W_dev, hk]
  simp only [BEq.rfl, if_true, SS.leavesOf_ok _ (show SS.PartsOK (W P s).parts from hok)]
  rw [W_addDel, W_take P _ i p (by exact hok)]
  have hd0 : dv (takeS (addDel s p) i p) i = { dv s i with part := some p, since := none } :=
    dv_takeS_same (addDel s p) i p hlt
  have hpv0 := hpv (takeS (addDel s p) i p) rfl
  have hlc0 := hlc (takeS (addDel s p) i p) rfl
  unfold onReceived tryMove acceptKS qual
  simp only [W_dev, hd0, hlt, hk, W_addRec, dv_addR, W_now, takeS_now, hf.recvCbs, List.foldl_nil,
    ho, Option.isNone_none, if_true, Bool.true_and, W_setDev, addR_now, addDel_ds, addDel_now, dv_addDel,
    dv_setD_same, takeS_len, setD_len, setD_now, W_partValue_setD, W_partValue_addR, hpv0, hlc0,
    Option.isSome_some, World.part, W_parts, takeS_parts, addDel_parts, setD_parts]
  have hS1 : ∀ d, sview d = sview (dv (takeS (addDel s p) i p) i) →
      ∀ r, Stat P.L (addR (setD (takeS (addDel s p) i p) i d) r).ds := fun d hd r => hS0.setD hd
  have hop : ∀ s', Stat P.L s'.ds → (W P s').operational i = true := fun s' h =>
    W_operational P s' i (h.facts hi).shutDown
  generalize hX : addR (setD (takeS (addDel s p) i p) i _) _ = X
  have hSX : Stat P.L X.ds := by
    rw [← hX]; exact hS1 _ (by simp [sview, hd0, hk, hf.recvCbs]) _
  rw [hop _ hSX]
  simp only [Bool.true_and, if_true]
  refine W_scheduleFinish P X i p hSX hi ?_ ?_ ?_ ?_ ?_ ?_ ?_ <;> rw [← hX]
  · simp [dv_setD_same, hlt]
  · simp [dv_setD_same, hlt]
  · simp [dv_setD_same, hlt]
  · simp [dv_setD_same, hlt]
  · rw [addR_parts, setD_parts]; exact hok'
  · rw [addR_now, setD_now, takeS_now, addDel_now]; exact h0
  · simpa [dv_setD_same, hlt] using hc

theorem setD_addR (s : S) (r : Rec) (i : Nat) (d : Dev) : setD (addR s r) i d = addR (setD s i d) r := rfl
theorem setD_setParts (s : S) (ps : List PartRec) (i : Nat) (d : Dev) :
    setD (setParts s ps) i d = setParts (setD s i d) ps := rfl

theorem wakeS_stat {P : Par} {s : S} (hS : Stat P.L s.ds) (u : Nat) : Stat P.L (wakeS P s u).ds := by
  unfold wakeS
  split
  · unfold passS; exact hS.setD rfl
  · exact hS

@[simp] theorem wakeS_now (P : Par) (s : S) (u : Nat) : (wakeS P s u).now = s.now := by
  unfold wakeS; split <;> rfl

theorem notifyS_stat {P : Par} {s : S} (hS : Stat P.L s.ds) (j : Nat) : Stat P.L (notifyS P s j).ds := by
  unfold notifyS
  split
  · exact hS
  · split
    · exact waitS_stat hS j
    · exact wakeS_stat (waitS_stat hS j) _

@[simp] theorem notifyS_now (P : Par) (s : S) (j : Nat) : (notifyS P s j).now = s.now := by
  unfold notifyS
  split
  · rfl
  · split <;> simp

/-- `Buffer._try_move_part_to_output`: the part joins the queue. -/
def moveBS (P : Par) (s : S) (i p : Nat) : S :=
  let d := dv s i
  let s1 := notifyS P (setD s i { d with buf := d.buf ++ [(s.now, p)], part := none }) i
  if (dv s1 i).buf.length == 1 then passS P s1 i d.delay else s1

theorem W_tryMove_buffer (P : Par) (s : S) (i p : Nat) (hS : Stat P.L s.ds) (hi : i ≤ P.L.n)
    (hk : (dv s i).kind = .buffer) (hp : (dv s i).part = some p) (h0 : 0 ≤ s.now)
    (hc : 0 ≤ (dv s i).delay) :
    (W P s).tryMove i = W P (moveBS P s i p) := by
  unfold tryMove moveBS
  simp only [W_dev, hk, hp, W_setDev, W_now]
  rw [W_notify P _ i (hS.setD (by simp [sview, hk])) hi h0]
  generalize hX : notifyS P _ i = X
  have hSX : Stat P.L X.ds := by
    rw [← hX]; exact notifyS_stat (hS.setD (by simp [sview, hk])) i
  have hnX : X.now = s.now := by rw [← hX]; simp
  simp only [W_dev]
  by_cases hb : ((dv X i).buf.length == 1) = true
  · simp only [hb, if_true]
    refine W_schedulePass P _ i _ ?_ ?_ hc
    · rw [(hSX.facts hi).kind, ← (hS.facts hi).kind, hk]; simp
    · rw [hnX]; exact h0
  · simp only [hb, if_false, Bool.false_eq_true]

/-- buffer -/
def acceptBS (P : Par) (s : S) (i p : Nat) : S :=
  let s0 := takeS s i p
  let d := dv s0 i
  let s1 := setD s0 i { d with level := d.level + 1 }
  moveBS P (addR (addR s1 (.level i s.now (d.level + 1))) (.received i s.now p (qual s p i) 0)) i p

theorem W_accept_buffer (P : Par) (s : S) (i p : Nat) (hS : Stat P.L s.ds) (hi : i ≤ P.L.n)
    (hk : (dv s i).kind = .buffer) (ho : (dv s i).output = none) (hok : SS.PartsOK s.parts)
    (h0 : 0 ≤ s.now) (hc : 0 ≤ (dv s i).delay) :
    (W P s).acceptPart i p = W P (acceptBS P s i p) := by
  have hf := hS.facts hi
  have hlt := hS.lt hi
  have hok' := takeS_ok hok i p
  have hd0 : dv (takeS s i p) i = { dv s i with part := some p, since := none } :=
    dv_takeS_same s i p hlt
  have hpv0 : (W P (takeS s i p)).partValue p = 0 := W_partValue P _ p hok'
  have hlc0 : (W P (takeS s i p)).leafCount p = 1 := SS.leafCount_ok _ (by exact hok') p
  have hS1 : ∀ d, sview d = sview (dv (takeS s i p) i) →
      ∀ r r', Stat P.L (addR (addR (setD (takeS s i p) i d) r) r').ds :=
    fun d hd r r' => (takeS_stat hS i p).setD hd
  unfold acceptPart
  simp only [W_dev, hk]
  simp only [show ((Kind.buffer == Kind.sink) = false) from rfl, Bool.false_eq_true, if_false]
  rw [W_take P s i p hok]
  unfold onReceived acceptBS qual
  simp only [W_dev, hd0, hlt, hk, W_addRec, dv_addR, W_now, takeS_now, hf.recvCbs, List.foldl_nil,
    ho, Option.isNone_none, if_true, Bool.true_and, W_setDev, addR_now,
    dv_setD_same, takeS_len, setD_len, setD_now, W_partValue_setD, W_partValue_addR, hpv0, hlc0,
    W_leafCount_setD, W_leafCount_addR, addR_ds, addR_parts,
    Option.isSome_some, World.part, W_parts, takeS_parts, setD_parts]
  generalize hX : addR (addR (setD (takeS s i p) i _) _) _ = X
  have hSX : Stat P.L X.ds := by
    rw [← hX]; exact hS1 _ (by simp [sview, hd0, hk, hf.recvCbs]) _ _
  refine W_tryMove_buffer P X i p hSX hi ?_ ?_ ?_ ?_ <;> rw [← hX]
  · simp [dv_setD_same, hlt]
  · simp [dv_setD_same, hlt]
  · rw [addR_now, addR_now, setD_now, takeS_now]; exact h0
  · simpa [dv_setD_same, hlt] using hc


/-! ### well-formed states -/

structure Good (P : Par) (s : S) : Prop where
  stat : Stat P.L s.ds
  pok : SS.PartsOK s.parts
  now0 : 0 ≤ s.now

theorem Good.setD {P : Par} {s : S} (h : Good P s) {j : Nat} {d : Dev} (hd : sview d = sview (dv s j)) :
    Good P (setD s j d) := ⟨h.stat.setD hd, h.pok, h.now0⟩

theorem Good.push {P : Par} {s : S} (h : Good P s) (t a : Int) (act : Action) (prio : Int) :
    Good P (push P s t a act prio) := ⟨h.stat, h.pok, h.now0⟩

theorem Good.addR {P : Par} {s : S} (h : Good P s) (r : Rec) : Good P (addR s r) :=
  ⟨h.stat, h.pok, h.now0⟩

theorem Good.passS {P : Par} {s : S} (h : Good P s) (j : Nat) (off : Int) : Good P (passS P s j off) :=
  (h.setD (by rfl)).push _ _ _ _

theorem Good.wakeS {P : Par} {s : S} (h : Good P s) (u : Nat) : Good P (wakeS P s u) := by
  unfold C04W.wakeS; split
  · exact h.passS _ _
  · exact h

theorem Good.waitS {P : Par} {s : S} (h : Good P s) (j : Nat) : Good P (waitS s j) := by
  unfold C04W.waitS C04W.waitS0; split
  · split
    · exact h
    · exact h.setD (by rfl)
  · exact h

theorem Good.notifyS {P : Par} {s : S} (h : Good P s) (j : Nat) : Good P (notifyS P s j) := by
  unfold C04W.notifyS
  split
  · exact h
  · split
    · exact h.waitS j
    · exact (h.waitS j).wakeS _

theorem Good.finishHS {P : Par} {s : S} (h : Good P s) (j p : Nat) : Good P (finishHS P s j p) :=
  (h.setD (by rfl)).passS _ _

theorem Good.finishPS {P : Par} {s : S} (h : Good P s) (j p : Nat) : Good P (finishPS P s j p) :=
  ((h.finishHS j p).setD (by rfl)).addR _

theorem Good.finishKS {P : Par} {s : S} (h : Good P s) (j : Nat) : Good P (finishKS P s j) :=
  (h.setD (by rfl)).notifyS _

theorem Good.finishS {P : Par} {s : S} (h : Good P s) (j p : Nat) : Good P (finishS P s j p) := by
  unfold C04W.finishS
  split
  · exact h.finishPS j p
  · exact h.finishKS j
  · exact h.finishHS j p

theorem Good.schedFinS {P : Par} {s : S} (h : Good P s) (j p : Nat) : Good P (schedFinS P s j p) := by
  unfold C04W.schedFinS
  split
  · exact h.finishS j p
  · exact h.push _ _ _ _

theorem Good.takeS {P : Par} {s : S} (h : Good P s) (i p : Nat) : Good P (takeS s i p) :=
  ⟨takeS_stat h.stat i p, takeS_ok h.pok i p, h.now0⟩

theorem Good.addDel {P : Par} {s : S} (h : Good P s) (p : Nat) : Good P (addDel s p) :=
  ⟨h.stat, h.pok, h.now0⟩

theorem Good.acceptHS {P : Par} {s : S} (h : Good P s) (i p : Nat) : Good P (acceptHS P s i p) :=
  ((h.takeS i p).addR _).schedFinS i p

theorem Good.acceptPS {P : Par} {s : S} (h : Good P s) (i p : Nat) : Good P (acceptPS P s i p) :=
  ((((h.takeS i p).addR _).setD (by rfl))).schedFinS i p

theorem Good.acceptKS {P : Par} {s : S} (h : Good P s) (i p : Nat) : Good P (acceptKS P s i p) :=
  (((((h.addDel p).takeS i p).setD (by rfl))).addR _).schedFinS i p

theorem Good.moveBS {P : Par} {s : S} (h : Good P s) (i p : Nat) : Good P (moveBS P s i p) := by
  unfold C04W.moveBS
  simp only []
  split
  · exact ((h.setD (by rfl)).notifyS i).passS _ _
  · exact (h.setD (by rfl)).notifyS i

theorem Good.acceptBS {P : Par} {s : S} (h : Good P s) (i p : Nat) : Good P (acceptBS P s i p) :=
  (((((h.takeS i p).setD (by rfl))).addR _).addR _).moveBS i p

/-- `_accept_part`, by kind. -/
def acceptS (P : Par) (s : S) (i p : Nat) : S :=
  match (dv s i).kind with
  | .handler => acceptHS P s i p
  | .processor => acceptPS P s i p
  | .buffer => acceptBS P s i p
  | .sink => acceptKS P s i p
  | _ => s

theorem Good.acceptS {P : Par} {s : S} (h : Good P s) (i p : Nat) : Good P (acceptS P s i p) := by
  unfold C04W.acceptS
  split
  · exact h.acceptHS i p
  · exact h.acceptPS i p
  · exact h.acceptBS i p
  · exact h.acceptKS i p
  · exact h

/-- `_can_accept_part` (single parts). -/
def canAcc (d : Dev) : Bool :=
  (match d.kind with
   | .buffer => (match d.cap with | none => true | some c => decide (d.level + 1 ≤ c))
   | _ => true) && d.part.isNone && d.output.isNone

/-- `give_part`. -/
def giveS (P : Par) (s : S) (i p : Nat) : S × Bool :=
  if canAcc (dv s i) then (acceptS P s i p, true) else (s, false)

theorem stn_wf {L : Line} (hL : L.WF) {j : Nat} (hj : j ≤ L.n) : (stn L j).WF := by
  have hlt : j < L.stations.length := by rw [stations_length]; omega
  refine hL _ ?_
  unfold stn
  rw [List.getD_eq_getElem?_getD, List.getElem?_eq_getElem hlt]
  exact List.getElem_mem hlt

theorem W_givePart (P : Par) (s : S) (i p : Nat) (hL : P.L.WF) (hG : Good P s) (h1 : 1 ≤ i)
    (hi : i ≤ P.L.n) :
    (W P s).givePart i p = (W P (giveS P s i p).1, (giveS P s i p).2) := by
  have hS := hG.stat
  have hf := hS.facts hi
  have hwf := stn_wf hL hi
  have hop := W_operational P s i hf.shutDown
  have hlc : (W P s).leafCount p = 1 := SS.leafCount_ok _ (by exact hG.pok) p
  have hns : (dv s i).kind ≠ .source := by
    rw [hf.kind]; intro h; have := (kindOf_source_iff P.L i hi).1 h; omega
  show give (2 * s.ds.length + 2 + 1) (W P s) i p = _
  rw [give.eq_2]
  unfold giveS canAcc acceptS
  simp only [W_dev]
  rcases kindOf_cases P.L i with h | h | h | h | h <;> rw [← hf.kind] at h
  · exact absurd h hns
  · have hc : 0 ≤ (dv s i).cycle := by
      rw [hf.cycle]; unfold isBuf; rw [← hf.kind, h]; exact hwf.1
    simp only [h, canAcceptBasic, W_dev, hop, hf.blockInput, Bool.true_and, Bool.not_false]
    by_cases hc1 : ((dv s i).part.isNone && (dv s i).output.isNone) = true
    · obtain ⟨_, ho1⟩ : (dv s i).part = none ∧ (dv s i).output = none := by simpa using hc1
      simp only [hc1, if_true]
      rw [W_accept_handler P s i p hS hi h ho1 hG.pok hG.now0 hc]
    · simp only [hc1, if_false, Bool.false_eq_true]
  · have hc : 0 ≤ (dv s i).cycle := by
      rw [hf.cycle]; unfold isBuf; rw [← hf.kind, h]; exact hwf.1
    simp only [h, canAcceptBasic, W_dev, hop, hf.blockInput, Bool.true_and, Bool.not_false, procAcquire,
      hf.resReq]
    by_cases hc1 : ((dv s i).part.isNone && (dv s i).output.isNone) = true
    · obtain ⟨_, ho1⟩ : (dv s i).part = none ∧ (dv s i).output = none := by simpa using hc1
      simp only [hc1, if_true]
      rw [W_accept_processor P s i p hS hi h ho1 hG.pok hG.now0 hc]
    · simp only [hc1, if_false, Bool.false_eq_true]
  · have hc : 0 ≤ (dv s i).delay := by
      rw [hf.delay]; unfold isBuf; rw [← hf.kind, h]; exact hwf.1
    simp only [h, canAcceptBasic, W_dev, hop, hf.blockInput, Bool.true_and, Bool.not_false, hlc, Bool.and_true]
    cases hcap : (dv s i).cap with
    | none =>
      simp only [Bool.true_and]
      by_cases hc1 : ((dv s i).part.isNone && (dv s i).output.isNone) = true
      · obtain ⟨_, ho1⟩ : (dv s i).part = none ∧ (dv s i).output = none := by simpa using hc1
        simp only [hc1, if_true]
        rw [W_accept_buffer P s i p hS hi h ho1 hG.pok hG.now0 hc]
      · simp only [hc1, if_false, Bool.false_eq_true]
    | some c =>
      simp only []
      -- (robust against an additional, for single parts redundant, conjunct `level < c` in the model)
      by_cases hl : (dv s i).level + 1 ≤ c
      · have hl2 : (dv s i).level < c := by omega
        simp only [hl, hl2, decide_true, Bool.true_and, Bool.and_true]
        by_cases hc1 : ((dv s i).part.isNone && (dv s i).output.isNone) = true
        · obtain ⟨_, ho1⟩ : (dv s i).part = none ∧ (dv s i).output = none := by simpa using hc1
          simp only [hc1, if_true]
          rw [W_accept_buffer P s i p hS hi h ho1 hG.pok hG.now0 hc]
        · simp only [hc1, if_false, Bool.false_eq_true]
      · simp only [hl, decide_false, Bool.false_and, Bool.false_eq_true, if_false]
  · have hc : 0 ≤ (dv s i).cycle := by
      rw [hf.cycle]; unfold isBuf; rw [← hf.kind, h]; exact hwf.1
    simp only [h, canAcceptBasic, W_dev, hop, hf.blockInput, Bool.true_and, Bool.not_false]
    by_cases hc1 : ((dv s i).part.isNone && (dv s i).output.isNone) = true
    · obtain ⟨_, ho1⟩ : (dv s i).part = none ∧ (dv s i).output = none := by simpa using hc1
      simp only [hc1, if_true]
      rw [W_accept_sink P s i p hS hi h ho1 hG.pok hG.now0 hc]
    · simp only [hc1, if_false, Bool.false_eq_true]


/-! ### passing a part downstream -/

theorem Good.giveS {P : Par} {s : S} (h : Good P s) (i p : Nat) : Good P (giveS P s i p).1 := by
  unfold C04W.giveS
  split
  · exact h.acceptS i p
  · exact h

theorem W_sortedDown (P : Par) (s : S) (j : Nat) (hS : Stat P.L s.ds) (hj : j < P.L.n) :
    (W P s).sortedDown j = [j + 1] := by
  have hf := hS.facts (Nat.le_of_lt hj)
  unfold sortedDown
  rw [W_dev, hf.down, if_neg (by omega)]
  simp [stableSort, insertByKey]

/-- `PartHandler._pass_part_downstream()` of a device whose output slot holds `p`. -/
def passHS (P : Par) (s : S) (j p : Nat) : S :=
  let r := giveS P s (j + 1) p
  if r.2 then notifyS P (setD r.1 j { dv r.1 j with output := none }) j
  else setD r.1 j { dv r.1 j with waitingDS := true }

theorem Good.passHS {P : Par} {s : S} (h : Good P s) (j p : Nat) : Good P (passHS P s j p) := by
  unfold C04W.passHS
  simp only []
  split
  · exact ((h.giveS _ _).setD (by rfl)).notifyS j
  · exact (h.giveS _ _).setD (by rfl)

theorem W_passHandler (P : Par) (s : S) (j p : Nat) (hL : P.L.WF) (hG : Good P s) (hj : j < P.L.n)
    (ho : (dv s j).output = some p) :
    (W P s).passHandler j = W P (passHS P s j p) := by
  have hS := hG.stat
  have hf := hS.facts (Nat.le_of_lt hj)
  have hop := W_operational P s j hf.shutDown
  have hG1 := hG.giveS (j + 1) p
  unfold passHandler passHS
  simp only [W_dev, hop, ho, W_sortedDown P s j hS hj, tryList, Bool.not_true, Bool.false_eq_true, if_false,
    W_givePart P s (j + 1) p hL hG (by omega) (by omega)]
  cases hr : (giveS P s (j + 1) p).2
  · simp only [W_modDev, Bool.false_eq_true, if_false]
  · simp only [W_modDev, if_true]
    exact W_notify P _ j (hG1.stat.setD (by rfl)) (Nat.le_of_lt hj) hG1.now0

theorem W_passPart_handler (P : Par) (s : S) (j p : Nat) (hL : P.L.WF) (hG : Good P s) (hj : j < P.L.n)
    (hk : (dv s j).kind = .handler ∨ (dv s j).kind = .processor) (ho : (dv s j).output = some p) :
    (W P s).passPart j = W P (passHS P s j p) := by
  unfold passPart
  rcases hk with hk | hk <;> simp only [W_dev, hk] <;> exact W_passHandler P s j p hL hG hj ho

/-- Is the source's budget used up? -/
def srcExhausted (d : Dev) : Bool :=
  match d.maxParts with
  | some m => decide ((if m - d.produced < 0 then 0 else m - d.produced) < 1)
  | none => false

/-- `_schedule_finish_cycle()` of the source. -/
def schedFin0S (P : Par) (s : S) : S :=
  if (dv s 0).cycle ≤ 0 then genS P s
  else push P s (s.now + (dv s 0).cycle) (dv s 0).aid (.finishCycle 0) pFinish

theorem W_scheduleFinish_source (P : Par) (s : S) (hL : P.L.WF) (hG : Good P s)
    (ho : (dv s 0).output = none) :
    (W P s).scheduleFinish 0 = W P (schedFin0S P s) := by
  have hS := hG.stat
  have hf := hS.facts (Nat.zero_le _)
  have hk : (dv s 0).kind = .source := by rw [hf.kind]; exact kindOf_zero _
  have hc : 0 ≤ (dv s 0).cycle := by
    rw [hf.cycle]; unfold isBuf; rw [kindOf_zero]; exact (stn_wf hL (Nat.zero_le _)).1
  have hct : (W P s).cycleTime 0 = (dv s 0).cycle := by
    unfold cycleTime
    rw [W_dev, hk]
  have hneg : (if (dv s 0).cycle < 0 then 0 else (dv s 0).cycle) = (dv s 0).cycle := if_neg (by omega)
  unfold scheduleFinish schedFin0S
  simp only [hct, W_dev, hf.offset, Int.add_zero, W_setDev, dev_offset_self _ hf.offset, setD_self,
    hneg, W_now]
  split
  · exact W_finishCycle_source P s hk ho hf.genBatch hf.genQuality hf.genValue hG.pok hG.now0
      (hS.lt (Nat.zero_le _))
  · exact W_schedLib P s _ _ _ _ (by omega)

/-- `Source._pass_part_downstream()` with part `p` in the output slot. -/
def passSrcS (P : Par) (s : S) (p : Nat) : S :=
  if srcExhausted (dv s 0) then s
  else
    let s1 := passHS P s 0 p
    if (dv s1 0).output.isNone then
      let d := dv s1 0
      let s2 := setD s1 0 { d with produced := d.produced + 1, val := d.val.addCost lblSupplied s.now 0,
                                   costProduced := d.costProduced + 0 }
      schedFin0S P (addR s2 (.supplied 0 s.now p))
    else s1

@[simp] theorem finishHS_now (P : Par) (s : S) (j p : Nat) : (finishHS P s j p).now = s.now := rfl
@[simp] theorem finishPS_now (P : Par) (s : S) (j p : Nat) : (finishPS P s j p).now = s.now := rfl
@[simp] theorem finishKS_now (P : Par) (s : S) (j : Nat) : (finishKS P s j).now = s.now := by
  simp [finishKS]
@[simp] theorem finishS_now (P : Par) (s : S) (j p : Nat) : (finishS P s j p).now = s.now := by
  unfold finishS; split <;> simp
@[simp] theorem schedFinS_now (P : Par) (s : S) (j p : Nat) : (schedFinS P s j p).now = s.now := by
  unfold schedFinS; split <;> simp
@[simp] theorem acceptHS_now (P : Par) (s : S) (i p : Nat) : (acceptHS P s i p).now = s.now := by
  simp [acceptHS]
@[simp] theorem acceptPS_now (P : Par) (s : S) (i p : Nat) : (acceptPS P s i p).now = s.now := by
  simp [acceptPS]
@[simp] theorem acceptKS_now (P : Par) (s : S) (i p : Nat) : (acceptKS P s i p).now = s.now := by
  simp [acceptKS]
@[simp] theorem moveBS_now (P : Par) (s : S) (i p : Nat) : (moveBS P s i p).now = s.now := by
  unfold moveBS; simp only []; split <;> simp
@[simp] theorem acceptBS_now (P : Par) (s : S) (i p : Nat) : (acceptBS P s i p).now = s.now := by
  simp [acceptBS]
@[simp] theorem acceptS_now (P : Par) (s : S) (i p : Nat) : (acceptS P s i p).now = s.now := by
  unfold acceptS; split <;> simp
@[simp] theorem giveS_now (P : Par) (s : S) (i p : Nat) : (giveS P s i p).1.now = s.now := by
  unfold giveS; split <;> simp
@[simp] theorem passHS_now (P : Par) (s : S) (j p : Nat) : (passHS P s j p).now = s.now := by
  unfold passHS; simp only []; split <;> simp

theorem W_passPart_source (P : Par) (s : S) (p : Nat) (hL : P.L.WF) (hG : Good P s)
    (ho : (dv s 0).output = some p) :
    (W P s).passPart 0 = W P (passSrcS P s p) := by
  have hS := hG.stat
  have hf := hS.facts (Nat.zero_le _)
  have hk : (dv s 0).kind = .source := by rw [hf.kind]; exact kindOf_zero _
  have hn : 0 < P.L.n := by unfold Line.n; omega
  have hG1 := hG.passHS 0 p
  have hlt1 := hG1.stat.lt (Nat.zero_le _)
  unfold passPart passSrcS srcExhausted
  rw [W_dev]
  simp only [W_dev, hk, ho, W_partValue P s p hG.pok, W_passHandler P s 0 p hL hG hn ho, W_modDev, W_addRec,
    W_now, passHS_now, setD_now]
  cases hm : (dv s 0).maxParts with
  | none =>
    simp only [Option.map_none, Bool.false_eq_true, if_false]
    rw [apply_ite (W P)]
    by_cases hb : (dv (passHS P s 0 p) 0).output.isNone = true
    · simp only [hb, if_true]
      refine W_scheduleFinish_source P _ hL ((hG1.setD ?_).addR _) ?_
      · simp [sview]
      · simp [dv_setD_same, hlt1]
        simpa using hb
    · simp only [hb, if_false, Bool.false_eq_true]
  | some m =>
    simp only [Option.map_some]
    by_cases hx : ((if m - (dv s 0).produced < 0 then 0 else m - (dv s 0).produced) < 1)
    · simp only [hx, decide_true, if_true]
    · simp only [hx, decide_false, Bool.false_eq_true, if_false]
      rw [apply_ite (W P)]
      by_cases hb : (dv (passHS P s 0 p) 0).output.isNone = true
      · simp only [hb, if_true]
        refine W_scheduleFinish_source P _ hL ((hG1.setD ?_).addR _) ?_
        · simp [sview]
        · simp [dv_setD_same, hlt1]
          simpa using hb
      · simp only [hb, if_false, Bool.false_eq_true]

/-- The loop of `Buffer._pass_part_downstream`. -/
def bufLoopS (P : Par) : Nat → S → Nat → S
  | 0, s, _ => s
  | f + 1, s, j =>
    match (dv s j).buf with
    | [] => s
    | (t, p) :: _ =>
      if (dv s j).delay - (s.now - t) > 0 then s
      else
        let r := giveS P s (j + 1) p
        if r.2 then
          let d := dv r.1 j
          let s1 := setD r.1 j { d with level := d.level - 1, buf := d.buf.drop 1 }
          bufLoopS P f (addR s1 (.level j s.now (d.level - 1))) j
        else r.1

theorem Good.bufLoopS {P : Par} (f : Nat) {s : S} (h : Good P s) (j : Nat) :
    Good P (bufLoopS P f s j) := by
  induction f generalizing s with
  | zero => exact h
  | succ f ih =>
    unfold C04W.bufLoopS
    split
    · exact h
    · split
      · exact h
      · simp only []
        split
        · exact ih (((h.giveS _ _).setD (by rfl)).addR _)
        · exact h.giveS _ _

@[simp] theorem bufLoopS_now (P : Par) (f : Nat) (s : S) (j : Nat) : (bufLoopS P f s j).now = s.now := by
  induction f generalizing s with
  | zero => rfl
  | succ f ih =>
    unfold bufLoopS
    split
    · rfl
    · split
      · rfl
      · simp only []
        split
        · rw [ih]; simp
        · simp

theorem W_bufferLoop (P : Par) (f : Nat) (s : S) (j : Nat) (hL : P.L.WF) (hG : Good P s)
    (hj : j < P.L.n) :
    bufferLoop f (W P s) j = W P (bufLoopS P f s j) := by
  induction f generalizing s with
  | zero => rfl
  | succ f ih =>
    have hS := hG.stat
    have hlc : ∀ p, (W P s).leafCount p = 1 := fun p => SS.leafCount_ok _ (by exact hG.pok) p
    unfold bufferLoop bufLoopS
    rw [W_dev]
    cases hb : (dv s j).buf with
    | nil => simp only [hb]
    | cons tp rest =>
      obtain ⟨t, p⟩ := tp
      simp only [W_now, hb]
      by_cases hd : (dv s j).delay - (s.now - t) > 0
      · simp only [hd, if_true]
      · have hG1 := hG.giveS (j + 1) p
        simp only [hd, if_false, W_sortedDown P s j hS hj, tryList, hlc,
          W_givePart P s (j + 1) p hL hG (by omega) (by omega)]
        cases hr : (giveS P s (j + 1) p).2
        · simp only [Bool.false_eq_true, if_false]
        · simp only [if_true, W_modDev, W_addRec, W_now, W_dev, setD_now, giveS_now, dv_setD_same,
            hG1.stat.lt (Nat.le_of_lt hj)]
          exact ih _ ((hG1.setD (by rfl)).addR _)

/-- `Buffer._pass_part_downstream()`. -/
def passBufS (P : Par) (s : S) (j : Nat) : S :=
  let s1 := bufLoopS P ((dv s j).buf.length + 1) s j
  let d := dv s1 j
  let s2 := match d.buf with
    | [] => s1
    | (t, _) :: _ =>
      if d.delay - (s.now - t) > 0 then passS P s1 j (d.delay - (s.now - t))
      else setD s1 j { d with waitingDS := true }
  notifyS P s2 j

theorem W_passPart_buffer (P : Par) (s : S) (j : Nat) (hL : P.L.WF) (hG : Good P s) (hj : j < P.L.n)
    (hk : (dv s j).kind = .buffer) :
    (W P s).passPart j = W P (passBufS P s j) := by
  have hG1 := hG.bufLoopS ((dv s j).buf.length + 1) j
  have hn1 := bufLoopS_now P ((dv s j).buf.length + 1) s j
  have hk1 : (dv (bufLoopS P ((dv s j).buf.length + 1) s j) j).kind ≠ .sink := by
    rw [(hG1.stat.facts (Nat.le_of_lt hj)).kind, ← (hG.stat.facts (Nat.le_of_lt hj)).kind, hk]; simp
  unfold passPart passBufS
  rw [W_dev]
  simp only [hk, W_bufferLoop P _ s j hL hG hj, W_dev, W_now, hn1]
  cases hb : (dv (bufLoopS P ((dv s j).buf.length + 1) s j) j).buf with
  | nil => exact W_notify P _ j hG1.stat (Nat.le_of_lt hj) hG1.now0
  | cons tp rest =>
    obtain ⟨t, p⟩ := tp
    simp only []
    by_cases hd : (dv (bufLoopS P ((dv s j).buf.length + 1) s j) j).delay - (s.now - t) > 0
    · simp only [hd, if_true]
      rw [W_schedulePass P _ j _ hk1 hG1.now0 (by omega)]
      exact W_notify P _ j (hG1.passS _ _).stat (Nat.le_of_lt hj) (hG1.passS _ _).now0
    · simp only [hd, if_false, W_setDev]
      exact W_notify P _ j (hG1.setD (by rfl)).stat (Nat.le_of_lt hj) hG1.now0


/-! ### events, start of the run -/

theorem W_step (P : Par) (s : S) (e : Event) (rest : List Event) (h : s.evs = e :: rest) :
    (W P s).step = some (e,
      if e.live then
        (W P { s with now := e.time, evs := rest,
                      term := s.term || (e.live && e.act == terminateAct) }).exec (Action.ofNat e.act)
      else W P { s with now := e.time, evs := rest,
                        term := s.term || (e.live && e.act == terminateAct) }) := by
  simp only [World.step, W, Env.step, h]

/-- Take the head of the queue. -/
def pop (s : S) (e : Event) (rest : List Event) : S :=
  { s with now := e.time, evs := rest, term := false }

theorem step_live (P : Par) (s : S) (e : Event) (rest : List Event) (h : s.evs = e :: rest)
    (hterm : s.term = false) (hc : e.cancelled = false) (hact : e.act ≠ 0) :
    (W P s).step = some (e, (W P (pop s e rest)).exec (Action.ofNat e.act)) := by
  rw [W_step P s e rest h]
  have : (e.act == 0) = false := by simp [hact]
  simp [Event.live, hc, hterm, this, terminateAct, pop]

theorem step_term (P : Par) (s : S) (e : Event) (rest : List Event) (h : s.evs = e :: rest)
    (hc : e.cancelled = false) (hact : e.act = 0) :
    (W P s).step = some (e, W P { pop s e rest with term := true }) := by
  rw [W_step P s e rest h]
  simp [Event.live, hc, hact, terminateAct, pop, Action.ofNat, World.exec]

theorem ofNat_finish (j : Nat) : Action.ofNat (2 + 16 * j) = .finishCycle j := by
  have h1 : (2 + 16 * j) % 16 = 2 := by omega
  have h2 : (2 + 16 * j) / 16 = j := by omega
  simp [Action.ofNat, h1, h2]

theorem ofNat_pass (j : Nat) : Action.ofNat (3 + 16 * j) = .passPart j := by
  have h1 : (3 + 16 * j) % 16 = 3 := by omega
  have h2 : (3 + 16 * j) / 16 = j := by omega
  simp [Action.ofNat, h1, h2]

theorem W_runBegin_ok (P : Par) (s : S) (T : Int) (h : 0 ≤ T) :
    (W P s).runBegin T =
      (W P { s with term := false,
                    evs := insort (mkEv P s.uid (s.now + T) (-1) .terminate pTerminate) s.evs,
                    uid := s.uid + 1 }, .ok) := by
  have h1 : ¬ s.now + T < s.now := by omega
  simp [World.runBegin, Env.runBegin, Env.schedule, Arith.exact, W, h1, mkEv, Env.newEvent,
    pTerminate, prioTerminate, Action.toNat, terminateAct]

theorem W_runBegin_neg (P : Par) (s : S) (T : Int) (h : T < 0) :
    (W P s).runBegin T = (W P s, .err .value) := by
  have h1 : s.now + T < s.now := by omega
  simp [World.runBegin, Env.runBegin, Env.schedule, Arith.exact, W, h1]

end C04W
end SimProc
