/-
C18W / C19W — machinery, part 2: `Fr` contains the atoms of the floor (`World.FloorClosed.Ops Fr`),
hence `Fr w (f w)` for every function `f` of `Model/Floor.lean` (`Proofs/FloorWalk.lean`).  The
only atom that moves the tracked key is `World.produce` (`prodStep`), the end of a processor's
`finishCycle`: the attached output sensors count / sample the part and the `produced` record is
written — one abstract step `CStep.prod`.
-/
import SimProc.Proofs.C18WBase
import SimProc.Proofs.FloorWalk

namespace SimProc
namespace C18W
open World FloorCoreL

/-! ### resources of a processor -/

theorem Fr_releaseReserved (w : World) (x : Nat) : Fr w (w.releaseReserved x) := by
  unfold releaseReserved
  split
  · exact Fr.refl _
  · dsimp only
    fr_auto

theorem Fr_procAcquire (w : World) (x : Nat) : Fr w (w.procAcquire x).1 := by
  unfold procAcquire
  dsimp only
  fr_auto

/-! ### output sensors -/

theorem foldl_addRes_sense (l : List Nat) (w : World) (s : Nat) (vals : List Int) :
    l.foldl (fun w c => w.addRes (.sense s c w.now vals)) w =
      { w with results := w.results ++ l.map (fun c => Res.sense s c w.now vals) } := by
  induction l generalizing w with
  | nil => simp
  | cons c l ih => rw [List.foldl_cons, ih]; simp [World.addRes, World.now]

theorem filter_sense (l : List Nat) (s : Nat) (t : Int) (vals : List Int) :
    (l.map (fun c => Res.sense s c t vals)).filter trackedRes = l.map (fun c => Res.sense s c t vals) := by
  apply List.filter_eq_self.mpr
  intro r hr
  obtain ⟨c, _, rfl⟩ := List.mem_map.mp hr
  rfl

theorem senseOutput_eq (w : World) (s p : Nat) : w.senseOutput s p =
    if (w.sensors.getD s default).s.countPart.2 then
      { w with
        sensors := w.sensors.set s { (w.sensors.getD s default) with
          s := (w.sensors.getD s default).s.countPart.1.collect
            (outVals (w.sensors.getD s default).attrs (w.part p).quality (w.partValue p)) },
        results := w.results ++
          ((w.sensors.getD s default).s.countPart.1.collect
            (outVals (w.sensors.getD s default).attrs (w.part p).quality (w.partValue p))).cbs.map
            (fun c => Res.sense s c w.now
              (outVals (w.sensors.getD s default).attrs (w.part p).quality (w.partValue p))) }
    else { w with sensors := w.sensors.set s { (w.sensors.getD s default) with
            s := (w.sensors.getD s default).s.countPart.1 } } := by
  unfold senseOutput
  dsimp only
  generalize hcp : (w.sensors.getD s default).s.countPart = cp
  obtain ⟨s1, doIt⟩ := cp
  dsimp only
  cases doIt with
  | false => rfl
  | true =>
    simp only [if_true, foldl_addRes_sense, List.set_set]
    rfl

theorem senseOutput_spec (w : World) (s p : Nat) :
    (w.senseOutput s p).env = w.env ∧ (w.senseOutput s p).parts = w.parts ∧
    (w.senseOutput s p).devs = w.devs ∧
    tk (w.senseOutput s p) = (tk w).outSense s w.now (w.part p).quality (w.partValue p) := by
  rw [senseOutput_eq]
  unfold TK.outSense
  have e : (tk w).sensors = w.sensors := rfl
  rw [e]
  dsimp only
  split
  · refine ⟨rfl, rfl, rfl, ?_⟩
    simp only [tk, List.filter_append]
    rw [filter_sense]
  · exact ⟨rfl, rfl, rfl, rfl⟩
theorem foldl_senseOutput (l : List Nat) (w : World) (p : Nat) :
    (l.foldl (fun w s => w.senseOutput s p) w).env = w.env ∧
    (l.foldl (fun w s => w.senseOutput s p) w).parts = w.parts ∧
    (l.foldl (fun w s => w.senseOutput s p) w).devs = w.devs ∧
    tk (l.foldl (fun w s => w.senseOutput s p) w) =
      l.foldl (fun c s => c.outSense s w.now (w.part p).quality (w.partValue p)) (tk w) := by
  induction l generalizing w with
  | nil => exact ⟨rfl, rfl, rfl, rfl⟩
  | cons s l ih =>
    obtain ⟨h1, h2, h3, h4⟩ := senseOutput_spec w s p
    obtain ⟨i1, i2, i3, i4⟩ := ih (w.senseOutput s p)
    simp only [List.foldl_cons]
    refine ⟨i1.trans h1, i2.trans h2, i3.trans h3, ?_⟩
    rw [i4, h4]
    have e1 : (w.senseOutput s p).now = w.now := congrArg Env.now h1
    have e2 : (w.senseOutput s p).part p = w.part p := by unfold World.part; rw [h2]
    have e3 : (w.senseOutput s p).partValue p = w.partValue p := by
      unfold World.partValue World.part; rw [h2]
    rw [e1, e2, e3]

/-- The end of a processor's `_finish_cycle`: the attached sensors, then the `produced` record. -/
def prodStep (w : World) (x p : Nat) (l : List Nat) : World :=
  let w := l.foldl (fun w s => w.senseOutput s p) w
  w.addRec (.produced x w.now p (w.part p).quality (w.partValue p))

theorem tk_prodStep (w : World) (x p : Nat) :
    (prodStep w x p (w.dev x).finSensors).env = w.env ∧
    tk (prodStep w x p (w.dev x).finSensors) =
      (tk w).prod x w.now p (w.part p).quality (w.partValue p) := by
  obtain ⟨h1, h2, h3, h4⟩ := foldl_senseOutput (w.dev x).finSensors w p
  unfold prodStep TK.prod
  dsimp only
  refine ⟨h1, ?_⟩
  rw [finS_tk, ← h4]
  have e1 : ((w.dev x).finSensors.foldl (fun w s => w.senseOutput s p) w).now = w.now :=
    congrArg Env.now h1
  have e2 : ((w.dev x).finSensors.foldl (fun w s => w.senseOutput s p) w).part p = w.part p := by
    unfold World.part; rw [h2]
  have e3 : ((w.dev x).finSensors.foldl (fun w s => w.senseOutput s p) w).partValue p =
      w.partValue p := by
    unfold World.partValue World.part; rw [h2]
  rw [e1, e2, e3]
  simp [tk, World.addRec, List.filter_append, trackedRec]

theorem Fr_prodStep (w : World) (x p : Nat) (hx : x < w.devs.length) :
    Fr w (prodStep w x p (w.dev x).finSensors) := by
  obtain ⟨h1, h2⟩ := tk_prodStep w x p
  refine Fr.of_cstep h1 ?_
  rw [h2]
  exact CStep.prod _ _ _ _ _ _ (by simpa [tk] using hx)

/-! ### finishing a cycle -/

/-- `PartProcessor._finish_cycle` after the handler's part. -/
def finishProcRest (w : World) (x : Nat) : World :=
  let d := w.dev x
  let w := w.setDev x { d with timeInUse := d.timeInUse + (w.now - d.lastUseStart.getD w.now),
                               lastUseStart := none }
  let w := if d.reserved.isSome then w.schedLib w.now d.aid (.releaseIfIdle x) pRelease else w
  match (w.dev x).output with
  | none => w
  | some p =>
    let w := d.finCbs.foldl (fun w c => w.applyPartCb x p c) w
    prodStep w x p d.finSensors

theorem finishCycle_processor (w : World) (x : Nat) (hk : (w.dev x).kind = .processor) :
    w.finishCycle x = finishProcRest (w.finishCycleHandler x) x := by
  unfold finishCycle
  simp only [hk]
  rfl

/-! ### the atoms of the floor -/

/-- The floor schedules no transition of a scheduler and no periodic measurement. -/
theorem Fr_floorEvent (w : World) (t a : Int) (act : Action) (p : Int) (h : w.FloorEvent a act p) :
    Fr w (w.schedLib t a act p) := by
  cases h <;> exact Fr_schedLib _ _ _ _ _ rfl

/-- A machine pauses, resumes and cancels under its own asset id, which no scheduler or sensor
carries. -/
theorem Fr_floorEnvOp (w : World) (op : EnvOp) (h : w.FloorEnvOp op) : Fr w (w.envOp op) :=
  Fr.with_stat fun g => by
    cases h <;> exact Fr_envOp _ _ (g.dev_aid _)

theorem dkey_of_cfg {d d' : Dev} (h : d.cfg = d'.cfg) : dkey d = dkey d' :=
  (congrArg dkey h :)

theorem Fr.floor : FloorClosed.Ops Fr where
  refl := Fr.refl
  trans := Fr.trans
  setErr w m := Fr.of_view (view_setErr w m)
  addRec w r h := Fr.of_view (view_addRec w r (by cases r <;> first | rfl | cases h))
  addRes w r h := Fr.of_view (view_addRes w r (by cases r <;> first | rfl | cases h))
  setDev w x d h := Fr_setDev w x d (dkey_of_cfg h)
  modPart _ _ _ := Fr.of_view rfl
  newPart _ _ := Fr.of_view rfl
  schedLib := Fr_floorEvent
  envOp := Fr_floorEnvOp
  setDelivered _ _ := Fr.of_view rfl
  setLost _ _ := Fr.of_view rfl
  releaseReserved := Fr_releaseReserved
  procAcquire := Fr_procAcquire
  produce := Fr_prodStep
  genPart := genPart_walk Fr.refl Fr.trans (fun _ _ => Fr.of_view rfl) (fun _ _ => Fr.of_view rfl)
  setBlockInput w x _ := Fr_setDev w x _ rfl
  setMaxParts w x _ := Fr_setDev w x _ rfl
  setWiring w x _ _ := Fr_setDev w x _ rfl
  setInited w x _ := Fr_setDev w x _ rfl
  clearWaitingRes w x := Fr_setDev w x _ rfl

macro_rules | `(tactic| fr_step) => `(tactic| with_reducible apply Fr.trans (h2 := Fr.floor.shutdownDev _ _ _ _))
macro_rules | `(tactic| fr_step) => `(tactic| with_reducible apply Fr.trans (h2 := Fr.floor.restoreDev _ _))
macro_rules | `(tactic| fr_step) => `(tactic| with_reducible apply Fr.trans (h2 := Fr.floor.procResourceCb _ _))
macro_rules | `(tactic| fr_step) => `(tactic| with_reducible apply Fr.trans (h2 := Fr.floor.setBlock _ _ _))
macro_rules | `(tactic| fr_step) => `(tactic| with_reducible apply Fr.trans (h2 := Fr.floor.adjustParts _ _ _))
macro_rules | `(tactic| fr_step) => `(tactic| with_reducible apply Fr.trans (h2 := Fr.floor.rewire _ _ _))

end C18W
end SimProc
