/-
C05W machinery, part 7: the queue invariant `C01.Inv` of the environment is preserved by every
function of `Model/Floor.lean` (`ei_floor`: the relation "if the queue invariant held before, it
holds after" contains the atoms of the floor, which change the environment only through
`schedule_event`, `pause`/`unpause`/`cancel`) and of `Model/World.lean`.  Consequence: the clock
never goes backwards in a closed-world run.
-/
import SimProc.Proofs.C05WViews
namespace SimProc
namespace C05W
open World C02V

/-- The event queue of the world is sorted, nothing in it is in the past, uids are unique. -/
def EI (w : World) : Prop := C01.Inv w.env

theorem EI.of_env {w w' : World} (e : w'.env = w.env) (h : EI w) : EI w' := by
  unfold EI; rw [e]; exact h

section prim
variable {w : World}

theorem ei_mk {env : Env} (seed wmod : Nat) (scripts : List (List Op)) (results : List Res)
    (error : Option String) (recs : List Rec) (rm : RM) (vars : List (Option Nat)) (devs : List Dev)
    (parts : List PartRec) (groups : List Group) (maints : List MaintW) (targets : List Target)
    (scheds : List SchedW) (sensors : List SensorW) (cmsSensors : List (List Nat)) (svars : List Int)
    (assets : List AssetRef) (started : Bool) (generated delivered lost : List Nat)
    (h : C01.Inv env) :
    EI ⟨env, seed, wmod, scripts, results, error, recs, rm, vars, devs, parts, groups, maints, targets,
      scheds, sensors, cmsSensors, svars, assets, started, generated, delivered, lost⟩ := h

theorem ei_setErr (m : String) (h : EI w) : EI (w.setErr m) :=
  h.of_env (by unfold World.setErr; split <;> rfl)
theorem ei_addRec (r : Rec) (h : EI w) : EI (w.addRec r) := h
theorem ei_addRes (r : Res) (h : EI w) : EI (w.addRes r) := h
theorem ei_setDev (x : Nat) (d : Dev) (h : EI w) : EI (w.setDev x d) := h
theorem ei_modDev (x : Nat) (f : Dev → Dev) (h : EI w) : EI (w.modDev x f) := h
theorem ei_modPart (p : Nat) (f : PartRec → PartRec) (h : EI w) : EI (w.modPart p f) := h
theorem ei_newPart (r : PartRec) (h : EI w) : EI (w.newPart r).1 := h

theorem ei_sched (t a : Int) (act : Action) (p : Int) (h : EI w) : EI (w.sched t a act p).1 := by
  unfold World.sched
  simp only []
  split
  · rename_i e he
    have := C01.inv_apply Arith.exact (.sched t a act.toNat p (weightOf w.seed w.wmod t a act.toNat p)) h
    rw [he] at this
    exact this
  · exact h

theorem ei_schedLib (t a : Int) (act : Action) (p : Int) (h : EI w) : EI (w.schedLib t a act p) := by
  have := ei_sched t a act p h
  unfold World.schedLib
  split
  · simp_all
  · apply ei_setErr; simp_all

theorem ei_envOp (op : EnvOp) (h : EI w) : EI (w.envOp op) := C01.inv_apply Arith.exact op h

end prim

/-- The floor changes the environment through `schedule_event`, `pause`, `unpause` and `cancel`
only, and each keeps the queue invariant. -/
theorem ei_floor : FloorClosed.Ops (fun w w' => EI w → EI w') where
  toFloorClosed := .ofAtoms (fun _ h => h) (fun h1 h2 h => h2 (h1 h)) (fun _ m h => ei_setErr m h)
    (fun _ _ _ h => h) (fun _ _ _ h => h) (fun _ _ _ _ h => h) (fun _ _ _ h => h)
    (fun _ t a act p _ h => ei_schedLib t a act p h) (fun _ op _ h => ei_envOp op h)
    (fun _ _ h => h) (fun _ _ h => h) (fun _ _ h => h) (fun _ _ h => h) (fun _ _ h => h)
    (fun _ _ h => h)
  setBlockInput := fun _ _ _ h => h
  setMaxParts := fun _ _ _ h => h
  setWiring := fun _ _ _ _ h => h
  setInited := fun _ _ _ h => h
  clearWaitingRes := fun _ _ h => h

syntax "ei_step" : tactic
macro_rules | `(tactic| ei_step) => `(tactic| first
  | assumption
  | with_reducible apply ei_setErr | with_reducible apply ei_schedLib | with_reducible apply ei_sched
  | with_reducible apply ei_envOp
  | with_reducible apply ei_setDev | with_reducible apply ei_modDev | with_reducible apply ei_modPart
  | with_reducible apply ei_addRec | with_reducible apply ei_addRes | with_reducible apply ei_newPart
  | (with_reducible apply ei_mk; change EI _)
  | (with_reducible apply foldl_inv (fun w => EI w))
  | intro _)

macro "einv" : tactic => `(tactic| ((try simp only []); repeat' split) <;> (repeat' ei_step))

macro "ei_lemma" a:ident : command =>
  `(macro_rules | `(tactic| ei_step) => `(tactic| with_reducible apply $a:ident))

section
variable {w : World}

theorem ei_rmEffects (recs : List ResRec) (c : Bool) (h : EI w) : EI (w.rmEffects recs c) :=
  ei_floor.rmEffects w recs c h
ei_lemma ei_rmEffects
theorem ei_setWaiting (x : Nat) (a b : Bool) (h : EI w) : EI (w.setWaiting x a b) :=
  ei_floor.setWaiting w x a b h
ei_lemma ei_setWaiting
theorem ei_schedulePass (x : Nat) (o : Int) (h : EI w) : EI (w.schedulePass x o) :=
  ei_floor.schedulePass w x o h
ei_lemma ei_schedulePass

end

section
variable {w : World}

theorem ei_notify (x : Nat) (h : EI w) : EI (w.notify x) := ei_floor.notify w x h
theorem ei_spaceAvailable (x : Nat) (h : EI w) : EI (w.spaceAvailable x) :=
  ei_floor.spaceAvailable w x h
ei_lemma ei_notify
ei_lemma ei_spaceAvailable

theorem ei_releaseReserved (x : Nat) (h : EI w) : EI (w.releaseReserved x) :=
  ei_floor.releaseReserved w x h
ei_lemma ei_releaseReserved
theorem ei_procAcquire (x : Nat) (h : EI w) : EI (w.procAcquire x).1 :=
  ei_floor.procAcquire w x h
ei_lemma ei_procAcquire
theorem ei_applyPartCb (x p : Nat) (c : PartCb) (h : EI w) : EI (w.applyPartCb x p c) :=
  ei_floor.applyPartCb w x p c h
ei_lemma ei_applyPartCb
theorem ei_senseOutput (s p : Nat) (h : EI w) : EI (w.senseOutput s p) :=
  World.senseOutput_walk (R := fun w w' => EI w → EI w') (fun _ h => h) (fun h1 h2 h => h2 (h1 h))
    (fun _ _ => EI.of_env rfl) (fun _ _ _ => EI.of_env rfl) w s p h
ei_lemma ei_senseOutput
theorem ei_addHist (p d : Nat) (h : EI w) : EI (w.addHist p d) :=
  ei_floor.addHist w p d h
ei_lemma ei_addHist
theorem ei_dropHist (p : Nat) (h : EI w) : EI (w.dropHist p) :=
  ei_floor.dropHist w p h
ei_lemma ei_dropHist
theorem ei_shutdownDev (x : Nat) (f : Bool) (l : Option Nat) (h : EI w) : EI (w.shutdownDev x f l) :=
  ei_floor.shutdownDev w x f l h
ei_lemma ei_shutdownDev
theorem ei_restoreDev (x : Nat) (h : EI w) : EI (w.restoreDev x) :=
  ei_floor.restoreDev w x h
ei_lemma ei_restoreDev
theorem ei_releaseIfIdle (x : Nat) (h : EI w) : EI (w.releaseIfIdle x) :=
  ei_floor.releaseIfIdle w x h
ei_lemma ei_releaseIfIdle
theorem ei_procResourceCb (x : Nat) (h : EI w) : EI (w.procResourceCb x) :=
  ei_floor.procResourceCb w x h
ei_lemma ei_procResourceCb
theorem ei_setBlock (x : Nat) (b : Bool) (h : EI w) : EI (w.setBlock x b) :=
  ei_floor.setBlock w x b h
ei_lemma ei_setBlock
theorem ei_adjustParts (x : Nat) (v : Int) (h : EI w) : EI (w.adjustParts x v) :=
  ei_floor.adjustParts w x v h
ei_lemma ei_adjustParts
theorem ei_finishCycleHandler (x : Nat) (h : EI w) : EI (w.finishCycleHandler x) :=
  ei_floor.finishCycleHandler w x h
ei_lemma ei_finishCycleHandler
theorem ei_genPart (x : Nat) (h : EI w) : EI (w.genPart x).1 := ei_floor.genPart w x h
ei_lemma ei_genPart
theorem ei_finishCycle (x : Nat) (h : EI w) : EI (w.finishCycle x) :=
  ei_floor.finishCycle w x h
ei_lemma ei_finishCycle
theorem ei_scheduleFinish (x : Nat) (h : EI w) : EI (w.scheduleFinish x) :=
  ei_floor.scheduleFinish w x h
ei_lemma ei_scheduleFinish

end

theorem ei_batcherLoop (f : Nat) (w : World) (x : Nat) : EI w → EI (batcherLoop f w x) :=
  ei_floor.batcherLoop f w x

section
variable {w : World}

theorem ei_tryMove (x : Nat) (h : EI w) : EI (w.tryMove x) :=
  ei_floor.tryMove w x h
ei_lemma ei_tryMove
theorem ei_onReceived (x p : Nat) (h : EI w) : EI (w.onReceived x p) :=
  ei_floor.onReceived w x p h
ei_lemma ei_onReceived
theorem ei_acceptPart (x p : Nat) (h : EI w) : EI (w.acceptPart x p) :=
  ei_floor.acceptPart w x p h
ei_lemma ei_acceptPart

end

theorem ei_give (f : Nat) (w : World) (x p : Nat) : EI w → EI (give f w x p).1 :=
  ei_floor.give f w x p

theorem ei_tryGive (w : World) (l : List Nat) (p : Nat) (h : EI w) : EI (tryList givePart w l p).1 :=
  ei_floor.tryList_givePart w l p h

theorem ei_passHandler (w : World) (x : Nat) (h : EI w) : EI (w.passHandler x) :=
  ei_floor.passHandler w x h

theorem ei_bufferLoop (f : Nat) (w : World) (x : Nat) : EI w → EI (bufferLoop f w x) :=
  ei_floor.bufferLoop f w x

section
variable {w : World}

theorem ei_passPart (x : Nat) (h : EI w) : EI (w.passPart x) :=
  ei_floor.passPart w x h
theorem ei_failDev (x : Nat) (h : EI w) : EI (w.failDev x) :=
  ei_floor.failDev w x h
theorem ei_initDev (x : Nat) (h : EI w) : EI (w.initDev x) :=
  ei_floor.initDev w x h
ei_lemma ei_initDev

/-! ### `Model/World.lean` -/

theorem ei_modMaint (m : Nat) (f : Maint → Maint) (h : EI w) : EI (w.modMaint m f) := h
ei_lemma ei_modMaint
theorem ei_setVar (k : Nat) (v : Option Nat) (h : EI w) : EI (w.setVar k v) := h
ei_lemma ei_setVar
theorem ei_startOrders (m : Nat) (l : List Order) (h : EI w) : EI (w.startOrders m l) := by
  unfold World.startOrders; einv
ei_lemma ei_startOrders
theorem ei_schedUpdate (s : Nat) (b : Bool) (h : EI w) : EI (w.schedUpdate s b) := by
  unfold World.schedUpdate; einv
ei_lemma ei_schedUpdate
theorem ei_periodicSense (s : Nat) (h : EI w) : EI (w.periodicSense s) := by
  unfold World.periodicSense; einv
ei_lemma ei_periodicSense
theorem ei_initAsset (a : AssetRef) (h : EI w) : EI (w.initAsset a) := by
  unfold World.initAsset; einv

end

end C05W
end SimProc
