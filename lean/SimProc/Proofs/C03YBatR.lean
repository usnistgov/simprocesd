/-
C03W with re-wiring — stages B, C (batchers, batches, the shared group) with re-wiring IN SCRIPTS.

As for the resource invariant (`Proofs/C03YResR.lean`): the invariant `C17W.CI` of the batcher /
conservation theorems contains a static class that excludes `rewire` in scripts
(`C02V.ScriptsStatic`), but nothing else in it reads the scripts.  It is carried for the world
without its scripts, `C17W.CI (es w [])`; an event that runs no script is handled by the theorems of
C17W on that world; a script run is handled operation by operation: an operation `o` of the class is
the script run of the world `es v [[o]]`, a re-wiring is a frame step (`ci_rewire`).
-/
import SimProc.Proofs.C03YResR

namespace SimProc
namespace C03W
open World FloorCoreL C03 C02V

/-! ### views of the world without / with other scripts -/

theorem sv_es (w : World) (s : List (List Op)) : sv (es w s) = sv w := rfl
theorem st_es (w : World) (s : List (List Op)) : st (es w s) = st w := rfl
theorem bv_es (w : World) (s : List (List Op)) : C05W.bv (es w s) = C05W.bv w := rfl

/-- a step that changes none of the views the invariant of C17W reads -/
theorem ci_frame {v v' : World} (h : C17W.CI v) (hsv : sv v' = sv v) (hst : st v' = st v)
    (hbv : C05W.bv v' = C05W.bv v) (hscr : v'.scripts = v.scripts)
    (hhb : HasBad (badAct (fun d => (v.dev d).kind = .sink)) v' =
      HasBad (badAct (fun d => (v.dev d).kind = .sink)) v) : C17W.CI v' :=
  ⟨h.inv.of_sv hsv, h.stat.of_sr (SR.of_st hst hscr hhb),
    C17W.batAll_of_frame (kind_of_st hst) hsv hbv h.bat⟩

/-- other scripts: only the static class of the scripts has to be checked again -/
theorem ci_es_scripts {v : World} {s s' : List (List Op)} (h : C17W.CI (es v s))
    (hs' : ScriptsStatic (es v s')) : C17W.CI (es v s') :=
  ⟨h.inv.of_sv (w := es v s) (w' := es v s') rfl,
    ⟨hs', h.stat.2.1.of_tv (w := es v s) (w' := es v s') rfl rfl, h.stat.2.2⟩,
    C17W.batAll_of_frame (w := es v s) (w' := es v s') (fun _ => rfl) rfl rfl h.bat⟩

/-- the invariant of C17W through the action of an event -/
theorem ci_exec (v : World) (a : Action) (h : C17W.CI v) (ha : ActOK v a) : C17W.CI (v.exec a) :=
  ⟨(good_exec v a ⟨h.inv, scriptsOK_of_static h.stat.1⟩ ha).1,
    h.stat.of_sr (sr_exec _ v a ⟨fun _ => Iff.rfl, h.stat.1⟩),
    C17W.batAll_exec v a h.inv h.stat h.bat ha⟩

/-! ### the scope of the world without its scripts, and after a scripted re-wiring -/

theorem SC.es_nil {v : World} (hs : SC v) : SC (es v []) := by
  have hsub : TopoSub v (es v []) := ⟨fun _ => rfl, fun _ => rfl, rfl, fun _ _ h => h⟩
  have hnr : NR (es v []) := fun l hl => nomatch hl
  have hgate : ∀ x, x < (es v []).devs.length →
      costLe (es v []).devs.length (es v []) (2 * (es v []).devs.length + 1) x = true ∧
      (∀ y ∈ ((es v []).dev x).down, cReach (es v []).devs.length (es v []) y x = false) ∧
      GroupOK (es v []) x := by
    intro x hx
    exact ⟨hsub.costLe _ _ x (hs.cost hx), fun y hy => hsub.cReach_false (hs.noSelf hx hy), hs.groupOK hx⟩
  refine SC.intro (fun x _ => hs.devOK x) (fun x hx y hy => hs.down_sym hx hy) hs.aids hgate
    (fun t ht d hd => hs.target ht hd) (fun l hl => nomatch hl) ?_
  unfold EnvOK
  rw [envl_of_nr hnr]
  exact fun x hx => ⟨(hgate x (List.mem_range.mp hx)).1, (hgate x (List.mem_range.mp hx)).2.1⟩

/-- **A scripted re-wiring leaves the world in the scope** (the static part of `G.rewireG`). -/
theorem SC.rewire_script {v : World} (hs : SC v) (x : Nat) (ups : List Nat) (hok : RewOK v x ups)
    (hscr : ∃ l ∈ v.scripts, Op.rewire x ups ∈ l) : SC (v.rewire x ups) := by
  rw [rewire_eq_fold]
  have hca := rewireClock_core v x
  have hsa : SC (rewireClock v x) := hs.of_sw (sw_of_core hca)
  have hoka : RewOK (rewireClock v x) x ups := rewOK_of_sw (sw_of_core hca) hok
  have hw := rewireWire_wire (rewireClock v x) x ups
  obtain ⟨l, hl, hop⟩ := hscr
  have hr := statRel_fold (x := x) (ups := ups) ups (fun _ hu => hu) _
    (StatRel.refl x ups (rewireWire (rewireClock v x) x ups))
  refine hr.sc (sc_rewireWire hsa x ups hoka) (by rw [hw.len]; exact hoka.1)
    (by rw [rewireWire_up _ x ups hoka.1, if_pos rfl]) (fun u hu => ?_)
  rw [hw.scripts, core_eq_scripts hca]
  exact mem_rewEdges.mpr ⟨l, hl, ups, hop, hu⟩

/-! ### a re-wiring -/

theorem hb_rewireStep (sk : Nat → Prop) (x : Nat) (w : World) (u : Nat) :
    HasBad (badAct sk) (rewireStep x w u) = HasBad (badAct sk) w := by
  unfold rewireStep
  split
  · rfl
  · dsimp only
    split
    · exact ((hb_floor sk).spaceAvailable _ u).trans rfl
    · rfl

theorem hb_rewire (sk : Nat → Prop) (w : World) (x : Nat) (ups : List Nat) :
    HasBad (badAct sk) (w.rewire x ups) = HasBad (badAct sk) w := by
  rw [rewire_eq_fold, foldl_proj (HasBad (badAct sk)) _ _ _ (fun w u => hb_rewireStep sk x w u)]
  have h1 : HasBad (badAct sk) (rewireWire (rewireClock w x) x ups) =
      HasBad (badAct sk) (rewireClock w x) := by
    unfold rewireWire eraseFold
    exact (hb_modDev ..).trans (foldl_proj (HasBad (badAct sk)) _ _ _ (fun w u => hb_modDev ..))
  rw [h1]
  unfold rewireClock
  split
  · exact (hb_floor sk).setWaiting w x true true
  · rfl

/-- the invariant of C17W (world without scripts) through a re-wiring after which the world is in
the scope -/
theorem ci_es_rewire {v : World} (h : C17W.CI (es v [])) (x : Nat) (ups : List Nat)
    (hsc : SC (v.rewire x ups)) : C17W.CI (es (v.rewire x ups) []) := by
  have hk : ∀ y, ((es (v.rewire x ups) []).dev y).kind = ((es v []).dev y).kind :=
    fun y => kind_rewire v x ups y
  have hss : ScriptsStatic (es (v.rewire x ups) []) := fun l hl => nomatch hl
  have htop : TopoOK (es (v.rewire x ups) []) := fun y => hsc.es_nil.giveOK y
  have hbad : ¬ HasBad (badAct fun d => ((es (v.rewire x ups) []).dev d).kind = Kind.sink)
      (es (v.rewire x ups) []) := by
    have e : (fun d => ((es (v.rewire x ups) []).dev d).kind = Kind.sink) =
        (fun d => ((es v []).dev d).kind = Kind.sink) := by
      funext d; rw [hk]
    rw [e]
    have h0 := h.stat.2.2
    have e2 : HasBad (badAct fun d => ((es v []).dev d).kind = Kind.sink) (es (v.rewire x ups) []) =
        HasBad (badAct fun d => ((es v []).dev d).kind = Kind.sink) (es v []) :=
      hb_rewire _ v x ups
    rw [e2]
    exact h0
  exact ⟨h.inv.of_sv (sv_rewire v x ups), ⟨hss, htop, hbad⟩,
    C17W.batAll_of_frame hk (sv_rewire v x ups) (bv_rewire v x ups) h.bat⟩

/-! ### an operation of the class -/

theorem opStatic_of {v : World} {op : Op} (hsc : OpSC v op) (hb : OpB v op)
    (hr : isRewire op = false) : OpStatic v op := by
  cases op <;> simp only [OpStatic, OpSC, OpB, isRewire] at hsc hb hr ⊢ <;>
    first | exact hb | exact hsc | trivial | (cases hr)

theorem ci_es_applyOp {v : World} (h : C17W.CI (es v [])) (op : Op) (hst : OpStatic v op) :
    C17W.CI (es ((v.applyOp op).1.addRes (v.applyOp op).2) []) := by
  have hnc : ∀ sp, op ≠ .create sp := by
    intro sp he; subst he; exact hst
  have hu : C17W.CI (es v [[op]]) := by
    refine ci_es_scripts h ?_
    intro l hl o ho
    have hl' : l = [op] := by simpa [es_scripts, sc] using hl
    subst hl'
    have ho' : o = op := by simpa using ho
    subst ho'
    exact hst
  have h1 := ci_exec (es v [[op]]) (.script 0) hu trivial
  have e : (es v [[op]]).exec (.script 0) =
      es ((v.applyOp op).1.addRes (v.applyOp op).2) [[op]] := by
    show (es v [[op]]).applyOps ((es v [[op]]).scripts.getD 0 []) = _
    have : (es v [[op]]).scripts.getD 0 [] = [op] := rfl
    rw [this]
    show ((es v [[op]]).applyOp op).1.addRes ((es v [[op]]).applyOp op).2 = _
    rw [es_applyOp v [[op]] op hnc]
    rfl
  rw [e] at h1
  exact ci_es_scripts h1 (fun l hl => nomatch hl)

/-! ### a script run -/

/-- the static data a script run needs, preserved by every operation of the scripts -/
structure CSt (v : World) : Prop where
  sc : SC v
  scrB : ScrB v

theorem CSt.applyOp {v : World} (h : CSt v) {l : List Op} (hl : l ∈ v.scripts) {op : Op} (hop : op ∈ l) :
    CSt ((v.applyOp op).1.addRes (v.applyOp op).2) := by
  have hsc := h.sc.scriptOp hl hop
  have hnc := opSC_not_create hsc
  have hscr : ((v.applyOp op).1.addRes (v.applyOp op).2).scripts = v.scripts := scr_applyOp v op
  have hswr : swr ((v.applyOp op).1.addRes (v.applyOp op).2) = swr v := swr_applyOp v op hnc
  refine ⟨?_, scrB_of_kind hscr (fun y => stat0_kind (stat0_of_swr hswr y)) h.scrB⟩
  cases hr : isRewire op with
  | true =>
    obtain ⟨x, ups, rfl⟩ : ∃ x ups, op = .rewire x ups := by
      cases op <;> simp only [isRewire] at hr <;> first | (cases hr; done) | exact ⟨_, _, rfl⟩
    have := h.sc.rewire_script x ups hsc ⟨l, hl, hop⟩
    exact this.of_sw rfl
  | false =>
    have hn : ∀ d ups, op ≠ .rewire d ups := by
      intro d ups he; subst he; cases hr
    have hsw : swv ((v.applyOp op).1.addRes (v.applyOp op).2) = swv v := swv_applyOp v op hn hnc
    exact h.sc.of_sw (SW.sw_eq ⟨hsw, hscr⟩)

theorem ci_es_applyOps : ∀ (ops : List Op) (v : World), C17W.CI (es v []) → CSt v →
    (∀ op ∈ ops, ∃ l ∈ v.scripts, op ∈ l) →
    C17W.CI (es (v.applyOps ops) []) ∧ CSt (v.applyOps ops) := by
  intro ops
  induction ops with
  | nil => intro v h hs _; exact ⟨h, hs⟩
  | cons op ops ih =>
    intro v h hs hsub
    unfold World.applyOps
    simp only [List.foldl_cons]
    obtain ⟨l, hl, hop⟩ := hsub op (List.mem_cons_self ..)
    have hs1 := hs.applyOp hl hop
    have hscr : ((v.applyOp op).1.addRes (v.applyOp op).2).scripts = v.scripts := scr_applyOp v op
    have h1 : C17W.CI (es ((v.applyOp op).1.addRes (v.applyOp op).2) []) := by
      cases hr : isRewire op with
      | true =>
        obtain ⟨x, ups, rfl⟩ : ∃ x ups, op = .rewire x ups := by
          cases op <;> simp only [isRewire] at hr <;> first | (cases hr; done) | exact ⟨_, _, rfl⟩
        have h2 := ci_es_rewire h x ups (hs1.sc.of_sw rfl)
        exact ci_frame h2 rfl rfl rfl rfl rfl
      | false =>
        exact ci_es_applyOp h op (opStatic_of (hs.sc.scriptOp hl hop) (hs.scrB l hl op hop) hr)
    have := ih _ h1 hs1 (fun o ho => by rw [hscr]; exact hsub o (List.mem_cons_of_mem _ ho))
    unfold World.applyOps at this
    exact this

theorem ci_es_runScript {v : World} (h : C17W.CI (es v [])) (hs : CSt v) (k : Nat) :
    C17W.CI (es (v.runScript k) []) ∧ CSt (v.runScript k) := by
  unfold World.runScript
  refine ci_es_applyOps _ v h hs (fun op hop => ?_)
  by_cases hk : k < v.scripts.length
  · have e : v.scripts.getD k [] = v.scripts[k] := by simp [List.getD_eq_getElem?_getD, hk]
    rw [e] at hop
    exact ⟨_, List.getElem_mem hk, hop⟩
  · have e : v.scripts.getD k [] = [] := by
      simp [List.getD_eq_getElem?_getD, Nat.le_of_not_lt hk]
    rw [e] at hop; cases hop

/-! ### frames -/

theorem CSt.frame {v v' : World} (h : CSt v) (hsw : swv v' = swv v) (hscr : v'.scripts = v.scripts) :
    CSt v' :=
  ⟨h.sc.of_sw (SW.sw_eq ⟨hsw, hscr⟩),
    scrB_of_kind hscr (fun y => sw_kind (SW.sw_eq ⟨hsw, hscr⟩) y) h.scrB⟩

/-- `GCI v` : what is carried through the pieces of an event action -/
def GCI (v : World) : Prop := C17W.CI (es v []) ∧ CSt v

theorem GCI.addRes {v : World} (h : GCI v) (r : Res) : GCI (v.addRes r) :=
  ⟨ci_frame (v := es v []) (v' := es (v.addRes r) []) h.1 rfl rfl rfl rfl rfl, h.2.frame rfl rfl⟩

theorem GCI.addRec {v : World} (h : GCI v) (r : Rec) : GCI (v.addRec r) :=
  ⟨ci_frame (v := es v []) (v' := es (v.addRec r) []) h.1 rfl rfl rfl rfl rfl, h.2.frame rfl rfl⟩

theorem GCI.modMaint {v : World} (h : GCI v) (m : Nat) (f : Maint → Maint) : GCI (v.modMaint m f) :=
  ⟨ci_frame (v := es v []) (v' := es (v.modMaint m f) []) h.1 rfl rfl rfl rfl rfl, h.2.frame rfl rfl⟩

theorem GCI.setErr {v : World} (h : GCI v) (m : String) : GCI (v.setErr m) := by
  refine ⟨?_, h.2.frame (swv_blind.setErr v m) (scr_setErr v m)⟩
  rw [← es_setErr]
  exact ci_frame h.1 (sv_setErr ..) (st_setErr ..) (C05W.bv_setErr ..) (scr_setErr ..) (hb_setErr ..)

theorem not_bad_of {sk : Nat → Prop} {a : Action} (h : ∀ d, a ≠ .fail d) : ¬ badAct sk a.toNat := by
  rintro ⟨d, hd, _⟩
  exact h d (ofNat_toNat_fail a d hd)

theorem GCI.schedLib {v : World} (h : GCI v) (t a : Int) (act : Action) (p : Int)
    (hp : ∀ d, act ≠ .fail d) : GCI (v.schedLib t a act p) := by
  refine ⟨?_, h.2.frame (swv_blind.schedLib v t a act p) (scr_schedLib v t a act p)⟩
  rw [← es_schedLib]
  exact ci_frame h.1 (sv_schedLib ..) (st_schedLib ..) (C05W.bv_schedLib ..) (scr_schedLib ..)
    (hb_schedLib _ _ _ _ _ _ (not_bad_of hp))

theorem GCI.startOrders {v : World} (h : GCI v) (m : Nat) (l : List Order) : GCI (v.startOrders m l) := by
  refine ⟨?_, h.2.frame (swv_blind.startOrders v m l) (scr_startOrders v m l)⟩
  rw [← es_startOrders]
  exact ci_frame h.1 (sv_startOrders ..) (st_startOrders ..) (C05W.bv_startOrders ..)
    (scr_startOrders ..) (hb_startOrders ..)

theorem GCI.procResourceCb {v : World} (h : GCI v) (x : Nat) : GCI (v.procResourceCb x) := by
  refine ⟨?_, h.2.frame (swv_blind.procResourceCb v x) (scr_floor.procResourceCb v x)⟩
  rw [← es_procResourceCb]
  exact ci_frame h.1 (sv_procResourceCb ..) (st_procResourceCb ..) (C05W.bv_procResourceCb ..)
    (scr_floor.procResourceCb ..) ((hb_floor _).procResourceCb ..)

theorem GCI.runScript {v : World} (h : GCI v) (k : Nat) : GCI (v.runScript k) :=
  ci_es_runScript h.1 h.2 k

/-- an action that runs no script (given as the commutation with `es`) -/
theorem GCI.exec_of {v : World} (h : GCI v) (a : Action) (ha : ActOK (es v []) a)
    (e : (es v []).exec a = es (v.exec a) [])
    (hsw : swv (v.exec a) = swv v) : GCI (v.exec a) := by
  refine ⟨?_, h.2.frame hsw (scr_exec v a)⟩
  rw [← e]
  exact ci_exec _ a h.1 ha

/-! ### maintenance hooks -/

/-- the script a hook of target `tgt` runs (none if the target is a device) -/
def hookScr (start : Bool) (v : World) (tgt : Nat) : Option Nat :=
  match (v.targets.getD tgt default).dev with
  | some _ => none
  | none => if start then (v.targets.getD tgt default).startScript
            else (v.targets.getD tgt default).endScript

theorem hookStart_scr {v : World} {tgt k : Nat} (h : hookScr true v tgt = some k) (tag : Int) :
    v.hookStart tgt tag = (v.addRes (.hook true tgt tag)).runScript k := by
  unfold hookScr at h
  unfold World.hookStart
  dsimp only
  cases hd : (v.targets.getD tgt default).dev with
  | some d => rw [hd] at h; cases h
  | none =>
    rw [hd] at h
    simp only [if_true] at h
    simp only [h]

theorem hookEnd_scr {v : World} {tgt k : Nat} (h : hookScr false v tgt = some k) (tag : Int) :
    v.hookEnd tgt tag = (v.addRes (.hook false tgt tag)).runScript k := by
  unfold hookScr at h
  unfold World.hookEnd
  dsimp only
  cases hd : (v.targets.getD tgt default).dev with
  | some d => rw [hd] at h; cases h
  | none =>
    rw [hd] at h
    simp only [Bool.false_eq_true, if_false] at h
    simp only [h]

theorem es_hookStart_of (v : World) (s : List (List Op)) (tgt : Nat) (tag : Int)
    (h : hookScr true v tgt = none) : (es v s).hookStart tgt tag = es (v.hookStart tgt tag) s := by
  unfold hookScr at h
  unfold World.hookStart
  simp only [es_targets, es_addRes]
  cases hd : (v.targets.getD tgt default).dev with
  | some d => simp only []; exact es_shutdownDev ..
  | none =>
    rw [hd] at h
    simp only [if_true] at h
    simp only [h]

theorem es_hookEnd_of (v : World) (s : List (List Op)) (tgt : Nat) (tag : Int)
    (h : hookScr false v tgt = none) : (es v s).hookEnd tgt tag = es (v.hookEnd tgt tag) s := by
  unfold hookScr at h
  unfold World.hookEnd
  simp only [es_targets, es_addRes]
  cases hd : (v.targets.getD tgt default).dev with
  | some d => simp only []; exact es_restoreDev ..
  | none =>
    rw [hd] at h
    simp only [Bool.false_eq_true, if_false] at h
    simp only [h]

theorem swv_hookStart_of (v : World) (tgt : Nat) (tag : Int) (h : hookScr true v tgt = none) :
    swv (v.hookStart tgt tag) = swv v := by
  unfold hookScr at h
  unfold World.hookStart
  dsimp only
  cases hd : (v.targets.getD tgt default).dev with
  | some d => simp only []; exact swv_blind.floor.shutdownDev ..
  | none =>
    rw [hd] at h
    simp only [if_true] at h
    simp only [h]; rfl

theorem swv_hookEnd_of (v : World) (tgt : Nat) (tag : Int) (h : hookScr false v tgt = none) :
    swv (v.hookEnd tgt tag) = swv v := by
  unfold hookScr at h
  unfold World.hookEnd
  dsimp only
  cases hd : (v.targets.getD tgt default).dev with
  | some d => simp only []; exact swv_blind.floor.restoreDev ..
  | none =>
    rw [hd] at h
    simp only [Bool.false_eq_true, if_false] at h
    simp only [h]; rfl

/-- the pieces of `startWork` -/
def swA (v : World) (m : Nat) (o : Order) : World :=
  (v.addRec (.workOrder 1 m v.now o.target o.tag o.info)).modMaint m
    (fun mm => mm.startCost (v.addRec (.workOrder 1 m v.now o.target o.tag o.info)).now
      ((v.addRec (.workOrder 1 m v.now o.target o.tag o.info)).targetParams o.target o.tag).2.2)

def swB (v0 u : World) (m seq : Nat) (o : Order) : World :=
  u.schedLib (u.now + (v0.targetParams o.target o.tag).1) (u.maints.getD m default).aid
    (.finishWork m seq) pFinishWork

theorem startWork_some {v : World} {m seq : Nat} {o : Order} (ho : (v.maint m).findActive seq = some o) :
    v.startWork m seq = swB v ((swA v m o).hookStart o.target o.tag) m seq o := by
  unfold World.startWork
  rw [ho]
  rfl

theorem GCI.startWork {v : World} (h : GCI v) (m seq : Nat) (ha : ActOK (es v []) (.startWork m seq)) :
    GCI (v.startWork m seq) := by
  cases ho : (v.maint m).findActive seq with
  | none =>
    have e : v.startWork m seq = v.setErr "start-unknown-order" := by
      unfold World.startWork; rw [ho]
    rw [e]; exact h.setErr _
  | some o =>
    have hA : GCI (swA v m o) := (h.addRec _).modMaint m _
    cases hk : hookScr true v o.target with
    | none =>
      -- no script runs: the action commutes with `es`
      have hk' : hookScr true (swA v m o) o.target = none := hk
      have ecomm : (es v []).startWork m seq = es (v.startWork m seq) [] := by
        have ho' : ((es v []).maint m).findActive seq = some o := ho
        rw [startWork_some ho, startWork_some ho']
        show swB v ((es (swA v m o) []).hookStart o.target o.tag) m seq o = _
        rw [es_hookStart_of _ _ _ _ hk']
        unfold swB
        rw [← es_schedLib]
        rfl
      refine ⟨?_, ?_⟩
      · rw [← ecomm]
        exact ci_exec _ (.startWork m seq) h.1 ha
      · rw [startWork_some ho]
        unfold swB
        refine (hA.2.frame (swv_hookStart_of _ _ _ hk') ?_).frame (swv_blind.schedLib ..) (scr_schedLib ..)
        exact scr_hookStart ..
    | some k =>
      rw [startWork_some ho]
      have hk' : hookScr true (swA v m o) o.target = some k := hk
      rw [hookStart_scr hk']
      unfold swB
      exact ((hA.addRes _).runScript k).schedLib _ _ _ _ (fun _ hh => nomatch hh)

/-- the pieces of `finishWork` -/
def fwC (u : World) (m : Nat) (o : Order) : World :=
  let mm := u.maint m
  let mm := { mm with util := mm.util - o.needed, active := mm.active.erase o }
  let u := u.modMaint m (fun _ => mm)
  let u := u.addRec (.workOrder 2 m u.now o.target o.tag o.info)
  let (m', st) := (u.maint m).tryWork
  let u := u.modMaint m (fun _ => m')
  u.startOrders m st

theorem finishWork_some {v : World} {m seq : Nat} {o : Order}
    (ho : (v.maint m).findActive seq = some o) :
    v.finishWork m seq = fwC (v.hookEnd o.target o.tag) m o := by
  unfold World.finishWork
  rw [ho]
  rfl

theorem GCI.fwC {u : World} (h : GCI u) (m : Nat) (o : Order) : GCI (fwC u m o) := by
  unfold C03W.fwC
  dsimp only
  generalize (((u.modMaint m _).addRec _).maint m).tryWork = q
  obtain ⟨m', st⟩ := q
  exact ((((h.modMaint m _).addRec _).modMaint m _).startOrders m st)

theorem es_fwC (u : World) (s : List (List Op)) (m : Nat) (o : Order) :
    fwC (es u s) m o = es (fwC u m o) s := by
  unfold C03W.fwC
  simp only [es_maint, es_modMaint, es_addRec, es_now]
  generalize (((u.modMaint m _).addRec _).maint m).tryWork = q
  obtain ⟨m', st⟩ := q
  simp only [es_modMaint, es_startOrders]

theorem swv_fwC (u : World) (m : Nat) (o : Order) : swv (fwC u m o) = swv u := by
  unfold C03W.fwC
  dsimp only
  generalize (((u.modMaint m _).addRec _).maint m).tryWork = q
  obtain ⟨m', st⟩ := q
  exact swv_blind.startOrders ..

theorem scr_fwC (u : World) (m : Nat) (o : Order) : (fwC u m o).scripts = u.scripts := by
  unfold C03W.fwC
  dsimp only
  generalize (((u.modMaint m _).addRec _).maint m).tryWork = q
  obtain ⟨m', st⟩ := q
  exact scr_startOrders ..

theorem GCI.finishWork {v : World} (h : GCI v) (m seq : Nat)
    (ha : ActOK (es v []) (.finishWork m seq)) : GCI (v.finishWork m seq) := by
  cases ho : (v.maint m).findActive seq with
  | none =>
    have e : v.finishWork m seq = v.setErr "finish-unknown-order" := by
      unfold World.finishWork; rw [ho]
    rw [e]; exact h.setErr _
  | some o =>
    cases hk : hookScr false v o.target with
    | none =>
      have ecomm : (es v []).finishWork m seq = es (v.finishWork m seq) [] := by
        have ho' : ((es v []).maint m).findActive seq = some o := ho
        rw [finishWork_some ho, finishWork_some ho', es_hookEnd_of _ _ _ _ hk, es_fwC]
      refine ⟨?_, ?_⟩
      · rw [← ecomm]
        exact ci_exec _ (.finishWork m seq) h.1 ha
      · rw [finishWork_some ho]
        exact (h.2.frame (swv_hookEnd_of _ _ _ hk) (scr_hookEnd ..)).frame (swv_fwC ..) (scr_fwC ..)
    | some k =>
      rw [finishWork_some ho, hookEnd_scr hk]
      exact ((h.addRes _).runScript k).fwC m o

/-! ### the availability check -/

theorem GCI.scan (n : Nat) : ∀ (v : World) (i : Nat), GCI v → GCI (scanWaiting scanOps n v i) := by
  induction n with
  | zero => intro v i h; exact h
  | succ n ih =>
    intro v i h
    rw [scanWaiting]
    show GCI (match v.rm.waiting[i]? with
      | none => v
      | some (req, cb) =>
        if v.rm.canFulfill req then scanWaiting scanOps n (scanOps.erase (scanOps.call v cb req) i) i
        else scanWaiting scanOps n v (i + 1))
    cases hi : v.rm.waiting[i]? with
    | none => exact h
    | some e =>
      obtain ⟨req, cb⟩ := e
      dsimp only
      split
      · refine ih _ i ?_
        have hcall : GCI (scanOps.call v cb req) := by
          cases cb with
          | script k => exact (h.addRes (.cb k)).runScript k
          | proc d => exact h.procResourceCb d
        exact ⟨ci_frame (v := es (scanOps.call v cb req) [])
            (v' := es (scanOps.erase (scanOps.call v cb req) i) []) hcall.1 rfl rfl rfl rfl rfl,
          hcall.2.frame rfl rfl⟩
      · exact ih v (i + 1) h

theorem GCI.rmCheck {v : World} (h : GCI v) : GCI v.rmCheck := GCI.scan _ v 0 h

/-! ### one event -/

theorem swv_exec_plain (v : World) (a : Action) (h1 : ∀ k, a ≠ .script k) (h2 : a ≠ .rmCheck)
    (h3 : ∀ m o, a ≠ .startWork m o) (h4 : ∀ m o, a ≠ .finishWork m o) :
    swv (v.exec a) = swv v := by
  cases a with
  | terminate => rfl
  | script k => exact absurd rfl (h1 k)
  | finishCycle d => exact swv_blind.floor.finishCycle v d
  | passPart d => exact swv_blind.floor.passPart v d
  | fail d => exact swv_blind.floor.failDev v d
  | releaseIfIdle d => exact swv_blind.floor.releaseIfIdle v d
  | rmCheck => exact absurd rfl h2
  | startWork m o => exact absurd rfl (h3 m o)
  | finishWork m o => exact absurd rfl (h4 m o)
  | schedUpdate sd => exact swv_blind.schedUpdate v sd true
  | periodicSense sn => exact swv_blind.periodicSense v sn
  | unknown n => exact swv_blind.setErr ..

/-- **Every event preserves the invariant of C17W of the world without its scripts** (and the static
data a script run needs). -/
theorem GCI.step {w w' : World} {e : Event} (h : GCI w) (hst : w.step = some (e, w')) : GCI w' := by
  unfold World.step at hst
  split at hst
  · cases hst
  · rename_i e' env' henv
    simp only [Option.some.injEq, Prod.mk.injEq] at hst
    obtain ⟨rfl, rfl⟩ := hst
    have henv0 : (es w []).env.step = some (e', env') := henv
    -- the popped world
    have hpop : GCI ({ w with env := env' } : World) := by
      refine ⟨⟨h.1.inv.of_sv (w := es w []) (w' := es ({ w with env := env' } : World) []) rfl,
        static_pop (es w []) e' env' h.1.stat henv0, fun y hy =>
          C17W.batOK_transport (w := es w []) rfl rfl (fun _ _ => rfl) (h.1.bat y hy)⟩,
        h.2.frame rfl rfl⟩
    have hact : ActOK (es ({ w with env := env' } : World) []) (Action.ofNat e'.act) :=
      static_actOK (es w []) e' env' h.1.stat henv0
    generalize ({ w with env := env' } : World) = w1 at hpop hact
    split
    · cases ha : Action.ofNat e'.act with
      | script k => exact hpop.runScript k
      | startWork m o => rw [ha] at hact; exact hpop.startWork m o hact
      | finishWork m o => rw [ha] at hact; exact hpop.finishWork m o hact
      | rmCheck => exact hpop.rmCheck
      | terminate => exact hpop
      | finishCycle d =>
        rw [ha] at hact
        exact hpop.exec_of _ hact (es_exec w1 [] _ (fun _ hh => nomatch hh) (fun hh => nomatch hh)
          (fun _ _ hh => nomatch hh) (fun _ _ hh => nomatch hh)) (swv_exec_plain w1 _
          (fun _ hh => nomatch hh) (fun hh => nomatch hh) (fun _ _ hh => nomatch hh)
          (fun _ _ hh => nomatch hh))
      | passPart d =>
        rw [ha] at hact
        exact hpop.exec_of _ hact (es_exec w1 [] _ (fun _ hh => nomatch hh) (fun hh => nomatch hh)
          (fun _ _ hh => nomatch hh) (fun _ _ hh => nomatch hh)) (swv_exec_plain w1 _
          (fun _ hh => nomatch hh) (fun hh => nomatch hh) (fun _ _ hh => nomatch hh)
          (fun _ _ hh => nomatch hh))
      | fail d =>
        rw [ha] at hact
        exact hpop.exec_of _ hact (es_exec w1 [] _ (fun _ hh => nomatch hh) (fun hh => nomatch hh)
          (fun _ _ hh => nomatch hh) (fun _ _ hh => nomatch hh)) (swv_exec_plain w1 _
          (fun _ hh => nomatch hh) (fun hh => nomatch hh) (fun _ _ hh => nomatch hh)
          (fun _ _ hh => nomatch hh))
      | releaseIfIdle d =>
        rw [ha] at hact
        exact hpop.exec_of _ hact (es_exec w1 [] _ (fun _ hh => nomatch hh) (fun hh => nomatch hh)
          (fun _ _ hh => nomatch hh) (fun _ _ hh => nomatch hh)) (swv_exec_plain w1 _
          (fun _ hh => nomatch hh) (fun hh => nomatch hh) (fun _ _ hh => nomatch hh)
          (fun _ _ hh => nomatch hh))
      | schedUpdate sd =>
        rw [ha] at hact
        exact hpop.exec_of _ hact (es_exec w1 [] _ (fun _ hh => nomatch hh) (fun hh => nomatch hh)
          (fun _ _ hh => nomatch hh) (fun _ _ hh => nomatch hh)) (swv_exec_plain w1 _
          (fun _ hh => nomatch hh) (fun hh => nomatch hh) (fun _ _ hh => nomatch hh)
          (fun _ _ hh => nomatch hh))
      | periodicSense sn =>
        rw [ha] at hact
        exact hpop.exec_of _ hact (es_exec w1 [] _ (fun _ hh => nomatch hh) (fun hh => nomatch hh)
          (fun _ _ hh => nomatch hh) (fun _ _ hh => nomatch hh)) (swv_exec_plain w1 _
          (fun _ hh => nomatch hh) (fun hh => nomatch hh) (fun _ _ hh => nomatch hh)
          (fun _ _ hh => nomatch hh))
      | unknown n =>
        rw [ha] at hact
        exact hpop.exec_of _ hact (es_exec w1 [] _ (fun _ hh => nomatch hh) (fun hh => nomatch hh)
          (fun _ _ hh => nomatch hh) (fun _ _ hh => nomatch hh)) (swv_exec_plain w1 _
          (fun _ hh => nomatch hh) (fun hh => nomatch hh) (fun _ _ hh => nomatch hh)
          (fun _ _ hh => nomatch hh))
    · exact hpop

end C03W
end SimProc
