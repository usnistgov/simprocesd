/-
C14W — the world functions are BLIND to the contents of the event queue.

`sw w t` is the world `w` with its queue (pending and paused events, uid counter, terminated flag)
and its weight key (`seed`, `wmod`) replaced by those of the "twin" `t`; the clock is kept.

Pass 1 (`Blind`): for every function `f` of the model that can run inside an event action,
`f (sw w t) = sw (f w) (NX f w t)` — the non-queue part of the result does not depend on the queue
at all, unconditionally.  These equations form the simp set `c14w`.
-/
import SimProc.Proofs.C01WWorld
import SimProc.Proofs.C14WAttr
import Lean

namespace SimProc
namespace C14W
open World
open Lean Elab Tactic Meta

/-- The replaced part of a world. -/
structure Twin where
  env : Env
  seed : Nat
  wmod : Nat

/-- Queue of `e`, clock of `w`. -/
def se (w : World) (e : Env) : Env := { e with now := w.env.now }

/-- The twin world. -/
def sw (w : World) (t : Twin) : World := { w with env := se w t.env, seed := t.seed, wmod := t.wmod }

/-- The twin after running `G`. -/
def NX (G : World → World) (w : World) (t : Twin) : Twin := { t with env := (G (sw w t)).env }

/-- Restore a twin that a structure update has taken apart. -/
@[c14w] theorem twin_eta (T : Twin) (s m : Nat) (hs : T.seed = s) (hm : T.wmod = m) :
    (⟨T.env, s, m⟩ : Twin) = T := by
  subst hs; subst hm; rfl

@[c14w] theorem NX_seed (G : World → World) (w : World) (t : Twin) : (NX G w t).seed = t.seed := rfl
@[c14w] theorem NX_wmod (G : World → World) (w : World) (t : Twin) : (NX G w t).wmod = t.wmod := rfl

/-- A world without its queue and weight key (the clock is kept). -/
def unq (w : World) : World := { w with env := { now := w.env.now }, seed := 0, wmod := 0 }

/-- What blindness compares. -/
def key (w : World) : World × Nat × Nat := (unq w, w.seed, w.wmod)

@[c14w] theorem key_sw (w : World) (t : Twin) : key (sw w t) = (unq w, t.seed, t.wmod) := rfl

theorem eq_sw_of_key {W' X : World} {s m : Nat} (h : key W' = (unq X, s, m)) :
    W' = sw X ⟨W'.env, s, m⟩ := by
  cases W' with | mk env seed wmod _ _ _ _ _ _ _ _ _ _ _ _ _ _ _ _ _ _ _ _ =>
  cases X with | mk env' _ _ _ _ _ _ _ _ _ _ _ _ _ _ _ _ _ _ _ _ _ _ =>
  simp only [key, unq, Prod.mk.injEq, World.mk.injEq, Env.mk.injEq] at h
  obtain ⟨⟨⟨hn, -⟩, -, -, h⟩, rfl, rfl⟩ := h
  simp only [sw, se, World.mk.injEq, true_and]
  cases env
  simp only at hn
  subst hn
  exact ⟨rfl, h⟩

@[c14w] theorem key_ite (c : Prop) [Decidable c] (a b : World) :
    key (if c then a else b) = if c then key a else key b := by
  split <;> rfl

@[c14w] theorem unq_ite (c : Prop) [Decidable c] (a b : World) (s m : Nat) :
    (unq (if c then a else b), s, m) = if c then (unq a, s, m) else (unq b, s, m) := by
  split <;> rfl

/-- `G` does not look at the queue: on the twin world it returns the twin of its result. -/
def Blind (G : World → World) : Prop := ∀ w t, key (G (sw w t)) = (unq (G w), t.seed, t.wmod)

theorem Blind.eq {G : World → World} (h : Blind G) (w : World) (t : Twin) :
    G (sw w t) = sw (G w) (NX G w t) := eq_sw_of_key (h w t)

/-- Pair-valued functions. -/
def Blind2 {α : Type} (G : World → World × α) : Prop :=
  ∀ w t, key (G (sw w t)).1 = (unq (G w).1, t.seed, t.wmod) ∧ (G (sw w t)).2 = (G w).2

theorem Blind2.eq {α : Type} {G : World → World × α} (h : Blind2 G) (w : World) (t : Twin) :
    G (sw w t) = (sw (G w).1 (NX (fun v => (G v).1) w t), (G w).2) :=
  Prod.ext (eq_sw_of_key (h w t).1) (h w t).2

/-! ### reads -/

@[c14w] theorem sw_env (w : World) (t : Twin) : (sw w t).env = se w t.env := rfl
@[c14w] theorem se_now (w : World) (e : Env) : (se w e).now = w.env.now := rfl
@[c14w] theorem sw_now (w : World) (t : Twin) : (sw w t).now = w.now := rfl
@[c14w] theorem sw_seed (w : World) (t : Twin) : (sw w t).seed = t.seed := rfl
@[c14w] theorem sw_wmod (w : World) (t : Twin) : (sw w t).wmod = t.wmod := rfl
@[c14w] theorem sw_scripts (w : World) (t : Twin) : (sw w t).scripts = w.scripts := rfl
@[c14w] theorem sw_results (w : World) (t : Twin) : (sw w t).results = w.results := rfl
@[c14w] theorem sw_error (w : World) (t : Twin) : (sw w t).error = w.error := rfl
@[c14w] theorem sw_recs (w : World) (t : Twin) : (sw w t).recs = w.recs := rfl
@[c14w] theorem sw_rm (w : World) (t : Twin) : (sw w t).rm = w.rm := rfl
@[c14w] theorem sw_vars (w : World) (t : Twin) : (sw w t).vars = w.vars := rfl
@[c14w] theorem sw_devs (w : World) (t : Twin) : (sw w t).devs = w.devs := rfl
@[c14w] theorem sw_parts (w : World) (t : Twin) : (sw w t).parts = w.parts := rfl
@[c14w] theorem sw_groups (w : World) (t : Twin) : (sw w t).groups = w.groups := rfl
@[c14w] theorem sw_maints (w : World) (t : Twin) : (sw w t).maints = w.maints := rfl
@[c14w] theorem sw_targets (w : World) (t : Twin) : (sw w t).targets = w.targets := rfl
@[c14w] theorem sw_scheds (w : World) (t : Twin) : (sw w t).scheds = w.scheds := rfl
@[c14w] theorem sw_sensors (w : World) (t : Twin) : (sw w t).sensors = w.sensors := rfl
@[c14w] theorem sw_cmsSensors (w : World) (t : Twin) : (sw w t).cmsSensors = w.cmsSensors := rfl
@[c14w] theorem sw_svars (w : World) (t : Twin) : (sw w t).svars = w.svars := rfl
@[c14w] theorem sw_assets (w : World) (t : Twin) : (sw w t).assets = w.assets := rfl
@[c14w] theorem sw_started (w : World) (t : Twin) : (sw w t).started = w.started := rfl
@[c14w] theorem sw_generated (w : World) (t : Twin) : (sw w t).generated = w.generated := rfl
@[c14w] theorem sw_delivered (w : World) (t : Twin) : (sw w t).delivered = w.delivered := rfl
@[c14w] theorem sw_lost (w : World) (t : Twin) : (sw w t).lost = w.lost := rfl

@[c14w] theorem sw_dev (w : World) (t : Twin) (x : Nat) : (sw w t).dev x = w.dev x := rfl
@[c14w] theorem sw_part (w : World) (t : Twin) (p : Nat) : (sw w t).part p = w.part p := rfl
@[c14w] theorem sw_fuel (w : World) (t : Twin) : (sw w t).fuel = w.fuel := rfl
@[c14w] theorem sw_operational (w : World) (t : Twin) (x : Nat) :
    (sw w t).operational x = w.operational x := rfl
@[c14w] theorem sw_cycleTime (w : World) (t : Twin) (x : Nat) :
    (sw w t).cycleTime x = w.cycleTime x := rfl
@[c14w] theorem sw_isBatch (w : World) (t : Twin) (p : Nat) : (sw w t).isBatch p = w.isBatch p := rfl
@[c14w] theorem sw_leavesOf (w : World) (t : Twin) (p : Nat) :
    (sw w t).leavesOf p = w.leavesOf p := rfl
@[c14w] theorem sw_leafCount (w : World) (t : Twin) (p : Nat) :
    (sw w t).leafCount p = w.leafCount p := rfl
@[c14w] theorem sw_partValue (w : World) (t : Twin) (p : Nat) :
    (sw w t).partValue p = w.partValue p := rfl
@[c14w] theorem sw_gatePred (w : World) (t : Twin) (pr : Pred) (p : Nat) :
    (sw w t).gatePred pr p = w.gatePred pr p := rfl
@[c14w] theorem sw_canAcceptBasic (w : World) (t : Twin) (x p : Nat) :
    (sw w t).canAcceptBasic x p = w.canAcceptBasic x p := rfl
@[c14w] theorem sw_targetParams (w : World) (t : Twin) (tgt : Nat) (tag : Int) :
    (sw w t).targetParams tgt tag = w.targetParams tgt tag := rfl
@[c14w] theorem sw_maint (w : World) (t : Twin) (m : Nat) : (sw w t).maint m = w.maint m := rfl
@[c14w] theorem sw_getVar (w : World) (t : Twin) (h : Nat) : (sw w t).getVar h = w.getVar h := rfl

@[c14w] theorem sw_waitingSince (n : Nat) (w : World) (t : Twin) (x : Nat) :
    waitingSince n (sw w t) x = waitingSince n w x := by
  induction n generalizing x with
  | zero => rfl
  | succ n ih =>
    rw [waitingSince, waitingSince]
    simp only [sw_dev, ih]

@[c14w] theorem sw_sortedDown (w : World) (t : Twin) (x : Nat) :
    (sw w t).sortedDown x = w.sortedDown x := by
  unfold sortedDown
  simp only [sw_dev, sw_fuel, sw_waitingSince]

/-! ### updates -/

/-- Any world whose environment is a twin environment is a twin world. -/
@[c14w] theorem mk_sw (w : World) (e : Env) (s m : Nat) (scripts results error recs rm vars devs
    parts groups maints targets scheds sensors cmsSensors svars assets started generated delivered
    lost) :
    World.mk (se w e) s m scripts results error recs rm vars devs parts groups maints targets scheds
      sensors cmsSensors svars assets started generated delivered lost =
    sw (World.mk w.env w.seed w.wmod scripts results error recs rm vars devs parts groups maints
      targets scheds sensors cmsSensors svars assets started generated delivered lost) ⟨e, s, m⟩ := rfl

@[c14w] theorem sw_setDev (w : World) (t : Twin) (x : Nat) (d : Dev) :
    (sw w t).setDev x d = sw (w.setDev x d) t := rfl
@[c14w] theorem sw_modDev (w : World) (t : Twin) (x : Nat) (f : Dev → Dev) :
    (sw w t).modDev x f = sw (w.modDev x f) t := rfl
@[c14w] theorem sw_modPart (w : World) (t : Twin) (p : Nat) (f : PartRec → PartRec) :
    (sw w t).modPart p f = sw (w.modPart p f) t := rfl
@[c14w] theorem sw_addRec (w : World) (t : Twin) (r : Rec) : (sw w t).addRec r = sw (w.addRec r) t := rfl
@[c14w] theorem sw_addRes (w : World) (t : Twin) (r : Res) : (sw w t).addRes r = sw (w.addRes r) t := rfl
@[c14w] theorem sw_newPart (w : World) (t : Twin) (r : PartRec) :
    (sw w t).newPart r = (sw (w.newPart r).1 t, (w.newPart r).2) := rfl
@[c14w] theorem sw_modMaint (w : World) (t : Twin) (m : Nat) (f : Maint → Maint) :
    (sw w t).modMaint m f = sw (w.modMaint m f) t := rfl
@[c14w] theorem sw_setVar (w : World) (t : Twin) (h : Nat) (v : Option Nat) :
    (sw w t).setVar h v = sw (w.setVar h v) t := rfl
@[c14w] theorem sw_setErr (w : World) (t : Twin) (m : String) :
    (sw w t).setErr m = sw (w.setErr m) t := by
  unfold setErr
  simp only [sw_error]
  split <;> rfl

/-- Find a pair-valued call `X` (occurring as `X.1` or `X.2`) and destructure it everywhere in
the goal (a `Bool` or `Res` second component is case-split as well). -/
elab "destruct_pair" : tactic => do
  let g ← getMainGoal
  let env ← getEnv
  g.withContext do
    let t ← instantiateMVars (← g.getType)
    let simple (c : Expr) : Bool :=
      (c.find? fun e => (e.isAppOfArity ``ite 5 || e.isAppOfArity ``dite 5 ||
        (isMatcherAppCore env e)) && !e.hasLooseBVars).isNone
    let found := t.find? fun e =>
      (e.isAppOfArity ``Prod.fst 3 || e.isAppOfArity ``Prod.snd 3) &&
        !(e.appArg!.hasLooseBVars) && !(e.appArg!.isFVar) && !(e.appArg!.isAppOf ``Prod.mk) &&
        simple e.appArg!
    match found with
    | none => throwError "destruct_pair: no pair-valued call"
    | some e =>
      let X := e.appArg!
      let (fvars, g') ← g.generalize #[{ expr := X, xName? := `q, hName? := `hq }]
      let subgoals ← g'.cases fvars[0]!
      let mut out : List MVarId := []
      for sg in subgoals do
        let snd := sg.fields[1]!
        let ty ← sg.mvarId.withContext do whnfR (← inferType snd)
        if (ty.isConstOf ``Bool || ty.isConstOf ``SimProc.Res) && snd.isFVar then
          let sgs ← sg.mvarId.cases snd.fvarId!
          out := out ++ (sgs.toList.map (·.mvarId))
        else
          out := out ++ [sg.mvarId]
      replaceMainGoal out

/-- Rewrite every `if c then a else b` (with exactly the condition `c`, whatever its `Decidable`
instance looks like) using `h : c` (`pos = true`) or `h : ¬ c`. -/
partial def rewriteIte (g : MVarId) (c h : Expr) (pos : Bool) : MetaM MVarId := g.withContext do
  let t ← instantiateMVars (← g.getType)
  let found := t.find? fun e => e.isAppOfArity ``ite 5 && (e.getArg! 1) == c && !e.hasLooseBVars
  match found with
  | none => return g
  | some e =>
    let args := e.getAppArgs
    let pf ← mkAppOptM (if pos then ``if_pos else ``if_neg)
      #[some c, some args[2]!, some h, some args[0]!, some args[3]!, some args[4]!]
    let r ← g.rewrite t pf
    let g' ← g.replaceTargetEq r.eNew r.eqProof
    rewriteIte g' c h pos

/-- Case-split on the condition of the first `if` in the goal and rewrite EVERY `if` with that
condition. -/
elab "split_ite" : tactic => do
  let g ← getMainGoal
  let env ← getEnv
  g.withContext do
    let t ← instantiateMVars (← g.getType)
    -- an `if` whose condition contains no further `if` / `match` (those are split first)
    let simple (c : Expr) : Bool :=
      (c.find? fun e => (e.isAppOfArity ``ite 5 || e.isAppOfArity ``dite 5 ||
        (isMatcherAppCore env e)) && !e.hasLooseBVars).isNone
    let found := t.find? fun e =>
      e.isAppOfArity ``ite 5 && !e.hasLooseBVars && simple (e.getArg! 1)
    match found with
    | none => throwError "split_ite: no if"
    | some e =>
      let c := e.getArg! 1
      let (pos, neg) ← g.byCases c `hsplit
      let g1 ← rewriteIte pos.mvarId c (mkFVar pos.fvarId) true
      let g2 ← rewriteIte neg.mvarId c (mkFVar neg.fvarId) false
      replaceMainGoal [g1, g2]

/-- Split a `match` whose discriminants contain no further `if` / `match` (innermost first: the
discriminants are then already in normal form). -/
elab "split_match" : tactic => do
  let g ← getMainGoal
  let env ← getEnv
  g.withContext do
    let t ← instantiateMVars (← g.getType)
    let simple (c : Expr) : Bool :=
      (c.find? fun e => (e.isAppOfArity ``ite 5 || e.isAppOfArity ``dite 5 ||
        (isMatcherAppCore env e)) && !e.hasLooseBVars).isNone
    let found := t.find? fun e =>
      if e.hasLooseBVars then false else
      match e.getAppFn with
      | .const n _ =>
        match getMatcherInfoCore? env n with
        | some info =>
          let args := e.getAppArgs
          args.size ≥ info.arity &&
            ((args.extract (info.numParams + 1) (info.numParams + 1 + info.numDiscrs)).all simple)
        | none => false
      | _ => false
    match found with
    | none => throwError "split_match: no match"
    | some e =>
      let args := e.getAppArgs
      let some info := getMatcherInfoCore? env e.getAppFn.constName! | throwError "split_match"
      let e' := mkAppN e.getAppFn (args.extract 0 info.arity)
      let gs ← Split.splitMatch g e'
      replaceMainGoal gs

/-- Split every `if` and `match` of the goal. -/
macro "split_all" : tactic => `(tactic| repeat' (first | split_ite | split_match))

/-- Unfold the listed functions and push `sw` outwards (`-implicitDefEqProofs`: the hypotheses of
`sw_foldl` are discharged by `simp` itself, with `rfl`-lemmas, and the proof must be assignable at
reducible transparency). -/
syntax "bl_norm" " [" Lean.Parser.Tactic.simpLemma,* "]" : tactic
macro_rules
  | `(tactic| bl_norm [$args,*]) =>
    `(tactic| simp -implicitDefEqProofs only [c14w, implies_true, $args,*])

/-- Normalise, split every `if` and `match`, normalise again, … -/
syntax "bl_go" (" [" Lean.Parser.Tactic.simpLemma,* "]")? : tactic
macro_rules
  | `(tactic| bl_go) => `(tactic| repeat' (first | bl_norm [] | destruct_pair | split_ite | split_match))
  | `(tactic| bl_go [$args,*]) => `(tactic| repeat' (first | bl_norm [$args,*] | destruct_pair | split_ite | split_match))

/-- Leaves. -/
macro "bl_fin" : tactic =>
  `(tactic| first | rfl | trivial | (constructor <;> first | rfl | trivial))

/-- Close a blindness goal after normalisation. -/
syntax "bl_close" (" [" Lean.Parser.Tactic.simpLemma,* "]")? : tactic
macro_rules
  | `(tactic| bl_close) =>
    `(tactic| (bl_go <;> bl_fin))
  | `(tactic| bl_close [$args,*]) =>
    `(tactic| (bl_go [$args,*] <;> bl_fin))

/-! ### the primitives that touch the queue -/

/-- Replacing the queue on both sides, with the same clock.  About variables: by `rfl` on two concrete
queues the kernel first tries to identify them, which unfolds the insertion and the weights. -/
theorem key_setEnv (w : World) (t : Twin) (e e' : Env) (hn : e'.now = e.now) :
    key { sw w t with env := e' } = (unq { w with env := e }, t.seed, t.wmod) := by
  unfold key unq
  dsimp only [sw]
  rw [hn]

theorem bl_sched (τ a : Int) (act : Action) (p : Int) : Blind2 (fun w => w.sched τ a act p) := by
  intro w t
  simp only [World.sched, Env.apply, Env.schedule, c14w]
  by_cases h : τ < w.env.now
  · simp only [h, if_true]; exact ⟨rfl, trivial⟩
  · simp only [h, if_false]; exact ⟨key_setEnv w t _ _ rfl, trivial⟩

@[c14w] theorem sw_sched (w : World) (t : Twin) (τ a : Int) (act : Action) (p : Int) :
    (sw w t).sched τ a act p =
      (sw (w.sched τ a act p).1 (NX (fun v => (v.sched τ a act p).1) w t), (w.sched τ a act p).2) :=
  (bl_sched τ a act p).eq w t

theorem bl_schedLib (τ a : Int) (act : Action) (p : Int) : Blind (fun w => w.schedLib τ a act p) := by
  intro w t
  simp only [schedLib, c14w]
  destruct_pair <;> simp only [c14w] <;> rfl

@[c14w] theorem sw_schedLib (w : World) (t : Twin) (τ a : Int) (act : Action) (p : Int) :
    (sw w t).schedLib τ a act p = sw (w.schedLib τ a act p) (NX (fun v => v.schedLib τ a act p) w t) :=
  (bl_schedLib τ a act p).eq w t

@[c14w] theorem sw_envOp_pause (w : World) (t : Twin) (a : Int) :
    (sw w t).envOp (.pause a) = sw (w.envOp (.pause a)) (NX (fun v => v.envOp (.pause a)) w t) :=
  Blind.eq (G := fun v => v.envOp (.pause a)) (fun _ _ => rfl) w t
@[c14w] theorem sw_envOp_unpause (w : World) (t : Twin) (a : Int) :
    (sw w t).envOp (.unpause a) = sw (w.envOp (.unpause a)) (NX (fun v => v.envOp (.unpause a)) w t) :=
  Blind.eq (G := fun v => v.envOp (.unpause a)) (fun _ _ => rfl) w t
@[c14w] theorem sw_envOp_cancel (w : World) (t : Twin) (a : Int) :
    (sw w t).envOp (.cancel a) = sw (w.envOp (.cancel a)) (NX (fun v => v.envOp (.cancel a)) w t) :=
  Blind.eq (G := fun v => v.envOp (.cancel a)) (fun _ _ => rfl) w t

/-- Folds. -/
theorem bl_foldl {α : Type} (g : World → α → World)
    (hg : ∀ w t a, key (g (sw w t) a) = (unq (g w a), t.seed, t.wmod)) (l : List α) :
    Blind (fun v => l.foldl g v) := by
  intro w t
  induction l generalizing w t with
  | nil => rfl
  | cons a l ih =>
    simp only [List.foldl_cons]
    rw [Blind.eq (G := fun v => g v a) (fun w t => hg w t a)]
    exact ih (g w a) (NX (fun v => g v a) w t)

@[c14w] theorem sw_foldl {α : Type} (g : World → α → World)
    (hg : ∀ w t a, key (g (sw w t) a) = (unq (g w a), t.seed, t.wmod)) (l : List α) (w : World)
    (t : Twin) : l.foldl g (sw w t) = sw (l.foldl g w) (NX (fun v => l.foldl g v) w t) :=
  (bl_foldl g hg l).eq w t

/-- Folds of functions that do not touch the queue at all (tried first). -/
@[c14w high] theorem sw_foldl_same {α : Type} (g : World → α → World)
    (hg : ∀ w t a, g (sw w t) a = sw (g w a) t) (l : List α) (w : World) (t : Twin) :
    l.foldl g (sw w t) = sw (l.foldl g w) t := by
  induction l generalizing w with
  | nil => rfl
  | cons a l ih => simp only [List.foldl_cons, hg, ih]

theorem bl_rmEffects (recs : List ResRec) (chk : Bool) : Blind (fun w => w.rmEffects recs chk) := by
  intro w t
  bl_close [rmEffects]

@[c14w] theorem sw_rmEffects (w : World) (t : Twin) (recs : List ResRec) (chk : Bool) :
    (sw w t).rmEffects recs chk = sw (w.rmEffects recs chk) (NX (fun v => v.rmEffects recs chk) w t) :=
  (bl_rmEffects recs chk).eq w t

end C14W
end SimProc
