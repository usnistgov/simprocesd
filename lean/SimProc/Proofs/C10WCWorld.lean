/-
C10W — `C w (f w)` for every function of `Model/World.lean` except the availability check:
scripted operations of the class, constructors, maintainer / scheduler / sensor events, `exec` of
every action other than `rmCheck`, `simulateInit`.
-/
import SimProc.Proofs.C10WCFloor

namespace SimProc
namespace C10W
open World FloorCoreL C01W

@[simp] theorem KK_modMaint (w : World) (m : Nat) (f : Maint → Maint) :
    KK (w.modMaint m f) = KK w := rfl
@[simp] theorem KK_setVar (w : World) (h : Nat) (v : Option Nat) : KK (w.setVar h v) = KK w := rfl

macro_rules | `(tactic| c_step) => `(tactic| with_reducible apply C.trans_KK (h := KK_modMaint _ _ _))
macro_rules | `(tactic| c_step) => `(tactic| with_reducible apply C.trans_KK (h := KK_setVar _ _ _))

theorem C_startOrders (w : World) (m : Nat) (st : List Order) : C w (w.startOrders m st) := by
  unfold startOrders
  c_auto

macro_rules | `(tactic| c_step) => `(tactic| with_reducible apply C.trans (h2 := C_startOrders _ _ _))

theorem C_schedUpdate (w : World) (s : Nat) (advance : Bool) :
    C w (w.schedUpdate s advance) := by
  unfold schedUpdate
  dsimp only
  c_auto

macro_rules | `(tactic| c_step) => `(tactic| with_reducible apply C.trans (h2 := C_schedUpdate _ _ _))

theorem C_initAsset (w : World) (a : AssetRef) : C w (w.initAsset a) := by
  unfold initAsset
  split <;> (try dsimp only) <;> c_auto

macro_rules | `(tactic| c_step) => `(tactic| with_reducible apply C.trans (h2 := C_initAsset _ _))

/-! ### constructors -/

/-- Registering a new device whose `waitingRes` flag is clear. -/
theorem C_appendDev (w : World) (d : Dev) (as : List AssetRef) (hd : d.waitingRes = false)
    (ha : (1 : Int) ≤ d.aid) :
    C w ({ w with devs := w.devs ++ [d], assets := as } : World) := by
  intro hp
  have hdev : ∀ y, y < w.devs.length →
      ({ w with devs := w.devs ++ [d], assets := as } : World).dev y = w.dev y := by
    intro y hy
    exact getD_append_left _ _ _ _ hy
  have hflag : ∀ y, (({ w with devs := w.devs ++ [d], assets := as } : World).dev y).waitingRes = true →
      y < w.devs.length := by
    intro y hy
    apply Nat.lt_of_not_le
    intro hle
    rcases Nat.eq_or_lt_of_le hle with he | hlt
    · subst he
      have : ({ w with devs := w.devs ++ [d], assets := as } : World).dev w.devs.length = d :=
        getD_append_singleton _ _ _
      rw [this, hd] at hy; cases hy
    · have : ({ w with devs := w.devs ++ [d], assets := as } : World).dev y = default :=
        dev_of_length_le (by simp; omega)
      rw [this] at hy; cases hy
  refine ⟨⟨?_, hp.scr, hp.wait.nodup, ?_, ?_⟩, Refines.refl _, id,
    fun _ => Or.inr ⟨rfl, C10.PoolLe.refl _⟩⟩
  · intro a ha'
    have : a ∈ w.devs.map (·.aid) ++ [d.aid] := by simpa using ha'
    rcases List.mem_append.1 this with h | h
    · exact hp.aid a h
    · have : a = d.aid := by simpa using h
      omega
  · intro e he y hy
    obtain ⟨h1, h2⟩ := hp.wait.entry e he y hy
    rw [hdev y (lt_of_resReq h2)]
    exact ⟨h1, h2⟩
  · intro y hy
    have hlt := hflag y hy
    rw [hdev y hlt] at hy
    exact hp.wait.flag y hy

theorem C_addDev (w : World) (d : Dev) (hd : d.waitingRes = false) : C w (w.addDev d) := by
  unfold addDev
  extract_lets i d' ups w1 w2 gr w3
  have h1 : C w w1 := C_appendDev w _ _ hd (by show (1 : Int) ≤ (w.assets.length : Int) + 1; omega)
  have h2 : C w1 w2 := C_rewire _ _ _
  have h3 : C w2 w3 := by
    show C w2 (if _ then _ else _)
    split
    · exact C.of_KK rfl
    · exact C.refl _
  have h4 : C w3 (if w3.started = true then w3.initAsset (AssetRef.dev i) else w3) := by
    split
    · exact C_initAsset _ _
    · exact C.refl _
  exact (h1.trans h2).trans (h3.trans h4)

macro_rules | `(tactic| c_step) => `(tactic|
  ((with_reducible apply C.trans (h2 := C_addDev _ _ ?hd)); case hd => first | exact rfl | assumption))

theorem C_addAsset (w : World) (spec : AssetSpec) (h : specOK spec = true) :
    C w (w.addAsset spec) := by
  cases spec with
  | dev d =>
    have hd : d.waitingRes = false := by simpa [specOK] using h
    exact C_addDev w d hd
  | group gid devs ins outs =>
    simp only [addAsset]
    c_auto
  | maint cap v =>
    simp only [addAsset]
    c_auto
  | sched tt cyc =>
    simp only [addAsset]
    c_auto
  | sensor sw =>
    simp only [addAsset]
    c_auto
  | cms =>
    simp only [addAsset]
    c_auto

/-! ### scripted operations -/

theorem C_applyOp (w : World) (op : Op) (hop : opC op = true) : C w (w.applyOp op).1 := by
  have hu := opC_user hop
  cases op with
  | sched t a k p =>
    exact C_sched _ _ _ _ _ (by intro h; cases h)
      (by have h' : pTerminate < _ := of_decide_eq_true hu; exact h')
  | schedRel dt a k p =>
    exact C_sched _ _ _ _ _ (by intro h; cases h)
      (by have h' : pTerminate < _ := of_decide_eq_true hu; exact h')
  | pause a => exact C_envOp _ _ (show _ ≠ _ from of_decide_eq_true hu)
  | unpause a => exact C_envOp _ _ (show _ ≠ _ from of_decide_eq_true hu)
  | cancel a => exact C_envOp _ _ (show _ ≠ _ from of_decide_eq_true hu)
  | addRes r amt =>
    have h := RmC.add w.rm r amt
    simp only [applyOp]
    rcases hr : w.rm.add r amt with ⟨rm, res, recs, chk⟩
    rw [hr] at h
    dsimp only at h ⊢
    exact C_rmStep w rm recs chk h
  | reserve hd req =>
    have h := RmC.reserve w.rm req
    simp only [applyOp]
    rcases hr : w.rm.reserve req with ⟨rm, res, id, recs⟩
    rw [hr] at h
    dsimp only at h ⊢
    split
    · exact C.refl _
    · c_step
      exact C_rmStep w rm recs false h
  | release hd part =>
    simp only [applyOp]
    cases w.getVar hd with
    | none => exact C.refl _
    | some id =>
      dsimp only
      exact C_rmStep w _ _ _ (RmC.release w.rm id part)
  | merge h1 h2 =>
    simp only [applyOp]
    cases w.getVar h1 with
    | none => exact C.refl _
    | some a =>
      cases w.getVar h2 with
      | none => exact C.refl _
      | some b =>
        dsimp only
        exact C_rmSet w _ (RmC.merge w.rm a b)
  | register k req =>
    simp only [applyOp]
    exact C_rmStep w _ _ _ (RmC.register w.rm req k)
  | schedFail d t =>
    simp only [applyOp]
    split
    · exact C.refl _
    · exact C_sched _ _ _ _ _ (by intro h; cases h) (by decide)
  | schedFailRel d dt =>
    simp only [applyOp]
    split
    · exact C.refl _
    · exact C_sched _ _ _ _ _ (by intro h; cases h) (by decide)
  | shutdown d => simp only [applyOp]; c_auto
  | restore d => simp only [applyOp]; c_auto
  | block d b => simp only [applyOp]; c_auto
  | adjust d n => simp only [applyOp]; c_auto
  | setCycle d c => simp only [applyOp]; c_auto
  | offsetNext d o => simp only [applyOp]; c_auto
  | rewire d ups => simp only [applyOp]; c_auto
  | workOrder m tgt tag info =>
    simp only [applyOp]
    c_auto
  | setParams tgt tag dur need cost => simp only [applyOp]; c_auto
  | regObj s obj ovr => simp only [applyOp]; c_auto
  | unregObj s obj => simp only [applyOp]; c_auto
  | setVar k v => simp only [applyOp]; c_auto
  | addSensor c s => simp only [applyOp]; c_auto
  | create spec =>
    simp only [applyOp]
    exact C_addAsset w spec (opC_create hop)

theorem C_applyOps (w : World) (ops : List Op) (h : ∀ op ∈ ops, opC op = true) :
    C w (w.applyOps ops) := by
  unfold applyOps
  induction ops generalizing w with
  | nil => exact C.refl _
  | cons op ops ih =>
    rw [List.foldl_cons]
    refine C.trans ?_ (ih _ (fun o ho => h o (List.mem_cons_of_mem _ ho)))
    exact (C_applyOp w op (h op List.mem_cons_self)).trans_KK (KK_addRes _ _)

theorem C_runScript (w : World) (k : Nat) : C w (w.runScript k) := by
  refine C.with_P fun hp => ?_
  unfold runScript
  refine C_applyOps _ _ ?_
  intro op hop
  obtain ⟨s, hs, hm⟩ := mem_getD_nil hop
  exact hp.scr s hs op hm

macro_rules | `(tactic| c_step) => `(tactic| with_reducible apply C.trans (h2 := C_runScript _ _))

/-! ### maintainer events -/

theorem C_hookStart (w : World) (tgt : Nat) (tag : Int) : C w (w.hookStart tgt tag) := by
  unfold hookStart
  dsimp only
  c_auto

theorem C_hookEnd (w : World) (tgt : Nat) (tag : Int) : C w (w.hookEnd tgt tag) := by
  unfold hookEnd
  dsimp only
  c_auto

macro_rules | `(tactic| c_step) => `(tactic| with_reducible apply C.trans (h2 := C_hookStart _ _ _))
macro_rules | `(tactic| c_step) => `(tactic| with_reducible apply C.trans (h2 := C_hookEnd _ _ _))

theorem C_startWork (w : World) (m seq : Nat) : C w (w.startWork m seq) := by
  unfold startWork
  dsimp only
  c_auto

theorem C_finishWork (w : World) (m seq : Nat) : C w (w.finishWork m seq) := by
  unfold finishWork
  dsimp only
  c_auto

theorem C_periodicSense (w : World) (s : Nat) : C w (w.periodicSense s) := by
  unfold periodicSense
  dsimp only
  c_auto

/-! ### events -/

/-- Every action other than the availability check. -/
theorem C_exec (w : World) (a : Action) (ha : a ≠ .rmCheck) : C w (w.exec a) := by
  unfold exec
  split
  · exact C.refl _
  · exact C_runScript _ _
  · exact C.floor.finishCycle _ _
  · exact C.floor.passPart _ _
  · exact C.floor.failDev _ _
  · exact C.floor.releaseIfIdle _ _
  · exact absurd rfl ha
  · exact C_startWork _ _ _
  · exact C_finishWork _ _ _
  · exact C_schedUpdate _ _ _
  · exact C_periodicSense _ _
  · exact C.of_KK (KK_setErr _ _)

theorem C_simulateInit (w : World) : C w w.simulateInit := by
  unfold simulateInit
  split
  · exact C.refl _
  · have h := RmC.apply w.rm .init (fun _ _ h => by cases h)
    rcases hr : w.rm.init with ⟨rm, recs, chk⟩
    have h' : RmC w.rm rm chk := by
      have e1 : (w.rm.apply .init).1 = rm := by
        show w.rm.init.1 = rm; rw [hr]
      have e2 : (w.rm.apply .init).2.2 = chk := by
        show w.rm.init.2.2 = chk; rw [hr]
      rw [e1, e2] at h; exact h
    dsimp only
    c_step
    c_step
    exact C_rmStep w rm recs chk h'

end C10W
end SimProc
