/-
C01W — reachable worlds, histories of executed events, `run(d)` in the closed world, cancelled
events.  Everything here is a consequence of `Via` (Proofs/C01WFloor, C01WWorld) and of the
environment theorems of Props/C01 and Props/C07.
-/
import SimProc.Proofs.C01WWorld

namespace SimProc
namespace C01W
open World

/-! ### outputs of operation lists -/

/-- The events taken from the queue, in a list of outputs (in order). -/
def popped : List EnvOut → List Event
  | [] => []
  | .ran e :: os => e :: popped os
  | .skipped e :: os => e :: popped os
  | .ok :: os => popped os
  | .rejected :: os => popped os
  | .empty :: os => popped os

theorem popped_append (a b : List EnvOut) : popped (a ++ b) = popped a ++ popped b := by
  induction a with
  | nil => rfl
  | cons o os ih => cases o <;> simp [popped, ih]

theorem poppedUids_eq (os : List EnvOut) : C01.poppedUids os = (popped os).map Event.uid := by
  induction os with
  | nil => rfl
  | cons o os ih => cases o <;> simp [popped, C01.poppedUids, ih]

theorem popped_cons_nonpop {o : EnvOut} (os : List EnvOut) (h : o.isPop = false) :
    popped (o :: os) = popped os := by
  cases o <;> simp_all [popped, EnvOut.isPop]

theorem popped_lib (ar : Arith) (s : Env) (l : List EnvOp) (h : ∀ op ∈ l, LibOp op) :
    popped (s.applyAll ar l).2 = [] := by
  induction l generalizing s with
  | nil => rfl
  | cons op l ih =>
    rw [applyAll_cons_snd,
      popped_cons_nonpop _ (C01.apply_non_step ar s op (h op List.mem_cons_self).ne_step).1]
    exact ih _ (fun o ho => h o (List.mem_cons_of_mem _ ho))

theorem guarded_lib (ar : Arith) (s : Env) (l : List EnvOp) (h : ∀ op ∈ l, LibOp op) :
    C01.Guarded ar s l := by
  induction l generalizing s with
  | nil => exact True.intro
  | cons op l ih =>
    refine ⟨(h op List.mem_cons_self).userOp, fun e => absurd e (h op List.mem_cons_self).ne_step,
      ih _ (fun o ho => h o (List.mem_cons_of_mem _ ho))⟩

/-! ### what library operations keep -/

theorem lib_apply_terminated (s : Env) {op : EnvOp} (h : LibOp op) :
    (s.apply Arith.exact op).1.terminated = s.terminated := by
  cases op with
  | sched t a act p w =>
    simp only [Env.apply]
    cases hs : s.schedule t a act p w with
    | none => rfl
    | some s' => obtain ⟨_, rfl⟩ := Env.schedule_some.mp hs; rfl
  | pause a => rfl
  | unpause a => rfl
  | cancel a => rfl
  | step => exact False.elim h
  | runBegin d w => exact False.elim h

theorem lib_apply_userState (s : Env) {op : EnvOp} (h : LibOp op) (hu : C01.UserState s) :
    C01.UserState (s.apply Arith.exact op).1 := by
  cases op with
  | step => exact False.elim h
  | runBegin d w => exact False.elim h
  | sched t a act p w =>
    simp only [Env.apply]
    cases hs : s.schedule t a act p w with
    | none => exact hu
    | some s' =>
      obtain ⟨_, rfl⟩ := Env.schedule_some.mp hs
      intro e he
      simp only [List.mem_append] at he
      rcases he with he | he
      · rcases insort_mem.mp he with rfl | he
        · exact h
        · exact hu e (by simp [he])
      · exact hu e (by simp [he])
  | pause a =>
    intro e he
    simp only [Env.apply, Env.pause, List.mem_append, List.mem_filter, List.mem_map] at he
    rcases he with ⟨he, _⟩ | he | ⟨e0, ⟨he0, _⟩, rfl⟩
    · exact hu e (by simp [he])
    · exact hu e (by simp [he])
    · exact hu e0 (by simp [he0])
  | unpause a =>
    intro e he
    simp only [Env.apply, Env.unpause, foldl_insort_map, List.mem_append, List.mem_filter] at he
    rcases he with he | ⟨he, _⟩
    · rcases insortAll_mem.mp he with he | he
      · rcases List.mem_map.mp he with ⟨e0, he0, rfl⟩
        exact hu e0 (by simp [(List.mem_filter.mp he0).1])
      · exact hu e (by simp [he])
    · exact hu e (by simp [he])
  | cancel a =>
    intro e he
    simp only [Env.apply, Env.cancel, ← List.map_append] at he
    rcases List.mem_map.mp he with ⟨e0, he0, rfl⟩
    simpa using hu e0 he0

theorem Refines.now {s s' : Env} (h : Refines s s') : s'.now = s.now :=
  RefinesBy.now (P := LibOp) (fun _ => LibOp.ne_step) h

theorem Refines.terminated {s s' : Env} (h : Refines s s') : s'.terminated = s.terminated := by
  obtain ⟨l, hl, rfl⟩ := h
  induction l generalizing s with
  | nil => rfl
  | cons op l ih =>
    rw [applyAll_cons_fst, ih (fun o ho => hl o (List.mem_cons_of_mem _ ho)),
      lib_apply_terminated _ (hl op List.mem_cons_self)]

theorem Refines.userState {s s' : Env} (h : Refines s s') (hu : C01.UserState s) :
    C01.UserState s' := by
  obtain ⟨l, hl, rfl⟩ := h
  induction l generalizing s with
  | nil => exact hu
  | cons op l ih =>
    rw [applyAll_cons_fst]
    exact ih (lib_apply_userState _ (hl op List.mem_cons_self) hu)
      (fun o ho => hl o (List.mem_cons_of_mem _ ho))

theorem Refines.inv {s s' : Env} (h : Refines s s') (hi : C01.Inv s) : C01.Inv s' :=
  RefinesBy.inv (P := LibOp) h hi

theorem Refines.pinv {s s' : Env} (h : Refines s s') (hi : C01.Inv s) (hp : C07.PInv s) :
    C07.PInv s' := by
  obtain ⟨l, _, rfl⟩ := h
  exact C07.pinv_applyAll _ hi hp

theorem Refines.runInv {s s' : Env} {T : Int} {tu : Nat} (h : Refines s s')
    (hr : C01.RunInv T tu s) : C01.RunInv T tu s' := by
  obtain ⟨l, hl, rfl⟩ := h
  exact C01.runInv_applyAll _ _ hr (guarded_lib _ _ _ hl)

theorem userState_step {s s' : Env} {e : Event} (hs : s.step = some (e, s'))
    (hu : C01.UserState s) : C01.UserState s' := by
  obtain ⟨es, heq, rfl⟩ := Env.step_some.mp hs
  intro e' he'
  refine hu e' ?_
  rw [heq]
  simp only [List.mem_append] at he' ⊢
  rcases he' with he' | he'
  · left; exact List.mem_cons_of_mem _ he'
  · right; exact he'

/-! ### histories -/

/-- The events popped by `runLoop`, in order. -/
def runEvents : Nat → World → List Event
  | 0, _ => []
  | f + 1, w =>
    if w.env.running then
      match w.step with
      | none => []
      | some (e, w') => e :: runEvents f w'
    else []

/-- What holds of a reachable world `w` with history `h` (the events popped so far):
the closed-world invariant; the environment is the empty environment after some list of
operations whose popped events are exactly `h`; the history is in nondecreasing time order and
lies in the past. -/
structure Hist (w : World) (h : List Event) : Prop where
  good : Good w
  ops : ∃ ops : List EnvOp, w.env = (({} : Env).applyAll Arith.exact ops).1 ∧
    popped (({} : Env).applyAll Arith.exact ops).2 = h
  sorted : h.Pairwise (fun a b => a.time ≤ b.time)
  past : ∀ e ∈ h, e.time ≤ w.now

theorem Hist.inv {w : World} {h : List Event} (hh : Hist w h) : C01.Inv w.env := by
  obtain ⟨ops, he, _⟩ := hh.ops
  rw [he]; exact C01.inv_reachable _ _

theorem Hist.pinv {w : World} {h : List Event} (hh : Hist w h) : C07.PInv w.env := by
  obtain ⟨ops, he, _⟩ := hh.ops
  rw [he]; exact C07.pinv_reachable _

theorem Hist.nodup {w : World} {h : List Event} (hh : Hist w h) : (h.map Event.uid).Nodup := by
  obtain ⟨ops, _, hp⟩ := hh.ops
  rw [← hp, ← poppedUids_eq]
  exact C01.popped_nodup _ _ C01.inv_init

theorem Hist.via {w w' : World} {h : List Event} (hh : Hist w h) (hv : Via w w') : Hist w' h := by
  obtain ⟨g', l, hl, he⟩ := hv hh.good
  obtain ⟨ops, ho, hp⟩ := hh.ops
  have hn : w'.now = w.now := Refines.now ⟨l, hl, he⟩
  refine ⟨g', ⟨ops ++ l, ?_, ?_⟩, hh.sorted, ?_⟩
  · rw [applyAll_append_fst, ← ho, he]
  · rw [applyAll_append_snd, popped_append, hp, popped_lib _ _ _ hl, List.append_nil]
  · intro e hm; rw [hn]; exact hh.past e hm

theorem Hist.setErr {w : World} {h : List Event} (hh : Hist w h) (m : String) :
    Hist (w.setErr m) h := hh.via (Via.of_EK (EK_setErr _ _))

theorem Hist.step {w w' : World} {h : List Event} {e : Event} (hh : Hist w h)
    (hs : w.step = some (e, w')) : Hist w' (h ++ [e]) := by
  obtain ⟨env1, hs1, hv, _, _⟩ := step_via hs
  refine Hist.via ?_ hv
  obtain ⟨ops, ho, hp⟩ := hh.ops
  have hc := C01.step_clock hh.inv hs1
  refine ⟨hh.good.with_env _, ⟨ops ++ [.step], ?_, ?_⟩, ?_, ?_⟩
  · rw [applyAll_append_fst, ← ho, applyAll_one, apply_step_some _ hs1]
  · rw [applyAll_append_snd, popped_append, hp, ← ho]
    show h ++ popped [(w.env.apply Arith.exact .step).2] = h ++ [e]
    rw [apply_step_some _ hs1]
    dsimp only
    split <;> rfl
  · rw [List.pairwise_append]
    refine ⟨hh.sorted, List.pairwise_singleton _ _, ?_⟩
    intro a ha b hb
    have hb' : b = e := by simpa using hb
    subst hb'
    have := hh.past a ha
    have h2 : w.now ≤ env1.now := hc.2
    have h3 : env1.now = b.time := hc.1
    omega
  · intro a ha
    show a.time ≤ env1.now
    rw [hc.1]
    rcases List.mem_append.1 ha with ha | ha
    · have := hh.past a ha
      have h2 : w.now ≤ env1.now := hc.2
      have h3 : env1.now = e.time := hc.1
      omega
    · have : a = e := by simpa using ha
      subst this; exact Int.le_refl _

theorem Hist.runBegin {w : World} {h : List Event} (hh : Hist w h) (d : Int) :
    Hist (w.runBegin d).1 h := by
  obtain ⟨ops, ho, hp⟩ := hh.ops
  have he := (runBegin_env w d).1
  generalize hwt : weightOf w.seed w.wmod (w.env.now + d) (-1) terminateAct pTerminate = wt at he
  have hne : EnvOp.runBegin d wt ≠ .step := by intro h; cases h
  have hn : (w.runBegin d).1.now = w.now := by
    show (w.runBegin d).1.env.now = w.env.now
    rw [he, C01.now_apply_ne_step _ _ _ hne]
  refine ⟨runBegin_good w d hh.good, ⟨ops ++ [.runBegin d wt], ?_, ?_⟩, hh.sorted, ?_⟩
  · rw [applyAll_append_fst, ← ho, applyAll_one, he]
  · rw [applyAll_append_snd, popped_append, hp, ← ho]
    show h ++ popped [(w.env.apply Arith.exact (.runBegin d wt)).2] = h
    rw [popped_cons_nonpop _ (C01.apply_non_step _ _ _ hne).1]
    simp [popped]
  · intro e hm; rw [hn]; exact hh.past e hm

theorem Hist.runLoop {w : World} {h : List Event} (hh : Hist w h) (n : Nat) :
    Hist (runLoop n w) (h ++ runEvents n w) := by
  induction n generalizing w h with
  | zero =>
    rw [World.runLoop, runEvents, List.append_nil]
    exact hh.setErr _
  | succ n ih =>
    rw [World.runLoop, runEvents]
    by_cases hr : w.env.running = true
    · rw [if_pos hr, if_pos hr]
      cases hs : w.step with
      | none => simpa using hh
      | some q =>
        obtain ⟨e, w'⟩ := q
        dsimp only
        have := ih (hh.step hs)
        rwa [List.append_assoc] at this
    · rw [if_neg hr, if_neg hr, List.append_nil]
      exact hh

/-! ### reachable worlds -/

/-- Worlds reachable from an initial world with an empty event queue (and any scripts, as long
as they issue only user operations) by constructing assets, external operations, re-wiring,
`System.simulate`'s initialisation, `Environment.run`'s beginning and loop, and single steps;
indexed by the history of the events popped so far. -/
inductive Reach : World → List Event → Prop
  | init (w : World) : w.env = {} → Good w → Reach w []
  | addAsset {w h} (spec : AssetSpec) : Reach w h → Reach (w.addAsset spec) h
  | applyOp {w h} (op : Op) : Reach w h → opUser op = true → Reach (w.applyOp op).1 h
  | rewire {w h} (x : Nat) (ups : List Nat) : Reach w h → Reach (w.rewire x ups) h
  | simulateInit {w h} : Reach w h → Reach w.simulateInit h
  | runBegin {w h} (d : Int) : Reach w h → Reach (w.runBegin d).1 h
  | step {w h w' e} : Reach w h → w.step = some (e, w') → Reach w' (h ++ [e])
  | runLoop {w h} (n : Nat) : Reach w h → Reach (World.runLoop n w) (h ++ runEvents n w)

theorem hist_init (w : World) (he : w.env = {}) (g : Good w) : Hist w [] :=
  ⟨g, ⟨[], by rw [he]; rfl, rfl⟩, List.Pairwise.nil, by intro e h; cases h⟩

theorem Reach.hist {w : World} {h : List Event} (hr : Reach w h) : Hist w h := by
  induction hr with
  | init w he g => exact hist_init w he g
  | addAsset spec _ ih => exact ih.via (Via_addAsset _ _)
  | applyOp op _ hu ih => exact ih.via (Via_applyOp _ _ hu)
  | rewire x ups _ ih => exact ih.via (Via.floor.rewire _ _ _)
  | simulateInit _ ih => exact ih.via (Via_simulateInit _)
  | runBegin d _ ih => exact ih.runBegin d
  | step _ hs ih => exact ih.step hs
  | runLoop n _ ih => exact ih.runLoop n

/-- Convenient form of the `step` constructor for concrete worlds. -/
theorem Reach.step' {w : World} {h : List Event} (hr : Reach w h) (hs : w.step.isSome = true) :
    Reach (w.step.get hs).2 (h ++ [(w.step.get hs).1]) :=
  Reach.step hr (Option.some_get hs).symm

/-! ### a step, concretely -/

theorem step_now {w w' : World} {e : Event} (hi : C01.Inv w.env) (g : Good w)
    (hs : w.step = some (e, w')) : w'.now = e.time ∧ w.now ≤ w'.now := by
  obtain ⟨env1, hs1, hv, _, _⟩ := step_via hs
  have hc := C01.step_clock hi hs1
  have hn : w'.env.now = env1.now := Refines.now (hv (g.with_env _)).2
  exact ⟨hn.trans hc.1, by show w.env.now ≤ w'.env.now; rw [hn]; exact hc.2⟩

theorem runLoop_now {w : World} {h : List Event} (hh : Hist w h) (n : Nat) :
    w.now ≤ (World.runLoop n w).now := by
  induction n generalizing w h with
  | zero =>
    rw [World.runLoop]
    show w.env.now ≤ (w.setErr "fuel").env.now
    rw [EK_env (EK_setErr w "fuel")]
    exact Int.le_refl _
  | succ n ih =>
    rw [World.runLoop]
    split
    · split
      · exact Int.le_refl _
      · rename_i e w' hs
        exact Int.le_trans (step_now hh.inv hh.good hs).2 (ih (hh.step hs))
    · exact Int.le_refl _

/-! ### `run(d)` -/

theorem setErr_isSome (w : World) (m : String) : (w.setErr m).error.isSome = true := by
  unfold World.setErr
  split
  · rename_i h; simp [h]
  · rfl

theorem runLoop_not_running {w : World} (h : w.env.running = false) (n : Nat) :
    (World.runLoop n w).env = w.env := by
  cases n with
  | zero => rw [World.runLoop]; exact EK_env (EK_setErr _ _)
  | succ n => rw [World.runLoop]; simp [h]

theorem step_ne_none_of_running {w : World} (h : w.env.running = true) : w.step ≠ none := by
  intro hs
  unfold World.step at hs
  split at hs
  · rename_i hn
    unfold Env.step at hn
    unfold Env.running at h
    split at hn
    · rename_i he; simp [he] at h
    · cases hn
  · cases hs

theorem running_of_runInv {T : Int} {tu : Nat} {s : Env} (h : C01.RunInv T tu s)
    (ht : s.terminated = false) : s.running = true := by
  obtain ⟨⟨e, he, _⟩, _⟩ := h.running ht
  unfold Env.running
  cases hev : s.events with
  | nil => rw [hev] at he; cases he
  | cons a l => simp [ht]

/-- The run loop under the run invariant. -/
theorem runLoop_run {T : Int} {tu : Nat} (n : Nat) : ∀ (w : World), Good w → C01.RunInv T tu w.env →
    Good (World.runLoop n w) ∧ C01.RunInv T tu (World.runLoop n w).env ∧
    (∀ e ∈ runEvents n w, e.time ≤ T) ∧
    (w.env.terminated = false → (World.runLoop n w).env.terminated = true →
      ∀ e' ∈ (World.runLoop n w).env.events, T < e'.time) ∧
    ((World.runLoop n w).env.terminated = false → (World.runLoop n w).error.isSome = true) := by
  induction n with
  | zero =>
    intro w g hr
    rw [World.runLoop, runEvents]
    have he : (w.setErr "fuel").env = w.env := EK_env (EK_setErr _ _)
    refine ⟨g.of_EK (EK_setErr _ _), (by rw [he]; exact hr), (by intro e h; cases h), ?_,
      fun _ => setErr_isSome _ _⟩
    intro h1 h2; rw [he, h1] at h2; cases h2
  | succ n ih =>
    intro w g hr
    by_cases hrun : w.env.running = true
    · have hterm : w.env.terminated = false := by
        unfold Env.running at hrun
        simpa using (Bool.and_eq_true_iff.mp hrun).2
      cases hs : w.step with
      | none => exact absurd hs (step_ne_none_of_running hrun)
      | some q =>
        obtain ⟨e, w'⟩ := q
        have hL : World.runLoop (n + 1) w = World.runLoop n w' := by
          rw [World.runLoop, if_pos hrun, hs]
        have hE : runEvents (n + 1) w = e :: runEvents n w' := by
          rw [runEvents, if_pos hrun, hs]
        obtain ⟨env1, hs1, hv, _, hlive⟩ := step_via hs
        have hr1 : C01.RunInv T tu env1 := by
          have := C01.runInv_apply Arith.exact .step hr True.intro (fun _ => hterm)
          rwa [apply_step_some _ hs1] at this
        have hst := C01.run_step hr hterm hs1
        obtain ⟨g', href⟩ := hv (g.with_env _)
        have hr' : C01.RunInv T tu w'.env := href.runInv hr1
        obtain ⟨i1, i2, i3, i4, i5⟩ := ih w' g' hr'
        rw [hL, hE]
        refine ⟨i1, i2, ?_, ?_, i5⟩
        · intro a ha
          rcases List.mem_cons.1 ha with rfl | ha
          · exact hst.1
          · exact i3 a ha
        · intro _ hfin
          by_cases ht1 : env1.terminated = true
          · -- the terminating step: its action is the empty `terminate` action
            have hflag : (e.live && e.act == terminateAct) = true := by
              obtain ⟨es, _, rfl⟩ := Env.step_some.mp hs1
              simpa [hterm] using ht1
            have hl : e.live = true := (Bool.and_eq_true_iff.mp hflag).1
            have hact : e.act = terminateAct := by
              simpa using (Bool.and_eq_true_iff.mp hflag).2
            have hw' : w' = { w with env := env1 } := by
              rw [hlive hl, hact]; rfl
            have hnr : w'.env.running = false := by
              rw [hw']; unfold Env.running; simp [ht1]
            rw [runLoop_not_running hnr, hw']
            exact hst.2 ht1
          · have ht1' : env1.terminated = false := by simpa using ht1
            have : w'.env.terminated = false := by rw [href.terminated]; exact ht1'
            exact i4 this hfin
    · have hL : World.runLoop (n + 1) w = w := by rw [World.runLoop, if_neg hrun]
      have hE : runEvents (n + 1) w = [] := by rw [runEvents, if_neg hrun]
      rw [hL, hE]
      refine ⟨g, hr, (by intro e h; cases h), ?_, ?_⟩
      · intro h1 h2; rw [h1] at h2; cases h2
      · intro ht; exact absurd (running_of_runInv hr ht) hrun

theorem runBegin_ok {w w1 : World} {d : Int} (hb : w.runBegin d = (w1, .ok)) :
    ∃ wt, w.env.runBegin Arith.exact d wt = some w1.env ∧ EK w1 = (w1.env, (EK w).2) := by
  unfold World.runBegin at hb
  dsimp only at hb
  refine ⟨weightOf w.seed w.wmod (w.env.now + d) (-1) terminateAct pTerminate, ?_⟩
  split at hb
  · cases hb
  · rename_i e he
    cases hb
    exact ⟨he, rfl⟩

theorem runBegin_terminated {ar : Arith} {s s' : Env} {d : Int} {wt : Nat}
    (h : s.runBegin ar d wt = some s') : s'.terminated = false := by
  unfold Env.runBegin at h
  obtain ⟨_, rfl⟩ := Env.schedule_some.mp h
  rfl

/-- **`run(d)` in the closed world**, from a state of the invariant without stale terminate
events. -/
theorem run_world {w0 w1 : World} {d : Int} (g : Good w0) (hi : C01.Inv w0.env)
    (hu : C01.UserState w0.env) (hb : w0.runBegin d = (w1, .ok)) (n : Nat) :
    let T := w0.now + d
    let w2 := World.runLoop n w1
    Good w2 ∧ C01.RunInv T w0.env.nextUid w2.env ∧
    (∀ e ∈ runEvents n w1, e.time ≤ T) ∧
    (w2.env.terminated = true → w2.now = T ∧ ∀ e ∈ w2.env.events, T < e.time) ∧
    (w2.env.terminated = false → w2.now ≤ T ∧ w2.error.isSome = true) := by
  intro T w2
  obtain ⟨wt, hb1, hek⟩ := runBegin_ok hb
  have g1 : Good w1 := by
    refine ⟨?_, ?_⟩
    · unfold AidOK
      rw [show w1.devs.map (·.aid) = w0.devs.map (·.aid) from congrArg (fun q => q.2.1) hek]
      exact g.aid
    · unfold ScriptsUser
      rw [show w1.scripts = w0.scripts from congrArg (fun q => q.2.2) hek]
      exact g.scr
  have hr1 : C01.RunInv T w0.env.nextUid w1.env := C01.runInv_begin Arith.exact hi hu hb1
  have ht1 : w1.env.terminated = false := runBegin_terminated hb1
  obtain ⟨i1, i2, i3, i4, i5⟩ := runLoop_run n w1 g1 hr1
  refine ⟨i1, i2, i3, ?_, ?_⟩
  · intro ht
    exact ⟨(i2.done ht).1, i4 ht1 ht⟩
  · intro ht
    exact ⟨(i2.running ht).2, i5 ht⟩

/-- After a completed run no terminate event is left: the next run starts clean. -/
theorem userState_of_done {T : Int} {tu : Nat} {s : Env} (h : C01.RunInv T tu s)
    (ht : s.terminated = true) : C01.UserState s := by
  intro e he
  have hne : e.act ≠ terminateAct := by
    simp only [List.mem_append] at he
    rcases he with he' | he'
    · exact (h.done ht).2 e he'
    · exact h.pausedUser e he'
  exact ⟨hne, h.user e he hne⟩

/-- Worlds reachable when every run is carried through to its end (`runBegin` is only used
together with a `runLoop` that stops because the run was terminated). -/
inductive ReachI : World → List Event → Prop
  | init (w : World) : w.env = {} → Good w → ReachI w []
  | addAsset {w h} (spec : AssetSpec) : ReachI w h → ReachI (w.addAsset spec) h
  | applyOp {w h} (op : Op) : ReachI w h → opUser op = true → ReachI (w.applyOp op).1 h
  | rewire {w h} (x : Nat) (ups : List Nat) : ReachI w h → ReachI (w.rewire x ups) h
  | simulateInit {w h} : ReachI w h → ReachI w.simulateInit h
  | step {w h w' e} : ReachI w h → w.step = some (e, w') → ReachI w' (h ++ [e])
  | run {w h w1} (d : Int) (n : Nat) : ReachI w h → w.runBegin d = (w1, .ok) →
      (World.runLoop n w1).env.terminated = true →
      ReachI (World.runLoop n w1) (h ++ runEvents n w1)

theorem userState_via {w w' : World} (g : Good w) (hv : Via w w') (hu : C01.UserState w.env) :
    C01.UserState w'.env := (hv g).2.userState hu

theorem ReachI.spec {w : World} {h : List Event} (hr : ReachI w h) :
    Reach w h ∧ C01.UserState w.env := by
  induction hr with
  | init w he g =>
    refine ⟨Reach.init w he g, ?_⟩
    rw [he]; intro e h; cases h
  | addAsset spec _ ih =>
    exact ⟨ih.1.addAsset spec, userState_via ih.1.hist.good (Via_addAsset _ _) ih.2⟩
  | applyOp op _ hu ih =>
    exact ⟨ih.1.applyOp op hu, userState_via ih.1.hist.good (Via_applyOp _ _ hu) ih.2⟩
  | rewire x ups _ ih =>
    exact ⟨ih.1.rewire x ups, userState_via ih.1.hist.good (Via.floor.rewire _ _ _) ih.2⟩
  | simulateInit _ ih =>
    exact ⟨ih.1.simulateInit, userState_via ih.1.hist.good (Via_simulateInit _) ih.2⟩
  | step _ hs ih =>
    refine ⟨ih.1.step hs, ?_⟩
    obtain ⟨env1, hs1, hv, _, _⟩ := step_via hs
    exact (hv (ih.1.hist.good.with_env _)).2.userState (userState_step hs1 ih.2)
  | @run w h w1 d n _ hb ht ih =>
    have hw1 : w1 = (w.runBegin d).1 := by rw [hb]
    refine ⟨?_, ?_⟩
    · rw [hw1]; exact (ih.1.runBegin d).runLoop n
    · have := run_world ih.1.hist.good ih.1.hist.inv ih.2 hb n
      exact userState_of_done this.2.1 ht

/-! ### the run loop as a guarded operation list (the formulation of `C01.run_spec`) -/

theorem guarded_append (ar : Arith) (s : Env) (l1 l2 : List EnvOp) (h1 : C01.Guarded ar s l1)
    (h2 : C01.Guarded ar (s.applyAll ar l1).1 l2) : C01.Guarded ar s (l1 ++ l2) := by
  induction l1 generalizing s with
  | nil => exact h2
  | cons op l1 ih => exact ⟨h1.1, h1.2.1, ih _ h1.2.2 h2⟩

/-- `runLoop` is a `C01.Guarded` list of environment operations: `step`s taken only while the run
is not terminated, interleaved with the library operations of the executed actions; its popped
events are `runEvents`. -/
theorem runLoop_guarded (n : Nat) : ∀ (w : World), Good w →
    ∃ ops : List EnvOp, C01.Guarded Arith.exact w.env ops ∧
      (World.runLoop n w).env = (w.env.applyAll Arith.exact ops).1 ∧
      popped (w.env.applyAll Arith.exact ops).2 = runEvents n w ∧ Good (World.runLoop n w) := by
  induction n with
  | zero =>
    intro w g
    refine ⟨[], True.intro, ?_, rfl, ?_⟩
    · rw [World.runLoop]; exact EK_env (EK_setErr _ _)
    · rw [World.runLoop]; exact g.of_EK (EK_setErr _ _)
  | succ n ih =>
    intro w g
    by_cases hrun : w.env.running = true
    · have hterm : w.env.terminated = false := by
        unfold Env.running at hrun
        simpa using (Bool.and_eq_true_iff.mp hrun).2
      cases hs : w.step with
      | none => exact absurd hs (step_ne_none_of_running hrun)
      | some q =>
        obtain ⟨e, w'⟩ := q
        have hL : World.runLoop (n + 1) w = World.runLoop n w' := by
          rw [World.runLoop, if_pos hrun, hs]
        have hE : runEvents (n + 1) w = e :: runEvents n w' := by
          rw [runEvents, if_pos hrun, hs]
        obtain ⟨env1, hs1, hv, _, _⟩ := step_via hs
        obtain ⟨g', l, hl, he⟩ := hv (g.with_env _)
        obtain ⟨ops', hg', he', hp', gfin⟩ := ih w' g'
        have hap : w.env.apply Arith.exact .step = (env1, if e.live then .ran e else .skipped e) :=
          apply_step_some _ hs1
        have he1 : (env1.applyAll Arith.exact l).1 = w'.env := he.symm
        refine ⟨.step :: (l ++ ops'), ⟨True.intro, fun _ => hterm, ?_⟩, ?_, ?_, hL ▸ gfin⟩
        · rw [hap]
          refine guarded_append _ _ _ _ (guarded_lib _ _ _ hl) ?_
          rw [he1]; exact hg'
        · rw [hL, applyAll_cons_fst, hap, applyAll_append_fst, he1]; exact he'
        · rw [hE, applyAll_cons_snd, hap, applyAll_append_snd, he1]
          dsimp only
          have hpl : popped (env1.applyAll Arith.exact l).2 = [] := popped_lib _ _ _ hl
          split <;> simp [popped, popped_append, hpl, hp']
    · refine ⟨[], True.intro, ?_, ?_, ?_⟩
      · rw [World.runLoop, if_neg hrun]; rfl
      · rw [runEvents, if_neg hrun]; rfl
      · rw [World.runLoop, if_neg hrun]; exact g

/-! ### cancelled events stay cancelled, over operation lists -/

theorem known_apply (s : Env) (op : EnvOp) (h : C01.Inv s) :
    s.nextUid ≤ (s.apply Arith.exact op).1.nextUid ∧
      ∀ u ∈ C01.known (s.apply Arith.exact op).1, u ∈ C01.known s ∨ s.nextUid ≤ u := by
  by_cases hst : op = .step
  · subst hst
    cases hs : s.step with
    | none =>
      rw [apply_step_none _ hs]
      exact ⟨Nat.le_refl _, fun u hu => Or.inl hu⟩
    | some q =>
      obtain ⟨e, s'⟩ := q
      rw [apply_step_some _ hs]
      have := C01.step_uid h hs
      exact ⟨Nat.le_of_eq this.2.2.1.symm, fun u hu => Or.inl (this.2.2.2 u hu)⟩
  · have := C01.apply_non_step Arith.exact s op hst
    exact ⟨this.2.1, this.2.2⟩

theorem known_applyAll (s : Env) (ops : List EnvOp) (h : C01.Inv s) :
    s.nextUid ≤ (s.applyAll Arith.exact ops).1.nextUid ∧
      ∀ u ∈ C01.known (s.applyAll Arith.exact ops).1, u ∈ C01.known s ∨ s.nextUid ≤ u := by
  induction ops generalizing s with
  | nil => exact ⟨Nat.le_refl _, fun u hu => Or.inl hu⟩
  | cons op ops ih =>
    rw [applyAll_cons_fst]
    have h1 := known_apply s op h
    have h2 := ih _ (C01.inv_apply Arith.exact op h)
    refine ⟨Nat.le_trans h1.1 h2.1, ?_⟩
    intro u hu
    rcases h2.2 u hu with hk | hk
    · exact h1.2 u hk
    · right; omega

/-- Once cancelled, always cancelled — over any list of operations. -/
theorem cancelled_stays_applyAll (s : Env) (ops : List EnvOp) (h : C01.Inv s) :
    ∀ e ∈ (s.applyAll Arith.exact ops).1.events ++ (s.applyAll Arith.exact ops).1.paused,
      e.uid ∈ C07.cancelledUids s → e.cancelled = true := by
  induction ops generalizing s with
  | nil =>
    intro e he hu
    unfold C07.cancelledUids at hu
    obtain ⟨e0, he0, hue0⟩ := List.mem_map.mp hu
    obtain ⟨he0m, he0c⟩ := List.mem_filter.mp he0
    have : e0 = e := eq_of_nodup_map Event.uid h.uids he0m he hue0
    subst this; exact he0c
  | cons op ops ih =>
    intro e he hu
    rw [applyAll_cons_fst] at he
    have hi1 := C01.inv_apply Arith.exact op h
    refine ih _ hi1 e he ?_
    -- the uid is still known after `op`, and still cancelled there
    have hk : e.uid ∈ C01.known ((s.apply Arith.exact op).1.applyAll Arith.exact ops).1 :=
      List.mem_map.mpr ⟨e, he, rfl⟩
    have hlt : e.uid < s.nextUid := by
      unfold C07.cancelledUids at hu
      obtain ⟨e0, he0, hue0⟩ := List.mem_map.mp hu
      have := h.fresh e0 (List.mem_filter.mp he0).1
      omega
    have h1 := known_apply s op h
    have hk1 : e.uid ∈ C01.known (s.apply Arith.exact op).1 := by
      rcases (known_applyAll _ ops hi1).2 _ hk with hk' | hk'
      · exact hk'
      · omega
    obtain ⟨e1, he1, hu1⟩ := List.mem_map.mp hk1
    have hc1 : e1.cancelled = true :=
      C07.cancelled_stays Arith.exact s op h e1 he1 (by rw [hu1]; exact hu)
    unfold C07.cancelledUids
    exact List.mem_map.mpr ⟨e1, List.mem_filter.mpr ⟨he1, hc1⟩, hu1⟩

theorem Refines.cancelled_stays {s s' : Env} (h : Refines s s') (hi : C01.Inv s) :
    ∀ e ∈ s'.events ++ s'.paused, e.uid ∈ C07.cancelledUids s → e.cancelled = true := by
  obtain ⟨l, _, rfl⟩ := h
  exact cancelled_stays_applyAll s l hi

end C01W
end SimProc
