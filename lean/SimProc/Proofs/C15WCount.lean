/-
C15W — machinery, part 6: without batches (no device is set up to create them, no part is one) a
sink's counter is the number of its `received_part` records.
-/
import SimProc.Proofs.C15WReach

namespace SimProc
namespace C15W
open World FloorCoreL C15 RM
variable {ph : Phase}
set_option linter.unusedSimpArgs false

/-! ### 2'. without batches, a sink's counter is the number of its `received_part` records -/

def isReceivedBy (x : Nat) : Rec → Bool
  | .received d _ _ _ _ => d == x
  | _ => false

def countRecv (recs : List Rec) (x : Nat) : Nat := (recs.filter (isReceivedBy x)).length

theorem countRecv_append (l₁ l₂ : List Rec) (x : Nat) :
    countRecv (l₁ ++ l₂) x = countRecv l₁ x + countRecv l₂ x := by
  simp [countRecv, List.filter_append]

theorem countRecv_stamp (t : Int) (recs : List ResRec) (x : Nat) : countRecv (stamp t recs) x = 0 := by
  unfold countRecv stamp
  induction recs with
  | nil => rfl
  | cons a l ih => simp [isReceivedBy]

theorem countRecv_plain {r : Rec} (h : isPlain r = true) (x : Nat) : countRecv [r] x = 0 := by
  cases r <;> simp_all [isPlain, countRecv, isReceivedBy]

/-- No device is set up to create batches and no batch exists. -/
def LeafInv (k : WKey) : Prop := NoBatchK k ∧ k.pl = true

theorem LeafInv.step {k k' : WKey} (h : KStep ph k k') (hi : LeafInv k) : LeafInv k' := by
  induction h with
  | refl k => exact hi
  | trans _ _ ih1 ih2 => exact ih2 (ih1 hi)
  | plSet k b h => exact absurd hi.1 h
  | _ =>
    refine ⟨fun y => ?_, hi.2⟩
    have := hi.1 y
    simp only [WKey.dev, WKey.addRecs, getD_set] at this ⊢
    try split
    all_goals first
      | exact this
      | exact hi.1 _

/-- Without batches, from the moment a sink exists its counter and the number of its records move
in step: the difference `c` is constant (0 for the sinks of the fresh world). -/
theorem recvCount_step {y : Nat} {c : Int} {k k' : WKey} (h : KStep ph k k') (hl : LeafInv k)
    (hi : (k.dev y).kind = .sink → (k.dev y).recvCount = countRecv k.recs y + c) :
    (k'.dev y).kind = .sink → (k'.dev y).recvCount = countRecv k'.recs y + c := by
  induction h with
  | refl k => exact hi
  | trans h1 _ ih1 ih2 => exact ih2 (LeafInv.step h1 hl) (ih1 hl hi)
  | plain k r hp ht =>
    have := hi
    simp only [WKey.dev, WKey.addRecs, countRecv_append, countRecv_plain hp] at this ⊢
    simpa using this
  | recvSink k x p q v lv hph hx hk hlv =>
    have := hi
    have h1 := hlv hl.2
    simp only [WKey.dev, getD_set, countRecv_append] at this hk ⊢
    by_cases hxy : x = y
    · subst hxy
      rw [if_pos ⟨rfl, hx⟩]
      intro _
      have e : countRecv [Rec.received x k.now p q v] x = 1 := by simp [countRecv, isReceivedBy]
      rw [e, h1]
      have := this hk
      dsimp only
      omega
    · rw [if_neg (fun h => hxy h.1)]
      have e : countRecv [Rec.received x k.now p q v] y = 0 := by simp [countRecv, isReceivedBy, hxy]
      rw [e]
      intro hs
      have := this hs
      omega
  | recvBuf k x p n q v hph hx hk =>
    have := hi
    simp only [WKey.dev, getD_set, countRecv_append] at this hk ⊢
    by_cases hxy : x = y
    · subst hxy
      rw [if_pos ⟨rfl, hx⟩]
      intro hs
      rw [hk] at hs; cases hs
    · rw [if_neg (fun h => hxy h.1)]
      have e : countRecv [Rec.level x k.now ((k.devs.getD x default).level + n),
          Rec.received x k.now p q v] y = 0 := by
        simp [countRecv, isReceivedBy, hxy]
      rw [e]
      intro hs
      have := this hs
      omega
  | recvOther k x p q v hph hk1 hk2 =>
    have := hi
    simp only [WKey.dev, WKey.addRecs, countRecv_append] at this hk1 ⊢
    intro hs
    have hxy : x ≠ y := by intro e; subst e; exact hk1 hs
    have e : countRecv [Rec.received x k.now p q v] y = 0 := by simp [countRecv, isReceivedBy, hxy]
    rw [e]
    have := this hs
    omega
  | _ =>
    have := hi
    simp only [WKey.dev, WKey.addRecs, getD_set, countRecv_append, countRecv_stamp] at this ⊢
    try split
    all_goals first | exact this | simp_all [countRecv, isReceivedBy]

def CountInv (k : WKey) : Prop :=
  LeafInv k ∧ ∀ y, (k.dev y).kind = .sink → (k.dev y).recvCount = countRecv k.recs y

theorem CountInv.step {k k' : WKey} (h : KStep ph k k') (hi : CountInv k) : CountInv k' := by
  refine ⟨LeafInv.step h hi.1, fun y hs => ?_⟩
  have := recvCount_step (c := 0) h hi.1 (fun hk => by rw [hi.2 y hk, Int.add_zero]) hs
  rwa [Int.add_zero] at this

/-- A world without batches: no device creates them, no part is one. -/
def NoBatch (w : World) : Prop :=
  (∀ d ∈ w.devs, d.genBatch = 0 ∧ d.bsize = none) ∧ w.parts.all (fun r => r.kids.isNone) = true

instance (w : World) : Decidable (NoBatch w) := by unfold NoBatch; infer_instance

theorem NoBatch.leafInv {w : World} (h : NoBatch w) : LeafInv (key w) := by
  refine ⟨fun y => ?_, h.2⟩
  rw [key_dev]
  rcases dev_mem_or_default w y with hm | hd
  · exact h.1 _ hm
  · rw [hd]; exact ⟨rfl, rfl⟩

theorem Fresh.countInv {w : World} (h : Fresh w) (hb : NoBatch w) : CountInv (key w) := by
  refine ⟨hb.leafInv, fun y _ => ?_⟩
  rw [key_dev]
  show (w.dev y).recvCount = countRecv w.recs y
  rw [(h.dev y).2.2.1, h.1]; rfl

/-! ### the resource manager stays initialised -/

theorem inited_step {k k' : WKey} (h : KStep ph k k') (hi : k.rmInited = true) : k'.rmInited = true := by
  induction h with
  | trans _ _ ih1 ih2 => exact ih2 (ih1 hi)
  | rmInit k hph hin => rfl
  | _ => exact hi

theorem simulateInit_inited (w : World) (hs : w.started = false) : w.simulateInit.rm.inited = true := by
  unfold simulateInit
  rw [if_neg (by simp [hs])]
  dsimp only
  have h0 : (key (({ w with rm := (w.rm.init).1 } : World).rmEffects (w.rm.init).2.1 (w.rm.init).2.2)).rmInited
      = true := by
    show (World.rmEffects _ _ _).rm.inited = true
    rw [rmEffects_rm]
    rfl
  exact inited_step (KS.foldl (ph := .init) _ _ _ (fun w a => KS_initAsset rfl w a)) h0

end C15W
end SimProc
