/-
C04 — the source → sink line: every step of the run loop preserves the invariant.
-/
import SimProc.Proofs.C04SourceSink

set_option linter.unusedSimpArgs false

namespace SimProc
namespace C04
namespace SS
open World

theorem cls_cons_eq {c : Int} {e : Event} (l : List Event) (h : e.asset = c) :
    cls c (e :: l) = key e :: cls c l := by rw [cls_cons, if_pos h]

theorem cls_cons_ne {c : Int} {e : Event} (l : List Event) (h : e.asset ≠ c) :
    cls c (e :: l) = cls c l := by rw [cls_cons, if_neg h]

/-- The terminate event is popped: the run is over, and the next hand-over is after `T`. -/
theorem case_term (P : Par) (T : Int) (s : S) (k : Nat) (sm : SrcMode) (km : SnkMode)
    (h0 : 0 ≤ P.c0) (hn : 0 ≤ P.cn) (inv : RunInv P T s k sm km) (e : Event) (rest : List Event)
    (h : s.evs = e :: rest) (ha : e.asset = -1) :
    ∃ s', (W P s).step = some (e, W P s') ∧ Done P T s' := by
  have hs := inv.core.sorted
  rw [h] at hs
  have kT := inv.kT
  rw [h, cls_cons_eq _ ha] at kT
  obtain ⟨hk, _⟩ := List.cons.inj kT
  obtain ⟨ht, hp, _, hact, hc⟩ := key_fields hk
  have kS := inv.kS
  rw [h, cls_cons_ne _ (by omega)] at kS
  have kK := inv.kK
  rw [h, cls_cons_ne _ (by omega)] at kK
  have hsucc := D0_succ P h0 hn k
  refine ⟨_, step_term P s e rest h hc hact, ⟨rfl, k, inv.core.ent, inv.core.rc, ?_, ?_,
    inv.core.bud, ?_⟩⟩
  · have := inv.core.plen
    show k ≤ s.parts.length
    omega
  · intro i hi
    have := inv.core.dk
    have := inv.nowT
    have := D0_mono P h0 hn (by omega : i + 1 ≤ k)
    omega
  · cases sm with
    | cycling =>
      right
      have := later_of_key hs (c := 1) (t := D0 P k + P.c0) (pr := 32) (a := 1) (act := 2)
        (b := false) (by rw [kS]; exact List.mem_singleton.2 rfl) (by omega)
      omega
    | ready t =>
      right
      have := later_of_key hs (c := 1) (t := t) (pr := 28) (a := 1) (act := 3)
        (b := false) (by rw [kS]; exact List.mem_singleton.2 rfl) (by omega)
      have := inv.src.2.2.2
      omega
    | blocked =>
      right
      have hb : km = .busy := inv.src.2.2.1
      subst hb
      have := later_of_key hs (c := 2) (t := F P k) (pr := 32) (a := 2) (act := 18)
        (b := false) (by rw [kK]; exact List.mem_singleton.2 rfl) (by omega)
      omega
    | exhausted =>
      left
      exact inv.src.2.2

/-- The popped event is not later than the terminate event. -/
theorem head_le_T {P : Par} {T : Int} {s : S} {k : Nat} {sm : SrcMode} {km : SnkMode}
    (inv : RunInv P T s k sm km) {e : Event} {rest : List Event} (h : s.evs = e :: rest)
    (ha : e.asset ≠ -1) : e.time ≤ T := by
  have hs := inv.core.sorted
  rw [h] at hs
  have kT := inv.kT
  rw [h, cls_cons_ne _ ha] at kT
  exact notlater_of_key hs (c := -1) (t := T) (pr := 4) (a := -1) (act := 0) (b := false)
    (by rw [kT]; exact List.mem_singleton.2 rfl)

/-- The source finishes its cycle: the next part is generated and the hand-over is requested. -/
theorem case_F0 (P : Par) (T : Int) (s : S) (k : Nat) (km : SnkMode)
    (inv : RunInv P T s k .cycling km) (e : Event) (rest : List Event)
    (h : s.evs = e :: rest) (ha : e.asset = 1) :
    ∃ s', (W P s).step = some (e, W P s') ∧ RunInv P T s' k (.ready e.time) km := by
  have kS := inv.kS
  rw [h, cls_cons_eq _ ha] at kS
  obtain ⟨hk, kS'⟩ := List.cons.inj kS
  obtain ⟨ht, hp, _, hact, hc⟩ := key_fields hk
  have kT := inv.kT
  rw [h, cls_cons_ne _ (by omega)] at kT
  have kK := inv.kK
  rw [h, cls_cons_ne _ (by omega)] at kK
  have hle : s.now ≤ e.time := inv.core.fut e (by simp [h])
  have cp := inv.core.pop h
  obtain ⟨hout, hwds, hc0⟩ := inv.src
  have hstep := step_live P s e rest h inv.term hc (by omega)
  rw [hact] at hstep
  have hex : (W P (pop s e rest)).exec (Action.ofNat 2) = W P (generated P (pop s e rest)) :=
    W_finishCycle0 P (pop s e rest) cp.now0 hout cp.pok
  rw [hex] at hstep
  refine ⟨_, hstep, ?_⟩
  rw [generated_eq]
  refine { core := (cp.gen hout).push _ _ _ _ (Int.le_refl _) (by omega), nowT := ?_, term := rfl,
           kT := ?_, kS := ?_, kK := ?_, src := ?_, snk := ?_ }
  · exact head_le_T inv h (by omega)
  · show cls (-1) (insort _ rest) = _
    rw [cls_insort_ne _ _ _ (by simp [mkEv]), kT]
  · show cls 1 (insort _ rest) = _
    rw [cls_insort_eq _ _ _ (by simp [mkEv]) kS']
    rfl
  · show cls 2 (insort _ rest) = _
    rw [cls_insort_ne _ _ _ (by simp [mkEv]), kK]
  · exact ⟨⟨_, rfl⟩, rfl, by show D0 P k + P.c0 ≤ e.time; omega, Or.inl ht⟩
  · exact inv.snk.mono rfl rfl hle

/-- The state right after a hand-over, before the source restarts its cycle. -/
structure Mid (P : Par) (T : Int) (X : S) (k : Nat) (km : SnkMode) : Prop where
  core : Core P X k
  nowT : X.now ≤ T
  term : X.term = false
  kT : cls (-1) X.evs = [termKey T]
  kS : cls 1 X.evs = []
  kK : cls 2 X.evs = snkKeys P k km
  out : X.out = none
  wds : X.wds = false
  snk : SnkCond P X k km
  dnow : D0 P k = X.now

/-- The source restarts its cycle after a hand-over. -/
theorem restart (P : Par) (T : Int) (X : S) (k : Nat) (km : SnkMode) (h0 : 0 ≤ P.c0)
    (m : Mid P T X k km) :
    ∃ s' sm', (W P X).scheduleFinish 0 = W P s' ∧ RunInv P T s' k sm' km := by
  by_cases hc : 0 < P.c0
  · refine ⟨_, .cycling, W_scheduleFinish0_pos P X hc, ?_⟩
    show RunInv P T (push P X (X.now + P.c0) 1 (.finishCycle 0) pFinish) k .cycling km
    refine { core := m.core.push _ _ _ _ (by omega) (by omega), nowT := m.nowT, term := m.term,
             kT := ?_, kS := ?_, kK := ?_, src := ⟨m.out, m.wds, hc⟩, snk := m.snk.mono rfl rfl (Int.le_refl _) }
    · show cls (-1) (insort _ X.evs) = _
      rw [cls_insort_ne _ _ _ (by simp [mkEv]), m.kT]
    · show cls 1 (insort _ X.evs) = _
      rw [cls_insort_eq _ _ _ (by simp [mkEv]) m.kS, key_mkEv, srcKeys, m.dnow]
      rfl
    · show cls 2 (insort _ X.evs) = _
      rw [cls_insort_ne _ _ _ (by simp [mkEv]), m.kK]
  · have hz : P.c0 = 0 := by omega
    refine ⟨generated P X, .ready X.now, ?_, ?_⟩
    · rw [W_scheduleFinish0_zero P X hz]
      exact W_finishCycle0 P X m.core.now0 m.out m.core.pok
    · rw [generated_eq]
      refine { core := (m.core.gen m.out).push _ _ _ _ (Int.le_refl _) (by omega), nowT := m.nowT,
               term := m.term, kT := ?_, kS := ?_, kK := ?_, src := ?_,
               snk := m.snk.mono rfl rfl (Int.le_refl _) }
      · show cls (-1) (insort _ X.evs) = _
        rw [cls_insort_ne _ _ _ (by simp [mkEv]), m.kT]
      · show cls 1 (insort _ X.evs) = _
        rw [cls_insort_eq _ _ _ (by simp [mkEv]) m.kS]
        rfl
      · show cls 2 (insort _ X.evs) = _
        rw [cls_insort_ne _ _ _ (by simp [mkEv]), m.kK]
      · have := m.dnow
        exact ⟨⟨_, rfl⟩, rfl, by show D0 P k + P.c0 ≤ X.now; omega,
          Or.inl (by show X.now = D0 P k + P.c0; omega)⟩

/-- The source passes its part to the idle sink. -/
theorem handover (P : Par) (T : Int) (s : S) (k : Nat) (t : Int) (h0 : 0 ≤ P.c0) (hn : 0 ≤ P.cn)
    (inv : RunInv P T s k (.ready t) .idle) (e : Event) (rest : List Event)
    (h : s.evs = e :: rest) (ha : e.asset = 1) (hnb : ∀ B, P.budget = some B → k < B) :
    ∃ X km', (W P (pop s e rest)).passPart 0 = (W P X).scheduleFinish 0 ∧ Mid P T X (k + 1) km' := by
  have kS := inv.kS
  rw [h, cls_cons_eq _ ha] at kS
  obtain ⟨hk, kS'⟩ := List.cons.inj kS
  obtain ⟨ht, _, _, _, _⟩ := key_fields hk
  have kT := inv.kT
  rw [h, cls_cons_ne _ (by omega)] at kT
  have kK := inv.kK
  rw [h, cls_cons_ne _ (by omega)] at kK
  have hle : s.now ≤ e.time := inv.core.fut e (by simp [h])
  have cp := inv.core.pop h
  obtain ⟨⟨p, hout⟩, hwds, hge, hor⟩ := inv.src
  obtain ⟨hfree, hF⟩ := inv.snk
  have hT : e.time ≤ T := head_le_T inv h (by omega)
  have hd : D0 P (k + 1) = (pop s e rest).now := by
    show D0 P (k + 1) = e.time
    rw [D0_succ P h0 hn k]
    omega
  have hB' : ∀ B, P.budget = some B → (pop s e rest).produced < (B : Int) := by
    intro B hB
    show s.produced < (B : Int)
    have := hnb B hB
    rw [inv.core.prod]
    omega
  have cpass := cp.pass p hout hnb hd
  have hFs := F_succ P h0 hn k
  by_cases hcn : 0 < P.cn
  · refine ⟨push P (tweak (passS (pop s e rest) p) s.wds (some p) none) (e.time + P.cn) 2
        (.finishCycle 1) pFinish, .busy, ?_, ?_⟩
    · -- stated first, then compared with the goal: unifying while `s'` is still unknown is slow
      have hp := W_passPart0_free P (pop s e rest) _ p hB' hout hfree cp.sout cp.pok
        (W_scheduleFinish1_pos P (accepted (pop s e rest) p) hcn)
      exact hp
    · refine { core := (cpass.tweak _ _ _).push _ _ _ _ (by show e.time ≤ e.time + P.cn; omega)
                 (by omega),
               nowT := hT, term := rfl, kT := ?_, kS := ?_, kK := ?_, out := rfl, wds := hwds,
               snk := ⟨⟨p, rfl⟩, rfl, hcn⟩, dnow := hd }
      · show cls (-1) (insort _ rest) = _
        rw [cls_insort_ne _ _ _ (by simp [mkEv]), kT]
      · show cls 1 (insort _ rest) = _
        rw [cls_insort_ne _ _ _ (by simp [mkEv]), kS']
      · show cls 2 (insort _ rest) = _
        rw [cls_insort_eq _ _ _ (by simp [mkEv]) kK, key_mkEv, snkKeys, hFs, hd]
        rfl
  · have hz : P.cn = 0 := by omega
    refine ⟨tweak (passS (pop s e rest) p) s.wds none (some e.time), .idle, ?_, ?_⟩
    · have hs' : (W P (accepted (pop s e rest) p)).scheduleFinish 1 =
          W P (wake P { accepted (pop s e rest) p with spart := none }) := by
        rw [W_scheduleFinish1_zero _ _ hz]
        exact W_finishCycle1 P (accepted (pop s e rest) p) p cp.now0 rfl rfl cp.sout
      have hw : wake P { accepted (pop s e rest) p with spart := none } =
          { accepted (pop s e rest) p with spart := none, since := some e.time } := by
        unfold wake
        rw [if_neg]
        · rfl
        · show ¬ (s.wds = true)
          rw [hwds]; decide
      rw [hw] at hs'
      have hp := W_passPart0_free P (pop s e rest) _ p hB' hout hfree cp.sout cp.pok hs'
      exact hp
    · refine { core := cpass.tweak _ _ _, nowT := hT, term := rfl, kT := kT, kS := kS', kK := kK,
               out := rfl, wds := hwds, snk := ⟨rfl, ?_⟩, dnow := hd }
      show F P (k + 1) ≤ e.time
      have : D0 P (k + 1) = e.time := hd
      omega

/-- Termination measure for a source with budget `B`: the events that can still happen before the
budget is used up. -/
def rank : SrcMode → Nat
  | .cycling => 3
  | .ready _ => 2
  | .blocked => 0
  | .exhausted => 0

def phi (B k : Nat) (sm : SrcMode) (km : SnkMode) : Nat :=
  7 * (B - k) + rank sm + (match km with | .busy => 3 | .idle => 0)

/-- The source tries to pass its part on. -/
theorem case_P0 (P : Par) (T : Int) (s : S) (k : Nat) (t : Int) (km : SnkMode) (h0 : 0 ≤ P.c0)
    (hn : 0 ≤ P.cn) (inv : RunInv P T s k (.ready t) km) (e : Event) (rest : List Event)
    (h : s.evs = e :: rest) (ha : e.asset = 1) :
    ∃ s' k' sm' km', (W P s).step = some (e, W P s') ∧ RunInv P T s' k' sm' km' ∧
      ∀ B, P.budget = some B → phi B k' sm' km' < phi B k (.ready t) km := by
  have kS := inv.kS
  rw [h, cls_cons_eq _ ha] at kS
  obtain ⟨hk, kS'⟩ := List.cons.inj kS
  obtain ⟨ht, _, _, hact, hc⟩ := key_fields hk
  have kT := inv.kT
  rw [h, cls_cons_ne _ (by omega)] at kT
  have kK := inv.kK
  rw [h, cls_cons_ne _ (by omega)] at kK
  have hle : s.now ≤ e.time := inv.core.fut e (by simp [h])
  have cp := inv.core.pop h
  have hT : e.time ≤ T := head_le_T inv h (by omega)
  have hstep := step_live P s e rest h inv.term hc (by omega)
  rw [hact] at hstep
  have hsrc := inv.src
  obtain ⟨⟨p, hout⟩, hwds, hge, hor⟩ := hsrc
  by_cases hex : ∃ B, P.budget = some B ∧ B ≤ k
  · -- the budget is used up: nothing happens
    obtain ⟨B, hB, hx⟩ := hex
    have hexec : (W P (pop s e rest)).exec (Action.ofNat 3) = W P (pop s e rest) :=
      W_passPart0_exhausted P (pop s e rest) B hB (by
        show (B : Int) ≤ s.produced
        rw [inv.core.prod]; omega)
    rw [hexec] at hstep
    exact ⟨_, k, .exhausted, km, hstep,
      { core := cp, nowT := hT, term := rfl, kT := kT, kS := kS', kK := kK,
        src := ⟨⟨p, hout⟩, hwds, B, hB, hx⟩, snk := inv.snk.mono rfl rfl hle },
      fun B' _ => by simp only [phi, rank]; omega⟩
  · have hnb : ∀ B, P.budget = some B → k < B := by
      intro B hB
      by_cases hlt : k < B
      · exact hlt
      · exact absurd ⟨B, hB, by omega⟩ hex
    cases km with
    | busy =>
      obtain ⟨⟨q, hq⟩, hsince, hcn⟩ := inv.snk
      have hexec : (W P (pop s e rest)).exec (Action.ofNat 3) =
          W P (tweak (pop s e rest) true s.spart s.since) :=
        W_passPart0_busy P (pop s e rest) p q (by
          intro B hB
          show s.produced < (B : Int)
          have := hnb B hB
          rw [inv.core.prod]; omega) hout hq
      rw [hexec] at hstep
      exact ⟨_, k, .blocked, .busy, hstep,
        { core := cp.tweak _ _ _, nowT := hT, term := rfl, kT := kT, kS := kS', kK := kK,
          src := ⟨⟨p, hout⟩, rfl, rfl, by show D0 P k + P.c0 ≤ e.time; omega⟩,
          snk := ⟨⟨q, hq⟩, hsince, hcn⟩ },
        fun B' _ => by simp only [phi, rank]; omega⟩
    | idle =>
      obtain ⟨X, km', hpass, mid⟩ := handover P T s k t h0 hn inv e rest h ha hnb
      obtain ⟨s', sm', hfin, inv'⟩ := restart P T X (k + 1) km' h0 mid
      have hexec : (W P (pop s e rest)).exec (Action.ofNat 3) = W P s' := by
        show (W P (pop s e rest)).passPart 0 = _
        rw [hpass, hfin]
      rw [hexec] at hstep
      refine ⟨s', k + 1, sm', km', hstep, inv', fun B hB => ?_⟩
      have := hnb B hB
      have h1 : rank sm' ≤ 3 := by cases sm' <;> simp [rank]
      have h2 : (match km' with | .busy => 3 | .idle => 0) ≤ 3 := by cases km' <;> simp
      have h3 : rank (.ready t) = 2 := rfl
      simp only [phi]
      omega

/-- The sink finishes its cycle and frees its slot; a blocked source is woken up. -/
theorem case_F1 (P : Par) (T : Int) (s : S) (k : Nat) (sm : SrcMode)
    (inv : RunInv P T s k sm .busy) (e : Event) (rest : List Event)
    (h : s.evs = e :: rest) (ha : e.asset = 2) :
    ∃ s' sm', (W P s).step = some (e, W P s') ∧ RunInv P T s' k sm' .idle ∧
      ∀ B, phi B k sm' .idle < phi B k sm .busy := by
  have kK := inv.kK
  rw [h, cls_cons_eq _ ha] at kK
  obtain ⟨hk, kK'⟩ := List.cons.inj kK
  obtain ⟨ht, _, _, hact, hc⟩ := key_fields hk
  have kT := inv.kT
  rw [h, cls_cons_ne _ (by omega)] at kT
  have kS := inv.kS
  rw [h, cls_cons_ne _ (by omega)] at kS
  have hle : s.now ≤ e.time := inv.core.fut e (by simp [h])
  have cp := inv.core.pop h
  have hT : e.time ≤ T := head_le_T inv h (by omega)
  have hstep := step_live P s e rest h inv.term hc (by omega)
  rw [hact] at hstep
  obtain ⟨⟨q, hq⟩, hsince, hcn⟩ := inv.snk
  have hexec : (W P (pop s e rest)).exec (Action.ofNat 18) =
      W P (wake P { pop s e rest with spart := none }) :=
    W_finishCycle1 P (pop s e rest) q cp.now0 hsince hq cp.sout
  rw [hexec] at hstep
  have hFk : F P k ≤ e.time := by omega
  by_cases hw : s.wds = true
  · -- the source was blocked: it tries again now
    have hwake : wake P { pop s e rest with spart := none } =
        push P (tweak (pop s e rest) false none (some e.time)) e.time 1 (.passPart 0) pPassPart := by
      unfold wake
      rw [if_pos (by exact hw)]
      rfl
    rw [hwake] at hstep
    cases sm with
    | blocked =>
      obtain ⟨hout, _, _, hge⟩ := inv.src
      refine ⟨_, .ready e.time, hstep,
        { core := (cp.tweak _ _ _).push _ _ _ _ (Int.le_refl _) (by omega), nowT := hT, term := rfl,
          kT := ?_, kS := ?_, kK := ?_,
          src := ⟨hout, rfl, by omega, Or.inr ht⟩, snk := ⟨rfl, hFk⟩ },
        fun B => by simp only [phi, rank]; omega⟩
      · show cls (-1) (insort _ rest) = _
        rw [cls_insort_ne _ _ _ (by simp [mkEv]), kT]
      · show cls 1 (insort _ rest) = _
        rw [cls_insort_eq _ _ _ (by simp [mkEv]) kS]
        rfl
      · show cls 2 (insort _ rest) = _
        rw [cls_insort_ne _ _ _ (by simp [mkEv]), kK']
        rfl
    | cycling => have := inv.src.2.1; rw [hw] at this; exact absurd this (by decide)
    | ready t => have := inv.src.2.1; rw [hw] at this; exact absurd this (by decide)
    | exhausted => have := inv.src.2.1; rw [hw] at this; exact absurd this (by decide)
  · have hwake : wake P { pop s e rest with spart := none } =
        tweak (pop s e rest) s.wds none (some e.time) := by
      unfold wake
      rw [if_neg (by exact hw)]
      rfl
    rw [hwake] at hstep
    refine ⟨_, sm, hstep,
      { core := cp.tweak _ _ _, nowT := hT, term := rfl, kT := kT, kS := kS, kK := kK',
        src := ?_, snk := ⟨rfl, hFk⟩ }, fun B => by simp only [phi]; omega⟩
    cases sm with
    | cycling => exact inv.src
    | ready t => exact inv.src
    | exhausted => exact inv.src
    | blocked => exact absurd inv.src.2.1 hw

/-- One iteration of the run loop. -/
theorem run_step (P : Par) (T : Int) (s : S) (k : Nat) (sm : SrcMode) (km : SnkMode)
    (h0 : 0 ≤ P.c0) (hn : 0 ≤ P.cn) (inv : RunInv P T s k sm km) :
    (W P s).env.running = true ∧
    ∃ e s', (W P s).step = some (e, W P s') ∧
      ((∃ k' sm' km', RunInv P T s' k' sm' km' ∧
          ∀ B, P.budget = some B → phi B k' sm' km' < phi B k sm km) ∨ Done P T s') := by
  obtain ⟨e, rest, h⟩ : ∃ e rest, s.evs = e :: rest := by
    cases hs : s.evs with
    | nil => have := inv.kT; rw [hs] at this; simp [cls] at this
    | cons e rest => exact ⟨e, rest, rfl⟩
  constructor
  · show (!s.evs.isEmpty && !s.term) = true
    rw [h, inv.term]; rfl
  rcases inv.core.cover e (by simp [h]) with ha | ha | ha
  · obtain ⟨s', hs, d⟩ := case_term P T s k sm km h0 hn inv e rest h ha
    exact ⟨e, s', hs, Or.inr d⟩
  · have kS := inv.kS
    rw [h, cls_cons_eq _ ha] at kS
    cases sm with
    | cycling =>
      obtain ⟨s', hs, i⟩ := case_F0 P T s k km inv e rest h ha
      exact ⟨e, s', hs, Or.inl ⟨_, _, _, i, fun B _ => by simp only [phi, rank]; omega⟩⟩
    | ready t =>
      obtain ⟨s', k', sm', km', hs, i, hphi⟩ := case_P0 P T s k t km h0 hn inv e rest h ha
      exact ⟨e, s', hs, Or.inl ⟨_, _, _, i, hphi⟩⟩
    | blocked => simp [srcKeys] at kS
    | exhausted => simp [srcKeys] at kS
  · have kK := inv.kK
    rw [h, cls_cons_eq _ ha] at kK
    cases km with
    | busy =>
      obtain ⟨s', sm', hs, i, hphi⟩ := case_F1 P T s k sm inv e rest h ha
      exact ⟨e, s', hs, Or.inl ⟨_, _, _, i, fun B _ => hphi B⟩⟩
    | idle => simp [snkKeys] at kK

/-- The run loop: if it completes without running out of fuel, it ends in a `Done` world. -/
theorem run_loop (P : Par) (T : Int) (h0 : 0 ≤ P.c0) (hn : 0 ≤ P.cn) (f : Nat) (s : S)
    (hs : (∃ k sm km, RunInv P T s k sm km) ∨ Done P T s)
    (he : (runLoop f (W P s)).error = none) :
    ∃ s', runLoop f (W P s) = W P s' ∧ Done P T s' := by
  induction f generalizing s with
  | zero => simp [runLoop, setErr, W] at he
  | succ f ih =>
    rcases hs with ⟨k, sm, km, inv⟩ | d
    · obtain ⟨hrun, e, s', hstep, hs'⟩ := run_step P T s k sm km h0 hn inv
      have : runLoop (f + 1) (W P s) = runLoop f (W P s') := by
        simp only [runLoop, hrun, if_true, hstep]
      rw [this] at he ⊢
      refine ih s' ?_ he
      rcases hs' with ⟨k', sm', km', i, _⟩ | d
      · exact Or.inl ⟨k', sm', km', i⟩
      · exact Or.inr d
    · have hrun : (W P s).env.running = false := by
        show (!s.evs.isEmpty && !s.term) = false
        rw [d.term]; simp
      have : runLoop (f + 1) (W P s) = W P s := by
        simp [runLoop, hrun]
      rw [this]
      exact ⟨s, rfl, d⟩

/-- With a finite budget `B` the run loop completes: the fuel `phi + 2` suffices. -/
theorem run_total (P : Par) (T : Int) (h0 : 0 ≤ P.c0) (hn : 0 ≤ P.cn) (B : Nat)
    (hB : P.budget = some B) (f : Nat) (s : S) (k : Nat) (sm : SrcMode) (km : SnkMode)
    (inv : RunInv P T s k sm km) (hf : phi B k sm km + 2 ≤ f) :
    (runLoop f (W P s)).error = none := by
  induction f generalizing s k sm km with
  | zero => omega
  | succ f ih =>
    obtain ⟨hrun, e, s', hstep, hs'⟩ := run_step P T s k sm km h0 hn inv
    have : runLoop (f + 1) (W P s) = runLoop f (W P s') := by
      simp only [runLoop, hrun, if_true, hstep]
    rw [this]
    rcases hs' with ⟨k', sm', km', i, hphi⟩ | d
    · have := hphi B hB
      exact ih s' k' sm' km' i (by omega)
    · have hrun' : (W P s').env.running = false := by
        show (!s'.evs.isEmpty && !s'.term) = false
        rw [d.term]; simp
      obtain ⟨f', rfl⟩ : ∃ f', f = f' + 1 := ⟨f - 1, by omega⟩
      have : runLoop (f' + 1) (W P s') = W P s' := by
        simp only [runLoop, hrun', Bool.false_eq_true, if_false]
      rw [this]
      rfl

theorem initS_now (P : Par) : (initS P).now = 0 := by unfold initS; split <;> rfl
theorem initS_term (P : Par) : (initS P).term = true := by unfold initS; split <;> rfl

theorem core_empty (P : Par) : Core P {} 0 :=
  { now0 := Int.le_refl _, sorted := List.Pairwise.nil, fut := by intro e he; simp at he,
    cover := by intro e he; simp at he, pok := PartsOK_nil, sout := rfl, prod := rfl, rc := rfl,
    ent := rfl, dk := by rw [D0_zero]; exact Int.le_refl _, bud := fun B _ => Nat.zero_le B,
    plen := rfl }

/-- The invariant holds when the run begins. -/
theorem init_inv (P : Par) (T : Int) (h0 : 0 ≤ P.c0) (hT : 0 ≤ T) :
    ∃ sm, RunInv P T
      { initS P with term := false,
                     evs := insort (mkEv P (initS P).uid ((initS P).now + T) (-1) .terminate pTerminate)
                              (initS P).evs,
                     uid := (initS P).uid + 1 } 0 sm .idle := by
  have hF : F P 0 ≤ 0 := by rw [F_zero]; exact Int.le_refl _
  unfold initS
  by_cases hc : P.c0 ≤ 0
  · rw [if_pos hc]
    have hz : P.c0 = 0 := by omega
    have c1 : Core P (generated P {}) 0 := by
      rw [generated_eq]
      exact ((core_empty P).gen rfl).push _ _ _ _ (Int.le_refl _) (by omega)
    have c2 := c1.push ((generated P {}).now + T) (-1) .terminate pTerminate
      (by show (0 : Int) ≤ 0 + T; omega) (by omega)
    refine ⟨.ready 0,
      { core := { now0 := c2.now0, sorted := c2.sorted, fut := c2.fut, cover := c2.cover,
                  pok := c2.pok, sout := c2.sout, prod := c2.prod, rc := c2.rc, ent := c2.ent,
                  dk := c2.dk, bud := c2.bud, plen := c2.plen },
        nowT := hT, term := rfl, kT := ?_, kS := ?_, kK := ?_, src := ?_, snk := ⟨rfl, hF⟩ }⟩
    · show cls (-1) (insort _ (insort _ [])) = _
      rw [cls_insort_eq _ _ _ (by simp [mkEv]) (by simp [insort, cls_cons, mkEv, cls])]
      show [((0 : Int) + T, (4 : Int), (-1 : Int), 0, false)] = [(T, 4, -1, 0, false)]
      rw [Int.zero_add]
    · show cls 1 (insort _ (insort _ [])) = _
      rw [cls_insort_ne _ _ _ (by simp [mkEv])]
      rfl
    · show cls 2 (insort _ (insort _ [])) = _
      rw [cls_insort_ne _ _ _ (by simp [mkEv])]
      rfl
    · refine ⟨⟨_, rfl⟩, rfl, ?_, Or.inl ?_⟩
      · rw [D0_zero]; omega
      · rw [D0_zero]; omega
  · rw [if_neg hc]
    have c1 : Core P (push P {} P.c0 1 (.finishCycle 0) pFinish) 0 :=
      (core_empty P).push _ _ _ _ (by show (0 : Int) ≤ P.c0; omega) (by omega)
    have c2 := c1.push ((0 : Int) + T) (-1) .terminate pTerminate
      (by show (0 : Int) ≤ 0 + T; omega) (by omega)
    refine ⟨.cycling,
      { core := { now0 := c2.now0, sorted := c2.sorted, fut := c2.fut, cover := c2.cover,
                  pok := c2.pok, sout := c2.sout, prod := c2.prod, rc := c2.rc, ent := c2.ent,
                  dk := c2.dk, bud := c2.bud, plen := c2.plen },
        nowT := hT, term := rfl, kT := ?_, kS := ?_, kK := ?_, src := ⟨rfl, rfl, by omega⟩,
        snk := ⟨rfl, hF⟩ }⟩
    · show cls (-1) (insort _ [_]) = _
      rw [cls_insort_eq _ _ _ (by simp [mkEv]) (by simp [cls_cons, mkEv, cls])]
      show [((0 : Int) + T, (4 : Int), (-1 : Int), 0, false)] = [(T, 4, -1, 0, false)]
      rw [Int.zero_add]
    · show cls 1 (insort _ [_]) = _
      rw [cls_insort_ne _ _ _ (by simp [mkEv])]
      show [(P.c0, (32 : Int), (1 : Int), 2, false)] = [(D0 P 0 + P.c0, 32, 1, 2, false)]
      rw [D0_zero, Int.zero_add]
    · show cls 2 (insort _ [_]) = _
      rw [cls_insort_ne _ _ _ (by simp [mkEv])]
      rfl

/-- **The run of the source → sink line ends in a `Done` world** (if it completes). -/
theorem run_done (P : Par) (T : Int) (f : Nat) (h0 : 0 ≤ P.c0) (hn : 0 ≤ P.cn)
    (he : (runLine (line P) P.seed P.wmod T f).error = none) :
    ∃ s', runLine (line P) P.seed P.wmod T f = W P s' ∧ Done P T s' := by
  unfold runLine at he ⊢
  rw [W_init P h0] at he ⊢
  by_cases hT : 0 ≤ T
  · rw [W_runBegin_ok P _ T hT] at he ⊢
    obtain ⟨sm, inv⟩ := init_inv P T h0 hT
    exact run_loop P T h0 hn f _ (Or.inl ⟨0, sm, .idle, inv⟩) he
  · rw [W_runBegin_neg P _ T (by omega)] at he ⊢
    refine run_loop P T h0 hn f _ (Or.inr ⟨initS_term P, 0, ?_, ?_, Nat.zero_le _, ?_, ?_, Or.inr ?_⟩) he
    · unfold initS; split <;> rfl
    · unfold initS; split <;> rfl
    · intro i hi; omega
    · intro B _; exact Nat.zero_le B
    · have := D0_nonneg P h0 hn (0 + 1)
      omega

/-- **With a finite budget the run completes**, given `7 * B + 5` units of fuel. -/
theorem run_completes (P : Par) (T : Int) (f : Nat) (h0 : 0 ≤ P.c0) (hn : 0 ≤ P.cn) (B : Nat)
    (hB : P.budget = some B) (hf : 7 * B + 5 ≤ f) :
    (runLine (line P) P.seed P.wmod T f).error = none := by
  unfold runLine
  rw [W_init P h0]
  by_cases hT : 0 ≤ T
  · rw [W_runBegin_ok P _ T hT]
    obtain ⟨sm, inv⟩ := init_inv P T h0 hT
    refine run_total P T h0 hn B hB f _ 0 sm .idle inv ?_
    have h1 : rank sm ≤ 3 := by cases sm <;> simp [rank]
    simp only [phi]
    omega
  · rw [W_runBegin_neg P _ T (by omega)]
    have hrun' : (W P (initS P)).env.running = false := by
      show (!(initS P).evs.isEmpty && !(initS P).term) = false
      rw [initS_term]; simp
    obtain ⟨f', rfl⟩ : ∃ f', f = f' + 1 := ⟨f - 1, by omega⟩
    have : runLoop (f' + 1) (W P (initS P)) = W P (initS P) := by
      simp only [runLoop, hrun', Bool.false_eq_true, if_false]
    rw [this]
    rfl

end SS
end C04
end SimProc
