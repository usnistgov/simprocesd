/-
The static closed-world theorem for C02: if the scripts neither rewire nor create devices nor
schedule failures of sinks, the wiring satisfies `GiveOK` everywhere and no failure of a sink is
pending, then this remains so, every executed action is admissible, and the strengthened invariant
holds in every reachable state.
-/
import SimProc.Proofs.StaticFloor
import SimProc.Proofs.WorldExec
import SimProc.Proofs.Budget
namespace SimProc
namespace C02V
open World

/-! ### the wiring view: the static view without the source budgets -/

def eraseB (d : TDev) : TDev := { d with maxParts := none, produced := 0 }
def ST.topo (t : ST) : ST := ⟨t.devs.map eraseB, t.gin⟩
def tv (w : World) : ST := (st w).topo

theorem tv_of_st {w w' : World} (h : st w' = st w) : tv w' = tv w := by unfold tv; rw [h]

theorem topo_get (t : ST) (x : Nat) : t.topo.devs.getD x ST.tdflt = eraseB (t.devs.getD x ST.tdflt) := by
  simp only [ST.topo, List.getD_eq_getElem?_getD, List.getElem?_map]
  cases t.devs[x]? <;> rfl

theorem topo_kind (t : ST) (x : Nat) : t.topo.kind x = t.kind x := by
  unfold ST.kind; rw [topo_get]; rfl
theorem topo_down (t : ST) (x : Nat) : t.topo.down x = t.down x := by
  unfold ST.down; rw [topo_get]; rfl
theorem topo_group (t : ST) (x : Nat) : t.topo.group x = t.group x := by
  unfold ST.group; rw [topo_get]; rfl

theorem reach_topo (t : ST) (y z : Nat) : Reach t.topo y z ↔ Reach t y z := by
  constructor
  · intro h
    induction h with
    | self y hk => exact Reach.self y (by rw [← topo_kind]; exact hk)
    | gate y z u hk hz _ ih => exact Reach.gate y z u (by rw [← topo_kind]; exact hk) (by rw [← topo_down]; exact hz) ih
    | gpath y u hk _ ih => exact Reach.gpath y u (by rw [← topo_kind]; exact hk) (by rw [← topo_group]; exact ih)
    | goutput y g z u hk hz _ ih => exact Reach.goutput y g z u (by rw [← topo_kind]; exact hk) (by rw [← topo_down]; exact hz) ih
  · intro h
    induction h with
    | self y hk => exact Reach.self y (by rw [topo_kind]; exact hk)
    | gate y z u hk hz _ ih => exact Reach.gate y z u (by rw [topo_kind]; exact hk) (by rw [topo_down]; exact hz) ih
    | gpath y u hk _ ih => exact Reach.gpath y u (by rw [topo_kind]; exact hk) (by rw [topo_group]; exact ih)
    | goutput y g z u hk hz _ ih => exact Reach.goutput y g z u (by rw [topo_kind]; exact hk) (by rw [topo_down]; exact hz) ih

/-- `GiveOK` everywhere only depends on the wiring view and the number of devices. -/
def TopoOK (w : World) : Prop := ∀ x, GiveOK w x

theorem giveOK_iff (w : World) (x : Nat) : GiveOK w x ↔
    ∀ y ∈ (tv w).down x, ∀ z, Reach (tv w) y z → z < w.devs.length := by
  unfold GiveOK tv
  simp only [topo_down, reach_topo, st_down]

theorem TopoOK.of_tv {w w' : World} (h : TopoOK w) (e : tv w' = tv w) (el : w'.devs.length = w.devs.length) :
    TopoOK w' := by
  intro x
  rw [giveOK_iff, e, el, ← giveOK_iff]
  exact h x

theorem kind_of_tv {w w' : World} (e : tv w' = tv w) (x : Nat) : (w'.dev x).kind = (w.dev x).kind := by
  have := congrArg (fun t => t.kind x) e
  simpa [tv, topo_kind, st_kind] using this


/-! ### static scripts -/

/-- Operations that neither change the wiring nor create devices nor schedule the failure of a sink. -/
def OpStatic (w : World) : Op → Prop
  | .rewire _ _ => False
  | .create _ => False
  | .schedFail d _ => (w.dev d).kind ≠ .sink
  | .schedFailRel d _ => (w.dev d).kind ≠ .sink
  | _ => True

def ScriptsStatic (w : World) : Prop := ∀ l ∈ w.scripts, ∀ op ∈ l, OpStatic w op

/-- `sk` is the set of sinks of `w` -/
def SkOK (sk : Nat → Prop) (w : World) : Prop := ∀ d, sk d ↔ (w.dev d).kind = .sink

/-- wiring, scripts and the pending bad actions are unchanged -/
def SR (sk : Nat → Prop) (w w' : World) : Prop :=
  tv w' = tv w ∧ w'.scripts = w.scripts ∧ HasBad (badAct sk) w' = HasBad (badAct sk) w

theorem SR.refl (sk : Nat → Prop) (w : World) : SR sk w w := ⟨rfl, rfl, rfl⟩
theorem SR.trans {sk : Nat → Prop} {a b c : World} (h1 : SR sk a b) (h2 : SR sk b c) : SR sk a c :=
  ⟨h2.1.trans h1.1, h2.2.1.trans h1.2.1, h2.2.2.trans h1.2.2⟩

def Stat (sk : Nat → Prop) (w : World) : Prop := SkOK sk w ∧ ScriptsStatic w

theorem opStatic_of_tv {w w' : World} (e : tv w' = tv w) (op : Op) (h : OpStatic w op) : OpStatic w' op := by
  cases op <;> simp only [OpStatic] at h ⊢ <;> first | exact h | (rw [kind_of_tv e]; exact h)

theorem Stat.of_sr {sk : Nat → Prop} {w w' : World} (h : Stat sk w) (r : SR sk w w') : Stat sk w' := by
  refine ⟨fun d => ?_, ?_⟩
  · rw [kind_of_tv r.1]; exact h.1 d
  · intro l hl op hop
    rw [r.2.1] at hl
    exact opStatic_of_tv r.1 op (h.2 l hl op hop)

/-! ### `st`/`tv`/`HasBad` for the functions of `Model/World.lean` -/

section
variable (sk : Nat → Prop) (w : World)

theorem st_startOrders (m : Nat) (l : List Order) : st (w.startOrders m l) = st w := by
  unfold World.startOrders; frame
theorem hb_startOrders (m : Nat) (l : List Order) :
    HasBad (badAct sk) (w.startOrders m l) = HasBad (badAct sk) w := by
  unfold World.startOrders; frame
theorem st_schedUpdate (s : Nat) (b : Bool) : st (w.schedUpdate s b) = st w := by
  unfold World.schedUpdate; frame
theorem hb_schedUpdate (s : Nat) (b : Bool) :
    HasBad (badAct sk) (w.schedUpdate s b) = HasBad (badAct sk) w := by
  unfold World.schedUpdate; frame
theorem st_periodicSense (s : Nat) : st (w.periodicSense s) = st w := by
  unfold World.periodicSense; frame
theorem hb_periodicSense (s : Nat) : HasBad (badAct sk) (w.periodicSense s) = HasBad (badAct sk) w := by
  unfold World.periodicSense; frame

end

frame_lemmas2 st_startOrders hb_startOrders

theorem st_modMaint (w : World) (m : Nat) (f : Maint → Maint) : st (w.modMaint m f) = st w := rfl
theorem hb_modMaint (sk : Nat → Prop) (w : World) (m : Nat) (f : Maint → Maint) :
    HasBad (badAct sk) (w.modMaint m f) = HasBad (badAct sk) w := rfl
theorem st_setVar (w : World) (h : Nat) (v : Option Nat) : st (w.setVar h v) = st w := rfl
theorem hb_setVar (sk : Nat → Prop) (w : World) (h : Nat) (v : Option Nat) :
    HasBad (badAct sk) (w.setVar h v) = HasBad (badAct sk) w := rfl
frame_lemmas2 st_modMaint hb_modMaint
frame_lemmas2 st_setVar hb_setVar
macro_rules | `(tactic| fr_step) => `(tactic| rw [hb_sched])

theorem tdevE_setDev (w : World) (x : Nat) (d : Dev) (h : eraseB (tdev d) = eraseB (tdev (w.dev x))) :
    tv (w.setDev x d) = tv w := by
  simp only [tv, ST.topo, st, World.setDev, List.map_map]
  rw [map_set_getD_self (eraseB ∘ tdev) w.devs x default d h]

/-- The wiring view reads kind, wiring and group of the devices: written by `rewire` only. -/
theorem tv_floor : FloorClosed (fun w w' => tv w' = tv w) :=
  .ofAtoms (fun _ => rfl) (fun h1 h2 => h2.trans h1) (fun w m => tv_of_st (st_setErr w m))
    (fun _ _ _ => rfl) (fun _ _ _ => rfl)
    (fun w x d h => tdevE_setDev w x d (congrArg (fun d => eraseB (tdev d)) h :))
    (fun _ _ _ => rfl) (fun w t a act p _ => tv_of_st (st_schedLib w t a act p))
    (fun _ _ _ => rfl) (fun _ _ => rfl) (fun _ _ => rfl) (fun _ _ => rfl) (fun _ _ => rfl)
    (fun _ _ => rfl) (fun _ _ => rfl)

theorem tv_adjustParts (w : World) (x : Nat) (v : Int) : tv (w.adjustParts x v) = tv w :=
  tv_floor.adjustParts_of (fun _ _ _ => tdevE_setDev _ _ _ rfl) w x v

theorem st_plain : PlainClosed fun w w' => st w' = st w where
  refl := fun _ => rfl
  trans := fun h1 h2 => h2.trans h1
  tables := fun _ _ _ _ _ _ _ _ => rfl
  rmEffects := st_rmEffects
  schedScript := fun w t a _ p => st_sched w t a _ p
  orderRec := fun _ _ _ _ _ => rfl
  startOrders := st_startOrders
  setBlock := st_setBlock
  setCycle := fun w d _ => st_modDev_same w d _ fun _ => rfl
  addOffset := fun w d _ => st_modDev_same w d _ fun _ => rfl
  setParams := fun _ _ _ => rfl

theorem st_applyOp_static (w : World) (op : Op) (h1 : ∀ d ups, op ≠ .rewire d ups) (h2 : ∀ s, op ≠ .create s)
    (h3 : ∀ d n, op ≠ .adjust d n) : st (w.applyOp op).1 = st w := by
  cases op with
  | rewire d ups => exact absurd rfl (h1 d ups)
  | create s => exact absurd rfl (h2 s)
  | pause a => exact st_envOp w _
  | unpause a => exact st_envOp w _
  | cancel a => exact st_envOp w _
  | shutdown d =>
    rw [World.applyOp]
    split
    · rfl
    · exact st_shutdownDev w d _ _
  | restore d =>
    rw [World.applyOp]
    split
    · rfl
    · exact st_restoreDev w d
  | _ => exact st_plain.applyOp w _ rfl (fun t _ _ => st_sched w t _ _ _) fun d n e => absurd e (h3 d n)

theorem tv_applyOp_static (w : World) (op : Op) (h : OpStatic w op) : tv (w.applyOp op).1 = tv w := by
  by_cases h3 : ∃ d n, op = .adjust d n
  · obtain ⟨d, n, rfl⟩ := h3; exact tv_adjustParts w d n
  · apply tv_of_st
    apply st_applyOp_static
    · intro d ups e; subst e; exact h
    · intro s e; subst e; exact h
    · intro d n e; exact h3 ⟨d, n, e⟩

theorem hb_plain (sk : Nat → Prop) :
    PlainClosed fun w w' => HasBad (badAct sk) w' = HasBad (badAct sk) w :=
  .ofFloor (hb_floor sk).toFloorClosed (fun _ _ _ _ _ _ _ _ => rfl) (hb_floor sk).setBlockInput
    (fun w t a _ p => hb_sched _ w t a _ p (not_bad_of_not_fail sk _ fun _ e => nomatch e))
    (fun _ _ _ _ _ => rfl)
    (fun w t a _ _ => hb_schedLib _ w t a _ _ (not_bad_of_not_fail sk _ fun _ e => nomatch e))
    (fun _ _ _ => rfl)

/-- The one operation that could add a bad action schedules a failure, and only of a processor. -/
theorem hb_applyOp (sk : Nat → Prop) (w : World) (op : Op) (h : OpStatic w op)
    (hp : ∀ d, (w.dev d).kind = .processor → ¬ sk d) :
    HasBad (badAct sk) (w.applyOp op).1 = HasBad (badAct sk) w := by
  cases op with
  | rewire d ups => exact absurd h id
  | create s => exact absurd h id
  | pause a => exact hb_pause _ w a
  | unpause a => exact hb_unpause _ w a
  | cancel a => exact hb_cancel _ w a
  | shutdown d =>
    rw [World.applyOp]
    split
    · rfl
    · exact (hb_floor sk).shutdownDev w d _ _
  | restore d =>
    rw [World.applyOp]
    split
    · rfl
    · exact (hb_floor sk).restoreDev w d
  | _ =>
    exact (hb_plain sk).applyOp w _ rfl
      (fun t d hk => hb_sched _ w t _ _ _ (not_bad_fail sk d (hp d hk)))
      fun d n _ => (hb_floor sk).adjustParts w d n

theorem hb_applyOp_static (sk : Nat → Prop) (w : World) (op : Op) (hs : SkOK sk w) (h : OpStatic w op) :
    HasBad (badAct sk) (w.applyOp op).1 = HasBad (badAct sk) w :=
  hb_applyOp sk w op h fun d hk hd => by rw [(hs d).1 hd] at hk; cases hk

theorem sr_applyOp (sk : Nat → Prop) (w : World) (op : Op) (hs : SkOK sk w) (h : OpStatic w op) :
    SR sk w (w.applyOp op).1 :=
  ⟨tv_applyOp_static w op h, scr_applyOp w op, hb_applyOp_static sk w op hs h⟩


theorem SR.of_st {sk : Nat → Prop} {w w' : World} (h1 : st w' = st w) (h2 : w'.scripts = w.scripts)
    (h3 : HasBad (badAct sk) w' = HasBad (badAct sk) w) : SR sk w w' := ⟨tv_of_st h1, h2, h3⟩

theorem sr_applyOps (sk : Nat → Prop) (ops : List Op) : ∀ (w : World), Stat sk w →
    (∀ op ∈ ops, OpStatic w op) → SR sk w (w.applyOps ops) := by
  induction ops with
  | nil => intro w _ _; exact SR.refl sk w
  | cons op ops ih =>
    intro w h hok
    unfold World.applyOps
    simp only [List.foldl_cons]
    have r1 : SR sk w ((w.applyOp op).1.addRes (w.applyOp op).2) :=
      (sr_applyOp sk w op h.1 (hok op (List.mem_cons_self ..))).trans ⟨rfl, rfl, rfl⟩
    have := ih ((w.applyOp op).1.addRes (w.applyOp op).2) (h.of_sr r1)
      (fun o ho => opStatic_of_tv r1.1 o (hok o (List.mem_cons_of_mem _ ho)))
    unfold World.applyOps at this
    exact r1.trans this

theorem sr_runScript (sk : Nat → Prop) (w : World) (k : Nat) (h : Stat sk w) : SR sk w (w.runScript k) := by
  unfold World.runScript
  apply sr_applyOps sk _ w h
  intro op hop
  by_cases hk : k < w.scripts.length
  · have : w.scripts.getD k [] = w.scripts[k] := by simp [List.getD_eq_getElem?_getD, hk]
    rw [this] at hop
    exact h.2 _ (List.getElem_mem hk) op hop
  · have : w.scripts.getD k [] = [] := by simp [List.getD_eq_getElem?_getD, Nat.le_of_not_lt hk]
    rw [this] at hop; cases hop

theorem sr_scan (sk : Nat → Prop) (n : Nat) : ∀ (w : World) (i : Nat), Stat sk w →
    SR sk w (scanWaiting scanOps n w i) := by
  induction n with
  | zero => intro w i _; exact SR.refl sk w
  | succ n ih =>
    intro w i h
    unfold scanWaiting
    split
    · exact SR.refl sk w
    · split
      · rename_i req cb _ _
        have r1 : SR sk w (scanOps.erase (scanOps.call w cb req) i) := by
          cases cb with
          | script k =>
            have r0 : SR sk w (w.addRes (.cb k)) := ⟨rfl, rfl, rfl⟩
            exact (r0.trans (sr_runScript sk _ k (h.of_sr r0))).trans ⟨rfl, rfl, rfl⟩
          | proc d =>
            exact (SR.of_st (st_procResourceCb w d) (scr_floor.procResourceCb w d) ((hb_floor sk).procResourceCb w d)).trans
              ⟨rfl, rfl, rfl⟩
        exact r1.trans (ih _ _ (h.of_sr r1))
      · exact ih _ _ h

theorem sr_rmCheck (sk : Nat → Prop) (w : World) (h : Stat sk w) : SR sk w w.rmCheck := sr_scan sk _ _ _ h

theorem sr_hookStart (sk : Nat → Prop) (w : World) (tgt : Nat) (tag : Int) (h : Stat sk w) :
    SR sk w (w.hookStart tgt tag) := by
  have r0 : SR sk w (w.addRes (.hook true tgt tag)) := ⟨rfl, rfl, rfl⟩
  unfold World.hookStart
  simp only []
  split
  · exact r0.trans (SR.of_st (st_shutdownDev ..) (scr_floor.shutdownDev ..) ((hb_floor sk).shutdownDev ..))
  · split
    · exact r0.trans (sr_runScript sk _ _ (h.of_sr r0))
    · exact r0

theorem sr_hookEnd (sk : Nat → Prop) (w : World) (tgt : Nat) (tag : Int) (h : Stat sk w) :
    SR sk w (w.hookEnd tgt tag) := by
  have r0 : SR sk w (w.addRes (.hook false tgt tag)) := ⟨rfl, rfl, rfl⟩
  unfold World.hookEnd
  simp only []
  split
  · exact r0.trans (SR.of_st (st_restoreDev ..) (scr_floor.restoreDev ..) ((hb_floor sk).restoreDev ..))
  · split
    · exact r0.trans (sr_runScript sk _ _ (h.of_sr r0))
    · exact r0

theorem sr_startWork (sk : Nat → Prop) (w : World) (m seq : Nat) (h : Stat sk w) :
    SR sk w (w.startWork m seq) := by
  have key : ∀ w' : World, SR sk w w' → ∀ t g a b d,
      SR sk w ((w'.hookStart t g).schedLib a b (.finishWork m seq) d) := fun w' r t g a b d =>
    (r.trans (sr_hookStart sk w' t g (h.of_sr r))).trans
      (SR.of_st (st_schedLib ..) (scr_schedLib ..)
        (hb_schedLib _ _ _ _ _ _ (not_bad_of_not_fail sk _ (by intro d h; cases h))))
  unfold World.startWork
  split
  · exact SR.of_st (st_setErr ..) (scr_setErr ..) (hb_setErr ..)
  · simp only []
    refine key _ ?_ _ _ _ _ _
    exact ⟨rfl, rfl, rfl⟩

theorem sr_finishWork (sk : Nat → Prop) (w : World) (m seq : Nat) (h : Stat sk w) :
    SR sk w (w.finishWork m seq) := by
  have hM : ∀ w m f, SR sk w (w.modMaint m f) := fun _ _ _ => ⟨rfl, rfl, rfl⟩
  have hR : ∀ w r, SR sk w (w.addRec r) := fun _ _ => ⟨rfl, rfl, rfl⟩
  unfold World.finishWork
  split
  · exact SR.of_st (st_setErr ..) (scr_setErr ..) (hb_setErr ..)
  · simp only []
    rename_i o _
    -- one update at a time: `rfl` through all three at once is slow to check
    exact ((((sr_hookEnd sk w o.target o.tag h).trans (hM ..)).trans (hR ..)).trans (hM ..)).trans
      (SR.of_st (st_startOrders ..) (scr_startOrders ..) (hb_startOrders sk ..))

theorem sr_exec (sk : Nat → Prop) (w : World) (a : Action) (h : Stat sk w) : SR sk w (w.exec a) := by
  cases a with
  | terminate => exact SR.refl sk w
  | script k => exact sr_runScript sk w k h
  | finishCycle d => exact SR.of_st (st_finishCycle w d) (scr_floor.finishCycle w d) ((hb_floor sk).finishCycle w d)
  | passPart d => exact ⟨tv_floor.passPart w d, scr_floor.passPart w d, (hb_floor sk).passPart w d⟩
  | fail d => exact SR.of_st (st_failDev w d) (scr_floor.failDev w d) ((hb_floor sk).failDev w d)
  | releaseIfIdle d => exact SR.of_st (st_releaseIfIdle w d) (scr_floor.releaseIfIdle w d) ((hb_floor sk).releaseIfIdle w d)
  | rmCheck => exact sr_rmCheck sk w h
  | startWork m o => exact sr_startWork sk w m o h
  | finishWork m o => exact sr_finishWork sk w m o h
  | schedUpdate s => exact SR.of_st (st_schedUpdate w s true) (scr_schedUpdate w s true) (hb_schedUpdate sk w s true)
  | periodicSense s => exact SR.of_st (st_periodicSense w s) (scr_periodicSense w s) (hb_periodicSense sk w s)
  | unknown n => exact SR.of_st (st_setErr ..) (scr_setErr ..) (hb_setErr ..)

/-! ### the static closed-world theorem -/

/-- Static well-formedness: static scripts, good wiring, no failure of a sink pending. -/
def Static (w : World) : Prop :=
  ScriptsStatic w ∧ TopoOK w ∧ ¬ HasBad (badAct (fun d => (w.dev d).kind = .sink)) w

theorem devs_len_of_tv {w w' : World} (e : tv w' = tv w) : w'.devs.length = w.devs.length := by
  have := congrArg (fun t => t.devs.length) e
  simpa [tv, ST.topo, st] using this

theorem Static.of_sr {w w' : World} (h : Static w) (r : SR (fun d => (w.dev d).kind = .sink) w w') :
    Static w' := by
  have hs : Stat (fun d => (w.dev d).kind = .sink) w := ⟨fun _ => Iff.rfl, h.1⟩
  have hs' := hs.of_sr r
  refine ⟨hs'.2, h.2.1.of_tv r.1 (devs_len_of_tv r.1), ?_⟩
  have e : (fun d => (w'.dev d).kind = .sink) = (fun d => (w.dev d).kind = .sink) := by
    funext d; rw [kind_of_tv r.1]
  rw [e, r.2.2]; exact h.2.2

theorem scriptsOK_of_static {w : World} (h : ScriptsStatic w) : ScriptsOK' w := by
  intro l hl op hop
  have := h l hl op hop
  cases op <;> first | trivial | exact absurd this id

theorem static_actOK (w : World) (e : Event) (env' : Env) (h : Static w)
    (hst : w.env.step = some (e, env')) : ActOK { w with env := env' } (Action.ofNat e.act) := by
  cases ha : Action.ofNat e.act with
  | fail d =>
    intro hk
    apply h.2.2
    refine ⟨e.act, ?_, d, ha, hk⟩
    rw [mem_acts]
    refine ⟨e, Or.inl ?_, rfl⟩
    unfold Env.step at hst
    split at hst
    · cases hst
    · rename_i e' es he
      simp only [Option.some.injEq, Prod.mk.injEq] at hst
      rw [he, ← hst.1]; exact List.mem_cons_self ..
  | passPart x => exact h.2.1 x
  | _ => trivial

theorem static_pop (w : World) (e : Event) (env' : Env) (h : Static w)
    (hst : w.env.step = some (e, env')) : Static { w with env := env' } := by
  refine ⟨h.1, h.2.1, ?_⟩
  intro hb
  apply h.2.2
  obtain ⟨n, hn, hbad⟩ := hb
  refine ⟨n, ?_, hbad⟩
  unfold Env.step at hst
  split at hst
  · cases hst
  · rename_i e' es he
    simp only [Option.some.injEq, Prod.mk.injEq] at hst
    rw [mem_acts] at hn ⊢
    obtain ⟨x, hx, rfl⟩ := hn
    rw [← hst.2] at hx
    refine ⟨x, ?_, rfl⟩
    rw [he]
    rcases hx with hx | hx
    · exact Or.inl (List.mem_cons_of_mem _ hx)
    · exact Or.inr hx

theorem static_step (w w' : World) (e : Event) (hI : InvW w) (h : Static w) (hst : w.step = some (e, w')) :
    InvW w' ∧ Static w' := by
  have hg : Good Inv w := ⟨hI, scriptsOK_of_static h.1⟩
  refine ⟨(good_step w w' e hg hst (fun env' he _ => static_actOK w e env' h he)).1, ?_⟩
  unfold World.step at hst
  split at hst
  · cases hst
  · rename_i e' env' henv
    simp only [Option.some.injEq, Prod.mk.injEq] at hst
    obtain ⟨rfl, rfl⟩ := hst
    have h1 := static_pop w e' env' h henv
    split
    · exact h1.of_sr (sr_exec _ _ _ ⟨fun _ => Iff.rfl, h1.1⟩)
    · exact h1

theorem static_runLoop (n : Nat) : ∀ (w : World), InvW w → Static w →
    InvW (runLoop n w) ∧ Static (runLoop n w) := by
  induction n with
  | zero =>
    intro w hI h
    refine ⟨hI.of_sv (sv_setErr ..), h.of_sr (SR.of_st (st_setErr ..) (scr_setErr ..) (hb_setErr ..))⟩
  | succ n ih =>
    intro w hI h
    unfold runLoop
    split
    · split
      · exact ⟨hI, h⟩
      · rename_i e w' hst
        have := static_step w w' e hI h hst
        exact ih w' this.1 this.2
    · exact ⟨hI, h⟩


/-! ### initialisation -/

frame_lemmas2 st_schedUpdate hb_schedUpdate

theorem st_initAsset (w : World) (a : AssetRef) : st (w.initAsset a) = st w := by
  unfold World.initAsset; frame
theorem hb_initAsset (sk : Nat → Prop) (w : World) (a : AssetRef) :
    HasBad (badAct sk) (w.initAsset a) = HasBad (badAct sk) w := by
  unfold World.initAsset; frame

theorem scr_simulateInit (w : World) : w.simulateInit.scripts = w.scripts := by
  unfold World.simulateInit
  split
  · rfl
  · simp only []
    show World.scripts (List.foldl _ _ _) = _
    rw [foldl_proj World.scripts _ _ _ (fun _ _ => scr_initAsset ..), scr_rmEffects]

theorem sr_simulateInit (sk : Nat → Prop) (w : World) : SR sk w w.simulateInit := by
  unfold World.simulateInit
  split
  · exact SR.refl sk w
  · simp only []
    refine SR.of_st ?_ ?_ ?_
    · show st (List.foldl _ _ _) = _
      rw [foldl_proj st _ _ _ (fun _ _ => st_initAsset ..), st_rmEffects]; rfl
    · show World.scripts (List.foldl _ _ _) = _
      rw [foldl_proj World.scripts _ _ _ (fun _ _ => scr_initAsset ..), scr_rmEffects]
    · show HasBad (badAct sk) (List.foldl _ _ _) = _
      rw [foldl_proj (HasBad (badAct sk)) _ _ _ (fun _ _ => hb_initAsset sk ..), (hb_floor sk).rmEffects]; rfl

theorem static_simulateInit (w : World) (h : Static w) : Static w.simulateInit :=
  h.of_sr (sr_simulateInit _ w)

end C02V
end SimProc
