/-
C15W / C16W — machinery, part 5: frames (who may change what) and the one-step value lemmas.
-/
import SimProc.Proofs.C15WReach

namespace SimProc
namespace C15W
open World FloorCoreL C15 RM
set_option linter.unusedSimpArgs false

variable {ph : Phase}

/-! ### frames of the permissions -/

/-- Without the permission to charge a maintainer (and outside `initialize`) no maintainer's value
changes. -/
theorem KStep.frame_maint {k k' : WKey} (h : KStep ph k k') (hc : ph.cst = false) (hi : ph.ini = false) :
    k'.mvals = k.mvals := by
  induction h with
  | trans _ _ ih1 ih2 => exact ih2.trans ih1
  | maintCost k m c hph => rw [hc] at hph; cases hph
  | maintReset k m hph => rw [hi] at hph; cases hph
  | _ => rfl

/-- Without the permissions to move parts and to supply (and outside `initialize`) no device and
no delivery changes. -/
theorem KStep.frame_quiet {k k' : WKey} (h : KStep ph k k') (hm : ph.mv = false) (hs : ph.sup = false)
    (hi : ph.ini = false) : k'.devs = k.devs ∧ k'.delivered = k.delivered := by
  induction h with
  | trans _ _ ih1 ih2 => exact ⟨ih2.1.trans ih1.1, ih2.2.trans ih1.2⟩
  | recvSink k x p q v lv hph => rw [Phase.moves, hm] at hph; cases hph
  | recvBuf k x p n q v hph => rw [Phase.moves, hm] at hph; cases hph
  | release k x n hph => rw [Phase.moves, hm] at hph; cases hph
  | supply k x p v hph => rw [hs] at hph; cases hph
  | devReset k x hph => rw [hi] at hph; cases hph
  | _ => exact ⟨rfl, rfl⟩

/-- A hand-over (no supply, outside `initialize`) changes only sinks and buffers. -/
theorem KStep.frame_flow {k k' : WKey} (h : KStep ph k k') (hs : ph.sup = false) (hi : ph.ini = false) :
    ∀ x, (k.dev x).kind ≠ .sink → (k.dev x).kind ≠ .buffer → k'.dev x = k.dev x := by
  induction h with
  | trans h1 _ ih1 ih2 =>
    intro x hsk hb
    have hk := ((KStep.static h1).2.2.1 x).1
    rw [ih2 x (by rw [hk]; exact hsk) (by rw [hk]; exact hb), ih1 x hsk hb]
  | recvSink k x p q v lv hph hx hk =>
    intro y hsk hb
    simp only [WKey.dev, getD_set] at hsk hk ⊢
    split
    · rename_i hc; rw [← hc.1] at hsk; exact absurd hk hsk
    · rfl
  | recvBuf k x p n q v hph hx hk =>
    intro y hsk hb
    simp only [WKey.dev, getD_set] at hb hk ⊢
    split
    · rename_i hc; rw [← hc.1] at hb; exact absurd hk hb
    · rfl
  | release k x n hph hx hk =>
    intro y hsk hb
    simp only [WKey.dev, getD_set] at hb hk ⊢
    split
    · rename_i hc; rw [← hc.1] at hb; exact absurd hk hb
    · rfl
  | supply k x p v hph => rw [hs] at hph; cases hph
  | devReset k x hph => rw [hi] at hph; cases hph
  | _ => intro _ _ _; rfl

theorem KS.quiet_dev {w w' : World} (h : KS ph w w') (hm : ph.mv = false) (hs : ph.sup = false)
    (hi : ph.ini = false) (x : Nat) : dkey (w'.dev x) = dkey (w.dev x) := by
  rw [← key_dev, ← key_dev]
  unfold WKey.dev
  rw [(KStep.frame_quiet h hm hs hi).1]

theorem KS.maint_val {w w' : World} (h : KS ph w w') (hc : ph.cst = false) (hi : ph.ini = false)
    (m : Nat) : (w'.maint m).val = (w.maint m).val := by
  rw [← key_mval, ← key_mval]
  unfold WKey.mval
  rw [KStep.frame_maint h hc hi]

theorem KS.flow_dev {w w' : World} (h : KS ph w w') (hs : ph.sup = false) (hi : ph.ini = false)
    (x : Nat) (hsk : (w.dev x).kind ≠ .sink) (hb : (w.dev x).kind ≠ .buffer) :
    dkey (w'.dev x) = dkey (w.dev x) := by
  rw [← key_dev, ← key_dev]
  exact KStep.frame_flow h hs hi x (by rw [key_dev]; exact hsk) (by rw [key_dev]; exact hb)

/-! ### one step: a source supplies -/

/-- `Source._pass_part_downstream`: either the hand-over succeeded — then the counter goes up by
one, `costProduced` by the value `v` the part had BEFORE the hand-over, and the source's value
bookkeeping records the cost `v` — or none of the source's fields changes. -/
theorem source_supply_step (w : World) (x : Nat) (hk : (w.dev x).kind = .source) :
    (∃ p, (w.dev x).output = some p ∧
        ((w.passPart x).dev x).produced = (w.dev x).produced + 1 ∧
        ((w.passPart x).dev x).costProduced = (w.dev x).costProduced + w.partValue p ∧
        ((w.passPart x).dev x).val = (w.dev x).val.addCost lblSupplied w.now (w.partValue p)) ∨
      dkey ((w.passPart x).dev x) = dkey (w.dev x) := by
  have hs : (w.dev x).kind ≠ .sink := by rw [hk]; intro h; cases h
  have hb : (w.dev x).kind ≠ .buffer := by rw [hk]; intro h; cases h
  have h1 : KS .flow w (w.passHandler x) := KS_passHandler (show Phase.flow.mv = true from rfl) w x
  have hd1 := h1.flow_dev rfl rfl x hs hb
  rw [passPart_source_eq w x hk]
  split
  · exact Or.inr rfl
  · split
    · exact Or.inr rfl
    · rename_i p hp
      split
      · left
        refine ⟨p, hp, ?_⟩
        have hx : x < (w.passHandler x).devs.length := by rw [h1.devs_length]; exact kind_source_lt hk
        have hq := (KS_scheduleFinish (ph := .quiet)
          ((bump (w.passHandler x) x (w.partValue p)).addRec (.supplied x (w.passHandler x).now p)) x).quiet_dev rfl rfl rfl x
        have hnow : (w.passHandler x).now = w.now := (ExtN.floor.passHandler w x).now_eq
        have e : ((bump (w.passHandler x) x (w.partValue p)).addRec
            (.supplied x (w.passHandler x).now p)).dev x =
            { (w.passHandler x).dev x with
              produced := ((w.passHandler x).dev x).produced + 1
              val := ((w.passHandler x).dev x).val.addCost lblSupplied (w.passHandler x).now (w.partValue p)
              costProduced := ((w.passHandler x).dev x).costProduced + w.partValue p } := by
          rw [dev_addRec]; unfold bump; rw [dev_modDev_same hx]
        rw [e] at hq
        have a1 := congrArg DKey.produced hq
        have a2 := congrArg DKey.costProduced hq
        have a3 := congrArg DKey.val hq
        have b1 := congrArg DKey.produced hd1
        have b2 := congrArg DKey.costProduced hd1
        have b3 := congrArg DKey.val hd1
        simp only [dkey] at a1 a2 a3 b1 b2 b3
        rw [a1, a2, a3, b1, b2, b3, hnow]
        exact ⟨rfl, rfl, rfl⟩
      · exact Or.inr hd1

/-! ### one step: a sink receives -/

theorem acceptPart_sink_recvValue (w : World) (x p : Nat) (h : (w.dev x).kind = .sink) :
    ((w.acceptPart x p).dev x).recvValue = (w.dev x).recvValue + w.partValue p := by
  have h1 : ((acceptHead w x p).dev x).kind = .sink := by
    rw [acceptHead_dev_field Dev.kind (fun _ _ => rfl) (fun _ => rfl)]; exact h
  have hx := kind_sink_lt h1
  rw [acceptPart_eq, onReceived_eq,
    sink_recvTail_dev_field Dev.recvValue (fun _ _ _ _ _ => rfl) (fun _ => rfl)]
  · rw [dev_addRec]
    unfold recvHead
    simp only [h1]
    rw [dev_setDev_same hx, acceptHead_partValue,
      acceptHead_dev_field Dev.recvValue (fun _ _ => rfl) (fun _ => rfl)]
  · rw [dev_addRec, recvHead_kind]; exact h1

theorem acceptPart_sink_val (w : World) (x p : Nat) (h : (w.dev x).kind = .sink) :
    ((w.acceptPart x p).dev x).val = (w.dev x).val.addValue lblCollected w.now (w.partValue p) := by
  have h1 : ((acceptHead w x p).dev x).kind = .sink := by
    rw [acceptHead_dev_field Dev.kind (fun _ _ => rfl) (fun _ => rfl)]; exact h
  have hx := kind_sink_lt h1
  rw [acceptPart_eq, onReceived_eq,
    sink_recvTail_dev_field Dev.val (fun _ _ _ _ _ => rfl) (fun _ => rfl)]
  · rw [dev_addRec]
    unfold recvHead
    simp only [h1]
    rw [dev_setDev_same hx, acceptHead_partValue,
      acceptHead_dev_field Dev.val (fun _ _ => rfl) (fun _ => rfl), RN_now (RN_acceptHead w x p)]
  · rw [dev_addRec, recvHead_kind]; exact h1

/-! ### one step: a maintainer starts a work order -/

theorem maint_modMaint_same (w : World) (m : Nat) (f : Maint → Maint) (hm : m < w.maints.length) :
    (w.modMaint m f).maint m = f (w.maint m) := by
  unfold World.maint World.modMaint
  simp [List.getD_eq_getElem?_getD, hm]

theorem startWork_val (w : World) (m seq : Nat) (o : Order) (hn : NoCreate w)
    (h : (w.maint m).findActive seq = some o) (hm : m < w.maints.length) :
    ((w.startWork m seq).maint m).val =
      (w.maint m).val.addCost lblWorkOrder w.now (w.targetParams o.target o.tag).2.2 := by
  have hs : ∀ (v : World) (t a : Int) (act : Action) (p : Int),
      ((v.schedLib t a act p).maint m).val = (v.maint m).val :=
    fun v t a act p => (KS_schedLib (ph := .quiet) v t a act p).maint_val rfl rfl m
  have hh : ∀ (v : World) (t : Nat) (g : Int), NoCreate v →
      ((v.hookStart t g).maint m).val = (v.maint m).val :=
    fun v t g hv => (KS_hookStart (ph := .quiet) v t g hv).maint_val rfl rfl m
  unfold startWork
  simp only [h]
  rw [hs, hh, maint_modMaint_same (w.addRec _) m _ hm]
  · rfl
  · exact hn.of_scripts rfl

/-! ### who changes what, at the level of events -/

/-- Only `pass_part` events change the observable fields of a device (`kind`, `produced`,
`costProduced`, `recvCount`, `recvValue`, `level`, `val`). -/
theorem exec_dev_frame (w : World) (a : Action) (hn : NoCreate w) (ha : ∀ d, a ≠ .passPart d) (x : Nat) :
    dkey ((w.exec a).dev x) = dkey (w.dev x) :=
  (KS_exec (ph := ⟨false, false, true, false⟩) w a hn (fun d e => absurd e (ha d))
    (fun _ _ _ => rfl)).quiet_dev rfl rfl rfl x

/-- Only `start_work` events change the value of a maintainer. -/
theorem exec_maint_frame (w : World) (a : Action) (hn : NoCreate w) (ha : ∀ m o, a ≠ .startWork m o)
    (m : Nat) : ((w.exec a).maint m).val = (w.maint m).val :=
  (KS_exec (ph := ⟨true, true, false, false⟩) w a hn (fun _ _ => ⟨rfl, fun _ => rfl⟩)
    (fun m o e => absurd e (ha m o))).maint_val rfl rfl m

/-- A `pass_part` event of a device that is not a source changes only sinks and buffers. -/
theorem exec_passPart_frame (w : World) (d : Nat) (hk : (w.dev d).kind ≠ .source) (x : Nat)
    (hs : (w.dev x).kind ≠ .sink) (hb : (w.dev x).kind ≠ .buffer) :
    dkey ((w.exec (.passPart d)).dev x) = dkey (w.dev x) :=
  (KS_passPart (ph := .flow) rfl w d (fun h => absurd h hk)).flow_dev rfl rfl x hs hb

/-! ### what never changes: the devices, their kinds and starting values -/

theorem KRun.static {k k' : WKey} (h : KRun k k') :
    k'.devs.length = k.devs.length ∧ k'.mvals.length = k.mvals.length ∧
    (∀ x, (k'.dev x).kind = (k.dev x).kind ∧ (k'.dev x).val.init = (k.dev x).val.init) ∧
    (∀ m, (k'.mval m).init = (k.mval m).init) := by
  induction h with
  | refl k => exact ⟨rfl, rfl, fun _ => ⟨rfl, rfl⟩, fun _ => rfl⟩
  | trans _ _ ih1 ih2 =>
    exact ⟨ih2.1.trans ih1.1, ih2.2.1.trans ih1.2.1,
      fun x => ⟨(ih2.2.2.1 x).1.trans (ih1.2.2.1 x).1, (ih2.2.2.1 x).2.trans (ih1.2.2.1 x).2⟩,
      fun m => (ih2.2.2.2 m).trans (ih1.2.2.2 m)⟩
  | act h => exact KStep.static h
  | pop k => exact ⟨rfl, rfl, fun _ => ⟨rfl, rfl⟩, fun _ => rfl⟩

/-- In every reachable state the devices and maintainers are those of the fresh world, with their
kinds and starting values. -/
theorem reach_static {w0 w : World} (hn : NoCreate w0) (hi : w0.rm.inited = false)
    (hr : Reachable w0 w) :
    w.devs.length = w0.devs.length ∧ w.maints.length = w0.maints.length ∧
    (∀ x, (w.dev x).kind = (w0.dev x).kind ∧ (w.dev x).val.init = (w0.dev x).val.init) ∧
    (∀ m, (w.maint m).val.init = (w0.maint m).val.init) := by
  obtain ⟨h1, h2, _⟩ := reach_key hn hi hr
  have s1 := KStep.static h1
  have s2 := KRun.static h2
  refine ⟨?_, ?_, fun x => ?_, fun m => ?_⟩
  · have := s2.1.trans s1.1
    simpa using this
  · have := s2.2.1.trans s1.2.1
    simpa [key] using this
  · have a := (s2.2.2.1 x).1.trans (s1.2.2.1 x).1
    have b := (s2.2.2.1 x).2.trans (s1.2.2.1 x).2
    rw [key_dev, key_dev] at a b
    exact ⟨a, b⟩
  · have := (s2.2.2.2 m).trans (s1.2.2.2 m)
    rw [key_mval, key_mval] at this
    exact this

end C15W
end SimProc
