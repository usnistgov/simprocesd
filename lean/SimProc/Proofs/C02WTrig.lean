/-
C02W machinery, part 1: the *trigger view* of a world — which failure / script actions are waiting
in the event queue, which scripts are registered as resource callbacks, which scripts are the hooks
of maintenance targets.  "The trigger view is unchanged" contains the atoms of the floor
(`tg_floor`): no function of `Model/Floor.lean` changes it.
-/
import SimProc.Proofs.StaticWorld
import SimProc.Proofs.C10Lemmas
namespace SimProc
namespace C02W
open World C02V

/-! ### sensitive action codes -/

/-- Action codes whose execution needs a precondition: failures and scripts. -/
def Sens (n : Nat) : Prop := (∃ d, Action.ofNat n = .fail d) ∨ (∃ k, Action.ofNat n = .script k)

theorem ofNat_toNat_script (a : Action) (d : Nat) (h : Action.ofNat a.toNat = .script d) :
    a = .script d := by
  cases a with
  | terminate => simp [Action.toNat, Action.ofNat] at h
  | script k =>
    have h1 : (1 + 16 * k) % 16 = 1 := by omega
    have h2 : (1 + 16 * k) / 16 = k := by omega
    simp [Action.toNat, Action.ofNat, h1, h2] at h
    rw [h]
  | finishCycle k =>
    have : (2 + 16 * k) % 16 = 2 := by omega
    simp [Action.toNat, Action.ofNat, this] at h
  | passPart k =>
    have : (3 + 16 * k) % 16 = 3 := by omega
    simp [Action.toNat, Action.ofNat, this] at h
  | fail k =>
    have h1 : (4 + 16 * k) % 16 = 4 := by omega
    simp [Action.toNat, Action.ofNat, h1] at h
  | releaseIfIdle k =>
    have : (5 + 16 * k) % 16 = 5 := by omega
    simp [Action.toNat, Action.ofNat, this] at h
  | rmCheck => simp [Action.toNat, Action.ofNat] at h
  | startWork m o =>
    have : (7 + 16 * (m + 256 * o)) % 16 = 7 := by omega
    simp [Action.toNat, Action.ofNat, this] at h
  | finishWork m o =>
    have : (8 + 16 * (m + 256 * o)) % 16 = 8 := by omega
    simp [Action.toNat, Action.ofNat, this] at h
  | schedUpdate k =>
    have : (9 + 16 * k) % 16 = 9 := by omega
    simp [Action.toNat, Action.ofNat, this] at h
  | periodicSense k =>
    have : (10 + 16 * k) % 16 = 10 := by omega
    simp [Action.toNat, Action.ofNat, this] at h
  | unknown k =>
    have : (15 + 16 * k) % 16 = 15 := by omega
    simp [Action.toNat, Action.ofNat, this] at h

theorem ofNat_script (k : Nat) : Action.ofNat (Action.script k).toNat = .script k := by
  have h1 : (1 + 16 * k) % 16 = 1 := by omega
  have h2 : (1 + 16 * k) / 16 = k := by omega
  simp [Action.toNat, Action.ofNat, h1, h2]

theorem ofNat_fail (k : Nat) : Action.ofNat (Action.fail k).toNat = .fail k := by
  have h1 : (4 + 16 * k) % 16 = 4 := by omega
  have h2 : (4 + 16 * k) / 16 = k := by omega
  simp [Action.toNat, Action.ofNat, h1, h2]

/-- The library's own actions are not sensitive. -/
theorem not_sens (a : Action) (h1 : ∀ d, a ≠ .fail d) (h2 : ∀ k, a ≠ .script k) : ¬ Sens a.toNat := by
  rintro (⟨d, hd⟩ | ⟨k, hk⟩)
  · exact h1 d (ofNat_toNat_fail a d hd)
  · exact h2 k (ofNat_toNat_script a k hk)

/-! ### the trigger view -/

def cbScript : Cb → Option Nat
  | .script k => some k
  | .proc _ => none

/-- the scripts registered as resource callbacks -/
def rmScripts (rm : RM) : List Nat := rm.waiting.filterMap (fun e => cbScript e.2)

structure TV where
  /-- sensitive action codes among the pending and paused events -/
  pend : Nat → Prop
  rms : List Nat
  hooks : List (Option Nat × Option Nat)

def trig (w : World) : TV :=
  ⟨fun n => n ∈ acts w.env ∧ Sens n, rmScripts w.rm, w.targets.map (fun t => (t.startScript, t.endScript))⟩

theorem trig_ext {w w' : World} (h1 : ∀ n, Sens n → (n ∈ acts w'.env ↔ n ∈ acts w.env))
    (h2 : rmScripts w'.rm = rmScripts w.rm) (h3 : w'.targets = w.targets) : trig w' = trig w := by
  unfold trig
  rw [h2, h3]
  congr 1
  funext n
  apply propext
  constructor
  · rintro ⟨a, b⟩; exact ⟨(h1 n b).1 a, b⟩
  · rintro ⟨a, b⟩; exact ⟨(h1 n b).2 a, b⟩

/-! ### primitives -/

theorem acts_sched (w : World) (t a : Int) (act : Action) (p : Int) (n : Nat) :
    n ∈ acts (w.sched t a act p).1.env → n = act.toNat ∨ n ∈ acts w.env := by
  unfold World.sched
  simp only []
  split
  · rename_i e he
    simp only [Env.apply] at he
    split at he
    · cases he
    · rename_i s' hs
      cases he
      intro h
      exact (acts_schedule hs n).1 h
  · exact Or.inr

theorem acts_sched_old (w : World) (t a : Int) (act : Action) (p : Int) (n : Nat) :
    n ∈ acts w.env → n ∈ acts (w.sched t a act p).1.env := by
  unfold World.sched
  simp only []
  split
  · rename_i e he
    simp only [Env.apply] at he
    split at he
    · cases he
    · rename_i s' hs
      cases he
      intro h
      exact (acts_schedule hs n).2 (Or.inr h)
  · exact id

theorem rm_sched (w : World) (t a : Int) (act : Action) (p : Int) : (w.sched t a act p).1.rm = w.rm := by
  unfold World.sched; simp only []; split <;> rfl
theorem targets_sched (w : World) (t a : Int) (act : Action) (p : Int) :
    (w.sched t a act p).1.targets = w.targets := by
  unfold World.sched; simp only []; split <;> rfl

section
variable (w : World)

theorem tg_sched (t a : Int) (act : Action) (p : Int) (h : ¬ Sens act.toNat) :
    trig (w.sched t a act p).1 = trig w := by
  apply trig_ext
  · intro n hn
    constructor
    · intro h'
      rcases acts_sched w t a act p n h' with rfl | h''
      · exact absurd hn h
      · exact h''
    · exact acts_sched_old w t a act p n
  · rw [rm_sched]
  · rw [targets_sched]

theorem tg_setErr (m : String) : trig (w.setErr m) = trig w := by
  unfold World.setErr; split <;> rfl

theorem tg_schedLib (t a : Int) (act : Action) (p : Int) (h : ¬ Sens act.toNat) :
    trig (w.schedLib t a act p) = trig w := by
  have := tg_sched w t a act p h
  unfold World.schedLib
  split
  · simp_all
  · rw [tg_setErr]; simp_all

theorem tg_pause (a : Int) : trig (w.envOp (.pause a)) = trig w := by
  apply trig_ext
  · intro n _; unfold World.envOp; simp only [Env.apply, acts_pause]
  · rfl
  · rfl
theorem tg_unpause (a : Int) : trig (w.envOp (.unpause a)) = trig w := by
  apply trig_ext
  · intro n _; unfold World.envOp; simp only [Env.apply, acts_unpause]
  · rfl
  · rfl
theorem tg_cancel (a : Int) : trig (w.envOp (.cancel a)) = trig w := by
  apply trig_ext
  · intro n _; unfold World.envOp; simp only [Env.apply, acts_cancel]
  · rfl
  · rfl

theorem tg_addRec (r : Rec) : trig (w.addRec r) = trig w := rfl
theorem tg_addRes (r : Res) : trig (w.addRes r) = trig w := rfl
theorem tg_setDev (x : Nat) (d : Dev) : trig (w.setDev x d) = trig w := rfl
theorem tg_modDev (x : Nat) (f : Dev → Dev) : trig (w.modDev x f) = trig w := rfl
theorem tg_modPart (p : Nat) (f : PartRec → PartRec) : trig (w.modPart p f) = trig w := rfl

/-- replacing the resource manager by one with the same script callbacks -/
theorem tg_withRm (rm : RM) (h : rmScripts rm = rmScripts w.rm) : trig { w with rm := rm } = trig w := by
  unfold trig; simp only [h]

end

/-! ### the resource manager's operations keep the waiting list (except `register`) -/

theorem rms_reserve (rm : RM) (req : Req) : rmScripts (rm.reserve req).1 = rmScripts rm := by
  unfold rmScripts; rw [(C10.reserve_spec rm req).1]

theorem rms_release (rm : RM) (id : Nat) (part : Option Req) :
    rmScripts (rm.release id part).1 = rmScripts rm := by
  unfold rmScripts
  rcases C10.release_cases rm id part with ⟨h, _⟩ | ⟨_, _, hw, _⟩
  · rw [h]
  · rw [hw]

theorem rms_add (rm : RM) (r : Nat) (amt : Int) : rmScripts (rm.add r amt).1 = rmScripts rm := by
  unfold rmScripts
  rcases C10.add_cases rm r amt with ⟨h, _⟩ | ⟨_, _, _, v, hv⟩
  · rw [h]
  · rw [hv]; simp

theorem rms_merge (rm : RM) (a b : Nat) : rmScripts (rm.merge a b).1 = rmScripts rm := by
  unfold rmScripts; rw [(C10.merge_spec rm a b).1]

theorem rms_init (rm : RM) : rmScripts rm.init.1 = rmScripts rm := rfl

theorem rms_register_proc (rm : RM) (req : Req) (x : Nat) :
    rmScripts (rm.register req (.proc x)).1 = rmScripts rm := by
  simp [rmScripts, RM.register, cbScript]

theorem rms_register_script (rm : RM) (req : Req) (k : Nat) :
    rmScripts (rm.register req (.script k)).1 = rmScripts rm ++ [k] := by
  simp [rmScripts, RM.register, cbScript]

/-! ### the `frame` tactic, extended to the trigger view -/

macro_rules | `(tactic| fr_step) => `(tactic| first
  | rw [tg_setErr] | rw [tg_addRec] | rw [tg_addRes] | rw [tg_setDev] | rw [tg_modDev] | rw [tg_modPart]
  | rw [tg_pause] | rw [tg_unpause] | rw [tg_cancel]
  | rw [tg_schedLib]
  | (apply not_sens <;> (intro _ h; cases h))
  | rw [foldl_proj trig])

/-- declare a frame lemma as a rewrite step of `frame` -/
macro "tg_lemma" a:ident : command =>
  `(macro_rules | `(tactic| fr_step) => `(tactic| rw [$a:ident]))

section
variable (w : World)

theorem tg_rmEffects (recs : List ResRec) (c : Bool) : trig (w.rmEffects recs c) = trig w := by
  unfold World.rmEffects; frame
tg_lemma tg_rmEffects

theorem tg_releaseReserved (x : Nat) : trig (w.releaseReserved x) = trig w := by
  unfold World.releaseReserved
  split
  · rfl
  · rename_i id _
    simp only []
    rw [tg_modDev, tg_rmEffects]
    exact tg_withRm w _ (rms_release ..)

theorem tg_procAcquire (x : Nat) : trig (w.procAcquire x).1 = trig w := by
  unfold World.procAcquire
  simp only []
  split
  · rfl
  · split
    · rfl
    · rename_i req _ _
      split
      · rename_i rm r id recs heq
        simp only []
        rw [tg_modDev, tg_rmEffects]
        refine tg_withRm w _ ?_
        have := rms_reserve w.rm req
        rw [heq] at this
        exact this
      · rw [tg_setErr]
      · split
        · rfl
        · simp only []
          rw [tg_modDev, tg_rmEffects]
          exact tg_withRm w _ (rms_register_proc ..)

theorem tg_senseOutput (s p : Nat) : trig (w.senseOutput s p) = trig w := by
  unfold World.senseOutput; frame

theorem tg_genPart (x : Nat) : trig (w.genPart x).1 = trig w := by
  cases h : ((w.dev x).genBatch == 0)
  · rw [genPart_batch w x h]; rfl
  · rw [genPart_leaf w x h]; rfl

end

/-- The floor neither schedules a failure or a script, nor registers a script with the resource
manager, nor touches the maintenance targets. -/
theorem tg_floor : FloorClosed.Ops (fun w w' => trig w' = trig w) where
  refl := fun _ => rfl
  trans := fun h1 h2 => h2.trans h1
  setErr := tg_setErr
  addRec := fun _ _ _ => rfl
  addRes := fun _ _ _ => rfl
  setDev := fun _ _ _ _ => rfl
  modPart := fun _ _ _ => rfl
  newPart := fun _ _ => rfl
  schedLib := fun w t a act p h => tg_schedLib w t a act p
    (not_sens act (by cases h <;> (intro _ h; cases h)) (by cases h <;> (intro _ h; cases h)))
  envOp := fun w op h => by
    cases h
    · exact tg_pause ..
    · exact tg_unpause ..
    · exact tg_cancel ..
  setDelivered := fun _ _ => rfl
  setLost := fun _ _ => rfl
  releaseReserved := tg_releaseReserved
  procAcquire := tg_procAcquire
  produce w x p _ := World.produce_walk (R := fun w w' => trig w' = trig w) (fun _ => rfl)
    (fun h1 h2 => h2.trans h1) tg_senseOutput (fun _ _ _ _ _ _ => rfl) w x p
  genPart := tg_genPart
  setBlockInput := fun _ _ _ => rfl
  setMaxParts := fun _ _ _ => rfl
  setWiring := fun _ _ _ _ => rfl
  setInited := fun _ _ _ => rfl
  clearWaitingRes := fun _ _ => rfl

-- the floor functions that `applyOp` and `initAsset` call
frame_lemmas tg_floor.shutdownDev tg_floor.restoreDev tg_floor.setBlock
frame_lemmas tg_floor.adjustParts tg_floor.rewire tg_floor.initDev

/-! ### `Model/World.lean` -/

section
variable (w : World)

theorem tg_startOrders (m : Nat) (l : List Order) : trig (w.startOrders m l) = trig w := by
  unfold World.startOrders; frame
tg_lemma tg_startOrders
theorem tg_schedUpdate (s : Nat) (b : Bool) : trig (w.schedUpdate s b) = trig w := by
  unfold World.schedUpdate; frame
tg_lemma tg_schedUpdate
theorem tg_periodicSense (s : Nat) : trig (w.periodicSense s) = trig w := by
  unfold World.periodicSense; frame
theorem tg_modMaint (m : Nat) (f : Maint → Maint) : trig (w.modMaint m f) = trig w := rfl
tg_lemma tg_modMaint
theorem tg_setVar (h : Nat) (v : Option Nat) : trig (w.setVar h v) = trig w := rfl
tg_lemma tg_setVar
theorem tg_initAsset (a : AssetRef) : trig (w.initAsset a) = trig w := by
  unfold World.initAsset; frame

end
end C02W
end SimProc
