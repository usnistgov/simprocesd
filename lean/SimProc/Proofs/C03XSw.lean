/-
C03W — the static world `sw w` (static part of every device, scripts, which device a maintenance
target shuts down) is never changed by a world whose scripts contain no `rewire` / `create`.
-/
import SimProc.Proofs.C03XStatic
import SimProc.Proofs.C03XSwv

namespace SimProc
namespace C03W
open World C02V

/-- static devices / targets and scripts are unchanged -/
def SW (w w' : World) : Prop := swv w' = swv w ∧ w'.scripts = w.scripts


theorem SW.sw_eq {w w' : World} (h : SW w w') : sw w' = sw w := by
  have h1 : w'.devs.map stat1 = w.devs.map stat1 := congrArg Prod.fst h.1
  have h2 : w'.targets.map (·.dev) = w.targets.map (·.dev) := congrArg (fun t => t.2.1) h.1
  have h3 : w'.groups = w.groups := congrArg (fun t => t.2.2) h.1
  unfold sw
  rw [h1, h.2, h3]
  have : ∀ l : List Target, l.map (fun t => ({ dev := t.dev } : Target)) =
      (l.map (·.dev)).map (fun d => ({ dev := d } : Target)) := by
    intro l; rw [List.map_map]; rfl
  rw [this, this w.targets, h2]

theorem NR.of_sw {w w' : World} (h : NR w) (r : SW w w') : NR w' := by
  intro l hl op hop
  rw [r.2] at hl
  exact h l hl op hop

theorem SW.blind : Blind SW := swv_blind.and blind_scripts

/-- The events of a world whose scripts neither re-wire nor create. -/
theorem SW.events : RunClosed NR SW :=
  SW.blind.events NR.of_sw fun w op h ⟨l, hl, hop⟩ =>
    SW.blind.applyOp w op (h l hl op hop).2 fun d ups e => absurd e ((h l hl op hop).1 d ups)

theorem sw_exec (w : World) (a : Action) (h : NR w) : SW w (w.exec a) := SW.events.exec w a h

theorem sw_step (w w' : World) (e : Event) (h : NR w) (hst : w.step = some (e, w')) : SW w w' :=
  SW.events.step h hst

theorem sw_runLoop (n : Nat) : ∀ (w : World), NR w → SW w (runLoop n w) := SW.events.runLoop n

theorem sw_runBegin (w : World) (d : Int) : SW w (w.runBegin d).1 := SW.blind.runBegin w d

theorem sw_simulateInit (w : World) : SW w w.simulateInit := SW.blind.simulateInit w

end C03W
end SimProc
