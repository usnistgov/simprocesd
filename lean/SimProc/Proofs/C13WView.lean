/-
C13W (shutdown / failure / restore in the closed world), part 1: the MACHINE VIEW of a device `x`
(`pvw x w`: slots, reservation, shutdown flag, the four accounting fields, the numbers of callbacks
— together with the clock, the ghost log of lost parts and the failure records of the data log) and
the frame lemmas of the primitives and of the floor functions: everything that does not act on `x`
itself leaves the view of `x` alone.
-/
import SimProc.Proofs.C13Lemmas
import SimProc.Proofs.FloorSt
namespace SimProc
namespace C13W
open World FloorCoreL

/-! ### the view -/

/-- The machine-relevant part of a device record. -/
structure PV where
  kind : Kind
  aid : Int
  part : Option Nat
  output : Option Nat
  reserved : Option Nat
  shutDown : Bool
  uptime : Int
  lastRestore : Option Int
  timeInUse : Int
  lastUseStart : Option Int
  nShutCbs : Nat
  nRestCbs : Nat
deriving DecidableEq

def pvd (d : Dev) : PV :=
  ⟨d.kind, d.aid, d.part, d.output, d.reserved, d.shutDown, d.uptime, d.lastRestore, d.timeInUse,
    d.lastUseStart, d.nShutCbs, d.nRestCbs⟩

/-- `device_failure` records -/
def isFailRec : Rec → Bool
  | .failure .. => true
  | _ => false

/-- The view of device `x` in a world: the machine part of its record, the clock, the ghost log of
lost parts, the failure records of the data log. -/
structure WV where
  d : PV
  now : Int
  lost : List Nat
  frecs : List Rec

def pvw (x : Nat) (w : World) : WV := ⟨pvd (w.dev x), w.now, w.lost, w.recs.filter isFailRec⟩

theorem pvw_of_fields {x : Nat} {w w' : World} (hd : w'.dev x = w.dev x) (hn : w'.now = w.now)
    (hl : w'.lost = w.lost) (hr : w'.recs = w.recs) : pvw x w' = pvw x w := by
  unfold pvw; rw [hd, hn, hl, hr]

section fields
variable {x : Nat} {w w' : World} (h : pvw x w' = pvw x w)
include h
theorem pv_dev : pvd (w'.dev x) = pvd (w.dev x) := congrArg WV.d h
theorem pv_now : w'.now = w.now := congrArg WV.now h
theorem pv_lost : w'.lost = w.lost := congrArg WV.lost h
theorem pv_frecs : w'.recs.filter isFailRec = w.recs.filter isFailRec := congrArg WV.frecs h
theorem pv_kind : (w'.dev x).kind = (w.dev x).kind := congrArg PV.kind (pv_dev h)
theorem pv_aid : (w'.dev x).aid = (w.dev x).aid := congrArg PV.aid (pv_dev h)
theorem pv_part : (w'.dev x).part = (w.dev x).part := congrArg PV.part (pv_dev h)
theorem pv_output : (w'.dev x).output = (w.dev x).output := congrArg PV.output (pv_dev h)
theorem pv_reserved : (w'.dev x).reserved = (w.dev x).reserved := congrArg PV.reserved (pv_dev h)
theorem pv_shutDown : (w'.dev x).shutDown = (w.dev x).shutDown := congrArg PV.shutDown (pv_dev h)
theorem pv_uptime : (w'.dev x).uptime = (w.dev x).uptime := congrArg PV.uptime (pv_dev h)
theorem pv_lastRestore : (w'.dev x).lastRestore = (w.dev x).lastRestore :=
  congrArg PV.lastRestore (pv_dev h)
theorem pv_timeInUse : (w'.dev x).timeInUse = (w.dev x).timeInUse := congrArg PV.timeInUse (pv_dev h)
theorem pv_lastUseStart : (w'.dev x).lastUseStart = (w.dev x).lastUseStart :=
  congrArg PV.lastUseStart (pv_dev h)
theorem pv_operational : w'.operational x = w.operational x := by
  unfold World.operational; rw [pv_kind h, pv_shutDown h]
end fields

/-! ### primitives -/

section prim
variable (x : Nat) (w : World)

theorem pv_setErr (m : String) : pvw x (w.setErr m) = pvw x w := by
  unfold World.setErr; split <;> rfl

theorem pv_addRec (r : Rec) (hr : isFailRec r = false) : pvw x (w.addRec r) = pvw x w := by
  unfold pvw World.addRec
  simp only [List.filter_append, List.filter_cons, hr, Bool.false_eq_true, if_false, List.filter_nil,
    List.append_nil]
  rfl

theorem pv_addRes (r : Res) : pvw x (w.addRes r) = pvw x w := rfl

theorem sched_fst_now (t a : Int) (act : Action) (p : Int) : (w.sched t a act p).1.now = w.now := by
  unfold World.sched
  dsimp only
  simp only [Env.apply]
  cases hs : w.env.schedule t a act.toNat p (weightOf w.seed w.wmod t a act.toNat p) with
  | none => rfl
  | some s' =>
    obtain ⟨_, rfl⟩ := Env.schedule_some.mp hs
    rfl

theorem pv_sched (t a : Int) (act : Action) (p : Int) : pvw x (w.sched t a act p).1 = pvw x w := by
  have hn := sched_fst_now w t a act p
  unfold pvw
  rw [hn]
  unfold World.sched
  dsimp only
  split <;> rfl

theorem pv_schedLib (t a : Int) (act : Action) (p : Int) : pvw x (w.schedLib t a act p) = pvw x w := by
  have h := pv_sched x w t a act p
  unfold World.schedLib
  generalize w.sched t a act p = s at h ⊢
  obtain ⟨w', r⟩ := s
  cases r
  case ok => exact h
  all_goals exact (pv_setErr x _ _).trans h

theorem pv_pause (a : Int) : pvw x (w.envOp (.pause a)) = pvw x w := rfl
theorem pv_unpause (a : Int) : pvw x (w.envOp (.unpause a)) = pvw x w := rfl
theorem pv_cancel (a : Int) : pvw x (w.envOp (.cancel a)) = pvw x w := rfl

theorem pv_foldl {α : Type} (f : World → α → World) (l : List α) (w : World)
    (h : ∀ w a, pvw x (f w a) = pvw x w) : pvw x (l.foldl f w) = pvw x w :=
  C02V.foldl_proj (pvw x) f l w h

theorem pv_rmEffects (recs : List ResRec) (c : Bool) : pvw x (w.rmEffects recs c) = pvw x w := by
  have h : pvw x (recs.foldl (fun w r => w.addRec (.resUpdate r.res w.now r.inUse r.cap)) w) = pvw x w :=
    pv_foldl x _ _ _ (fun w r => pv_addRec x w _ rfl)
  unfold World.rmEffects
  dsimp only
  split
  · rw [pv_schedLib]; exact h
  · exact h

/-- Overwriting device `y`: no change of the view of `x` if `y` is another device, or if the new
record has the same machine part. -/
theorem pv_setDev (y : Nat) (d : Dev) (h : y ≠ x ∨ pvd d = pvd (w.dev y)) :
    pvw x (w.setDev y d) = pvw x w := by
  unfold pvw
  have hn : (w.setDev y d).now = w.now := rfl
  have hl : (w.setDev y d).lost = w.lost := rfl
  have hr : (w.setDev y d).recs = w.recs := rfl
  rw [hn, hl, hr]
  congr 1
  by_cases hxy : y = x
  · subst hxy
    rcases h with h | h
    · exact absurd rfl h
    · by_cases hy : y < w.devs.length
      · rw [dev_setDev_same hy]; exact h
      · rw [dev_setDev_out_of_range (Nat.le_of_not_lt hy)]
  · rw [dev_setDev_ne hxy]

theorem pv_modDev (y : Nat) (f : Dev → Dev) (h : y ≠ x ∨ pvd (f (w.dev y)) = pvd (w.dev y)) :
    pvw x (w.modDev y f) = pvw x w := pv_setDev x w y _ h

theorem pv_modPart (p : Nat) (g : PartRec → PartRec) : pvw x (w.modPart p g) = pvw x w := rfl
theorem pv_newPart (r : PartRec) : pvw x (w.newPart r).1 = pvw x w := rfl

end prim

/-! ### the chaining tactic -/

/-- close a side goal `y ≠ x ∨ pvd d' = pvd d` -/
syntax "pv_side" : tactic
macro_rules | `(tactic| pv_side) => `(tactic| first
  | (apply Or.inl; assumption)
  | (apply Or.inl; apply Ne.symm; assumption)
  | exact Or.inr rfl)

/-- One rewriting step.  The rewrites match at reducible transparency, so that a lemma about another
function fails at once instead of unfolding the model; `rfl` through the definitions comes last. -/
syntax "pv_step" : tactic

/-- `pv_rw t` rewrites with `t`; `pv_rw t with s` closes the side condition named `?side` in `t` by
the tactic `s`. -/
syntax "pv_rw " term (" with " tacticSeq)? : tactic
macro_rules
  | `(tactic| pv_rw $t) => `(tactic| with_reducible rw [$t:term])
  | `(tactic| pv_rw $t with $s) => `(tactic| ((with_reducible rw [$t:term]); case side => $s))

macro_rules | `(tactic| pv_step) => `(tactic| first
  | with_reducible rfl
  | pv_rw pv_setDev _ _ _ _ ?side with pv_side
  | pv_rw pv_modDev _ _ _ _ ?side with pv_side
  | pv_rw pv_addRec _ _ _ ?side with exact rfl
  | pv_rw pv_schedLib
  | pv_rw pv_setErr
  | pv_rw pv_addRes
  | pv_rw pv_modPart
  | pv_rw pv_rmEffects
  | pv_rw pv_pause | pv_rw pv_unpause | pv_rw pv_cancel
  | rfl)

/-- split all `if`/`match`, then rewrite every branch -/
macro "pv_auto" : tactic => `(tactic| ((try dsimp only) <;> repeat' split) <;> (repeat' pv_step))

macro "pv_lemma" a:ident : command =>
  `(macro_rules | `(tactic| pv_step) => `(tactic| rw [$a:ident]))

/-! ### floor functions that never change the view -/

section floor
variable (x : Nat) (w : World)

theorem pv_setWaiting (y : Nat) (a b : Bool) : pvw x (w.setWaiting y a b) = pvw x w := by
  unfold World.setWaiting; pv_auto
macro_rules | `(tactic| pv_step) => `(tactic| pv_rw pv_setWaiting)

theorem pv_schedulePass (y : Nat) (o : Int) : pvw x (w.schedulePass y o) = pvw x w := by
  unfold World.schedulePass; pv_auto
macro_rules | `(tactic| pv_step) => `(tactic| pv_rw pv_schedulePass)

theorem pv_notify_aux (f : Nat) :
    ∀ (w : World) (y : Nat), pvw x (notifyUp f w y) = pvw x w ∧ pvw x (spaceAvail f w y) = pvw x w :=
  World.notify_walk (R := fun w w' => pvw x w' = pvw x w) (fun _ => rfl) (fun h1 h2 => h2.trans h1)
    (pv_setErr x · _) (fun w y _ => pv_setWaiting x w y _ _) (fun w y _ _ => pv_schedulePass x w y _) f

theorem pv_notify (y : Nat) : pvw x (w.notify y) = pvw x w := (pv_notify_aux x _ w y).1
theorem pv_spaceAvailable (y : Nat) : pvw x (w.spaceAvailable y) = pvw x w := (pv_notify_aux x _ w y).2
macro_rules | `(tactic| pv_step) => `(tactic| pv_rw pv_notify)
macro_rules | `(tactic| pv_step) => `(tactic| pv_rw pv_spaceAvailable)

theorem pv_applyPartCb (y p : Nat) (c : PartCb) : pvw x (w.applyPartCb y p c) = pvw x w := by
  rw [applyPartCb_eq]
  split
  · exact pv_modDev x w y _ (Or.inr rfl)
  · exact (pv_modPart x _ p _).trans (pv_modDev x w y _ (Or.inr rfl))
macro_rules | `(tactic| pv_step) => `(tactic| pv_rw pv_applyPartCb)

theorem pv_foldl_applyPartCb (cbs : List PartCb) (y p : Nat) :
    pvw x (cbs.foldl (fun w c => w.applyPartCb y p c) w) = pvw x w :=
  pv_foldl x _ _ _ (fun w c => pv_applyPartCb x w y p c)
macro_rules | `(tactic| pv_step) => `(tactic| pv_rw pv_foldl_applyPartCb)

theorem pv_senseOutput (s p : Nat) : pvw x (w.senseOutput s p) = pvw x w := by
  unfold World.senseOutput
  dsimp only
  split
  · rw [pv_foldl x _ _ _ (fun w c => pv_addRes x w _)]; rfl
  · rfl
macro_rules | `(tactic| pv_step) => `(tactic| pv_rw pv_senseOutput)

theorem pv_foldl_senseOutput (l : List Nat) (p : Nat) :
    pvw x (l.foldl (fun w s => w.senseOutput s p) w) = pvw x w :=
  pv_foldl x _ _ _ (fun w s => pv_senseOutput x w s p)
macro_rules | `(tactic| pv_step) => `(tactic| pv_rw pv_foldl_senseOutput)

theorem pv_addHist (p d : Nat) : pvw x (w.addHist p d) = pvw x w := by
  unfold World.addHist
  dsimp only
  split
  · rw [pv_foldl x _ _ _ (fun w k => pv_modPart x w _ _)]; rfl
  · rfl
macro_rules | `(tactic| pv_step) => `(tactic| pv_rw pv_addHist)

theorem pv_dropHist (p : Nat) : pvw x (w.dropHist p) = pvw x w := by
  unfold World.dropHist
  dsimp only
  split
  · rw [pv_foldl x _ _ _ (fun w k => pv_modPart x w _ _)]; rfl
  · rfl
macro_rules | `(tactic| pv_step) => `(tactic| pv_rw pv_dropHist)

theorem pv_genPart (y : Nat) : pvw x (w.genPart y).1 = pvw x w := by
  cases h : ((w.dev y).genBatch == 0)
  · rw [C02V.genPart_batch w y h]; rfl
  · rw [C02V.genPart_leaf w y h]; rfl

theorem pv_setBlock (y : Nat) (b : Bool) : pvw x (w.setBlock y b) = pvw x w := by
  unfold World.setBlock; pv_auto
macro_rules | `(tactic| pv_step) => `(tactic| pv_rw pv_setBlock)

theorem pv_adjustParts (y : Nat) (v : Int) : pvw x (w.adjustParts y v) = pvw x w := by
  unfold World.adjustParts; pv_auto
macro_rules | `(tactic| pv_step) => `(tactic| pv_rw pv_adjustParts)

theorem pv_procResourceCb (y : Nat) : pvw x (w.procResourceCb y) = pvw x w := by
  unfold World.procResourceCb; pv_auto
macro_rules | `(tactic| pv_step) => `(tactic| pv_rw pv_procResourceCb)

end floor

end C13W
end SimProc
