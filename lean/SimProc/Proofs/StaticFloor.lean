/-
`Model/Floor.lean` never schedules the failure of a device: "the set of pending bad actions
(failures of sinks) is unchanged" contains the atoms of the floor (`hb_floor`).
-/
import SimProc.Proofs.StaticEnv
import SimProc.Proofs.FloorFrame
namespace SimProc
namespace C02V
open World

/-- the action code `n` is the failure of a device in `sink` -/
def badAct (sink : Nat → Prop) (n : Nat) : Prop := ∃ d, Action.ofNat n = .fail d ∧ sink d

theorem ofNat_toNat_fail (a : Action) (d : Nat) (h : Action.ofNat a.toNat = .fail d) : a = .fail d := by
  cases a with
  | terminate => simp [Action.toNat, Action.ofNat] at h
  | script k =>
    have : (1 + 16 * k) % 16 = 1 := by omega
    simp [Action.toNat, Action.ofNat, this] at h
  | finishCycle k =>
    have : (2 + 16 * k) % 16 = 2 := by omega
    simp [Action.toNat, Action.ofNat, this] at h
  | passPart k =>
    have : (3 + 16 * k) % 16 = 3 := by omega
    simp [Action.toNat, Action.ofNat, this] at h
  | fail k =>
    have h1 : (4 + 16 * k) % 16 = 4 := by omega
    have h2 : (4 + 16 * k) / 16 = k := by omega
    simp [Action.toNat, Action.ofNat, h1, h2] at h
    rw [h]
  | releaseIfIdle k =>
    have : (5 + 16 * k) % 16 = 5 := by omega
    simp [Action.toNat, Action.ofNat, this] at h
  | rmCheck => simp [Action.toNat, Action.ofNat] at h
  | startWork m o =>
    have : (7 + 16 * (m + 256 * o)) % 16 = 7 := by omega
    simp [Action.toNat, Action.ofNat, this] at h
  | finishWork m o =>
    have : (8 + 16 * (m + 256 * o)) % 16 = 8 := by omega
    simp [Action.toNat, Action.ofNat, this] at h
  | schedUpdate k =>
    have : (9 + 16 * k) % 16 = 9 := by omega
    simp [Action.toNat, Action.ofNat, this] at h
  | periodicSense k =>
    have : (10 + 16 * k) % 16 = 10 := by omega
    simp [Action.toNat, Action.ofNat, this] at h
  | unknown k =>
    have : (15 + 16 * k) % 16 = 15 := by omega
    simp [Action.toNat, Action.ofNat, this] at h

theorem not_bad_of_not_fail (sink : Nat → Prop) (a : Action) (h : ∀ d, a ≠ .fail d) : ¬ badAct sink a.toNat := by
  rintro ⟨d, hd, _⟩
  exact h d (ofNat_toNat_fail a d hd)

theorem not_bad_fail (sink : Nat → Prop) (d : Nat) (h : ¬ sink d) : ¬ badAct sink (Action.fail d).toNat := by
  rintro ⟨d', hd, hs⟩
  have := ofNat_toNat_fail _ _ hd
  cases this; exact h hs

macro_rules | `(tactic| fr_step) => `(tactic| first
  | rw [hb_setErr] | rw [hb_addRec] | rw [hb_addRes] | rw [hb_setDev] | rw [hb_modDev] | rw [hb_modPart]
  | rw [hb_pause] | rw [hb_unpause] | rw [hb_cancel]
  | rw [hb_schedLib]
  | (apply not_bad_of_not_fail; intro _ h; cases h)
  | rw [foldl_proj (HasBad _)])

theorem hb_floor (sink : Nat → Prop) :
    FloorClosed.Ops (fun w w' => HasBad (badAct sink) w' = HasBad (badAct sink) w) where
  toFloorClosed := .ofAtoms (fun _ => rfl) (fun h1 h2 => h2.trans h1) (hb_setErr _)
    (fun _ _ _ => rfl) (fun _ _ _ => rfl) (fun _ _ _ _ => rfl) (fun _ _ _ => rfl)
    (fun w t a act p h => hb_schedLib _ w t a act p
      (not_bad_of_not_fail sink act (by cases h <;> (intro _ h; cases h))))
    (fun w op h => by
      cases h
      · exact hb_pause ..
      · exact hb_unpause ..
      · exact hb_cancel ..)
    (fun _ _ => rfl) (fun _ _ => rfl) (fun _ _ => rfl) (fun _ _ => rfl) (fun _ _ => rfl)
    (fun _ _ => rfl)
  setBlockInput := fun _ _ _ => rfl
  setMaxParts := fun _ _ _ => rfl
  setWiring := fun _ _ _ _ => rfl
  setInited := fun _ _ _ => rfl
  clearWaitingRes := fun _ _ => rfl

/-- The floor functions that `applyOp` and `initAsset` call. -/
macro_rules | `(tactic| fr_step) => `(tactic| first
  | rw [(hb_floor _).rmEffects] | rw [(hb_floor _).shutdownDev] | rw [(hb_floor _).restoreDev]
  | rw [(hb_floor _).setBlock] | rw [(hb_floor _).adjustParts] | rw [(hb_floor _).initDev])

end C02V
end SimProc
