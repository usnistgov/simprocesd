/-
C15D / C16D — machinery: nothing but `simulateInit` changes the flag `started` (constructor calls
with arbitrary payloads included).  Built on the registration key `RK` of `Proofs/C20W*.lean`.
-/
import SimProc.Proofs.C20WWorld

namespace SimProc
namespace C15D
open World FloorCoreL C20W

theorem started_initAsset (w : World) (a : AssetRef) : (w.initAsset a).started = w.started := by
  have := congrArg RKey.started (RK_initAsset w a)
  rw [RKey.init_started] at this
  exact this

theorem started_addDev (w : World) (d : Dev) : (w.addDev d).started = w.started := by
  have h : (regDev w d).started = w.started := congrArg RKey.started (RK_regDev w d)
  rw [addDev_eq_regDev]
  split
  · rw [started_initAsset, h]
  · exact h

theorem started_addAsset (w : World) (spec : AssetSpec) : (w.addAsset spec).started = w.started := by
  cases spec with
  | dev d => exact started_addDev w d
  | group gid dvs ins outs => exact congrArg RKey.started (RK_addGroup w gid dvs ins outs)
  | maint cap v => exact congrArg RKey.started (RK_addMaint w cap v)
  | sched tt cyc => exact congrArg RKey.started (RK_addSched w tt cyc)
  | sensor sw =>
    unfold addAsset
    dsimp only
    split
    · rw [started_initAsset]
    · rfl
  | cms => rfl

theorem started_applyOp (w : World) (op : Op) : (w.applyOp op).1.started = w.started := by
  by_cases h : ∃ s, op = .create s
  · obtain ⟨s, rfl⟩ := h
    exact started_addAsset w s
  · exact (applyOp_assets w op (fun s e => h ⟨s, e⟩)).2

theorem started_applyOps (ops : List Op) (w : World) : (w.applyOps ops).started = w.started := by
  induction ops generalizing w with
  | nil => rfl
  | cons op ops ih =>
    unfold applyOps
    rw [List.foldl_cons]
    exact (ih _).trans (started_applyOp w op)

theorem started_runScript (w : World) (k : Nat) : (w.runScript k).started = w.started :=
  started_applyOps _ w

theorem started_scanWaiting (n : Nat) (w : World) (i : Nat) :
    (scanWaiting scanOps n w i).started = w.started := by
  induction n generalizing w i with
  | zero => rfl
  | succ n ih =>
    rw [scanWaiting]
    split
    · rfl
    · split
      · rename_i req cb _ _
        rw [ih]
        show (scanOps.call w cb req).started = w.started
        cases cb with
        | script k => exact started_runScript _ k
        | proc d => exact (Same_procResourceCb w d).started
      · exact ih _ _

theorem started_hookStart (w : World) (tgt : Nat) (tag : Int) : (w.hookStart tgt tag).started = w.started := by
  unfold hookStart
  dsimp only
  split
  · exact (Same.floor.shutdownDev _ _ _ _).started
  · split
    · exact started_runScript _ _
    · rfl

theorem started_hookEnd (w : World) (tgt : Nat) (tag : Int) : (w.hookEnd tgt tag).started = w.started := by
  unfold hookEnd
  dsimp only
  split
  · exact (Same.floor.restoreDev _ _).started
  · split
    · exact started_runScript _ _
    · rfl

theorem started_schedLib (w : World) (t a : Int) (act : Action) (p : Int) :
    (w.schedLib t a act p).started = w.started := congrArg RKey.started (RK_schedLib w t a act p)

theorem started_setErr (w : World) (m : String) : (w.setErr m).started = w.started := by
  unfold setErr; split <;> rfl

theorem started_startWork (w : World) (m seq : Nat) : (w.startWork m seq).started = w.started := by
  unfold startWork
  split
  · exact started_setErr _ _
  · dsimp only
    rw [started_schedLib, started_hookStart]
    rfl

theorem started_finishWork (w : World) (m seq : Nat) : (w.finishWork m seq).started = w.started := by
  unfold finishWork
  split
  · exact started_setErr _ _
  · dsimp only
    rw [(Same_startOrders _ _ _).started]
    show (w.hookEnd _ _).started = w.started
    exact started_hookEnd _ _ _

theorem started_exec (w : World) (a : Action) : (w.exec a).started = w.started := by
  cases a with
  | terminate => rfl
  | script k => exact started_runScript w k
  | finishCycle d => exact (Same.floor.finishCycle w d).started
  | passPart d => exact (Same.floor.passPart w d).started
  | fail d => exact (Same.floor.failDev w d).started
  | releaseIfIdle d => exact (Same.floor.releaseIfIdle w d).started
  | rmCheck => exact started_scanWaiting _ _ _
  | startWork m o => exact started_startWork w m o
  | finishWork m o => exact started_finishWork w m o
  | schedUpdate s => exact (Same_schedUpdate w s true).started
  | periodicSense s => exact (Same_periodicSense w s).started
  | unknown n => exact started_setErr _ _

theorem started_runBegin (w : World) (d : Int) : (w.runBegin d).1.started = w.started :=
  (Same_runBegin w d).started

theorem started_step {w w' : World} {e : Event} (h : w.step = some (e, w')) : w'.started = w.started := by
  unfold World.step at h
  split at h
  · cases h
  · simp only [Option.some.injEq, Prod.mk.injEq] at h
    obtain ⟨_, rfl⟩ := h
    split
    · exact started_exec _ _
    · rfl

theorem started_runLoop (n : Nat) (w : World) : (runLoop n w).started = w.started := by
  induction n generalizing w with
  | zero => exact started_setErr _ _
  | succ n ih =>
    unfold runLoop
    split
    · split
      · rfl
      · rename_i e w' hst
        exact (ih w').trans (started_step hst)
    · rfl

theorem started_simulateInit (w : World) : w.simulateInit.started = true := by
  unfold simulateInit
  split
  · assumption
  · rfl

end C15D
end SimProc
