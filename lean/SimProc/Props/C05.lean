/-
C05 — buffers: capacity, level, FIFO order, minimum delay.

Part A: an abstract buffer machine `BufM` that mirrors exactly the arithmetic of the model's buffer
(`canAcceptBasic` / `onReceived` / `tryMove` / `bufferLoop` in `SimProc/Model/Floor.lean`), and its
contract for EVERY sequence of offers and release attempts with arbitrary downstream answers.
Part B: refinement lemmas that tie the machine to the model's functions.
-/
import SimProc.Model.World
import SimProc.Proofs.C05Lemmas

namespace SimProc
namespace C05

/-! ## Part A: the abstract buffer machine -/

/-- A stored entry: arrival time, part, number of leaf parts (1, or the size of a batch). -/
abbrev Entry := Int × Nat × Nat

/-- Number of parts stored by a list of entries (every part of a batch counts). -/
def count : List Entry → Nat
  | [] => 0
  | e :: l => e.2.2 + count l

/-- The buffer machine: `cap = none` is an infinite buffer, `delay` the minimum delay, `buf` the
stored entries (oldest first), `level` the reported level. -/
structure BufM where
  cap : Option Nat
  delay : Int
  buf : List Entry := []
  level : Nat := 0
deriving Repr, DecidableEq

namespace BufM

/-- Is there room for `n` more parts?  (The capacity test of `canAcceptBasic`.) -/
def room (m : BufM) (n : Nat) : Bool :=
  match m.cap with
  | none => true
  | some c => decide (m.level + n ≤ c) && decide (m.level < c)

/-- Offer part `p` with `n` leaves at time `now`: accepted iff there is room. -/
def offer (m : BufM) (now : Int) (p n : Nat) : BufM × Bool :=
  if m.room n then ({ m with level := m.level + n, buf := m.buf ++ [(now, p, n)] }, true)
  else (m, false)

/-- Is an entry that arrived at `t` still held back at time `now`?  (`delay - (now - t) > 0`,
literally the test of `bufferLoop`.) -/
def held (m : BufM) (now t : Int) : Bool := decide (m.delay - (now - t) > 0)

/-- A release attempt at time `now` (mirror of `bufferLoop`): while the head has waited long enough
and the next downstream answer is `true`, pop it and lower the level by its count.  Stops at the
first `false` answer, at a head that is still held back, at an empty buffer (or when the answers
run out).  Returns the new machine and the released entries in order. -/
def release (m : BufM) (now : Int) : List Bool → BufM × List Entry
  | [] => (m, [])
  | a :: as =>
    match m.buf with
    | [] => (m, [])
    | e :: rest =>
      if m.held now e.1 then (m, [])
      else if a then
        let r := release { m with level := m.level - e.2.2, buf := rest } now as
        (r.1, e :: r.2)
      else (m, [])

end BufM

/-- Operations on the machine. -/
inductive Op where
  | offer (now : Int) (p n : Nat)
  | release (now : Int) (answers : List Bool)
deriving Repr, DecidableEq

/-- The time at which an operation happens. -/
def Op.time : Op → Int
  | .offer now _ _ => now
  | .release now _ => now

/-- A run: the machine, the clock (time of the last operation), everything accepted so far (in
order) and everything released so far (in order, with the release time). -/
structure Run where
  m : BufM
  clock : Int
  accepted : List Entry := []
  released : List (Int × Entry) := []

/-- The empty buffer at time `t0`. -/
def Run.init (cap : Option Nat) (delay t0 : Int) : Run :=
  { m := { cap := cap, delay := delay }, clock := t0 }

/-- One operation of a run, with the bookkeeping of what was accepted / released and when. -/
def Run.step (s : Run) : Op → Run
  | .offer now p n =>
    let r := s.m.offer now p n
    { m := r.1, clock := now, released := s.released
      accepted := if r.2 then s.accepted ++ [(now, p, n)] else s.accepted }
  | .release now as =>
    let r := s.m.release now as
    { m := r.1, clock := now, accepted := s.accepted
      released := s.released ++ r.2.map (fun e => (now, e)) }

/-- A sequence of operations. -/
def Run.exec (s : Run) (ops : List Op) : Run := ops.foldl Run.step s

/-- Time does not run backwards: starting at `t`, the times of the operations are non-decreasing. -/
def Timed : Int → List Op → Prop
  | _, [] => True
  | t, op :: ops => t ≤ op.time ∧ Timed op.time ops

/-! ### facts about single operations -/

/-- `count` is additive. -/
theorem count_append (l₁ l₂ : List Entry) : count (l₁ ++ l₂) = count l₁ + count l₂ := by
  induction l₁ with
  | nil => simp [count]
  | cons e l ih => simp only [List.cons_append, count, ih]; omega

/-- (6) `offer` accepts iff there is room: the level plus the number of parts of the offered
part/batch does not exceed the capacity and the buffer is not already full (always, for an
infinite buffer).  The second condition only matters for an empty batch (`n = 0`). -/
theorem offer_accepts_iff (m : BufM) (now : Int) (p n : Nat) :
    (m.offer now p n).2 = true ↔
      (match m.cap with | none => True | some c => m.level + n ≤ c ∧ m.level < c) := by
  unfold BufM.offer BufM.room
  cases m.cap <;> simp
  split <;> simp_all

/-- For a part or a non-empty batch the acceptance test is the capacity test alone. -/
theorem offer_accepts_iff_pos (m : BufM) (now : Int) (p n : Nat) (hn : 0 < n) :
    (m.offer now p n).2 = true ↔
      (match m.cap with | none => True | some c => m.level + n ≤ c) := by
  rw [offer_accepts_iff]
  cases m.cap with
  | none => simp
  | some c => simp only; constructor
              · exact fun h => h.1
              · exact fun h => ⟨h, by omega⟩

/-- An accepted offer raises the level by the number of parts and appends the entry at the end;
capacity and delay are untouched. -/
theorem offer_accepted (m : BufM) (now : Int) (p n : Nat) (h : (m.offer now p n).2 = true) :
    (m.offer now p n).1 =
      { m with level := m.level + n, buf := m.buf ++ [(now, p, n)] } := by
  unfold BufM.offer at h ⊢
  split <;> simp_all

/-- A refused offer changes nothing. -/
theorem offer_refused (m : BufM) (now : Int) (p n : Nat) (h : (m.offer now p n).2 = false) :
    (m.offer now p n).1 = m := by
  unfold BufM.offer at h ⊢
  split <;> simp_all

/-- What a release attempt does: the released entries followed by the remaining content are the
old content; the level drops by the number of released parts; capacity and delay are untouched;
every released entry has waited at least `delay`. -/
theorem release_spec (m : BufM) (now : Int) (as : List Bool) :
    (m.release now as).2 ++ (m.release now as).1.buf = m.buf ∧
    (m.release now as).1.level = m.level - count (m.release now as).2 ∧
    (m.release now as).1.cap = m.cap ∧ (m.release now as).1.delay = m.delay ∧
    ∀ e ∈ (m.release now as).2, e.1 + m.delay ≤ now := by
  induction as generalizing m with
  | nil => simp [BufM.release, count]
  | cons a as ih =>
    unfold BufM.release
    split
    · next h => simp [h, count]
    · next e rest h =>
      split
      · simp [h, count]
      · next hheld =>
        cases a
        · simp [h, count]
        · obtain ⟨h1, h2, h3, h4, h5⟩ := ih { m with level := m.level - e.2.2, buf := rest }
          simp only [if_true]
          refine ⟨?_, ?_, h3, h4, ?_⟩
          · simp only [List.cons_append, h]; exact congrArg _ h1
          · rw [h2]; simp only [count]; omega
          · intro e' he'
            rcases List.mem_cons.1 he' with rfl | he'
            · simp only [BufM.held, decide_eq_true_eq] at hheld; omega
            · exact h5 e' he'

/-- Why a release attempt stops: it consumed `k` answers, all `true`; afterwards the buffer is
empty, or its head is still held back, or the next answer is `false`, or the answers ran out. -/
theorem release_stops (m : BufM) (now : Int) (as : List Bool) :
    let r := m.release now as
    (∀ a ∈ as.take r.2.length, a = true) ∧
    (r.1.buf = [] ∨ (∃ e rest, r.1.buf = e :: rest ∧ m.delay - (now - e.1) > 0) ∨
      as[r.2.length]? = some false ∨ r.2.length = as.length) := by
  induction as generalizing m with
  | nil => simp [BufM.release]
  | cons a as ih =>
    unfold BufM.release
    split
    · next h => simp [h]
    · next e rest h =>
      split
      · next hheld =>
        simp only [BufM.held, decide_eq_true_eq] at hheld
        simp only [List.length_nil, List.take_zero, List.not_mem_nil, false_implies, implies_true,
          true_and]
        exact Or.inr (Or.inl ⟨e, rest, h, hheld⟩)
      · cases a
        · simp
        · obtain ⟨h1, h2⟩ := ih { m with level := m.level - e.2.2, buf := rest }
          simp only [if_true, List.length_cons, List.take_succ_cons, List.mem_cons,
            List.getElem?_cons_succ, Nat.add_right_cancel_iff]
          refine ⟨?_, h2⟩
          rintro a (rfl | ha)
          · rfl
          · exact h1 a ha

/-! ### the invariant -/

/-- The contract of the buffer, as an invariant of runs. -/
structure Inv (s : Run) : Prop where
  /-- (1) the reported level is the number of stored parts (batches count their parts) -/
  levelEq : s.m.level = count s.m.buf
  /-- (2) the capacity is respected -/
  capOk : ∀ c, s.m.cap = some c → s.m.level ≤ c
  /-- (3) arrival times are non-decreasing (stated for everything ever accepted) … -/
  accSorted : (s.accepted.map (·.1)).Pairwise (· ≤ ·)
  /-- … and not in the future -/
  accClock : ∀ e ∈ s.accepted, e.1 ≤ s.clock
  /-- (4) FIFO: what has left, followed by what is stored, is what was accepted, in order -/
  fifo : s.released.map (·.2) ++ s.m.buf = s.accepted
  /-- (5) nothing left before its arrival time plus the minimum delay -/
  minDelay : ∀ r ∈ s.released, r.2.1 + s.m.delay ≤ r.1
  /-- release times are non-decreasing and not in the future -/
  relSorted : (s.released.map (·.1)).Pairwise (· ≤ ·)
  relClock : ∀ r ∈ s.released, r.1 ≤ s.clock

/-- The empty buffer satisfies the invariant. -/
theorem inv_init (cap : Option Nat) (delay t0 : Int) : Inv (Run.init cap delay t0) := by
  constructor <;> simp [Run.init, count]

/-- No operation changes the capacity … -/
theorem step_cap (s : Run) (op : Op) : (s.step op).m.cap = s.m.cap := by
  cases op with
  | offer now p n =>
    simp only [Run.step, BufM.offer]; split <;> rfl
  | release now as => exact (release_spec s.m now as).2.2.1

/-- … or the minimum delay. -/
theorem step_delay (s : Run) (op : Op) : (s.step op).m.delay = s.m.delay := by
  cases op with
  | offer now p n =>
    simp only [Run.step, BufM.offer]; split <;> rfl
  | release now as => exact (release_spec s.m now as).2.2.2.1

/-- The clock of a run is the time of its last operation. -/
theorem step_clock (s : Run) (op : Op) : (s.step op).clock = op.time := by
  cases op <;> rfl

private theorem pairwise_append_le {l : List Int} {t : Int} (h : l.Pairwise (· ≤ ·))
    (hle : ∀ a ∈ l, a ≤ t) : (l ++ [t]).Pairwise (· ≤ ·) := by
  rw [List.pairwise_append]
  refine ⟨h, by simp, ?_⟩
  intro a ha b hb
  simp only [List.mem_singleton] at hb
  subst hb; exact hle a ha

/-- Every operation that does not run backwards in time preserves the invariant. -/
theorem step_inv (s : Run) (op : Op) (ht : s.clock ≤ op.time) (h : Inv s) : Inv (s.step op) := by
  cases op with
  | offer now p n =>
    have ht : s.clock ≤ now := ht
    cases hacc : (s.m.offer now p n).2
    · -- refused
      have hm := offer_refused s.m now p n hacc
      have hs : s.step (.offer now p n) = { s with clock := now } := by
        simp only [Run.step, hm, hacc]; rfl
      rw [hs]
      exact { h with
        accClock := fun e he => Int.le_trans (h.accClock e he) ht
        relClock := fun r hr => Int.le_trans (h.relClock r hr) ht }
    · have hm := offer_accepted s.m now p n hacc
      have hroom := (offer_accepts_iff s.m now p n).1 hacc
      have hs : s.step (.offer now p n) =
          { m := { s.m with level := s.m.level + n, buf := s.m.buf ++ [(now, p, n)] }, clock := now,
            accepted := s.accepted ++ [(now, p, n)], released := s.released } := by
        simp only [Run.step, hm, hacc]; rfl
      rw [hs]
      refine ⟨?_, ?_, ?_, ?_, ?_, h.minDelay, h.relSorted, ?_⟩
      · simp only [count_append, count, h.levelEq, Nat.add_zero]
      · intro c hc
        simp only at hc
        rw [hc] at hroom; exact hroom.1
      · rw [List.map_append]
        apply pairwise_append_le h.accSorted
        intro a ha
        obtain ⟨e, he, rfl⟩ := List.mem_map.1 ha
        exact Int.le_trans (h.accClock e he) ht
      · intro e he
        rcases List.mem_append.1 he with he | he
        · exact Int.le_trans (h.accClock e he) ht
        · simp only [List.mem_singleton] at he; subst he; exact Int.le_refl _
      · simp only [← List.append_assoc, h.fifo]
      · exact fun r hr => Int.le_trans (h.relClock r hr) ht
  | release now as =>
    have ht : s.clock ≤ now := ht
    obtain ⟨h1, h2, h3, h4, h5⟩ := release_spec s.m now as
    have hcount : count s.m.buf = count (s.m.release now as).2 + count (s.m.release now as).1.buf := by
      rw [← count_append, h1]
    refine ⟨?_, ?_, h.accSorted, ?_, ?_, ?_, ?_, ?_⟩
    · show (s.m.release now as).1.level = count (s.m.release now as).1.buf
      rw [h2, h.levelEq]; omega
    · intro c hc
      have hc' : s.m.cap = some c := by rw [← h3]; exact hc
      have := h.capOk c hc'
      show (s.m.release now as).1.level ≤ c
      omega
    · exact fun e he => Int.le_trans (h.accClock e he) ht
    · show (s.released ++ (s.m.release now as).2.map (fun e => (now, e))).map (·.2) ++
        (s.m.release now as).1.buf = s.accepted
      rw [List.map_append, List.map_map, List.append_assoc]
      have : ((fun (r : Int × Entry) => r.2) ∘ fun e => (now, e)) = id := rfl
      rw [this, List.map_id, h1, h.fifo]
    · intro r hr
      show r.2.1 + (s.m.release now as).1.delay ≤ r.1
      rw [h4]
      rcases List.mem_append.1 hr with hr | hr
      · exact h.minDelay r hr
      · obtain ⟨e, he, rfl⟩ := List.mem_map.1 hr
        exact h5 e he
    · show ((s.released ++ (s.m.release now as).2.map (fun e => (now, e))).map (·.1)).Pairwise (· ≤ ·)
      rw [List.map_append, List.pairwise_append]
      refine ⟨h.relSorted, ?_, ?_⟩
      · rw [List.map_map, List.pairwise_map]
        exact List.pairwise_of_forall (fun _ _ => Int.le_refl _)
      · intro a ha b hb
        obtain ⟨r, hr, rfl⟩ := List.mem_map.1 ha
        rw [List.map_map] at hb
        obtain ⟨e, _, rfl⟩ := List.mem_map.1 hb
        exact Int.le_trans (h.relClock r hr) ht
    · intro r hr
      rcases List.mem_append.1 hr with hr | hr
      · exact Int.le_trans (h.relClock r hr) ht
      · obtain ⟨e, _, rfl⟩ := List.mem_map.1 hr
        exact Int.le_refl _

/-- Every sequence of operations with non-decreasing times preserves the invariant. -/
theorem exec_inv (ops : List Op) (s : Run) (ht : Timed s.clock ops) (h : Inv s) :
    Inv (s.exec ops) := by
  induction ops generalizing s with
  | nil => exact h
  | cons op ops ih =>
    obtain ⟨h1, h2⟩ := ht
    apply ih (s.step op)
    · rw [step_clock]; exact h2
    · exact step_inv s op h1 h

/-- No sequence of operations changes the capacity … -/
theorem exec_cap (ops : List Op) (s : Run) : (s.exec ops).m.cap = s.m.cap := by
  induction ops generalizing s with
  | nil => rfl
  | cons op ops ih => exact (ih (s.step op)).trans (step_cap s op)

/-- … or the minimum delay. -/
theorem exec_delay (ops : List Op) (s : Run) : (s.exec ops).m.delay = s.m.delay := by
  induction ops generalizing s with
  | nil => rfl
  | cons op ops ih => exact (ih (s.step op)).trans (step_delay s op)

/-- In a state that satisfies the invariant the stored arrival times are non-decreasing and not
in the future. -/
theorem Inv.bufSorted {s : Run} (h : Inv s) :
    (s.m.buf.map (·.1)).Pairwise (· ≤ ·) ∧ ∀ e ∈ s.m.buf, e.1 ≤ s.clock := by
  have hs := h.accSorted
  rw [← h.fifo, List.map_append, List.pairwise_append] at hs
  refine ⟨hs.2.1, fun e he => h.accClock e ?_⟩
  rw [← h.fifo]; exact List.mem_append_right _ he

/-! ### the contract for every run from the empty buffer

`ops` is an arbitrary list of offers (single parts and batches of any size) and release attempts
(with arbitrary downstream answers) whose times do not decrease, starting at time `t0` with an
empty buffer of capacity `cap` (`none` = infinite) and minimum delay `delay`. -/

section contract
variable (cap : Option Nat) (delay t0 : Int) (ops : List Op)

/-- (1) The reported level is the number of parts stored (every part of a batch counts). -/
theorem run_level (ht : Timed t0 ops) :
    ((Run.init cap delay t0).exec ops).m.level = count ((Run.init cap delay t0).exec ops).m.buf :=
  (exec_inv ops _ ht (inv_init cap delay t0)).levelEq

/-- (2) The buffer never stores more parts than its capacity. -/
theorem run_capacity (ht : Timed t0 ops) (c : Nat) (hc : cap = some c) :
    count ((Run.init cap delay t0).exec ops).m.buf ≤ c := by
  have h := exec_inv ops _ ht (inv_init cap delay t0)
  rw [← h.levelEq]
  exact h.capOk c (by rw [exec_cap]; exact hc)

/-- (3) The stored entries are in order of arrival. -/
theorem run_sorted (ht : Timed t0 ops) :
    (((Run.init cap delay t0).exec ops).m.buf.map (·.1)).Pairwise (· ≤ ·) :=
  (exec_inv ops _ ht (inv_init cap delay t0)).bufSorted.1

/-- (4) FIFO: everything released so far (in the order of release) followed by the current content
is exactly the sequence of everything accepted so far (in the order of acceptance); in particular
the released parts are a prefix of the accepted ones: parts leave in the order in which they
arrived, none is lost, duplicated or overtaken. -/
theorem run_fifo (ht : Timed t0 ops) :
    ((Run.init cap delay t0).exec ops).released.map (·.2) ++
        ((Run.init cap delay t0).exec ops).m.buf = ((Run.init cap delay t0).exec ops).accepted ∧
    ((Run.init cap delay t0).exec ops).released.map (·.2) <+:
      ((Run.init cap delay t0).exec ops).accepted := by
  have h := (exec_inv ops _ ht (inv_init cap delay t0)).fifo
  exact ⟨h, ⟨_, h⟩⟩

/-- (5) No part leaves earlier than its arrival time plus the minimum delay; and the release times
are non-decreasing. -/
theorem run_min_delay (ht : Timed t0 ops) :
    (∀ r ∈ ((Run.init cap delay t0).exec ops).released, r.2.1 + delay ≤ r.1) ∧
    (((Run.init cap delay t0).exec ops).released.map (·.1)).Pairwise (· ≤ ·) := by
  have h := exec_inv ops _ ht (inv_init cap delay t0)
  refine ⟨fun r hr => ?_, h.relSorted⟩
  have := h.minDelay r hr
  rw [exec_delay] at this
  exact this

end contract

/-! ## Part B: the model's buffer refines the machine -/

open World

/-- The machine entries of a queue of the model: the leaf count is read from the world. -/
def entries (w : World) (l : List (Int × Nat)) : List Entry :=
  l.map (fun e => (e.1, e.2, w.leafCount e.2))

/-- Number of parts (leaves) in a queue of the model. -/
def leafSum (w : World) (l : List (Int × Nat)) : Nat := count (entries w l)

/-- The machine state of buffer `x` in world `w`. -/
def absM (w : World) (x : Nat) : BufM :=
  { cap := (w.dev x).cap, delay := (w.dev x).delay, buf := entries w (w.dev x).buf
    level := (w.dev x).level }

/-- The buffer's own bookkeeping after a successful hand-over (`self._buffer.pop(0)`, the level,
the `level` data point): exactly the three lines of `bufferLoop`. -/
def popHead (w : World) (x n : Nat) : World :=
  let w := w.modDev x (fun d => { d with level := d.level - n, buf := d.buf.drop 1 })
  w.addRec (.level x w.now (w.dev x).level)

/-- One round of the loop of `Buffer._pass_part_downstream`.  Note that the number of parts of the
head (`leafCount`) is read BEFORE the hand-over (a batcher downstream unpacks the batch while
accepting it). -/
theorem bufferLoop_succ (f : Nat) (w : World) (x : Nat) :
    bufferLoop (f + 1) w x =
      match (w.dev x).buf with
      | [] => w
      | (t, p) :: _ =>
        if (w.dev x).delay - (w.now - t) > 0 then w
        else
          match tryList givePart w (w.sortedDown x) p with
          | (w1, true) => bufferLoop f (popHead w1 x (w.leafCount p)) x
          | (w1, false) => w1 := by
  rw [bufferLoop]
  rfl

/-- The hand-over of the head `p` of buffer `x` (the rest of the queue being `rest`) does not
loop back into `x`: the buffer's own fields, the clock and the number of devices are as before,
the parts that stay in the buffer keep their leaf counts, and so does `p` if it is refused.

This holds in every topology in which no chain of pass-through controllers (gates, group
inputs/outputs/paths) leads from the buffer back to itself: `givePart` changes the non-flow fields
only of the device that finally accepts the part (and of processors that reserve resources), and the
notifications it triggers only touch the flow flags `since` / `waitingDS` and the event queue.
The leaf count of `p` itself may change when it is accepted (a batcher unpacks it), which is why
the model reads it before the hand-over. -/
structure HandOverFrame (x : Nat) (w : World) (p : Nat) (rest : List (Int × Nat)) : Prop where
  buf : ((tryList givePart w (w.sortedDown x) p).1.dev x).buf = (w.dev x).buf
  level : ((tryList givePart w (w.sortedDown x) p).1.dev x).level = (w.dev x).level
  delay : ((tryList givePart w (w.sortedDown x) p).1.dev x).delay = (w.dev x).delay
  cap : ((tryList givePart w (w.sortedDown x) p).1.dev x).cap = (w.dev x).cap
  kind : ((tryList givePart w (w.sortedDown x) p).1.dev x).kind = (w.dev x).kind
  len : (tryList givePart w (w.sortedDown x) p).1.devs.length = w.devs.length
  now : (tryList givePart w (w.sortedDown x) p).1.now = w.now
  leafRest : ∀ e ∈ rest, (tryList givePart w (w.sortedDown x) p).1.leafCount e.2 = w.leafCount e.2
  leafRefused : (tryList givePart w (w.sortedDown x) p).2 = false →
    (tryList givePart w (w.sortedDown x) p).1.leafCount p = w.leafCount p

/-- What `k` releases do to buffer `x` (from world `w` to world `w'`). -/
structure Released (x : Nat) (w w' : World) (k : Nat) : Prop where
  le : k ≤ (w.dev x).buf.length
  /-- the new queue is the old one without its first `k` entries -/
  buf : (w'.dev x).buf = (w.dev x).buf.drop k
  /-- the level dropped by the number of parts (leaves) of the released entries -/
  level : (w'.dev x).level = (w.dev x).level - leafSum w ((w.dev x).buf.take k)
  /-- every released entry had waited at least the minimum delay -/
  expired : ∀ e ∈ (w.dev x).buf.take k, e.1 + (w.dev x).delay ≤ w.now
  cap : (w'.dev x).cap = (w.dev x).cap
  delay : (w'.dev x).delay = (w.dev x).delay
  kind : (w'.dev x).kind = (w.dev x).kind
  len : w'.devs.length = w.devs.length
  now : w'.now = w.now
  /-- the entries that stay have kept their number of parts -/
  leaf : ∀ e ∈ (w.dev x).buf.drop k, w'.leafCount e.2 = w.leafCount e.2

/-- Unfolding lemmas for `entries` / `leafSum`. -/
theorem entries_cons (w : World) (e : Int × Nat) (l : List (Int × Nat)) :
    entries w (e :: l) = (e.1, e.2, w.leafCount e.2) :: entries w l := rfl

theorem leafSum_cons (w : World) (e : Int × Nat) (l : List (Int × Nat)) :
    leafSum w (e :: l) = w.leafCount e.2 + leafSum w l := rfl

/-- `entries` only depends on the leaf counts of the parts in the queue. -/
theorem entries_congr {w w' : World} {l : List (Int × Nat)}
    (h : ∀ e ∈ l, w'.leafCount e.2 = w.leafCount e.2) : entries w' l = entries w l := by
  unfold entries
  apply List.map_congr_left
  intro e he
  rw [h e he]

/-- The buffer after its bookkeeping: head popped, level lowered by `n`. -/
theorem popHead_dev (w : World) (x n : Nat) (hx : x < w.devs.length) :
    (popHead w x n).dev x =
      { w.dev x with level := (w.dev x).level - n, buf := (w.dev x).buf.drop 1 } := by
  unfold popHead
  simp only [dev_addRec, dev_modDev_same hx]

/-- The record written by the bookkeeping: the buffer's new level, at the current time, as the last
record of the log. -/
theorem popHead_recs (w : World) (x n : Nat) (hx : x < w.devs.length) :
    (popHead w x n).recs = w.recs ++ [.level x w.now ((w.dev x).level - n)] := by
  unfold popHead
  simp only [addRec, dev_modDev_same hx, modDev_recs]
  rfl

/-- **Release (refinement of `BufM.release`).**  Let `Good` be any set of worlds that contains `w`,
in which the hand-over from buffer `x` satisfies the frame condition `HandOverFrame` (it does not
loop back into `x`), and that is closed under hand-overs from `x` and under the buffer's own
bookkeeping `popHead`.  Then `bufferLoop n w x` releases the first `k` entries of the queue, for
some `k ≤ n`: the new queue is the old one without them, the level drops by their number of
parts, each of them had waited at least `delay`, capacity/delay/kind/clock are unchanged, and the
loop stopped because the fuel ran out (`k = n`; impossible for the fuel `buf.length + 1` that
`passPart` uses), or the queue is empty, or its head is still held back, or the head was refused by
all downstream devices. -/
theorem bufferLoop_release (Good : World → Prop) (x : Nat)
    (hframe : ∀ w' t p rest, Good w' → x < w'.devs.length → (w'.dev x).kind = .buffer →
      (w'.dev x).buf = (t, p) :: rest → ¬ (w'.dev x).delay - (w'.now - t) > 0 →
      HandOverFrame x w' p rest ∧ Good (tryList givePart w' (w'.sortedDown x) p).1)
    (hbook : ∀ w' n, Good w' → Good (popHead w' x n))
    (n : Nat) (w : World) (hx : x < w.devs.length) (hk : (w.dev x).kind = .buffer)
    (hg : Good w) :
    ∃ k, k ≤ n ∧ Released x w (bufferLoop n w x) k ∧ Good (bufferLoop n w x) ∧
      (k = n ∨ ((bufferLoop n w x).dev x).buf = [] ∨
        ∃ t p rest, ((bufferLoop n w x).dev x).buf = (t, p) :: rest ∧
          (((bufferLoop n w x).dev x).delay - ((bufferLoop n w x).now - t) > 0 ∨
           ∃ w'', Good w'' ∧ (w''.dev x).buf = (t, p) :: rest ∧
             tryList givePart w'' (w''.sortedDown x) p = (bufferLoop n w x, false))) := by
  have hrefl : ∀ w : World, Released x w w 0 := fun w =>
    ⟨Nat.zero_le _, rfl, by simp [leafSum, entries, count], by simp, rfl, rfl, rfl, rfl, rfl,
      fun _ _ => rfl⟩
  induction n generalizing w with
  | zero => exact ⟨0, Nat.le_refl _, hrefl w, hg, Or.inl rfl⟩
  | succ f ih =>
    rw [bufferLoop_succ]
    cases hb : (w.dev x).buf with
    | nil => exact ⟨0, Nat.zero_le _, hrefl w, hg, Or.inr (Or.inl hb)⟩
    | cons e rest =>
      obtain ⟨t, p⟩ := e
      dsimp only
      by_cases hheld : (w.dev x).delay - (w.now - t) > 0
      · rw [if_pos hheld]
        exact ⟨0, Nat.zero_le _, hrefl w, hg, Or.inr (Or.inr ⟨t, p, rest, hb, Or.inl hheld⟩)⟩
      · rw [if_neg hheld]
        obtain ⟨hf, hg1⟩ := hframe w t p rest hg hx hk hb hheld
        generalize hr : tryList givePart w (w.sortedDown x) p = r at hf hg1
        obtain ⟨w1, b⟩ := r
        have hfb := hf.buf; have hfl := hf.level; have hfd := hf.delay; have hfc := hf.cap
        have hfk := hf.kind; have hfn := hf.len; have hfw := hf.now; have hfr := hf.leafRest
        have hfp := hf.leafRefused
        rw [hr] at hfb hfl hfd hfc hfk hfn hfw hfr hfp
        dsimp only at hfb hfl hfd hfc hfk hfn hfw hfr hfp hg1
        cases b with
        | false =>
          dsimp only
          refine ⟨0, Nat.zero_le _, ?_, hg1, Or.inr (Or.inr ⟨t, p, rest, hfb.trans hb, Or.inr
            ⟨w, hg, hb, hr⟩⟩)⟩
          refine ⟨Nat.zero_le _, by rw [hfb]; rfl, by simp [hfl, leafSum, entries, count],
            by simp, hfc, hfd, hfk, hfn, hfw, ?_⟩
          intro e he
          rw [List.drop_zero, hb] at he
          rcases List.mem_cons.1 he with rfl | he
          · exact hfp rfl
          · exact hfr e he
        | true =>
          dsimp only
          have hx1 : x < w1.devs.length := by omega
          have hd2 := popHead_dev w1 x (w.leafCount p) hx1
          generalize hw2 : popHead w1 x (w.leafCount p) = w2 at hd2
          have hg2 : Good w2 := hw2 ▸ hbook w1 _ hg1
          have hx2 : x < w2.devs.length := by
            rw [← hw2]; unfold popHead; simp [hx1]
          have hnow2 : w2.now = w.now := by rw [← hw2, ← hfw]; rfl
          have hlen2 : w2.devs.length = w.devs.length := by
            rw [← hw2, ← hfn]; unfold popHead; simp
          have hlc2 : ∀ q, w2.leafCount q = w1.leafCount q := by
            intro q; rw [← hw2]; rfl
          have hbuf2 : (w2.dev x).buf = rest := by rw [hd2, hfb, hb]; rfl
          have hk2 : (w2.dev x).kind = .buffer := by rw [hd2]; exact hfk.trans hk
          obtain ⟨k, hkf, hrel, hgood, hstop⟩ := ih w2 hx2 hk2 hg2
          refine ⟨k + 1, Nat.succ_le_succ hkf, ?_, hgood, ?_⟩
          · have hle := hrel.le
            rw [hbuf2] at hle
            have hent : entries w2 (rest.take k) = entries w (rest.take k) :=
              entries_congr (fun e he => by rw [hlc2]; exact hfr e (List.mem_of_mem_take he))
            refine ⟨by rw [hb]; simp [hle], ?_, ?_, ?_, ?_, ?_, ?_, ?_, ?_, ?_⟩
            · rw [hrel.buf, hbuf2, hb]; rfl
            · rw [hrel.level, hbuf2, hb, List.take_succ_cons, leafSum_cons]
              unfold leafSum
              rw [hent, hd2, hfl]
              exact Nat.sub_sub _ _ _
            · intro e he
              rw [hb, List.take_succ_cons] at he
              rcases List.mem_cons.1 he with rfl | he
              · show t + (w.dev x).delay ≤ w.now
                omega
              · have := hrel.expired e (by rw [hbuf2]; exact he)
                rw [hd2, hnow2] at this
                exact hfd ▸ this
            · rw [hrel.cap, hd2]; exact hfc
            · rw [hrel.delay, hd2]; exact hfd
            · rw [hrel.kind, hd2]; exact hfk.trans rfl
            · rw [hrel.len, hlen2]
            · rw [hrel.now, hnow2]
            · intro e he
              rw [hb, List.drop_succ_cons] at he
              rw [hrel.leaf e (by rw [hbuf2]; exact he), hlc2]
              exact hfr e (List.mem_of_mem_drop he)
          · rcases hstop with h | h | h
            · exact Or.inl (by omega)
            · exact Or.inr (Or.inl h)
            · exact Or.inr (Or.inr h)

/-- A release attempt whose first `l₁.length` answers are `true` and whose next answer is `false`
releases exactly `l₁` if all of `l₁` has waited long enough. -/
theorem release_prefix (m : BufM) (now : Int) (l₁ l₂ : List Entry) (hb : m.buf = l₁ ++ l₂)
    (hexp : ∀ e ∈ l₁, e.1 + m.delay ≤ now) :
    m.release now (List.replicate l₁.length true ++ [false]) =
      ({ m with level := m.level - count l₁, buf := l₂ }, l₁) := by
  induction l₁ generalizing m with
  | nil =>
    obtain ⟨c, d, b, l⟩ := m
    simp only [List.nil_append] at hb
    subst hb
    simp only [List.length_nil, List.replicate_zero, List.nil_append, BufM.release, count,
      Nat.sub_zero]
    split
    · rfl
    · split <;> rfl
  | cons e l₁ ih =>
    simp only [List.length_cons, List.replicate_succ, List.cons_append, BufM.release]
    rw [List.cons_append] at hb
    rw [hb]
    have he : m.held now e.1 = false := by
      have := hexp e (List.mem_cons_self ..)
      simp only [BufM.held, decide_eq_false_iff_not]; omega
    simp only [he, Bool.false_eq_true, if_false, if_true]
    rw [ih { m with level := m.level - e.2.2, buf := l₁ ++ l₂ } rfl
      (fun e' he' => hexp e' (List.mem_cons_of_mem _ he'))]
    simp only [count, Nat.sub_sub]

/-- `entries` and `leafSum` of a concatenation. -/
theorem entries_append (w : World) (l₁ l₂ : List (Int × Nat)) :
    entries w (l₁ ++ l₂) = entries w l₁ ++ entries w l₂ := by
  simp [entries]

theorem leafSum_append (w : World) (l₁ l₂ : List (Int × Nat)) :
    leafSum w (l₁ ++ l₂) = leafSum w l₁ + leafSum w l₂ := by
  simp [leafSum, entries_append, count_append]

/-- **Release refines the machine.**  `k` releases of the model's buffer are the machine's release
attempt with `k` answers `true` followed by `false`, at the world's clock. -/
theorem Released.refines {x : Nat} {w w' : World} {k : Nat} (h : Released x w w' k) :
    ((absM w x).release w.now (List.replicate k true ++ [false])).1 = absM w' x ∧
    ((absM w x).release w.now (List.replicate k true ++ [false])).2 =
      entries w ((w.dev x).buf.take k) := by
  have hlen : (entries w ((w.dev x).buf.take k)).length = k := by
    simp [entries, Nat.min_eq_left h.le]
  have := release_prefix (absM w x) w.now (entries w ((w.dev x).buf.take k))
    (entries w ((w.dev x).buf.drop k))
    (by rw [← entries_append, List.take_append_drop]; rfl)
    (by
      intro e he
      obtain ⟨e', he', rfl⟩ := List.mem_map.1 he
      exact h.expired e' he')
  rw [hlen] at this
  rw [this]
  refine ⟨?_, rfl⟩
  unfold absM
  rw [h.cap, h.delay, h.level, h.buf, entries_congr h.leaf]
  rfl

/-! ### acceptance -/

/-- **`canAcceptBasic` of a buffer**: there is room for all parts of the offered part/batch (always,
for an infinite buffer) and the buffer is not already full (a full buffer refuses even an empty
batch: fix of finding F12), the input is not blocked, and both slots are empty. -/
theorem canAccept_buffer (w : World) (x p : Nat) (hk : (w.dev x).kind = .buffer) :
    w.canAcceptBasic x p = true ↔
      (match (w.dev x).cap with
        | none => True
        | some c => (w.dev x).level + w.leafCount p ≤ c ∧ (w.dev x).level < c) ∧
      (w.dev x).blockInput = false ∧ (w.dev x).part = none ∧ (w.dev x).output = none := by
  unfold canAcceptBasic operational
  simp only [hk]
  cases (w.dev x).cap with
  | none => simp [Option.isNone_iff_eq_none, and_assoc]
  | some c =>
    simp only [Bool.and_eq_true, decide_eq_true_eq, Bool.not_eq_eq_eq_not,
      Bool.not_true, Option.isNone_iff_eq_none, and_assoc]
    constructor
    · rintro ⟨h1, h2, -, h4, h5, h6⟩; exact ⟨h1, h2, h4, h5, h6⟩
    · rintro ⟨h1, h2, h4, h5, h6⟩; exact ⟨h1, h2, by simp, h4, h5, h6⟩

/-- The capacity part of `canAcceptBasic` is the machine's `room`. -/
theorem canAccept_buffer_room (w : World) (x p : Nat) (hk : (w.dev x).kind = .buffer) :
    w.canAcceptBasic x p = true ↔
      (absM w x).room (w.leafCount p) = true ∧
      (w.dev x).blockInput = false ∧ (w.dev x).part = none ∧ (w.dev x).output = none := by
  rw [canAccept_buffer w x p hk]
  unfold BufM.room absM
  cases (w.dev x).cap <;> simp

/-- `give_part` on a buffer: accept iff `canAcceptBasic`; a refusal changes nothing. -/
theorem givePart_buffer (w : World) (x p : Nat) (hk : (w.dev x).kind = .buffer) :
    w.givePart x p = if w.canAcceptBasic x p then (w.acceptPart x p, true) else (w, false) := by
  unfold givePart World.fuel
  rw [give]
  simp only [hk]

/-- **Acceptance.**  A buffer with an empty output slot that accepts part `p` (what `give_part`
does when `canAcceptBasic` holds): the level rises by the number of parts of `p`, `p` is appended
to the queue with the current time, the input slot is empty again, capacity/delay/kind are
unchanged, the clock does not move, and exactly two records are appended to the data log: the new
level and the `received` record. -/
theorem acceptPart_buffer (w : World) (x p : Nat) (hx : x < w.devs.length)
    (hk : (w.dev x).kind = .buffer) (ho : (w.dev x).output = none) :
    ((w.acceptPart x p).dev x).level = (w.dev x).level + w.leafCount p ∧
    ((w.acceptPart x p).dev x).buf = (w.dev x).buf ++ [(w.now, p)] ∧
    ((w.acceptPart x p).dev x).part = none ∧
    ((w.acceptPart x p).dev x).output = none ∧
    ((w.acceptPart x p).dev x).cap = (w.dev x).cap ∧
    ((w.acceptPart x p).dev x).delay = (w.dev x).delay ∧
    ((w.acceptPart x p).dev x).kind = .buffer ∧
    ((w.acceptPart x p).dev x).blockInput = (w.dev x).blockInput ∧
    (w.acceptPart x p).recs = w.recs ++
      [.level x w.now ((w.dev x).level + w.leafCount p),
       .received x w.now p (w.part p).quality (w.partValue p)] ∧
    (w.acceptPart x p).now = w.now ∧
    (w.acceptPart x p).devs.length = w.devs.length ∧
    ∀ q, (w.acceptPart x p).leafCount q = w.leafCount q := by
  obtain ⟨h1, _, h3, h4, h5, h6⟩ := World.acceptPart_buffer w x p hx hk ho
  obtain ⟨f1, f2, f3, f4, f5, f6, f7, f8⟩ := bufView_fields_upd h1
  exact ⟨f5, f4, f6, f7.trans ho, f2, f3, f1.trans hk, f8, h3, h4, h5, h6⟩

/-- The buffers other than `x` (and all other devices, as far as a buffer's fields are concerned)
are not affected by `x` accepting a part. -/
theorem acceptPart_buffer_others (w : World) (x p : Nat) (hx : x < w.devs.length)
    (hk : (w.dev x).kind = .buffer) (ho : (w.dev x).output = none) (y : Nat) (hy : y ≠ x) :
    absM (w.acceptPart x p) y = absM w y ∧ ((w.acceptPart x p).dev y).kind = (w.dev y).kind := by
  obtain ⟨_, h2, _, _, _, h6⟩ := World.acceptPart_buffer w x p hx hk ho
  obtain ⟨f1, f2, f3, f4, f5, _, _, _⟩ := bufView_fields (h2 y hy)
  refine ⟨?_, f1⟩
  unfold absM
  rw [f2, f3, f4, f5, entries_congr (fun e _ => h6 e.2)]

/-- **Acceptance refines the machine.**  `give_part` on a buffer whose slots are empty and whose
input is not blocked answers like the machine's `offer` (with the number of parts of `p` and the
world's clock), and the machine state afterwards is the one `offer` computes. -/
theorem givePart_refines (w : World) (x p : Nat) (hx : x < w.devs.length)
    (hk : (w.dev x).kind = .buffer) (hb : (w.dev x).blockInput = false)
    (hp : (w.dev x).part = none) (ho : (w.dev x).output = none) :
    (w.givePart x p).2 = ((absM w x).offer w.now p (w.leafCount p)).2 ∧
    absM (w.givePart x p).1 x = ((absM w x).offer w.now p (w.leafCount p)).1 := by
  rw [givePart_buffer w x p hk]
  have hiff := canAccept_buffer_room w x p hk
  unfold BufM.offer
  cases hroom : (absM w x).room (w.leafCount p)
  · have : w.canAcceptBasic x p = false := by
      cases h : w.canAcceptBasic x p
      · rfl
      · rw [hiff.1 h |>.1] at hroom; cases hroom
    simp [this]
  · have : w.canAcceptBasic x p = true := hiff.2 ⟨hroom, hb, hp, ho⟩
    simp only [this, if_true, true_and]
    obtain ⟨h1, h2, _, _, h5, h6, _, _, _, _, _, h12⟩ := acceptPart_buffer w x p hx hk ho
    unfold absM
    rw [h1, h2, h5, h6, entries_congr (fun e _ => h12 e.2), entries_append]
    rfl

/-! ### `passPart` -/

/-- `Buffer._pass_part_downstream` is the release loop with fuel `buf.length + 1`; what follows
(rescheduling after the head's remaining wait or setting `waitingDS`, notifying upstream) only
touches the event queue and the flow flags. -/
theorem passPart_buffer (w : World) (x : Nat) (hk : (w.dev x).kind = .buffer) :
    (w.passPart x).core = (bufferLoop ((w.dev x).buf.length + 1) w x).core ∧
    (w.passPart x).clockRecs = (bufferLoop ((w.dev x).buf.length + 1) w x).clockRecs := by
  unfold passPart
  simp only [hk]
  rw [notify_core, notify_clockRecs]
  split
  · exact ⟨rfl, rfl⟩
  · split
    · exact ⟨schedulePass_core _ _ _, schedulePass_clockRecs _ _ _⟩
    · exact ⟨setDev_core_of_core_eq rfl, rfl⟩

/-- `Released` only looks at the core of the final world and at its clock. -/
theorem Released.of_core {x : Nat} {w w₁ w₂ : World} {k : Nat} (h : Released x w w₁ k)
    (hc : w₂.core = w₁.core) (hn : w₂.now = w₁.now) : Released x w w₂ k :=
  { le := h.le
    buf := (core_eq_dev_buf hc x).trans h.buf
    level := (core_eq_dev_level hc x).trans h.level
    expired := h.expired
    cap := (core_eq_dev_cap hc x).trans h.cap
    delay := (core_eq_dev_delay hc x).trans h.delay
    kind := (core_eq_dev_kind hc x).trans h.kind
    len := (core_eq_devs_length hc).trans h.len
    now := hn.trans h.now
    leaf := fun e he => (core_eq_leafCount hc e.2).trans (h.leaf e he) }

/-- **`passPart` on a buffer releases a prefix of the queue** (under the frame condition of
`bufferLoop_release`), and it stops only at an empty queue, at a head that is still held back, or
at a head that all downstream devices refused. -/
theorem passPart_release (Good : World → Prop) (x : Nat)
    (hframe : ∀ w' t p rest, Good w' → x < w'.devs.length → (w'.dev x).kind = .buffer →
      (w'.dev x).buf = (t, p) :: rest → ¬ (w'.dev x).delay - (w'.now - t) > 0 →
      HandOverFrame x w' p rest ∧ Good (tryList givePart w' (w'.sortedDown x) p).1)
    (hbook : ∀ w' n, Good w' → Good (popHead w' x n))
    (w : World) (hx : x < w.devs.length) (hk : (w.dev x).kind = .buffer) (hg : Good w) :
    ∃ k, Released x w (w.passPart x) k ∧
      (((w.passPart x).dev x).buf = [] ∨
        ∃ t p rest, ((w.passPart x).dev x).buf = (t, p) :: rest ∧
          (((w.passPart x).dev x).delay - ((w.passPart x).now - t) > 0 ∨
           ∃ w'' w''', Good w'' ∧ (w''.dev x).buf = (t, p) :: rest ∧
             tryList givePart w'' (w''.sortedDown x) p = (w''', false))) := by
  obtain ⟨hc, hcr⟩ := passPart_buffer w x hk
  obtain ⟨k, hkn, hrel, _, hstop⟩ :=
    bufferLoop_release Good x hframe hbook ((w.dev x).buf.length + 1) w hx hk hg
  have hn := clockRecs_now hcr
  refine ⟨k, hrel.of_core hc hn, ?_⟩
  rw [core_eq_dev_buf hc x, core_eq_dev_delay hc x, hn]
  rcases hstop with h | h | ⟨t, p, rest, h1, h2⟩
  · have := hrel.le; omega
  · exact Or.inl h
  · refine Or.inr ⟨t, p, rest, h1, ?_⟩
    rcases h2 with h2 | ⟨w'', hg'', hb'', ht''⟩
    · exact Or.inl h2
    · exact Or.inr ⟨w'', _, hg'', hb'', ht''⟩

/-! ### a family of topologies in which the frame condition holds -/

/-- Every downstream device of `x` is a machine (`PartHandler`, `PartProcessor`), a sink or a
buffer, and none of them is `x` itself.  (No pass-through controller, hence no chain of them that
could lead back to `x`; sources and batchers are excluded as receivers.) -/
def PlainDown (x : Nat) (w : World) : Prop :=
  ∀ y ∈ (w.dev x).down, y ≠ x ∧ plainKind (w.dev y).kind

/-- In such a topology a hand-over from `x` changes none of `x`'s non-flow fields, nor the clock,
the number of devices, the batch structure of any part, or the kind of any device. -/
theorem handOver_same (x : Nat) (w : World) (p : Nat) (h : PlainDown x w) :
    Same x w (tryList givePart w (w.sortedDown x) p).1 :=
  same_tryList _ w p (fun y hy => h y (mem_sortedDown hy))

/-- `PlainDown` only depends on what `Same` preserves. -/
theorem PlainDown.of_same {x : Nat} {w w' : World} (h : PlainDown x w) (hs : Same x w w') :
    PlainDown x w' := by
  intro y hy
  have hd : (w'.dev x).down = (w.dev x).down := (core_fields hs.dev).2.2.2.2.1
  rw [hd] at hy
  exact ⟨(h y hy).1, by rw [hs.kind y]; exact (h y hy).2⟩

/-- In a `PlainDown` topology the frame condition of `bufferLoop_release` holds, and hand-overs stay inside the family. -/
theorem handOver_frame (x : Nat) (w : World) (p : Nat) (rest : List (Int × Nat))
    (h : PlainDown x w) :
    HandOverFrame x w p rest ∧ PlainDown x (tryList givePart w (w.sortedDown x) p).1 := by
  have hs := handOver_same x w p h
  obtain ⟨h1, h2, h3, h4, _, _⟩ := core_fields hs.dev
  exact ⟨⟨h1, h2, h3, h4, hs.kind x, hs.len, hs.now, fun e _ => hs.leafCount e.2,
    fun _ => hs.leafCount p⟩, h.of_same hs⟩

/-- The buffer's own bookkeeping stays inside the family. -/
theorem popHead_plainDown (x n : Nat) (w : World) (h : PlainDown x w) :
    PlainDown x (popHead w x n) := by
  have hdev : ∀ z, ((popHead w x n).dev z).kind = (w.dev z).kind ∧
      ((popHead w x n).dev z).down = (w.dev z).down := by
    intro z
    unfold popHead
    simp only [dev_addRec, dev_modDev]
    split
    · next hz => rw [hz.1]; exact ⟨rfl, rfl⟩
    · exact ⟨rfl, rfl⟩
  intro y hy
  rw [(hdev x).2] at hy
  exact ⟨(h y hy).1, by rw [(hdev y).1]; exact (h y hy).2⟩

/-- **Release, unconditionally, for a buffer that feeds machines, sinks and other buffers.**
`bufferLoop n w x` releases the first `k ≤ n` entries of the queue, exactly as described in
`bufferLoop_release` (see `Released`), and it stops only for the reasons listed there. -/
theorem bufferLoop_release_plain (n : Nat) (w : World) (x : Nat) (hx : x < w.devs.length)
    (hk : (w.dev x).kind = .buffer) (hd : PlainDown x w) :
    ∃ k, k ≤ n ∧ Released x w (bufferLoop n w x) k ∧ PlainDown x (bufferLoop n w x) ∧
      (k = n ∨ ((bufferLoop n w x).dev x).buf = [] ∨
        ∃ t p rest, ((bufferLoop n w x).dev x).buf = (t, p) :: rest ∧
          (((bufferLoop n w x).dev x).delay - ((bufferLoop n w x).now - t) > 0 ∨
           ∃ w'', PlainDown x w'' ∧ (w''.dev x).buf = (t, p) :: rest ∧
             tryList givePart w'' (w''.sortedDown x) p = (bufferLoop n w x, false))) :=
  bufferLoop_release (PlainDown x) x
    (fun w' _ p rest hg _ _ _ _ => handOver_frame x w' p rest hg)
    (fun w' n hg => popHead_plainDown x n w' hg) n w hx hk hd

/-- **`Buffer._pass_part_downstream`, unconditionally, for a buffer that feeds machines, sinks
and other buffers**: a prefix of the queue is released (FIFO), the level drops by the number of
parts released, each released entry had waited at least the minimum delay, and the contract
`BufOK` is preserved (see `Released.ok`). -/
theorem passPart_release_plain (w : World) (x : Nat) (hx : x < w.devs.length)
    (hk : (w.dev x).kind = .buffer) (hd : PlainDown x w) :
    ∃ k, Released x w (w.passPart x) k ∧
      (((w.passPart x).dev x).buf = [] ∨
        ∃ t p rest, ((w.passPart x).dev x).buf = (t, p) :: rest ∧
          (((w.passPart x).dev x).delay - ((w.passPart x).now - t) > 0 ∨
           ∃ w'' w''', PlainDown x w'' ∧ (w''.dev x).buf = (t, p) :: rest ∧
             tryList givePart w'' (w''.sortedDown x) p = (w''', false))) :=
  passPart_release (PlainDown x) x
    (fun w' _ p rest hg _ _ _ _ => handOver_frame x w' p rest hg)
    (fun w' n hg => popHead_plainDown x n w' hg) w hx hk hd

/-! ### the contract on the model's state -/

/-- The state part of the contract, on the model's buffer `x` itself: the reported level is the
number of stored parts (batches count their parts), the capacity is respected, the queue is in
order of arrival and nothing in it arrived in the future. -/
structure BufOK (w : World) (x : Nat) : Prop where
  levelEq : (w.dev x).level = leafSum w (w.dev x).buf
  capOk : ∀ c, (w.dev x).cap = some c → leafSum w (w.dev x).buf ≤ c
  sorted : ((w.dev x).buf.map (·.1)).Pairwise (· ≤ ·)
  arrived : ∀ e ∈ (w.dev x).buf, e.1 ≤ w.now

/-- Accepting a part (when `canAcceptBasic` says so) preserves the contract: in particular the
capacity is never exceeded, whatever the size of the accepted batch. -/
theorem acceptPart_ok (w : World) (x p : Nat) (hx : x < w.devs.length)
    (hk : (w.dev x).kind = .buffer) (hacc : w.canAcceptBasic x p = true) (h : BufOK w x) :
    BufOK (w.acceptPart x p) x := by
  obtain ⟨hroom, _, _, ho⟩ := (canAccept_buffer w x p hk).1 hacc
  obtain ⟨h1, h2, _, _, h5, _, _, _, _, h10, _, h12⟩ := acceptPart_buffer w x p hx hk ho
  have hsum : leafSum (w.acceptPart x p) ((w.acceptPart x p).dev x).buf =
      leafSum w (w.dev x).buf + w.leafCount p := by
    unfold leafSum
    rw [h2, entries_congr (fun e _ => h12 e.2), entries_append, count_append]
    simp [entries, count]
  refine ⟨?_, ?_, ?_, ?_⟩
  · rw [hsum, h1, h.levelEq]
  · intro c hc
    rw [h5] at hc
    rw [hc] at hroom
    rw [hsum, ← h.levelEq]; exact hroom.1
  · rw [h2, List.map_append]
    apply pairwise_append_le h.sorted
    intro a ha
    obtain ⟨e, he, rfl⟩ := List.mem_map.1 ha
    exact h.arrived e he
  · intro e he
    rw [h2] at he
    rw [h10]
    rcases List.mem_append.1 he with he | he
    · exact h.arrived e he
    · simp only [List.mem_singleton] at he; subst he; exact Int.le_refl _

/-- Releasing a prefix of the queue preserves the contract. -/
theorem Released.ok {x : Nat} {w w' : World} {k : Nat} (hrel : Released x w w' k)
    (h : BufOK w x) : BufOK w' x := by
  have hsplit : leafSum w (w.dev x).buf =
      leafSum w ((w.dev x).buf.take k) + leafSum w ((w.dev x).buf.drop k) := by
    rw [← leafSum_append, List.take_append_drop]
  have hsum : leafSum w' (w'.dev x).buf = leafSum w ((w.dev x).buf.drop k) := by
    unfold leafSum; rw [hrel.buf, entries_congr hrel.leaf]
  refine ⟨?_, ?_, ?_, ?_⟩
  · rw [hsum, hrel.level, h.levelEq]; omega
  · intro c hc
    rw [hrel.cap] at hc
    have := h.capOk c hc
    rw [hsum]; omega
  · rw [hrel.buf]
    exact h.sorted.sublist ((List.drop_sublist k _).map _)
  · intro e he
    rw [hrel.buf] at he
    rw [hrel.now]
    exact h.arrived e (List.mem_of_mem_drop he)

/-- `give_part` on a buffer preserves the contract, whether the part is accepted or refused. -/
theorem givePart_ok (w : World) (x p : Nat) (hx : x < w.devs.length)
    (hk : (w.dev x).kind = .buffer) (h : BufOK w x) : BufOK (w.givePart x p).1 x := by
  rw [givePart_buffer w x p hk]
  split
  · next hacc =>
    -- project the pair first: compared as it stands, `acceptPart` gets unfolded
    dsimp only
    exact acceptPart_ok w x p hx hk hacc h
  · exact h

/-- `Buffer._pass_part_downstream` preserves the contract for a buffer that feeds machines, sinks
and other buffers. -/
theorem passPart_ok_plain (w : World) (x : Nat) (hx : x < w.devs.length)
    (hk : (w.dev x).kind = .buffer) (hd : PlainDown x w) (h : BufOK w x) :
    BufOK (w.passPart x) x := by
  obtain ⟨k, hrel, _⟩ := passPart_release_plain w x hx hk hd
  exact hrel.ok h

/-! ### non-vacuity -/

/-- A run: capacity 3, delay 2.  A batch of 2 is accepted, a second batch of 2 is refused, a single
part is accepted; a release attempt at time 1 is too early, one at time 5 releases the batch and is
then refused. -/
def exOps : List Op :=
  [.offer 0 10 2, .offer 0 11 2, .offer 1 12 1, .release 1 [true, true], .release 5 [true, false]]

example : Timed 0 exOps := by simp [exOps, Timed, Op.time]
example : ((Run.init (some 3) 2 0).exec exOps).m.buf = [(1, 12, 1)] := by decide
example : ((Run.init (some 3) 2 0).exec exOps).m.level = 1 := by decide
example : ((Run.init (some 3) 2 0).exec exOps).accepted = [(0, 10, 2), (1, 12, 1)] := by decide
example : ((Run.init (some 3) 2 0).exec exOps).released = [(5, (0, 10, 2))] := by decide

/-- A buffer (device 0: capacity 3, delay 2) that feeds a sink (device 1); part 0 is a single part,
part 1 a batch of parts 2 and 3. The clock is at 5. -/
def exW : World :=
  { env := { now := 5 }
    devs := [{ kind := .buffer, aid := 1, down := [1], cap := some 3, delay := 2 },
             { kind := .sink, aid := 2, up := [0] }]
    parts := [{}, { kids := some [2, 3] }, {}, {}] }

example : 0 < exW.devs.length ∧ (exW.dev 0).kind = .buffer ∧ (exW.dev 0).output = none := by decide
example : PlainDown 0 exW := by
  intro y hy
  have : y = 1 := by simpa [exW, World.dev] using hy
  subst this
  exact ⟨by decide, Or.inr (Or.inr (Or.inl rfl))⟩
example : exW.canAcceptBasic 0 1 = true := by decide
example : exW.leafCount 1 = 2 := by decide
example : ((exW.acceptPart 0 1).dev 0).level = 2 := by decide
example : ((exW.acceptPart 0 1).dev 0).buf = [(5, 1)] := by decide
example : (exW.acceptPart 0 1).recs = [.level 0 5 2, .received 0 5 1 1 0] := by decide
example : exW.canAcceptBasic 0 1 = true ∧ (exW.acceptPart 0 1).canAcceptBasic 0 1 = false ∧
    (exW.acceptPart 0 1).canAcceptBasic 0 0 = true := by decide

/-- The same floor with two stored entries: the batch (part 1) arrived at 0, part 0 at 4. -/
def exW2 : World :=
  { exW with devs := [{ kind := .buffer, aid := 1, down := [1], cap := some 3, delay := 2,
                        buf := [(0, 1), (4, 0)], level := 3 },
                      { kind := .sink, aid := 2, up := [0] }] }

example : 0 < exW2.devs.length ∧ (exW2.dev 0).kind = .buffer := by decide
example : PlainDown 0 exW2 := by
  intro y hy
  have : y = 1 := by simpa [exW2, World.dev] using hy
  subst this
  exact ⟨by decide, Or.inr (Or.inr (Or.inl rfl))⟩
example : BufOK exW2 0 := by
  refine ⟨by decide, ?_, by decide, by decide⟩
  intro c hc
  have : c = 3 := by simpa [exW2, exW, World.dev] using hc.symm
  subst this; decide
/-- The batch has waited long enough and the sink takes it; part 0 is still held back. -/
example : ((bufferLoop 3 exW2 0).dev 0).buf = [(4, 0)] ∧ ((bufferLoop 3 exW2 0).dev 0).level = 1 := by
  decide
example : ((exW2.passPart 0).dev 0).buf = [(4, 0)] ∧ ((exW2.passPart 0).dev 0).level = 1 := by decide
example : (bufferLoop 3 exW2 0).recs.getLast? = some (.level 0 5 1) := by decide
example : (absM exW2 0).release 5 [true, false] =
    ({ cap := some 3, delay := 2, buf := [(4, 0, 1)], level := 1 }, [(0, 1, 2)]) := by decide

/-- A sink that refuses (blocked input): nothing is released. -/
def exW3 : World :=
  { exW with devs := [{ kind := .buffer, aid := 1, down := [1], cap := some 3, delay := 2,
                        buf := [(0, 1), (4, 0)], level := 3 },
                      { kind := .sink, aid := 2, up := [0], blockInput := true }] }
example : ((bufferLoop 3 exW3 0).dev 0).buf = [(0, 1), (4, 0)] ∧
    ((bufferLoop 3 exW3 0).dev 0).level = 3 := by decide

/-- The frame hypothesis of `bufferLoop_release` is needed: a buffer that is its own downstream
device hands its head over to itself, so the new queue is not a suffix of the old one. -/
def exLoop : World :=
  { env := { now := 5 }
    devs := [{ kind := .buffer, aid := 1, down := [0], up := [0], buf := [(0, 0)], level := 1 }]
    parts := [{}] }
example : ((bufferLoop 1 exLoop 0).dev 0).buf = [(5, 0)] := by decide
example : ¬ PlainDown 0 exLoop := by
  intro h
  exact (h 0 (by decide)).1 rfl


/-- Why the leaf count of the head is read before the hand-over, and why the frame condition only
asks for the leaf counts of the parts that stay (or of a refused head): a batcher downstream
unpacks the batch it accepts, so `leafCount 1` drops from 2 to 1 during the hand-over; the level
is nevertheless lowered by 2. -/
def exBatcher : World :=
  { exW2 with devs := [{ kind := .buffer, aid := 1, down := [1], cap := some 3, delay := 2,
                         buf := [(0, 1), (4, 0)], level := 3 },
                       { kind := .batcher, aid := 2, up := [0] }] }
example : exBatcher.leafCount 1 = 2 ∧
    (tryList givePart exBatcher (exBatcher.sortedDown 0) 1).2 = true ∧
    (tryList givePart exBatcher (exBatcher.sortedDown 0) 1).1.leafCount 1 = 1 ∧
    ((bufferLoop 3 exBatcher 0).dev 0).level = 1 ∧
    ((bufferLoop 3 exBatcher 0).dev 0).buf = [(4, 0)] := by decide

/-- The theorems apply to these worlds. -/
example : PlainDown 0 exW2 → ∃ k, Released 0 exW2 (exW2.passPart 0) k := fun hd =>
  (passPart_release_plain exW2 0 (by decide) (by decide) hd).imp (fun _ h => h.1)

example : BufOK (exW.givePart 0 1).1 0 :=
  givePart_ok exW 0 1 (by decide) (by decide)
    ⟨by decide, fun c _ => by simp [leafSum, entries, count, exW, World.dev], by decide, by decide⟩

end C05
end SimProc
