/-
C01W — the event-queue theorems (C01, C07) hold in the closed world.

`Props/C01.lean` and `Props/C07.lean` are about the environment model `Env` driven by ARBITRARY
lists of operations.  Here: the world model (`Model/Floor.lean`, `Model/World.lean`) touches its
event queue ONLY through that API —

1. `env_refines_*` : every function `f` that can run inside an event action or as a scripted
   operation satisfies `Via w (f w)`, i.e. (`via_iff`) under the closed-world invariant `Good w`
   (device asset ids ≥ 1, scripts issue only user operations) there is a list `ops` of *library
   operations* (`LibOp`: `.sched` with an action other than the private terminate action and a
   priority above `TERMINATE`; `.pause/.unpause/.cancel` of an asset other than −1; never `.step`,
   never `.runBegin`) with `(f w).env = (w.env.applyAll Arith.exact ops).1`, and `Good (f w)`;
2. `step_refines`, `runBegin_refines` : a world step is the environment's `.step` followed by
   library operations; `World.runBegin` is the environment's `.runBegin`;
3. hence everything proved about `Env.apply/applyAll` holds in every reachable world (`Reach`):
   `envInv_reachable`, `dispatch_order_world`, `clock_monotone_world`, `executed_once_world`,
   `run_ends_world`, `cancelled_never_runs_world`, `cancelled_stays_world`.

No restriction on the topology or on the scripts beyond `ScriptsUser` (they may create assets,
re-wire, fail/shutdown/restore machines, …): `Static` is not needed.
-/
import SimProc.Proofs.C01WRun

namespace SimProc
namespace C01W
open World

/-! ### 1. `env_refines`: function by function -/

/-- What `Via` says. -/
theorem via_iff (w w' : World) :
    Via w w' ↔ (Good w → Good w' ∧ ∃ ops : List EnvOp, (∀ op ∈ ops, LibOp op) ∧
      w'.env = (w.env.applyAll Arith.exact ops).1) := Iff.rfl

/-- Library operations are the `C01.UserOp`s other than `step`. -/
theorem libOp_iff_userOp (op : EnvOp) : LibOp op ↔ C01.UserOp op ∧ op ≠ .step := libOp_iff op

/-- `Via` is reflexive and transitive (operation lists concatenate, `applyAll_append`). -/
theorem via_refl (w : World) : Via w w := Via.refl w
theorem via_trans {a b c : World} (h1 : Via a b) (h2 : Via b c) : Via a c := h1.trans h2

/-- The invariant is established by the constructors: `addDev` assigns asset id
`registration index + 1 ≥ 1` (part of `env_refines_addAsset`); an empty floor satisfies it. -/
theorem good_of_no_devs (w : World) (hd : w.devs = []) (hs : ScriptsUser w) : Good w :=
  ⟨(by intro a ha; simp [hd] at ha), hs⟩

-- primitives of `WorldDef`
/-- `sched` is exactly ONE environment operation (`.sched`, accepted or rejected). -/
theorem sched_is_one_op (w : World) (t a : Int) (act : Action) (p : Int) :
    (w.sched t a act p).1.env = (w.env.apply Arith.exact
      (.sched t a act.toNat p (weightOf w.seed w.wmod t a act.toNat p))).1 := sched_env w t a act p
theorem schedLib_is_one_op (w : World) (t a : Int) (act : Action) (p : Int) :
    (w.schedLib t a act p).env = (w.env.apply Arith.exact
      (.sched t a act.toNat p (weightOf w.seed w.wmod t a act.toNat p))).1 := schedLib_env w t a act p
theorem envOp_is_one_op (w : World) (op : EnvOp) :
    (w.envOp op).env = (w.env.apply Arith.exact op).1 := rfl

theorem env_refines_sched (w : World) (t a : Int) (act : Action) (p : Int)
    (ha : act ≠ .terminate) (hp : prioTerminate < p) : Via w (w.sched t a act p).1 :=
  Via_sched w t a act p ha hp
theorem env_refines_schedLib (w : World) (t a : Int) (act : Action) (p : Int)
    (ha : act ≠ .terminate) (hp : prioTerminate < p) : Via w (w.schedLib t a act p) :=
  Via_schedLib w t a act p ha hp
theorem env_refines_envOp (w : World) (op : EnvOp) (h : LibOp op) : Via w (w.envOp op) :=
  Via_envOp w op h
theorem env_refines_rmEffects (w : World) (recs : List ResRec) (chk : Bool) :
    Via w (w.rmEffects recs chk) := Via_rmEffects w recs chk

/-- The priority table: every library priority is above `TERMINATE`. -/
theorem lib_priorities :
    prioTerminate = pTerminate ∧ prioTerminate < pOtherLow ∧ prioTerminate < pStartWork ∧
    prioTerminate < pSensor ∧ prioTerminate < pFail ∧ prioTerminate < pRelease ∧
    prioTerminate < pPassPart ∧ prioTerminate < pFinish ∧ prioTerminate < pRestore ∧
    prioTerminate < pFinishWork ∧ prioTerminate < pOtherHigh := by decide

-- the factory floor
theorem env_refines_setWaiting (w : World) (x : Nat) (a b : Bool) : Via w (w.setWaiting x a b) :=
  Via.floor.setWaiting w x a b
theorem env_refines_schedulePass (w : World) (x : Nat) (o : Int) : Via w (w.schedulePass x o) :=
  Via.floor.schedulePass w x o
theorem env_refines_notifyUp (n : Nat) (w : World) (x : Nat) : Via w (notifyUp n w x) :=
  Via.floor.notifyUp n w x
theorem env_refines_spaceAvail (n : Nat) (w : World) (x : Nat) : Via w (spaceAvail n w x) :=
  Via.floor.spaceAvail n w x
theorem env_refines_notify (w : World) (x : Nat) : Via w (w.notify x) := Via.floor.notify w x
theorem env_refines_spaceAvailable (w : World) (x : Nat) : Via w (w.spaceAvailable x) :=
  Via.floor.spaceAvailable w x
theorem env_refines_releaseReserved (w : World) (x : Nat) : Via w (w.releaseReserved x) :=
  Via.floor.releaseReserved w x
theorem env_refines_procAcquire (w : World) (x : Nat) : Via w (w.procAcquire x).1 :=
  Via.floor.procAcquire w x
theorem env_refines_addHist (w : World) (p d : Nat) : Via w (w.addHist p d) := Via.floor.addHist w p d
theorem env_refines_dropHist (w : World) (p : Nat) : Via w (w.dropHist p) := Via.floor.dropHist w p
theorem env_refines_applyPartCb (w : World) (x p : Nat) (c : PartCb) :
    Via w (w.applyPartCb x p c) := Via.floor.applyPartCb w x p c
theorem env_refines_senseOutput (w : World) (s p : Nat) : Via w (w.senseOutput s p) :=
  Via_senseOutput w s p
theorem env_refines_genPart (w : World) (x : Nat) : Via w (w.genPart x).1 := Via.floor.genPart w x
theorem env_refines_finishCycleHandler (w : World) (x : Nat) : Via w (w.finishCycleHandler x) :=
  Via.floor.finishCycleHandler w x
theorem env_refines_finishCycle (w : World) (x : Nat) : Via w (w.finishCycle x) :=
  Via.floor.finishCycle w x
theorem env_refines_scheduleFinish (w : World) (x : Nat) : Via w (w.scheduleFinish x) :=
  Via.floor.scheduleFinish w x
theorem env_refines_batcherLoop (n : Nat) (w : World) (x : Nat) : Via w (batcherLoop n w x) :=
  Via.floor.batcherLoop n w x
theorem env_refines_tryMove (w : World) (x : Nat) : Via w (w.tryMove x) := Via.floor.tryMove w x
theorem env_refines_onReceived (w : World) (x p : Nat) : Via w (w.onReceived x p) :=
  Via.floor.onReceived w x p
theorem env_refines_acceptPart (w : World) (x p : Nat) : Via w (w.acceptPart x p) :=
  Via.floor.acceptPart w x p
theorem env_refines_give (n : Nat) (w : World) (x p : Nat) : Via w (give n w x p).1 :=
  Via.floor.give n w x p
theorem env_refines_givePart (w : World) (x p : Nat) : Via w (w.givePart x p).1 :=
  Via.floor.givePart w x p
theorem env_refines_tryList (g : World → Nat → Nat → World × Bool)
    (hg : ∀ w y p, Via w (g w y p).1) (w : World) (l : List Nat) (p : Nat) :
    Via w (tryList g w l p).1 := Via.floor.tryList g hg w l p
theorem env_refines_passHandler (w : World) (x : Nat) : Via w (w.passHandler x) :=
  Via.floor.passHandler w x
theorem env_refines_bufferLoop (n : Nat) (w : World) (x : Nat) : Via w (bufferLoop n w x) :=
  Via.floor.bufferLoop n w x
theorem env_refines_passPart (w : World) (x : Nat) : Via w (w.passPart x) := Via.floor.passPart w x
theorem env_refines_shutdownDev (w : World) (x : Nat) (f : Bool) (lost : Option Nat) :
    Via w (w.shutdownDev x f lost) := Via.floor.shutdownDev w x f lost
theorem env_refines_failDev (w : World) (x : Nat) : Via w (w.failDev x) := Via.floor.failDev w x
theorem env_refines_restoreDev (w : World) (x : Nat) : Via w (w.restoreDev x) := Via.floor.restoreDev w x
theorem env_refines_releaseIfIdle (w : World) (x : Nat) : Via w (w.releaseIfIdle x) :=
  Via.floor.releaseIfIdle w x
theorem env_refines_procResourceCb (w : World) (x : Nat) : Via w (w.procResourceCb x) :=
  Via.floor.procResourceCb w x
theorem env_refines_setBlock (w : World) (x : Nat) (b : Bool) : Via w (w.setBlock x b) :=
  Via.floor.setBlock w x b
theorem env_refines_adjustParts (w : World) (x : Nat) (v : Int) : Via w (w.adjustParts x v) :=
  Via.floor.adjustParts w x v
theorem env_refines_rewire (w : World) (x : Nat) (ups : List Nat) : Via w (w.rewire x ups) :=
  Via.floor.rewire w x ups
theorem env_refines_initDev (w : World) (x : Nat) : Via w (w.initDev x) := Via.floor.initDev w x

-- the world: scripted operations, events
theorem env_refines_startOrders (w : World) (m : Nat) (st : List Order) :
    Via w (w.startOrders m st) := Via_startOrders w m st
theorem env_refines_schedUpdate (w : World) (s : Nat) (advance : Bool) :
    Via w (w.schedUpdate s advance) := Via_schedUpdate w s advance
theorem env_refines_initAsset (w : World) (a : AssetRef) : Via w (w.initAsset a) :=
  Via_initAsset w a
theorem env_refines_addDev (w : World) (d : Dev) : Via w (w.addDev d) := Via_addDev w d
theorem env_refines_addAsset (w : World) (spec : AssetSpec) : Via w (w.addAsset spec) :=
  Via_addAsset w spec
/-- Every scripted operation (for `sched`/`schedRel`/`pause`/`unpause`/`cancel`: a user one). -/
theorem env_refines_applyOp (w : World) (op : Op) (h : opUser op = true) :
    Via w (w.applyOp op).1 := Via_applyOp w op h
theorem env_refines_applyOps (w : World) (ops : List Op) (h : ∀ op ∈ ops, opUser op = true) :
    Via w (w.applyOps ops) := Via_applyOps w ops h
theorem env_refines_runScript (w : World) (k : Nat) : Via w (w.runScript k) :=
  Via.with_good fun g => Via.events.runScript w k g
theorem env_refines_scanWaiting (n : Nat) (w : World) (i : Nat) :
    Via w (scanWaiting scanOps n w i) := Via.with_good fun g => Via.events.scanWaiting n w i g
theorem env_refines_rmCheck (w : World) : Via w w.rmCheck :=
  Via.with_good fun g => Via.events.rmCheck w g
theorem env_refines_hookStart (w : World) (tgt : Nat) (tag : Int) : Via w (w.hookStart tgt tag) :=
  Via.with_good fun g => Via.events.hookStart w tgt tag g
theorem env_refines_hookEnd (w : World) (tgt : Nat) (tag : Int) : Via w (w.hookEnd tgt tag) :=
  Via.with_good fun g => Via.events.hookEnd w tgt tag g
theorem env_refines_startWork (w : World) (m seq : Nat) : Via w (w.startWork m seq) :=
  Via.with_good fun g => Via.events.startWork w m seq g
theorem env_refines_finishWork (w : World) (m seq : Nat) : Via w (w.finishWork m seq) :=
  Via.with_good fun g => Via.events.finishWork w m seq g
theorem env_refines_periodicSense (w : World) (s : Nat) : Via w (w.periodicSense s) :=
  Via_periodicSense w s
theorem env_refines_simulateInit (w : World) : Via w w.simulateInit := Via_simulateInit w

/-- **`env_refines`** for the action of any event, spelled out: it keeps the invariant and acts
on the event queue as a list of library operations — no `step`, no `runBegin`, no scheduling of
the terminate action or at/below the `TERMINATE` priority, no pause/unpause/cancel of the
environment's internal asset id. -/
theorem env_refines (w : World) (a : Action) (g : Good w) :
    Good (w.exec a) ∧ ∃ ops : List EnvOp, (∀ op ∈ ops, LibOp op) ∧
      (w.exec a).env = (w.env.applyAll Arith.exact ops).1 := Via_exec w a g

theorem env_refines_exec (w : World) (a : Action) : Via w (w.exec a) := Via_exec w a

/-! ### 2. `step`, `runBegin` -/

/-- **A world step is the environment's `.step` followed by library operations.** -/
theorem step_refines {w w' : World} {e : Event} (g : Good w) (h : w.step = some (e, w')) :
    ∃ env1, w.env.step = some (e, env1) ∧ Via { w with env := env1 } w' ∧ Good w' ∧
      ∃ ops : List EnvOp, (∀ op ∈ ops, LibOp op) ∧
        w'.env = (w.env.applyAll Arith.exact (.step :: ops)).1 := by
  obtain ⟨env1, hs1, hv, _, _⟩ := step_via h
  obtain ⟨g', l, hl, he⟩ := hv (g.with_env _)
  refine ⟨env1, hs1, hv, g', l, hl, ?_⟩
  rw [applyAll_cons_fst, apply_step_some _ hs1]
  exact he

/-- `World.step` fails exactly when the environment's `step` does (empty queue). -/
theorem step_none_iff (w : World) : w.step = none ↔ w.env.step = none := by
  unfold World.step
  split
  · rename_i h; simp [h]
  · rename_i h; simp [h]

/-- `World.runBegin` is exactly the environment's `.runBegin` operation (accepted or rejected);
it keeps the invariant. -/
theorem runBegin_refines (w : World) (d : Int) :
    (w.runBegin d).1.env = (w.env.apply Arith.exact (.runBegin d
        (weightOf w.seed w.wmod (w.env.now + d) (-1) terminateAct pTerminate))).1 ∧
    (Good w → Good (w.runBegin d).1) :=
  ⟨(runBegin_env w d).1, runBegin_good w d⟩

/-! ### 3. every reachable world -/

/-- The invariant holds in every reachable world. -/
theorem good_reachable {w : World} {h : List Event} (hr : Reach w h) : Good w := hr.hist.good

/-- The environment of a reachable world is the empty environment after a list of environment
operations, whose popped events are exactly the history of the world. -/
theorem env_reachable {w : World} {h : List Event} (hr : Reach w h) :
    ∃ ops : List EnvOp, w.env = (({} : Env).applyAll Arith.exact ops).1 ∧
      popped (({} : Env).applyAll Arith.exact ops).2 = h := hr.hist.ops

/-- **The queue invariants of C01 and C07 hold in every reachable world**: the queue is sorted by
the dispatch order, no pending event lies in the past, uids are unique and below the counter;
every paused event carries the time it was paused at (not after its due time, not after now). -/
theorem envInv_reachable {w : World} {h : List Event} (hr : Reach w h) :
    C01.Inv w.env ∧ C07.PInv w.env := ⟨hr.hist.inv, hr.hist.pinv⟩

/-- **Dispatch order in the closed world**: the event executed by `World.step` is a minimum of the
queue — no pending event has an earlier time, nor the same time and a higher priority (nor then a
lower weight, nor then a lower asset id: `e'.lt e = false`). -/
theorem dispatch_order_world {w w' : World} {h : List Event} {e : Event} (hr : Reach w h)
    (hs : w.step = some (e, w')) :
    e ∈ w.env.events ∧ ∀ e' ∈ w.env.events,
      e'.lt e = false ∧ e.time ≤ e'.time ∧ (e'.time = e.time → e'.prio ≤ e.prio) := by
  obtain ⟨env1, hs1, _⟩ := step_via hs
  have hi := hr.hist.inv
  refine ⟨(C01.step_min hi hs1).1, fun e' he' => ⟨(C01.step_min hi hs1).2 e' he',
    C01.step_min_time hi hs1 e' he', C01.step_max_prio hi hs1 e' he'⟩⟩

/-- **Clock**: a step sets `now` to the time of the event just executed and never decreases it
(the event's action does not touch the clock); `runLoop` never decreases it; over the whole
history events were executed in nondecreasing time order, none later than `now`. -/
theorem clock_monotone_world {w : World} {h : List Event} (hr : Reach w h) :
    (∀ e w', w.step = some (e, w') → w'.now = e.time ∧ w.now ≤ w'.now) ∧
    (∀ n, w.now ≤ (runLoop n w).now) ∧
    h.Pairwise (fun a b => a.time ≤ b.time) ∧ (∀ e ∈ h, e.time ≤ w.now) :=
  ⟨fun _ _ hs => step_now hr.hist.inv hr.hist.good hs, fun n => runLoop_now hr.hist n,
    hr.hist.sorted, hr.hist.past⟩

/-- Along a run the clock is monotone and the events are popped in nondecreasing time order. -/
theorem clock_monotone_runLoop {w : World} {h : List Event} (hr : Reach w h) (n : Nat) :
    (runEvents n w).Pairwise (fun a b => a.time ≤ b.time) ∧
    (∀ e ∈ runEvents n w, w.now ≤ e.time ∧ e.time ≤ (runLoop n w).now) := by
  have hh := (hr.runLoop n).hist
  have hs := List.pairwise_append.1 hh.sorted
  refine ⟨hs.2.1, fun e he => ⟨?_, hh.past e (List.mem_append_right _ he)⟩⟩
  -- every event of the run was pending in a state reached from `w`
  clear hs hh
  induction n generalizing w h with
  | zero => simp [runEvents] at he
  | succ n ih =>
    rw [runEvents] at he
    split at he
    · split at he
      · cases he
      · rename_i e0 w' hst
        have hn := step_now hr.hist.inv hr.hist.good hst
        rcases List.mem_cons.1 he with rfl | he
        · omega
        · have := ih (hr.step hst) he; omega
    · cases he

/-- **No event is executed twice**: the uids of the events popped over the whole history are
pairwise distinct (uids identify `Event` objects); in particular along `runLoop`. -/
theorem executed_once_world {w : World} {h : List Event} (hr : Reach w h) :
    (h.map Event.uid).Nodup ∧ ∀ n, ((h ++ runEvents n w).map Event.uid).Nodup :=
  ⟨hr.hist.nodup, fun n => (hr.runLoop n).hist.nodup⟩

/-- **`run(d)`** in the closed world.  From a reachable world in which all earlier runs were
carried through (`ReachI`), `runBegin d` followed by `runLoop n`:

* executes no event due later than `t0 + d`;
* if the loop stopped because the run was terminated: ends with `now = t0 + d` and leaves no
  event (live or cancelled) due at or before `t0 + d` in the queue;
* otherwise (not terminated) the loop cannot have stopped by itself — the fuel ran out
  (`error` is set) — and `now ≤ t0 + d`. -/
theorem run_ends_world {w0 w1 : World} {h : List Event} {d : Int} (hr : ReachI w0 h)
    (hb : w0.runBegin d = (w1, .ok)) (n : Nat) :
    (∀ e ∈ runEvents n w1, e.time ≤ w0.now + d) ∧
    ((runLoop n w1).env.terminated = true →
      (runLoop n w1).now = w0.now + d ∧ ∀ e ∈ (runLoop n w1).env.events, w0.now + d < e.time) ∧
    ((runLoop n w1).env.terminated = false →
      (runLoop n w1).now ≤ w0.now + d ∧ (runLoop n w1).error.isSome = true) := by
  have hsp := hr.spec
  have := run_world hsp.1.hist.good hsp.1.hist.inv hsp.2 hb n
  exact ⟨this.2.2.1, this.2.2.2.1, this.2.2.2.2⟩

/-- The same in the formulation of `C01.run_spec`: the run loop is a `C01.Guarded` list of
environment operations (library operations are `UserOp`s, steps are taken only while the run is not
terminated), so `C01.run_spec` applies verbatim. -/
theorem run_spec_world {w0 w1 : World} {h : List Event} {d : Int} (hr : ReachI w0 h)
    (hb : w0.runBegin d = (w1, .ok)) (n : Nat) :
    ∃ ops : List EnvOp, C01.Guarded Arith.exact w1.env ops ∧
      (runLoop n w1).env = (w1.env.applyAll Arith.exact ops).1 ∧
      popped (w1.env.applyAll Arith.exact ops).2 = runEvents n w1 ∧
      ((runLoop n w1).env.terminated = false →
        (runLoop n w1).env.running = true ∧ (runLoop n w1).now ≤ w0.now + d) ∧
      ((runLoop n w1).env.terminated = true → (runLoop n w1).now = w0.now + d) := by
  have hsp := hr.spec
  obtain ⟨wt, hb1, hek⟩ := runBegin_ok hb
  have g1 : Good w1 := by
    have := runBegin_good w0 d hsp.1.hist.good
    rwa [hb] at this
  obtain ⟨ops, hg, he, hp, _⟩ := runLoop_guarded n w1 g1
  have := C01.run_spec Arith.exact hsp.1.hist.inv hsp.2 hb1 ops hg
  refine ⟨ops, hg, he, hp, ?_, ?_⟩
  · intro ht
    rw [he] at ht
    have h1 := this.1 ht
    refine ⟨by rw [he]; exact h1.1, ?_⟩
    show (runLoop n w1).env.now ≤ _
    rw [he]; exact h1.2
  · intro ht
    rw [he] at ht
    show (runLoop n w1).env.now = _
    rw [he]; exact this.2 ht

/-- `runBegin d` succeeds exactly for non-negative durations. -/
theorem runBegin_ok_iff (w : World) (d : Int) : (w.runBegin d).2 = .ok ↔ 0 ≤ d := by
  unfold World.runBegin Env.runBegin Env.schedule
  dsimp only
  split
  · rename_i h
    split at h
    · rename_i hlt; simp only [Arith.exact] at hlt; constructor
      · intro h'; cases h'
      · intro h'; omega
    · cases h
  · rename_i e h
    split at h
    · cases h
    · rename_i hge; simp only [Arith.exact] at hge; constructor
      · intro _; omega
      · intro _; rfl

/-- Worlds reached with completed runs only are reachable, and carry no stale terminate event:
`run_ends_world` applies again (to the next run). -/
theorem reachI_reach {w : World} {h : List Event} (hr : ReachI w h) :
    Reach w h ∧ C01.UserState w.env := hr.spec

/-- **A cancelled event is never executed**: a step that pops an event whose `cancelled` flag is
set changes nothing but the queue and the clock. -/
theorem cancelled_never_runs_world {w w' : World} {e : Event} (hs : w.step = some (e, w'))
    (hc : e.cancelled = true) :
    ∃ env1, w.env.step = some (e, env1) ∧ w' = { w with env := env1 } := by
  obtain ⟨env1, hs1, _, hdead, _⟩ := step_via hs
  exact ⟨env1, hs1, hdead (by simp [Event.live, hc])⟩

/-- What a step does, exactly: pop (the environment's `step`), then run the event's action unless
the event is cancelled. -/
theorem step_exec_world {w w' : World} {e : Event} (hs : w.step = some (e, w')) :
    ∃ env1, w.env.step = some (e, env1) ∧
      w' = if e.cancelled then { w with env := env1 }
           else ({ w with env := env1 } : World).exec (Action.ofNat e.act) := by
  obtain ⟨env1, hs1, _, hdead, hlive⟩ := step_via hs
  refine ⟨env1, hs1, ?_⟩
  cases hc : e.cancelled with
  | true => simpa using hdead (by simp [Event.live, hc])
  | false => simpa using hlive (by simp [Event.live, hc])

/-- **Once cancelled, always cancelled** (C07 in the closed world): neither a world step nor any
library call (`Via`) clears the `cancelled` flag of an event that is still pending or paused. -/
theorem cancelled_stays_world {w : World} {h : List Event} (hr : Reach w h) :
    (∀ e w', w.step = some (e, w') → ∀ e' ∈ w'.env.events ++ w'.env.paused,
      e'.uid ∈ C07.cancelledUids w.env → e'.cancelled = true) ∧
    (∀ w', Via w w' → ∀ e' ∈ w'.env.events ++ w'.env.paused,
      e'.uid ∈ C07.cancelledUids w.env → e'.cancelled = true) := by
  have hi := hr.hist.inv
  have g := hr.hist.good
  constructor
  · intro e w' hs e' he' hu
    obtain ⟨_, _, _, _, ops, _, he⟩ := step_refines g hs
    rw [he] at he'
    exact cancelled_stays_applyAll _ _ hi e' he' hu
  · intro w' hv
    exact (hv g).2.cancelled_stays hi

/-- The remaining delay of a resumed event is preserved in every reachable world (C07's
`remaining_delay_preserved`, whose hypothesis `PInv` holds by `envInv_reachable`). -/
theorem remaining_delay_world {w : World} {h : List Event} (hr : Reach w h) (a : Int) :
    ∀ e ∈ w.env.paused, e.asset = a → ∃ p, e.pausedAt = some p ∧
      ∃ e' ∈ (w.envOp (.unpause a)).env.events,
        e'.uid = e.uid ∧ e'.act = e.act ∧ e'.asset = e.asset ∧ e'.prio = e.prio ∧
        e'.cancelled = e.cancelled ∧ e'.time - w.now = e.time - p :=
  C07.remaining_delay_preserved w.env a hr.hist.pinv

/-! ### non-vacuity -/

/-- A script that schedules a failure of the machine (device 1) one time unit later, and pauses
an unrelated asset. -/
def ex0 : World := { scripts := [[Op.schedFailRel 1 1, Op.pause 3]] }

/-- source → processor → sink, built by the constructors; script 0 is scheduled for time 4 with
priority `OTHER_LOW`. -/
def ex1 : World :=
  ((((ex0.addAsset (.dev { kind := .source, cycle := 2 })).addAsset
    (.dev { kind := .processor, up := [0], cycle := 3 })).addAsset
    (.dev { kind := .sink, up := [1] })).applyOp (.sched 4 100 0 8)).1

/-- `System.simulate(12)`: initialise, begin the run. -/
def ex2 : World := (ex1.simulateInit.runBegin 12).1

def stepN : Nat → World → World
  | 0, w => w
  | k + 1, w => match w.step with
    | none => w
    | some (_, w') => stepN k w'

theorem reach_stepN {w : World} {h : List Event} (hr : Reach w h) (k : Nat) :
    ∃ h', Reach (stepN k w) h' := by
  induction k generalizing w h with
  | zero => exact ⟨h, hr⟩
  | succ k ih =>
    rw [stepN]
    split
    · exact ⟨h, hr⟩
    · rename_i e w' hs; exact ih (hr.step hs)

-- the hypotheses are satisfiable: the scripts are user scripts, the initial world is `Good`
example : ScriptsUser ex0 ∧ Good ex0 ∧ ex0.env.events = [] := by decide
example : opUser (.sched 4 100 0 8) = true := by decide
-- a script that pauses the internal asset id or schedules at the TERMINATE priority is rejected
example : ¬ ScriptsUser { scripts := [[Op.pause (-1)]] } ∧
    ¬ ScriptsUser { scripts := [[Op.sched 3 1 0 4]] } := by decide

theorem reachI_ex1 : ReachI ex1 [] :=
  ReachI.applyOp _ (ReachI.addAsset _ (ReachI.addAsset _ (ReachI.addAsset _
    (ReachI.init ex0 rfl (by decide))))) (by decide)

theorem reach_ex2 : Reach ex2 [] := (reachI_ex1.spec.1.simulateInit).runBegin 12

-- the constructors assign asset ids 1, 2, 3 and wire the line
example : ex1.devs.map (·.aid) = [1, 2, 3] ∧ ex1.devs.map (·.down) = [[1], [2], []] := by decide

/-- All fields of an environment (`Env` has no decidable equality of its own). -/
def envKey (s : Env) : Int × List Event × List Event × Bool × Nat :=
  (s.now, s.events, s.paused, s.terminated, s.nextUid)

-- `finishCycle` of the source is ONE library operation (a `.sched` of the pass event) …
example : envKey (ex2.finishCycle 0).env =
    envKey (ex2.env.applyAll Arith.exact [.sched 0 1 (Action.passPart 0).toNat pPassPart 0]).1 := by
  decide
-- … and a failure of the running machine is a `.cancel` of its asset id
example : envKey ((stepN 8 ex2).failDev 1).env =
    envKey ((stepN 8 ex2).env.applyAll Arith.exact [.cancel 2]).1 := by decide

-- the queue after two steps: two events due at time 4 with priorities FINISH (32) and
-- OTHER_LOW (8), the machine's finish at 5, the terminate event at 12
example : (stepN 2 ex2).env.events.map (fun e => (e.uid, e.time, e.prio)) =
    [(5, 4, 32), (0, 4, 8), (4, 5, 32), (2, 12, 4)] := by decide

/-- `dispatch_order_world` instantiated: the step taken in that state pops uid 5 (time 4,
priority 32) and not uid 0 (same time, lower priority). -/
example : ∃ e w', (stepN 2 ex2).step = some (e, w') ∧ e.uid = 5 ∧
    e ∈ (stepN 2 ex2).env.events ∧
    ∀ e' ∈ (stepN 2 ex2).env.events, e.time ≤ e'.time ∧ (e'.time = e.time → e'.prio ≤ e.prio) := by
  obtain ⟨h', hr⟩ := reach_stepN reach_ex2 2
  have hu : (stepN 2 ex2).step.map (·.1.uid) = some 5 := by decide
  cases hs : (stepN 2 ex2).step with
  | none => rw [hs] at hu; cases hu
  | some q =>
    obtain ⟨e, w'⟩ := q
    rw [hs] at hu
    have := dispatch_order_world hr hs
    exact ⟨e, w', rfl, by simpa using hu, this.1, fun e' he' => (this.2 e' he').2⟩

-- the whole run: 13 events popped, in nondecreasing time order, pairwise distinct uids; the
-- scripted failure (uid 7, at 5) cancels the machine's finish event (uid 10), which is popped
-- at 8 but not executed; the run ends at 12 = 0 + 12 with an empty queue and no error
example : (runEvents 100 ex2).map (fun e => (e.uid, e.time, e.cancelled)) =
    [(1, 2, false), (3, 2, false), (5, 4, false), (6, 4, false), (0, 4, false), (4, 5, false),
     (8, 5, false), (9, 5, false), (7, 5, false), (11, 7, false), (12, 7, false), (10, 8, true),
     (2, 12, false)] := by decide

example : (ex1.simulateInit.runBegin 12).2 = .ok ∧ (runLoop 100 ex2).env.terminated = true ∧
    (runLoop 100 ex2).now = 12 ∧ (runLoop 100 ex2).env.events = [] ∧
    (runLoop 100 ex2).error = none := by decide

theorem runBegin_ex2 : ex1.simulateInit.runBegin 12 = (ex2, .ok) :=
  Prod.ext rfl (by decide)

/-- `run_ends_world` instantiated on the example. -/
example : (∀ e ∈ runEvents 100 ex2, e.time ≤ 12) ∧ (runLoop 100 ex2).now = 12 := by
  have h := run_ends_world (reachI_ex1.simulateInit) runBegin_ex2 100
  have hn : ex1.simulateInit.now = 0 := by decide
  rw [hn] at h
  exact ⟨by simpa using h.1, by simpa using (h.2.1 (by decide)).1⟩

-- the completed run is a `ReachI` state again: the next `run` starts without stale terminate events
example : ∃ h, ReachI (runLoop 100 ex2) h ∧ C01.UserState (runLoop 100 ex2).env :=
  have hr := ReachI.run 12 100 reachI_ex1.simulateInit runBegin_ex2 (by decide)
  ⟨_, hr, hr.spec.2⟩

-- with too little fuel the loop stops early and says so
example : (runLoop 5 ex2).env.terminated = false ∧ (runLoop 5 ex2).error = some "fuel" := by decide

-- a cancelled event is popped and skipped: only the queue and the clock change
example : ((stepN 11 ex2).env.events.map (fun e => (e.uid, e.cancelled))) = [(10, true), (2, false)] ∧
    (stepN 12 ex2).recs = (stepN 11 ex2).recs ∧ (stepN 12 ex2).now = 8 ∧
    C07.cancelledUids (stepN 11 ex2).env = [10] := by decide

-- `runBegin` with a negative duration is rejected and changes nothing
example : (ex1.runBegin (-1)).2 = .err .value ∧ (ex1.runBegin (-1)).1.env.events = ex1.env.events := by
  decide

end C01W
end SimProc
