/-
C06W — the closed-world timer invariant behind C06 and C13.

"Every part accepted by a handler or processor is released from processing after exactly the cycle
time in effect when it was accepted of OPERATIONAL time: maintenance shutdown time is added on top,
never lost, and a failure ends processing by losing the part rather than finishing it.  A device
works on one part at a time, no part is finished early, late or twice."  and  "At every instant
uptime equals the total time the processor was operational and utilization the total time it spent
processing parts."

Closed-world theorems about `SimProc/Model/Floor.lean` + `World.lean`: they hold in EVERY state
reachable from a fresh, statically well-formed world by initialisation and any number of steps of
the event loop — every topology, every parameter choice, every script (in the static class), every
tie-break weight.

* `Timer w` (the invariant, spelled out in `timer_spec`): a handler / processor / sink with a part
  in process has an empty output slot and EXACTLY ONE live finish event, carrying its asset id —
  pending (and not before the clock) iff the device is operational, paused iff it is shut down; a
  device with nothing in process has NO live finish event; buffers, batchers and flow controllers
  never have one.  For processors it contains the accounting invariant `C13.UpInv`.
* `WI w` = `Timer` + the event-queue invariants of C01/C07 + "the error flag is not a failed
  assertion" + the static conditions.  `wi_init` (it holds initially), the per-function theorems
  `timer_*`, `timer_step`, `timer_runLoop`, `timer_reachable`.
* Consequences: `assertions_unreachable` (the model's internal assertion errors — the formal version
  of the F6 defect "a stale timer finishes a part twice/late" — cannot occur; `errors_characterised`
  lists the only error strings that can), `upInv_reachable` + `uptime_integrates` /
  `utilization_integrates` (C13 at every instant), `remaining_rate` (the remaining work of a timer
  decreases by exactly the elapsed time per step while the device is operational and not at all
  while it is shut down, whatever happens in the step), `finish_fires_at_zero`.

Static class (`Static'`): `Static` of C02 (scripts without rewire/create, wiring closed under
reachability, failures only for non-sinks), asset ids of devices distinct (what `addDev`
establishes), maintenance targets that are devices are processors, scripts do not pause / resume /
cancel the asset id of a device directly, no failure of a non-processor is pending (`applyOp`
rejects `schedule_failure` on other kinds).  Machinery: `SimProc/Proofs/C06W*.lean`.
-/
import SimProc.Proofs.C06WRate
import SimProc.Props.C02
import SimProc.Props.C06
import SimProc.Props.C13

namespace SimProc
namespace C06W
open World FloorCoreL
open C02V (Static)

/-! ### the static class and the initial conditions -/

/-- Statically well-formed worlds for the timer invariant. -/
structure Static' (w : World) : Prop where
  /-- `Static` of C02: scripts without rewire/create, failures only for non-sinks, closed wiring -/
  static : Static w
  /-- asset ids of distinct devices are distinct (`addDev`: registration index + 1) -/
  aids : (w.devs.map (·.aid)).Nodup
  /-- maintenance targets that are devices are processors -/
  targets : TargetsProc w
  /-- scripts do not pause / resume / cancel the asset id of a device directly -/
  noPause : ScriptsNoPause w
  /-- no failure of a device that is not a processor is pending -/
  noBadFail : NoBadFail w

/-- A world before the simulation: empty slots, processors operational as constructed, no finish
event pending, a consistent event queue, no error. -/
structure Init (w : World) : Prop where
  slots : ∀ d ∈ w.devs, d.part = none ∧ d.output = none
  procs : ∀ d ∈ w.devs, d.kind = .processor →
    d.shutDown = false ∧ d.lastRestore.isSome = true ∧ d.lastUseStart = none
  noFinish : ∀ e ∈ w.env.events ++ w.env.paused, e.live = true → e.act % 16 ≠ 2
  queue : C01.Inv w.env
  paused : C07.PInv w.env
  err : w.error = none

/-- `Fresh` (C02) gives the empty slots. -/
theorem slots_of_fresh {w : World} (h : C02.Fresh w) : ∀ d ∈ w.devs, d.part = none ∧ d.output = none := by
  intro d hd
  have := h.2.2.2.2 d hd
  unfold C02.held at this
  cases hp : d.part <;> cases ho : d.output <;> simp [hp, ho] at this ⊢

theorem aidsOK_of_nodup {w : World} (h : (w.devs.map (·.aid)).Nodup) : AidsOK w := by
  intro x y hx hy hne he
  have hx' : x < (w.devs.map (·.aid)).length := by simpa using hx
  have hy' : y < (w.devs.map (·.aid)).length := by simpa using hy
  have e1 : (w.devs.map (·.aid))[x] = (w.dev x).aid := by
    simp [World.dev, List.getD_eq_getElem?_getD, hx]
  have e2 : (w.devs.map (·.aid))[y] = (w.dev y).aid := by
    simp [World.dev, List.getD_eq_getElem?_getD, hy]
  have hp := List.pairwise_iff_getElem.mp h
  rcases Nat.lt_or_gt_of_ne hne with hlt | hlt
  · exact hp x y hx' hy' hlt (by rw [e1, e2, he])
  · exact hp y x hy' hx' hlt (by rw [e1, e2, he])

theorem dev_mem_or_default (w : World) (x : Nat) : w.dev x ∈ w.devs ∨ w.dev x = default := by
  by_cases hx : x < w.devs.length
  · left
    have : w.dev x = w.devs[x] := by simp [World.dev, List.getD_eq_getElem?_getD, hx]
    rw [this]; exact List.getElem_mem hx
  · right; exact dev_of_length_le (Nat.le_of_not_lt hx)

/-- **(a) The invariant holds initially.** -/
theorem wi_init {w : World} (hs : Static' w) (hi : Init w) : WI w ∧ ProcsUp w := by
  have hslots : ∀ x, (w.dev x).part = none ∧ (w.dev x).output = none := by
    intro x
    rcases dev_mem_or_default w x with h | h
    · exact hi.slots _ h
    · rw [h]; exact ⟨rfl, rfl⟩
  have hprocs : ∀ x, (w.dev x).kind = .processor →
      (w.dev x).shutDown = false ∧ (w.dev x).lastRestore.isSome = true ∧ (w.dev x).lastUseStart = none := by
    intro x hk
    rcases dev_mem_or_default w x with h | h
    · exact hi.procs _ h hk
    · rw [h] at hk; cases hk
  have hfin : ∀ x, finE w.env x = [] ∧ finP w.env x = [] := by
    intro x
    have key : ∀ l : List Event, (∀ e ∈ l, e ∈ w.env.events ++ w.env.paused) →
        l.filter (isFin x) = [] := by
      intro l hl
      apply filter_eq_nil_of_forall
      intro e he
      cases hf : isFin x e with
      | false => rfl
      | true =>
        obtain ⟨h1, h2⟩ := isFin_true.mp hf
        have := hi.noFinish e (hl e he) h1
        rw [h2, finAct_eq] at this
        omega
    exact ⟨key _ (fun e he => List.mem_append.mpr (Or.inl he)),
      key _ (fun e he => List.mem_append.mpr (Or.inr he))⟩
  refine ⟨⟨⟨?_, aidsOK_of_nodup hs.aids, ⟨hi.queue, hi.paused⟩, by rw [hi.err]; rfl⟩,
    hs.static, hs.targets, hs.noPause, hs.noBadFail⟩, fun x hk => (hprocs x hk).2.1⟩
  intro x _
  refine timerAt_idle (hfin x).1 (hfin x).2 ?_ ?_
  · simp only [tdm, (hslots x).1]; split <;> rfl
  · intro hk
    obtain ⟨h1, h2, h3⟩ := hprocs x hk
    simp [tdm, h1, h2, h3]

/-! ### (b)–(d) preservation, per function -/

/-- `_accept_part` of any handler-like device `x` that exists (a timing device: with both slots
empty and operational — what `give` checks): the invariant is preserved; the timer of `x` is
started (or the part is finished at once), every other timer is untouched (`Keep`). -/
theorem timer_acceptPart {w : World} {x : Nat} (h : FI w) (p : Nat) (hx : x < w.devs.length)
    (hl : isHandlerLike (w.dev x).kind = true) (hc : w.canAcceptBasic x p = true) :
    FI (w.acceptPart x p) ∧ Keep w (w.acceptPart x p) :=
  good_acceptPart h p hx hl (fun hT => canAccept_T hT hc)

/-- `_finish_cycle` of a timing device in the state in which the event loop runs it — right after
its (only) live finish event was popped (`Mid`): the part moves on, the invariant holds again. -/
theorem timer_finishCycle {w : World} {x : Nat} (h : Mid w x) :
    FI (w.finishCycle x) ∧ Keep w (w.finishCycle x) :=
  ⟨(loc_finishCycle h).fi_of_mid h, (loc_finishCycle h).keep⟩

/-- A maintenance shutdown of a processor pauses its timer (and nothing else); remaining work is
unchanged (`Keep.rem`). -/
theorem timer_shutdown {w : World} {x : Nat} (h : FI w) (hk : (w.dev x).kind = .processor) :
    FI (w.shutdownDev x false none) ∧ Keep w (w.shutdownDev x false none) :=
  (loc_shutdown h hk).good h

/-- A failure of a processor cancels its timer and drops the part. -/
theorem timer_fail {w : World} {x : Nat} (h : FI w) (hk : (w.dev x).kind = .processor) :
    FI (w.failDev x) ∧ Keep w (w.failDev x) :=
  (loc_failDev h hk).good h

/-- The restoration of a processor resumes its timer with the remaining work it had. -/
theorem timer_restore {w : World} {x : Nat} (h : FI w) (hk : (w.dev x).kind = .processor) :
    FI (w.restoreDev x) ∧ Keep w (w.restoreDev x) :=
  (loc_restoreDev h hk).good h

/-- A hand-over (`_pass_part_downstream` of any device `x` whose reachable receivers exist). -/
theorem timer_passPart {w : World} (x : Nat) (h : FI w) (hg : C02V.GiveOK w x) :
    FI (w.passPart x) ∧ Keep w (w.passPart x) :=
  good_passPart w x h hg

/-- Notifications only add hand-over attempts: a frame. -/
theorem timer_notify {w : World} (x : Nat) (h : FI w) : FI (w.notify x) ∧ Keep w (w.notify x) :=
  (fr_notify (X := None_) w x).good h

/-- Every scripted operation of the static class. -/
theorem timer_applyOp {w : World} (h : WI w) (op : Op) (h1 : C02V.OpStatic w op) (h2 : OpNoPause w op) :
    WI (w.applyOp op).1 ∧ Keep w (w.applyOp op).1 :=
  ⟨h.of_ws (ws_applyOp h op h1 h2), (ws_applyOp h op h1 h2).good.2⟩

theorem timer_rmCheck {w : World} (h : WI w) : WI w.rmCheck ∧ Keep w w.rmCheck :=
  ⟨h.of_ws (ws_closed.rmCheck w h), (ws_closed.rmCheck w h).good.2⟩

theorem timer_startWork {w : World} (h : WI w) (m o : Nat) :
    WI (w.startWork m o) ∧ Keep w (w.startWork m o) :=
  ⟨h.of_ws (ws_closed.startWork w m o h), (ws_closed.startWork w m o h).good.2⟩

theorem timer_finishWork {w : World} (h : WI w) (m o : Nat) :
    WI (w.finishWork m o) ∧ Keep w (w.finishWork m o) :=
  ⟨h.of_ws (ws_closed.finishWork w m o h), (ws_closed.finishWork w m o h).good.2⟩

/-- **(d) One step of the event loop preserves the invariant.** -/
theorem timer_step {w w' : World} {e : Event} (h : WI w) (hst : w.step = some (e, w')) : WI w' :=
  wi_step h hst

theorem timer_runLoop (n : Nat) (w : World) (h : WI w) : WI (runLoop n w) := wi_runLoop n w h

theorem timer_simulateInit {w : World} (h : WI w) (hp : ProcsUp w) : WI w.simulateInit :=
  wi_simulateInit h hp

/-- **The invariant holds in every reachable state**: initialise, then run the event loop with
any fuel. -/
theorem timer_reachable (n : Nat) (w : World) (hs : Static' w) (hi : Init w) :
    WI (runLoop n w.simulateInit) := by
  obtain ⟨h, hp⟩ := wi_init hs hi
  exact wi_runLoop n _ (wi_simulateInit h hp)

/-! ### the invariant in plain words -/

/-- `Timer` spelled out on the model's own fields, for a handler, processor or sink `x` (any
index; `finE`/`finP` are the live events with action `finishCycle x` in `env.events`/`env.paused`):

* a part in process: the output slot is empty, and EXACTLY ONE live finish event of `x` exists in
  `events ++ paused`; it carries the asset id of `x`; it is pending and not before the clock if `x` is
  operational, paused if `x` is shut down;
* nothing in process: NO live finish event of `x` exists. -/
theorem timer_spec {w : World} (h : WI w) (x : Nat) (hT : isT (w.dev x).kind = true) :
    (∀ p, (w.dev x).part = some p →
      (w.dev x).output = none ∧
      (w.operational x = true →
        ∃ e, finE w.env x = [e] ∧ finP w.env x = [] ∧ e ∈ w.env.events ∧ e.cancelled = false ∧
          e.act = (Action.finishCycle x).toNat ∧ e.asset = (w.dev x).aid ∧ w.now ≤ e.time) ∧
      (w.operational x = false →
        ∃ e, finE w.env x = [] ∧ finP w.env x = [e] ∧ e ∈ w.env.paused ∧ e.cancelled = false ∧
          e.act = (Action.finishCycle x).toNat ∧ e.asset = (w.dev x).aid ∧
          (w.dev x).kind = .processor ∧ (w.dev x).shutDown = true)) ∧
    ((w.dev x).part = none → finE w.env x = [] ∧ finP w.env x = []) := by
  have ht := h.fi.timer x (isT_ne_source hT)
  refine ⟨?_, fun hp => ht.idle (by rw [tdm_part hT]; exact hp)⟩
  intro p hp
  obtain ⟨ho, hb⟩ := ht.busy p (by rw [tdm_part hT]; exact hp)
  refine ⟨by rw [← tdm_output hT]; exact ho, ?_, ?_⟩
  · intro hop
    rw [operational_eq] at hop
    rw [hop] at hb
    simp only [if_true] at hb
    obtain ⟨e, he⟩ := length_le_one_cases _ hb.1
    have hm : e ∈ finE w.env x := by rw [he]; exact List.mem_singleton.mpr rfl
    obtain ⟨h1, h2, h3⟩ := mem_finE.mp hm
    exact ⟨e, he, hb.2, h1, h2, h3, ht.asset e (List.mem_append.mpr (Or.inl hm)),
      h.fi.ei.1.future e h1⟩
  · intro hop
    rw [operational_eq] at hop
    rw [hop] at hb
    simp only [Bool.false_eq_true, if_false] at hb
    obtain ⟨e, he⟩ := length_le_one_cases _ hb.2
    have hm : e ∈ finP w.env x := by rw [he]; exact List.mem_singleton.mpr rfl
    obtain ⟨h1, h2, h3⟩ := mem_finP.mp hm
    have hk : (w.dev x).kind = .processor ∧ (w.dev x).shutDown = true := by
      unfold opT at hop
      cases hk : (w.dev x).kind <;> simp [tdm, hk] at hop
      exact ⟨rfl, hop⟩
    exact ⟨e, hb.1, he, h1, h2, h3, ht.asset e (List.mem_append.mpr (Or.inr hm)), hk.1, hk.2⟩

/-- Devices that do not time their work (buffers, batchers, gates, group controllers) never have a
live finish event. -/
theorem no_timer_elsewhere {w : World} (h : WI w) (x : Nat) (hT : isT (w.dev x).kind = false)
    (hk : (w.dev x).kind ≠ .source) : finE w.env x = [] ∧ finP w.env x = [] :=
  (h.fi.timer x hk).idle (by simp [tdm, hT])

/-! ### consequences -/

/-- **The model's internal assertion errors are unreachable** (the formal version of "no part is
finished twice / late by a stale timer", defect F6): in every state reachable from a fresh
statically well-formed world the error flag is none of `assert-operational`,
`assert-input-missing`, `assert-output-full`. -/
theorem assertions_unreachable (n : Nat) (w : World) (hs : Static' w) (hi : Init w) :
    (runLoop n w.simulateInit).error ≠ some "assert-operational" ∧
    (runLoop n w.simulateInit).error ≠ some "assert-input-missing" ∧
    (runLoop n w.simulateInit).error ≠ some "assert-output-full" := by
  have h := (timer_reachable n w hs hi).fi.err
  generalize (runLoop n w.simulateInit).error = e at h
  refine ⟨?_, ?_, ?_⟩ <;> (intro he; rw [he] at h; revert h; decide)

/-- The only errors that can occur in the static class: running out of loop/notification fuel, a
library request in the past (`sched-past`: negative buffer delays, timetable durations, sensor
intervals, work-order durations are not excluded by the static class), an exception of the resource
manager, and the three scripted/unknown-order conditions. -/
theorem errors_characterised (n : Nat) (w : World) (hs : Static' w) (hi : Init w) :
    (runLoop n w.simulateInit).error = none ∨
    ∃ m ∈ allowedErrs, (runLoop n w.simulateInit).error = some m := by
  have h := (timer_reachable n w hs hi).fi.err
  generalize (runLoop n w.simulateInit).error = e at h
  cases e with
  | none => exact Or.inl rfl
  | some m => exact Or.inr ⟨m, by simpa [okErr] using h, rfl⟩

/-- The accounting invariant of C13 is part of the invariant … -/
theorem upInv_of_wi {w : World} (h : WI w) (x : Nat) (hk : (w.dev x).kind = .processor) :
    C13.UpInv w x := by
  have hT : isT (w.dev x).kind = true := by rw [hk]; rfl
  have hu := (h.fi.timer x (isT_ne_source hT)).up hk
  have hp : (tdm (w.dev x)).part = (w.dev x).part := tdm_part hT
  rw [hp] at hu
  exact ⟨hu.1, hu.2⟩

/-- **… so it holds for every processor in every reachable state** (C13 item: needs that machines
are operational when initialised — `Init.procs`). -/
theorem upInv_reachable (n : Nat) (w : World) (hs : Static' w) (hi : Init w) (x : Nat)
    (hk : ((runLoop n w.simulateInit).dev x).kind = .processor) :
    C13.UpInv (runLoop n w.simulateInit) x :=
  upInv_of_wi (timer_reachable n w hs hi) x hk

/-- At every step of the loop, `uptime` of a processor grows by the time that passes iff the
processor is operational: `uptime` integrates the operational indicator over any run
(`C13.uptime_rate_step` applies at every instant; the action of the event does not change it:
`C13.*_continuous`). -/
theorem uptime_integrates {w : World} (h : WI w) {e : Event} {env' : Env}
    (hst : w.env.step = some (e, env')) (x : Nat) (hk : (w.dev x).kind = .processor) :
    C13.uptimeAt ({ w with env := env' } : World) x =
      C13.uptimeAt w x + (if (w.dev x).shutDown = false then e.time - w.now else 0) :=
  C13.uptime_rate_step w hst x (upInv_of_wi h x hk)

/-- … and `utilization_time` by the time that passes iff it is operational with a part in
process. -/
theorem utilization_integrates {w : World} (h : WI w) {e : Event} {env' : Env}
    (hst : w.env.step = some (e, env')) (x : Nat) (hk : (w.dev x).kind = .processor) :
    C13.utilAt ({ w with env := env' } : World) x =
      C13.utilAt w x +
        (if (w.dev x).part.isSome = true ∧ (w.dev x).shutDown = false then e.time - w.now else 0) :=
  (C13.utilization_rate_step w hst x (upInv_of_wi h x hk)).1

/-- **Exactness, as rates.**  `rem w.env x` is the list of timers of `x`: (uid of the finish
event, remaining work), remaining work = due time − clock for a pending event, due time − pause
time for a paused one.  In the invariant it has at most one element.  One step of the loop — pop,
advance the clock by `e.time − now`, run the action, whatever it is (shutdown, restoration,
hand-overs, scripts, other machines' events) — changes the remaining work of a timer that is still
there afterwards (same uid) by exactly: minus the elapsed time if the device was operational, 0 if
it was shut down.  New timers have uids not below the old counter; accepted parts start with
remaining work `max 0 (cycle + offset)` (`C06.accept_schedules_finish`). -/
theorem remaining_rate {w w' : World} {e : Event} (h : WI w) (hst : w.step = some (e, w')) (x : Nat)
    (hk : (w.dev x).kind ≠ .source) {u : Nat} {r r' : Int} (h0 : rem w.env x = [(u, r)])
    (h1 : (u, r') ∈ rem w'.env x) :
    r' = r - (if w.operational x then e.time - w.now else 0) := by
  have hu : u < w.env.nextUid :=
    rem_uid_lt h.fi.ei (x := x) (r := r) (by rw [h0]; exact List.mem_singleton.mpr rfl)
  obtain ⟨r0, hm, hr⟩ := rem_step h hst x hk h1 hu
  rw [h0] at hm
  simp only [List.mem_singleton, Prod.mk.injEq] at hm
  rw [hr, hm.2]

/-- Queueing a live finish event of a device that has no timer gives it exactly that one. -/
theorem rem_insort {s : Env} {x : Nat} (e : Event) (n : Nat) (he : isFin x e = true)
    (hi : finE s x = [] ∧ finP s x = []) :
    rem { s with events := insort e s.events, nextUid := n } x = [(e.uid, e.time - s.now)] := by
  unfold rem
  rw [show finE { s with events := insort e s.events, nextUid := n } x = [e] from
    filter_insort_pos_nil _ _ _ he hi.1,
    show finP { s with events := insort e s.events, nextUid := n } x = [] from hi.2]
  rfl

/-- `accept_starts_timer` from the floor invariant alone. -/
theorem accept_rem_pos {w : World} (h : FI w) {x : Nat} (p : Nat) (hx : x < w.devs.length)
    (hk : (w.dev x).kind = .processor ∨ (w.dev x).kind = .handler)
    (hacc : w.canAcceptBasic x p = true) (hc : 0 < w.acceptDelay x p) :
    rem (w.acceptPart x p).env x = [(w.env.nextUid, w.acceptDelay x p)] := by
  have hT : isT (w.dev x).kind = true := by rcases hk with hk | hk <;> rw [hk] <;> rfl
  have hi := (h.timer x (isT_ne_source hT)).idle
    (by rw [tdm_part hT]; exact (canAccept_T hT hacc).1)
  rw [(C06.accept_schedules_finish w p hx hk hacc hc).1, rem_insort _ _ ((isFin_iff ..).2 ⟨rfl, rfl⟩) hi]
  have e : w.now + w.acceptDelay x p - w.now = w.acceptDelay x p := by omega
  exact congrArg (fun r => [(w.env.nextUid, r)]) e

/-- The timer starts with the cycle time in effect at acceptance: when a handler or processor `x`
accepts part `p` with a positive delay `c = max 0 (cycle + offset)` (as the receive callbacks left
them, `C06.acceptDelay_spec`), its one timer afterwards is the new event (uid = the old counter)
with remaining work exactly `c`.  Together with `remaining_rate` and `finish_at_zero`: the part is
released after exactly `c` of operational time. -/
theorem accept_starts_timer {w : World} (h : WI w) {x : Nat} (p : Nat) (hx : x < w.devs.length)
    (hk : (w.dev x).kind = .processor ∨ (w.dev x).kind = .handler)
    (hacc : w.canAcceptBasic x p = true) (hc : 0 < w.acceptDelay x p) :
    rem (w.acceptPart x p).env x = [(w.env.nextUid, w.acceptDelay x p)] :=
  accept_rem_pos h.fi p hx hk hacc hc

/-- Timers are never duplicated: in every state of the invariant a device has at most one. -/
theorem rem_length_le_one {w : World} (h : WI w) (x : Nat) (hk : (w.dev x).kind ≠ .source) :
    (rem w.env x).length ≤ 1 := by
  have ht := h.fi.timer x hk
  unfold rem
  cases hp : (tdm (w.dev x)).part with
  | none => rw [(ht.idle hp).1, (ht.idle hp).2]; simp
  | some p =>
    have hb := (ht.busy p hp).2
    split at hb
    · rw [hb.2]; simp [hb.1]
    · rw [hb.1]; simp [hb.2]

/-- The finish event fires exactly when the remaining work is 0 (see `finish_fires_at_zero` in
`Proofs/C06WRate.lean`): when the live finish event `e` of `x` is popped, `rem = [(e.uid, e.time −
now)]`, the device is operational with a part in process and a free output slot — so the
assertions of `_finish_cycle` hold. -/
theorem finish_at_zero {w : World} (h : WI w) {e : Event} {env' : Env}
    (henv : w.env.step = some (e, env')) {x : Nat} (hl : e.live = true)
    (ha : e.act = (Action.finishCycle x).toNat) (hk : (w.dev x).kind ≠ .source) :
    rem w.env x = [(e.uid, e.time - w.now)] ∧ w.operational x = true ∧
    (w.dev x).part.isSome = true ∧ (w.dev x).output = none :=
  let ⟨a, b, c, d, _⟩ := finish_fires_at_zero h henv hl ha hk
  ⟨a, b, c, d⟩


/-! ### non-vacuity -/

instance (w : World) (op : Op) : Decidable (OpNoPause w op) := by
  cases op <;> simp only [OpNoPause] <;> infer_instance

instance (w : World) : Decidable (ScriptsNoPause w) := by
  unfold ScriptsNoPause; infer_instance

/-- A line source → processor → sink: the source (cycle time 2) supplies two parts, the processor
(cycle time 5) is a maintenance target; script 0 (run at time 3) shuts the processor down for
maintenance, script 1 (run at time 6) restores it. -/
def exSrc : Dev := { kind := .source, aid := 1, down := [1], maxParts := some 2, cycle := 2 }
def exProc : Dev := { kind := .processor, aid := 2, up := [0], down := [2], cycle := 5 }
def exSink : Dev := { kind := .sink, aid := 3, up := [1] }
def exEnv : Env :=
  { terminated := false, nextUid := 2
    events :=
      [{ uid := 0, time := 3, prio := pOtherHigh, weight := 0, asset := -1, act := (Action.script 0).toNat },
       { uid := 1, time := 6, prio := pOtherHigh, weight := 0, asset := -1, act := (Action.script 1).toNat }] }
def exWorld : World :=
  { devs := [exSrc, exProc, exSink], assets := [.dev 0, .dev 1, .dev 2]
    scripts := [[.shutdown 1], [.restore 1]], env := exEnv, targets := [{ dev := some 1 }] }

/-- `Static` for a three-device line 0 → 1 → 2 whose devices 1 and 2 are handler-like. -/
theorem static_line (w : World) (d0 d1 d2 : Dev) (hd : w.devs = [d0, d1, d2]) (h0 : d0.down = [1])
    (h1 : d1.down = [2]) (h2 : d2.down = []) (hl1 : isHandlerLike d1.kind = true)
    (hl2 : isHandlerLike d2.kind = true) (hs : C02V.ScriptsStatic w)
    (hb : ¬ C02V.HasBad (C02V.badAct (fun d => (w.dev d).kind = .sink)) w) : Static w := by
  have e0 : w.dev 0 = d0 := by simp [World.dev, hd]
  have e1 : w.dev 1 = d1 := by simp [World.dev, hd]
  have e2 : w.dev 2 = d2 := by simp [World.dev, hd]
  have hlen : w.devs.length = 3 := by rw [hd]; rfl
  refine ⟨hs, ?_, hb⟩
  intro x y hy z hr
  have hx : x = 0 ∨ x = 1 ∨ x = 2 ∨ 3 ≤ x := by omega
  rcases hx with rfl | rfl | rfl | hx
  · rw [e0, h0] at hy
    have : y = 1 := by simpa using hy
    subst this
    have := C02.reach_handlerLike (t := C02V.st w) (y := 1) (by rw [C02V.st_kind, e1]; exact hl1) hr
    subst this
    rw [hlen]; decide
  · rw [e1, h1] at hy
    have : y = 2 := by simpa using hy
    subst this
    have := C02.reach_handlerLike (t := C02V.st w) (y := 2) (by rw [C02V.st_kind, e2]; exact hl2) hr
    subst this
    rw [hlen]; decide
  · rw [e2, h2] at hy; cases hy
  · rw [C02V.dev_of_ge w x (by rw [hlen]; exact hx)] at hy; cases hy

theorem static_exWorld : Static exWorld := by
  refine static_line exWorld exSrc exProc exSink rfl rfl rfl rfl rfl rfl ?_ ?_
  · intro l hl op hop
    simp only [exWorld, List.mem_cons, List.mem_nil_iff, or_false] at hl
    rcases hl with rfl | rfl <;>
      (simp only [List.mem_cons, List.mem_nil_iff, or_false] at hop; subst hop; trivial)
  · rintro ⟨n, hn, d, hd, _⟩
    simp only [C02V.acts, exWorld, exEnv, List.append_nil, List.map_cons, List.map_nil, List.mem_cons,
      List.mem_nil_iff, or_false] at hn
    rcases hn with rfl | rfl <;> simp [Action.ofNat, Action.toNat] at hd

/-- The hypotheses of the closed-world theorems hold for the example (`decide` wherever the
condition is a decidable check). -/
theorem static'_exWorld : Static' exWorld where
  static := static_exWorld
  aids := by decide
  targets := by
    intro t ht d hd
    simp only [exWorld, List.mem_cons, List.mem_nil_iff, or_false] at ht
    subst ht
    cases hd
    decide
  noPause := by decide
  noBadFail := by
    rintro ⟨n, hn, d, hd, _⟩
    simp only [C02V.acts, exWorld, exEnv, List.append_nil, List.map_cons, List.map_nil, List.mem_cons,
      List.mem_nil_iff, or_false] at hn
    rcases hn with rfl | rfl <;> simp [Action.ofNat, Action.toNat] at hd

theorem init_exWorld : Init exWorld where
  slots := by decide
  procs := by decide
  noFinish := by decide
  queue := ⟨by unfold SortedEv; decide, by decide, by decide, by decide⟩
  paused := by intro e he; cases he
  err := rfl

example : C02.Fresh exWorld := ⟨rfl, rfl, rfl, rfl, by decide⟩

/-- the example after initialisation and `n` steps -/
def exRun (n : Nat) : World := runLoop n exWorld.simulateInit

-- the invariant holds along the run (by the theorem), and the run completes without any error
example (n : Nat) : WI (exRun n) := timer_reachable n exWorld static'_exWorld init_exWorld
example : (exRun 40).error = none ∧ (exRun 40).env.events = [] ∧ (exRun 40).now = 15 ∧
    ((exRun 40).dev 2).recvCount = 2 := by decide

-- the conclusions are not trivial: after 2 steps the processor has accepted part 0 at time 2 with
-- remaining work 5 (one pending finish event, due at 7); after the shutdown at time 3 (3 steps) the
-- event is paused with remaining work 4, and stays so while the machine is down (5 steps, time 4);
-- restored at time 6 it is pending again, due at 10 = 2 + 5 + 3 (6 steps); at time 10 it fires
example : (exRun 2).now = 2 ∧ ((exRun 2).dev 1).part = some 0 ∧ rem (exRun 2).env 1 = [(4, 5)] ∧
    (finE (exRun 2).env 1).map (·.time) = [7] ∧ finP (exRun 2).env 1 = [] := by decide
example : (exRun 3).now = 3 ∧ ((exRun 3).dev 1).shutDown = true ∧ ((exRun 3).dev 1).part = some 0 ∧
    rem (exRun 3).env 1 = [(4, 4)] ∧ finE (exRun 3).env 1 = [] ∧
    (finP (exRun 3).env 1).map (fun e => (e.time, e.pausedAt)) = [(7, some 3)] := by decide
example : (exRun 5).now = 4 ∧ rem (exRun 5).env 1 = [(4, 4)] := by decide
example : (exRun 6).now = 6 ∧ ((exRun 6).dev 1).shutDown = false ∧ rem (exRun 6).env 1 = [(4, 4)] ∧
    (finE (exRun 6).env 1).map (·.time) = [10] := by decide
example : (exRun 7).now = 10 ∧ ((exRun 7).dev 1).part = none ∧ ((exRun 7).dev 1).output = some 0 ∧
    rem (exRun 7).env 1 = [] := by decide

-- `remaining_rate` on the step from time 2 to time 3 (operational: 5 − (3 − 2) = 4) and on the step
-- from time 3 to time 4 (shut down: 4 − 0 = 4): hypotheses and conclusion evaluated
example : (exRun 2).operational 1 = true ∧ rem (exRun 2).env 1 = [(4, 5)] ∧
    (exRun 2).step.map (fun p => (p.1.time, rem p.2.env 1)) = some (3, [(4, 4)]) := by decide
example : (exRun 3).operational 1 = false ∧ rem (exRun 3).env 1 = [(4, 4)] ∧
    (exRun 3).step.map (fun p => (p.1.time, rem p.2.env 1)) = some (4, [(4, 4)]) := by decide

-- `accept_starts_timer`: after 1 step (time 2) the processor can accept part 0 with delay 5; hypotheses
-- and conclusion evaluated
example : 1 < (exRun 1).devs.length ∧ ((exRun 1).dev 1).kind = .processor ∧
    (exRun 1).canAcceptBasic 1 0 = true ∧ (exRun 1).acceptDelay 1 0 = 5 ∧
    rem ((exRun 1).acceptPart 1 0).env 1 = [((exRun 1).env.nextUid, 5)] := by decide

-- the accounting of C13 along the run: uptime 7 = 3 + (10 − 6) at time 10, utilisation 5
example : C13.uptimeAt (exRun 7) 1 = 7 ∧ C13.utilAt (exRun 7) 1 = 5 := by decide

/-! #### non-vacuity, continued: the extra static conditions are needed; `sched-past` is not excluded -/

/-- The example with a script that pauses the asset id of the processor directly (`Op.pause 2`)
instead of shutting it down. -/
def exBad : World := { exWorld with scripts := [[.pause 2], [.restore 1]] }

theorem static_exBad : Static exBad := by
  refine static_line exBad exSrc exProc exSink rfl rfl rfl rfl rfl rfl ?_ ?_
  · intro l hl op hop
    simp only [exBad, List.mem_cons, List.mem_nil_iff, or_false] at hl
    rcases hl with rfl | rfl <;>
      (simp only [List.mem_cons, List.mem_nil_iff, or_false] at hop; subst hop; trivial)
  · rintro ⟨n, hn, d, hd, _⟩
    simp only [C02V.acts, exBad, exWorld, exEnv, List.append_nil, List.map_cons, List.map_nil,
      List.mem_cons, List.mem_nil_iff, or_false] at hn
    rcases hn with rfl | rfl <;> simp [Action.ofNat, Action.toNat] at hd

/-- **Without "scripts do not pause a device's asset id" the invariant is false**: `exBad` satisfies
`Static` (C02), `Fresh`/`Init` and every other condition of `Static'`, but after 3 steps the
processor is operational with part 0 in process while its only finish event is paused — it would
never finish the part (and after an `unpause` + `shutdown` + … sequence a stale timer can fire). -/
theorem timer_false_script_pause :
    Static exBad ∧ Init exBad ∧ (exBad.devs.map (·.aid)).Nodup ∧ TargetsProc exBad ∧ NoBadFail exBad ∧
    ¬ ScriptsNoPause exBad ∧ ¬ Timer (runLoop 3 exBad.simulateInit) := by
  refine ⟨static_exBad, ⟨by decide, by decide, by decide,
    ⟨by unfold SortedEv; decide, by decide, by decide, by decide⟩, (by intro e he; cases he), rfl⟩,
    by decide, ?_, ?_, by decide, ?_⟩
  · intro t ht d hd
    simp only [exBad, exWorld, List.mem_cons, List.mem_nil_iff, or_false] at ht
    subst ht
    cases hd
    decide
  · rintro ⟨n, hn, d, hd, _⟩
    simp only [C02V.acts, exBad, exWorld, exEnv, List.append_nil, List.map_cons, List.map_nil,
      List.mem_cons, List.mem_nil_iff, or_false] at hn
    rcases hn with rfl | rfl <;> simp [Action.ofNat, Action.toNat] at hd
  · intro hT
    have ht := hT 1 (by decide)
    have hb := (ht.busy 0 (by decide)).2
    have hop : opT (tdm ((runLoop 3 exBad.simulateInit).dev 1)) = true := by decide
    rw [hop] at hb
    have : (finE (runLoop 3 exBad.simulateInit).env 1).length = 0 := by decide
    rw [this] at hb
    exact absurd hb.1 (by decide)

/-- A line source → buffer with a NEGATIVE delay → sink. -/
def exPast : World :=
  { devs := [{ kind := .source, aid := 1, down := [1], maxParts := some 1, cycle := 2 },
             { kind := .buffer, aid := 2, up := [0], down := [2], delay := -1 },
             { kind := .sink, aid := 3, up := [1] }]
    assets := [.dev 0, .dev 1, .dev 2], env := { terminated := false } }

/-- **`sched-past` is NOT excluded by the static class** (so `errors_characterised` cannot be
strengthened to "fuel only"): a buffer with a negative delay asks for a hand-over event in the past
(`Buffer` adds `time.now + delay`); `exPast` satisfies `Static'` and `Init` and its run ends with the
error `sched-past`.  (Likewise for negative timetable durations, sensor intervals and work-order
durations; the assertion errors of the part handlers, in contrast, are unreachable.) -/
theorem sched_past_reachable :
    Static' exPast ∧ Init exPast ∧ (runLoop 10 exPast.simulateInit).error = some "sched-past" := by
  have hst : Static exPast := by
    refine static_line exPast _ _ _ rfl rfl rfl rfl rfl rfl ?_ ?_
    · intro l hl; cases hl
    · rintro ⟨n, hn, _⟩
      simp [C02V.acts, exPast] at hn
  refine ⟨⟨hst, by decide, ?_, by decide, ?_⟩, ⟨by decide, by decide, by decide,
    ⟨by unfold SortedEv; decide, by decide, by decide, by decide⟩, (by intro e he; cases he), rfl⟩,
    by decide⟩
  · intro t ht; cases ht
  · rintro ⟨n, hn, _⟩
    simp [C02V.acts, exPast] at hn

end C06W
end SimProc
