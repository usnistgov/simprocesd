/-
C11 — resources of a processor: acquired atomically on acceptance, held while a part is in
process, given back on failure and when idle, kept through maintenance; pool usage is the sum of
the holdings of the processors that hold reservations.

All theorems are about the functions of `SimProc/Model/Floor.lean` on an ARBITRARY world `w`
(no reachability assumption); what is assumed of the resource manager is the invariant `C09.Inv`
(proved for every sequence of manager operations in `Props/C09.lean`) and, of the declared
request, that it is a dictionary with non-negative amounts.
-/
import SimProc.Proofs.C11Lemmas
import SimProc.Props.C09
import SimProc.Props.C01

namespace SimProc
namespace C11
open World FloorCoreL

/-- The positive entries of a request: what a reservation made for it holds. -/
def pos (req : Req) : Req := req.filter (fun p => p.2 > 0)

/-- Processor `x` holds a reservation whose holdings are exactly the positive entries of `req`. -/
def Holding (w : World) (x : Nat) (req : Req) : Prop :=
  ∃ id, (w.dev x).reserved = some id ∧ w.rm.held id = some (pos req)

/-! ### a. acquisition is atomic -/

/-- **a1.** A processor without a declared requirement, or one that already holds its
reservation, may accept as far as resources are concerned, and nothing at all changes. -/
theorem acquire_noop (w : World) (x : Nat)
    (h : (w.dev x).resReq = none ∨ (w.dev x).reserved.isSome = true) :
    w.procAcquire x = (w, true) :=
  procAcquire_noop w x h

/-- **a2 (main).** A processor `x` that declares `req` (a dictionary without negative amounts) and
holds nothing.  `procAcquire` answers `true` exactly when every positive requested amount fits
into capacity minus usage of its pool.  In that case the manager is the one after
`reserve_resources(req)`; the device differs only in `reserved`, which names the NEW reservation;
that reservation holds exactly the positive entries of `req`; every pool's usage grew by exactly
the requested (positive) amount and no capacity changed; the waiting list is untouched.
Otherwise nothing is taken: pools and reservations are unchanged, the device differs only in the
flag `waitingRes`, which is set; the request was appended to the waiting list with callback
`Cb.proc x` exactly if the flag was not set before (so the processor is registered at most once);
no error is raised; and on an initialised manager a new registration queues an availability check
at the current instant.  No other device changes in either case. -/
theorem acquire_atomic (w : World) (x : Nat) (req : Req)
    (hinv : C09.Inv w.rm) (hk : C09.NodupKeys req) (hnn : ∀ e ∈ req, 0 ≤ e.2)
    (hreq : (w.dev x).resReq = some req) (hres : (w.dev x).reserved = none) :
    ((w.procAcquire x).2 = true ↔ C09.fits w.rm req) ∧
    ((w.procAcquire x).2 = true →
      (w.procAcquire x).1.rm = (w.rm.reserve req).1 ∧
      (w.procAcquire x).1.dev x = { w.dev x with reserved := some w.rm.resv.length } ∧
      w.rm.held w.rm.resv.length = none ∧
      (w.procAcquire x).1.rm.held w.rm.resv.length = some (pos req) ∧
      (∀ r, (w.procAcquire x).1.rm.usage r =
        w.rm.usage r + (if 0 < C09.amt req r then C09.amt req r else 0)) ∧
      (∀ r, (w.procAcquire x).1.rm.capacity r = w.rm.capacity r) ∧
      (w.procAcquire x).1.rm.waiting = w.rm.waiting) ∧
    ((w.procAcquire x).2 = false →
      (w.procAcquire x).1.rm.pools = w.rm.pools ∧
      (w.procAcquire x).1.rm.resv = w.rm.resv ∧
      (w.procAcquire x).1.dev x = { w.dev x with waitingRes := true } ∧
      (w.procAcquire x).1.rm.waiting =
        (if (w.dev x).waitingRes then w.rm.waiting else w.rm.waiting ++ [(req, Cb.proc x)]) ∧
      (w.procAcquire x).1.error = w.error ∧
      (w.rm.inited = true → (w.dev x).waitingRes = false →
        Queued (w.procAcquire x).1 .rmCheck w.now pOtherHigh (-1))) ∧
    (∀ y, y ≠ x → (w.procAcquire x).1.dev y = w.dev y) := by
  have hx := valid_of_resReq hreq
  refine ⟨?_, ?_, ?_, fun y hy => procAcquire_dev_ne w hy⟩
  · by_cases hf : C09.fits w.rm req
    · rw [procAcquire_fits w x req hreq hres hnn hf]; simp [hf]
    · rw [procAcquire_not_fits w x req hreq hres hnn hf]
      split <;> simp [hf]
  · intro ht
    have hf : C09.fits w.rm req := by
      apply Classical.byContradiction
      intro hf
      rw [procAcquire_not_fits w x req hreq hres hnn hf] at ht
      split at ht <;> simp at ht
    have hs := (C09.reserve_iff_fits w.rm req hnn).2 hf
    obtain ⟨id, hid⟩ := Option.isSome_iff_exists.1 hs
    obtain ⟨hu, hc, hh, hlen⟩ := C09.reserve_takes_exactly w.rm req id hinv hk hid
    subst hlen
    have hrm : (w.procAcquire x).1.rm = (w.rm.reserve req).1 := by
      rw [procAcquire_fits w x req hreq hres hnn hf]
      simp only [modDev_rm, rmEffects_rm]
    rw [hrm]
    refine ⟨rfl, ?_, ?_, hh, hu, hc, ?_⟩
    · rw [procAcquire_fits w x req hreq hres hnn hf]
      simp only
      rw [dev_modDev_same (by rw [rmEffects_devs]; exact hx), dev_rmEffects]
      rfl
    · rw [RM.held_eq]; exact RM.alookup_length_of_ids _ hinv.resvIds
    · rw [(C09.reserve_success hid).2.2.2]
      exact RM.take_waiting _ _
  · intro hfalse
    have hf : ¬ C09.fits w.rm req := by
      intro hf
      rw [procAcquire_fits w x req hreq hres hnn hf] at hfalse
      simp at hfalse
    have heq := procAcquire_not_fits w x req hreq hres hnn hf
    by_cases hw : (w.dev x).waitingRes = true
    · rw [heq, if_pos hw]
      refine ⟨rfl, rfl, ?_, by rw [if_pos hw], rfl, fun _ h => by rw [hw] at h; cases h⟩
      show w.dev x = { w.dev x with waitingRes := true }
      rw [← hw]
    · rw [heq, if_neg hw]
      have hw' : (w.dev x).waitingRes = false := by simpa using hw
      refine ⟨?_, ?_, ?_, ?_, ?_, ?_⟩
      · simp only [modDev_rm, rmEffects_rm]; rfl
      · simp only [modDev_rm, rmEffects_rm]; rfl
      · simp only
        rw [dev_modDev_same (by rw [rmEffects_devs]; exact hx), dev_rmEffects]
        rfl
      · simp only [modDev_rm, rmEffects_rm, if_neg hw]; rfl
      · simp only [modDev_error]
        exact rmEffects_error _ _ _
      · intro hin _
        apply Queued_of_env_eq (modDev_env _ _ _)
        rw [hin]
        exact Queued_schedLib_new _ _ _ _ _ (Int.le_refl _)

/-- **a3.** If the declared request contains a negative amount, `reserve_resources` raises: the
processor does not accept, the error is reported and nothing else changes. -/
theorem acquire_negative (w : World) (x : Nat) (req : Req)
    (hreq : (w.dev x).resReq = some req) (hres : (w.dev x).reserved = none)
    (hneg : ∃ e ∈ req, e.2 < 0) :
    w.procAcquire x = (w.setErr "reserve-raised", false) :=
  procAcquire_negative w x req hreq hres hneg

/-- **a4.** All-or-nothing without any hypothesis: whenever `procAcquire` refuses, no pool and no
reservation has changed and no device holds anything it did not hold before. -/
theorem acquire_refused_takes_nothing (w : World) (x : Nat) (h : (w.procAcquire x).2 = false) :
    (w.procAcquire x).1.rm.pools = w.rm.pools ∧ (w.procAcquire x).1.rm.resv = w.rm.resv ∧
    ∀ y, ((w.procAcquire x).1.dev y).reserved = (w.dev y).reserved :=
  procAcquire_false w x h

/-! ### b. a part is accepted only together with the resources -/

/-- **b1 (main).** A processor that declares `req` accepts part `p` (`give_part` answers `true`).
Provided that whatever it held before was its declared reservation (`hdecl`; trivially true if it
held nothing), in the resulting world it holds a reservation whose holdings are exactly the
positive entries of `req` — whatever the acceptance triggered (callbacks, an immediate finish for
cycle time 0, notifications).  If it held nothing before, the request fitted and the resources
were taken in this very call: the manager is the one after `reserve_resources(req)`, the processor
references the new reservation and every pool's usage grew by exactly the requested amount.  If
it held its reservation already, the manager is untouched. -/
theorem accept_holds (f : Nat) (w w' : World) (x p : Nat) (req : Req)
    (hinv : C09.Inv w.rm) (hk : C09.NodupKeys req) (hnn : ∀ e ∈ req, 0 ≤ e.2)
    (hkind : (w.dev x).kind = .processor) (hreq : (w.dev x).resReq = some req)
    (hdecl : ∀ id, (w.dev x).reserved = some id → w.rm.held id = some (pos req))
    (hg : give (f + 1) w x p = (w', true)) :
    Holding w' x req ∧
    ((w.dev x).reserved = none →
      C09.fits w.rm req ∧ w'.rm = (w.rm.reserve req).1 ∧
      (w'.dev x).reserved = some w.rm.resv.length ∧
      ∀ r, w'.rm.usage r = w.rm.usage r + (if 0 < C09.amt req r then C09.amt req r else 0)) ∧
    ((w.dev x).reserved.isSome = true →
      w'.rm = w.rm ∧ (w'.dev x).reserved = (w.dev x).reserved) := by
  rw [give_processor f w x p hkind] at hg
  split at hg
  case isFalse => cases hg
  rcases hpa : w.procAcquire x with ⟨w1, b⟩
  rw [hpa] at hg
  cases b
  · cases hg
  simp only [Prod.mk.injEq, and_true] at hg
  subst hg
  have hkeep := acceptPart_keepA w1 x p
  have hrm : (w1.acceptPart x p).rm = w1.rm := keep_rm _ hkeep
  have hrs : ((w1.acceptPart x p).dev x).reserved = (w1.dev x).reserved :=
    Dev.reserved_of_resA (keep_dev _ hkeep x)
  have hw1 : w1 = (w.procAcquire x).1 := by rw [hpa]
  have hb : (w.procAcquire x).2 = true := by rw [hpa]
  cases hr : (w.dev x).reserved with
  | none =>
    obtain ⟨hiff, hsucc, -, -⟩ := acquire_atomic w x req hinv hk hnn hreq hr
    obtain ⟨h1, h2, -, h4, h5, -, -⟩ := hsucc hb
    rw [← hw1] at h1 h2 h4 h5
    have hres1 : (w1.dev x).reserved = some w.rm.resv.length := by rw [h2]
    refine ⟨⟨w.rm.resv.length, by rw [hrs, hres1], by rw [hrm]; exact h4⟩, ?_, ?_⟩
    · intro _
      exact ⟨hiff.1 hb, by rw [hrm, h1], by rw [hrs, hres1], fun r => by rw [hrm]; exact h5 r⟩
    · intro h; cases h
  | some id =>
    have hno := acquire_noop w x (Or.inr (by rw [hr]; rfl))
    have : w1 = w := by rw [hw1, hno]
    subst this
    refine ⟨⟨id, by rw [hrs, hr], by rw [hrm]; exact hdecl id hr⟩, ?_, ?_⟩
    · intro h; cases h
    · intro _; exact ⟨hrm, by rw [hrs, hr]⟩

/-- **b2.** If a processor refuses the part (`give_part` answers `false`, for whatever reason), no
device has a part it did not have before, no pool and no reservation has changed and no device's
`reserved` has changed: no part without resources, no resources without a part. -/
theorem accept_refused (f : Nat) (w w' : World) (x p : Nat)
    (hkind : (w.dev x).kind = .processor) (hg : give (f + 1) w x p = (w', false)) :
    (∀ y, (w'.dev y).part = (w.dev y).part) ∧
    w'.rm.pools = w.rm.pools ∧ w'.rm.resv = w.rm.resv ∧
    (∀ y, (w'.dev y).reserved = (w.dev y).reserved) := by
  rw [give_processor f w x p hkind] at hg
  split at hg
  case isFalse =>
    simp only [Prod.mk.injEq, and_true] at hg
    subst hg
    exact ⟨fun _ => rfl, rfl, rfl, fun _ => rfl⟩
  rcases hpa : w.procAcquire x with ⟨w1, b⟩
  rw [hpa] at hg
  cases b
  · simp only [Prod.mk.injEq, and_true] at hg
    subst hg
    have hw1 : w1 = (w.procAcquire x).1 := by rw [hpa]
    have hb : (w.procAcquire x).2 = false := by rw [hpa]
    obtain ⟨h1, h2, h3⟩ := procAcquire_false w x hb
    rw [hw1]
    exact ⟨fun y => procAcquire_dev_field (fun d => d.part) (fun _ _ _ => rfl) w x y, h1, h2, h3⟩
  · exact Bool.noConfusion (congrArg Prod.snd hg)

/-! ### c. a failure gives the resources back -/

/-- **c1.** What `_fail()` does to the manager: a full release of the reservation the processor
holds (nothing if it holds none). -/
theorem fail_rm (w : World) (x : Nat) :
    (w.failDev x).rm =
      match (w.dev x).reserved with
      | none => w.rm
      | some id => (w.rm.release id none).1 :=
  failDev_rm w x

/-- **c2 (main).** A processor that holds reservation `id` with holdings `h` fails: afterwards it
holds nothing and has no part; every pool's usage dropped by exactly the amount held, no capacity
changed, the reservation is empty; every other device keeps its reservation and its part. -/
theorem fail_releases (w : World) (x id : Nat) (h : Req) (hinv : C09.Inv w.rm)
    (hres : (w.dev x).reserved = some id) (hh : w.rm.held id = some h) :
    ((w.failDev x).dev x).reserved = none ∧ ((w.failDev x).dev x).part = none ∧
    (∀ r, (w.failDev x).rm.usage r = w.rm.usage r - C09.amt h r) ∧
    (∀ r, (w.failDev x).rm.capacity r = w.rm.capacity r) ∧
    (w.failDev x).rm.held id = some [] ∧
    (∀ y, y ≠ x → ((w.failDev x).dev y).reserved = (w.dev y).reserved ∧
      ((w.failDev x).dev y).part = (w.dev y).part) := by
  have hx := valid_of_reserved hres
  obtain ⟨h1, h2⟩ := failDev_dev w x hx
  obtain ⟨hu, hc, hhd⟩ := C09.release_all_exact w.rm id h hinv hh
  have hrm : (w.failDev x).rm = (w.rm.release id none).1 := by rw [failDev_rm, hres]
  rw [hrm]
  exact ⟨h1, h2, hu, hc, hhd, fun y hy => failDev_dev_ne w x y hy⟩

/-- **c3.** A processor that holds nothing fails: the manager is untouched. -/
theorem fail_without_reservation (w : World) (x : Nat) (hres : (w.dev x).reserved = none) :
    (w.failDev x).rm = w.rm := by
  rw [failDev_rm, hres]

/-! ### d. a maintenance shutdown keeps the resources -/

/-- **d (main).** `_shutdown` (maintenance: `shutdownDev x false none`; in fact for every
argument) and `restore_functionality` leave the resource manager untouched, and for EVERY device
its reservation, its part in process and its finished part: a processor shut down for maintenance
with a part in process keeps holding exactly what it held. -/
theorem keeps_through_maintenance (w : World) (x : Nat) :
    ((w.shutdownDev x false none).rm = w.rm ∧
      ∀ y, ((w.shutdownDev x false none).dev y).reserved = (w.dev y).reserved ∧
        ((w.shutdownDev x false none).dev y).part = (w.dev y).part ∧
        ((w.shutdownDev x false none).dev y).output = (w.dev y).output) ∧
    ((w.restoreDev x).rm = w.rm ∧
      ∀ y, ((w.restoreDev x).dev y).reserved = (w.dev y).reserved ∧
        ((w.restoreDev x).dev y).part = (w.dev y).part ∧
        ((w.restoreDev x).dev y).output = (w.dev y).output) := by
  have h1 := shutdownDev_keepM w x false none
  have h2 := restoreDev_keepM w x
  refine ⟨⟨keep_rm _ h1, fun y => ?_⟩, ⟨keep_rm _ h2, fun y => ?_⟩⟩
  · have := keep_dev _ h1 y
    exact ⟨Dev.reserved_of_resM this, Dev.part_of_resM this, Dev.output_of_resM this⟩
  · have := keep_dev _ h2 y
    exact ⟨Dev.reserved_of_resM this, Dev.part_of_resM this, Dev.output_of_resM this⟩

/-- **d'.** In terms of `Holding`: a processor that holds exactly its declared amounts still does
after a maintenance shutdown — and it really is shut down then — and after being restored. -/
theorem maintenance_keeps_holding (w : World) (x : Nat) (req : Req) (hh : Holding w x req) :
    (Holding (w.shutdownDev x false none) x req ∧
      ((w.shutdownDev x false none).dev x).shutDown = true) ∧
    Holding (w.restoreDev x) x req := by
  obtain ⟨⟨r1, d1⟩, ⟨r2, d2⟩⟩ := keeps_through_maintenance w x
  obtain ⟨id, hid, hheld⟩ := hh
  exact ⟨⟨⟨id, by rw [(d1 x).1, hid], by rw [r1]; exact hheld⟩,
      shutdownDev_shutDown w x false none (valid_of_reserved hid)⟩,
    ⟨id, by rw [(d2 x).1, hid], by rw [r2]; exact hheld⟩⟩

/-! ### e. an idle processor releases at the same instant, after the hand-over -/

/-- **e1.** `_finish_cycle` of a processor that holds a reservation leaves a live
`RELEASE_RESERVED_RESOURCES` event for it in the queue: action `releaseIfIdle x`, time `now`,
priority `pRelease`, asset the processor's id. -/
theorem finish_schedules_release (w : World) (x : Nat) (hk : (w.dev x).kind = .processor)
    (hr : (w.dev x).reserved.isSome = true) :
    Queued (w.finishCycle x) (.releaseIfIdle x) w.now pRelease (w.dev x).aid :=
  finishCycle_release_queued w x hk hr

/-- **e2.** If moreover the cycle finishes regularly (operational, part `p` in process, output
free, clock not negative) the `PASS_PART` event for the finished part is queued for the same
instant, with priority `pPassPart`. -/
theorem finish_schedules_pass (w : World) (x p : Nat) (hk : (w.dev x).kind = .processor)
    (hop : w.operational x = true) (hp : (w.dev x).part = some p) (ho : (w.dev x).output = none)
    (h0 : 0 ≤ w.now) :
    Queued (w.finishCycle x) (.passPart x) w.now pPassPart (w.dev x).aid :=
  finishCycle_pass_queued w x p hk hop hp ho h0

/-- **e3.** `_release_resources_if_idle` with a part in process on an operational processor does
nothing at all. -/
theorem releaseIfIdle_busy (w : World) (x : Nat) (hop : w.operational x = true)
    (hp : (w.dev x).part.isSome = true) : w.releaseIfIdle x = w := by
  unfold releaseIfIdle
  have : (w.dev x).part.isNone = false := by
    cases h : (w.dev x).part <;> simp_all
  simp [hop, this]

/-- **e4.** `_release_resources_if_idle` on a processor that is idle (no part in process) or not
operational releases everything: the reservation is dropped, every pool's usage falls by exactly
what was held, capacities are unchanged. -/
theorem releaseIfIdle_idle (w : World) (x id : Nat) (h : Req) (hinv : C09.Inv w.rm)
    (hidle : w.operational x = false ∨ (w.dev x).part = none)
    (hres : (w.dev x).reserved = some id) (hh : w.rm.held id = some h) :
    ((w.releaseIfIdle x).dev x).reserved = none ∧
    (∀ r, (w.releaseIfIdle x).rm.usage r = w.rm.usage r - C09.amt h r) ∧
    (∀ r, (w.releaseIfIdle x).rm.capacity r = w.rm.capacity r) ∧
    (w.releaseIfIdle x).rm.held id = some [] ∧
    (∀ y, ((w.releaseIfIdle x).dev y).part = (w.dev y).part) := by
  have heq : w.releaseIfIdle x = w.releaseReserved x := by
    unfold releaseIfIdle
    rcases hidle with h | h <;> simp [h]
  obtain ⟨hu, hc, hhd⟩ := C09.release_all_exact w.rm id h hinv hh
  have hrm : (w.releaseReserved x).rm = (w.rm.release id none).1 := by
    rw [releaseReserved_rm, hres]
  rw [heq, hrm]
  exact ⟨releaseReserved_reserved w x, hu, hc, hhd,
    fun y => releaseReserved_dev_field (fun d => d.part) (fun _ _ => rfl) w x y⟩

/-- **e5.** `releaseIfIdle` of a processor that holds nothing changes nothing. -/
theorem releaseIfIdle_nothing_held (w : World) (x : Nat) (hres : (w.dev x).reserved = none) :
    w.releaseIfIdle x = w := by
  unfold releaseIfIdle
  split
  · exact releaseReserved_none w x hres
  · rfl

/-- **e6 (ordering, from C01).** `pRelease < pPassPart`; hence in a queue satisfying the C01
invariant, as long as a `PASS_PART` event `ep` is queued for the same time as a `RELEASE` event
`er`, a step never takes `er`: the hand-over is executed first, and `er` is still queued
afterwards. -/
theorem pass_before_release {s s' : Env} {e ep er : Event} (hinv : C01.Inv s)
    (hstep : s.step = some (e, s')) (hp : ep ∈ s.events) (hr : er ∈ s.events)
    (ht : ep.time = er.time) (hpp : ep.prio = pPassPart) (hpr : er.prio = pRelease) :
    e ≠ er ∧ er ∈ s'.events := by
  have hne : e ≠ er := by
    intro he
    subst he
    have := C01.step_max_prio hinv hstep ep hp ht
    rw [hpp, hpr] at this
    exact absurd this (by decide)
  refine ⟨hne, ?_⟩
  obtain ⟨es, heq, rfl⟩ := Env.step_some.mp hstep
  rw [heq] at hr
  rcases List.mem_cons.1 hr with h | h
  · exact absurd h.symm hne
  · exact h

/-- **e7 (no time passes, from C01).** While an event for the current instant is queued (such as
the `RELEASE` event of e1), a step does not advance the clock; the event is either the one taken
or still queued. -/
theorem clock_waits_for_release {s s' : Env} {e er : Event} (hinv : C01.Inv s)
    (hstep : s.step = some (e, s')) (hr : er ∈ s.events) (ht : er.time = s.now) :
    s'.now = s.now ∧ (e = er ∨ er ∈ s'.events) := by
  have h1 := C01.step_min_time hinv hstep er hr
  obtain ⟨h2, h3⟩ := C01.step_clock hinv hstep
  refine ⟨by omega, ?_⟩
  obtain ⟨es, heq, rfl⟩ := Env.step_some.mp hstep
  rw [heq] at hr
  rcases List.mem_cons.1 hr with h | h
  · exact Or.inl h.symm
  · exact Or.inr h

/-! ### f. pool usage is the sum of what the holders hold -/

/-- Number of devices whose `reserved` names reservation `id`. -/
def refCount (w : World) (id : Nat) : Nat := w.rsv.count (some id)

/-- Sum, over the devices that hold a reservation, of what that reservation holds of `r`. -/
def holdersSum (w : World) (r : Nat) : Int :=
  isum (w.devs.map fun d =>
    match d.reserved with
    | some id => C09.amt ((w.rm.held id).getD []) r
    | none => 0)

/-- Sum over the reservations no device references (those made by scenario scripts). -/
def unownedSum (w : World) (r : Nat) : Int :=
  isum (w.rm.resv.map fun p => if refCount w p.1 = 0 then C09.amt p.2 r else 0)

/-- No non-empty reservation is referenced by two devices. -/
def AtMostOne (w : World) : Prop := ∀ p ∈ w.rm.resv, p.2 ≠ [] → refCount w p.1 ≤ 1

/-- Every device's `reserved` names an existing reservation, and every non-empty reservation of
the manager is referenced by exactly one device. -/
def OwnedBy (w : World) : Prop := Owned w.rm.resv w.rsv

/-- `OwnedBy` is the special case of `AtMostOne` without unreferenced non-empty reservations. -/
theorem OwnedBy.atMostOne {w : World} (h : OwnedBy w) : AtMostOne w :=
  fun p hp hne => Nat.le_of_eq (h.2 p hp hne)

/-- `refCount` as a count over the devices. -/
theorem refCount_eq (w : World) (id : Nat) :
    refCount w id = w.devs.countP (fun d => d.reserved == some id) := by
  unfold refCount rsv
  rw [List.count_eq_countP, List.countP_map]
  rfl

/-- The holders' sum, regrouped by reservation: each reservation counts once per device that
references it. -/
theorem holdersSum_eq (w : World) (hinv : C09.Inv w.rm) (r : Nat) :
    holdersSum w r = isum (w.rm.resv.map fun p => C09.amt p.2 r * (refCount w p.1 : Int)) := by
  have hn := hinv.rinv.resvNodup
  unfold holdersSum
  rw [isum_map_congr w.devs _ (fun d => isum (w.rm.resv.map fun p =>
      if (d.reserved == some p.1) = true then C09.amt p.2 r else 0))]
  · rw [isum_swap]
    apply isum_map_congr
    intro p _
    rw [isum_map_ite_const, refCount_eq]
  · intro d _
    cases hd : d.reserved with
    | none => simp [isum_map_zero]
    | some id =>
      simp only
      have := isum_alookup w.rm.resv hn id (fun v => C09.amt v r)
      rw [RM.held_eq]
      rw [isum_map_congr w.rm.resv _ (fun p => if p.1 = id then C09.amt p.2 r else 0)]
      · rw [this]
        cases alookup w.rm.resv id <;> rfl
      · intro p _
        by_cases h : p.1 = id
        · simp [h]
        · have : ¬ id = p.1 := fun h' => h h'.symm
          simp [h, this]

/-- **f1 (general closed form).** If no non-empty reservation is referenced by two devices, the
usage of every pool is the sum of what the devices' reservations hold plus what the reservations
nobody references (scripts' reservations) hold. -/
theorem usage_eq_holders_plus_unowned (w : World) (hinv : C09.Inv w.rm) (hex : AtMostOne w)
    (r : Nat) : w.rm.usage r = holdersSum w r + unownedSum w r := by
  rw [hinv.usageEq, C09.heldSum_eq, holdersSum_eq w hinv]
  unfold unownedSum
  rw [← isum_map_add]
  apply isum_map_congr
  intro p hp
  show C09.amt p.2 r = _
  by_cases he : p.2 = []
  · rw [he]; simp [C09.amt, RM.heldAmt]
  · have := hex p hp he
    rcases Nat.le_one_iff_eq_zero_or_eq_one.1 this with h | h <;> simp [h]

/-- **f2 (main).** Under `OwnedBy` the usage of every pool equals the sum of the holdings of the
devices currently holding reservations. -/
theorem usage_is_sum_of_holders (w : World) (hinv : C09.Inv w.rm) (hown : OwnedBy w) (r : Nat) :
    w.rm.usage r = holdersSum w r := by
  rw [usage_eq_holders_plus_unowned w hinv hown.atMostOne r]
  have : unownedSum w r = 0 := by
    unfold unownedSum
    rw [isum_map_congr _ _ (fun _ => 0), isum_map_zero]
    intro p hp
    by_cases he : p.2 = []
    · rw [he]; simp [C09.amt, RM.heldAmt]
    · have h1 : refCount w p.1 = 1 := hown.2 p hp he
      simp [h1]
  rw [this]; omega

/-- `OwnedBy` only reads the reservations and the devices' `reserved` fields. -/
theorem OwnedBy.congr {w w' : World} (h1 : w'.rm.resv = w.rm.resv) (h2 : w'.rsv = w.rsv)
    (h : OwnedBy w) : OwnedBy w' := by
  unfold OwnedBy; rw [h1, h2]; exact h

/-- Everything that happens while a part is accepted, processed and finished keeps `OwnedBy`. -/
theorem OwnedBy.of_keepA {w w' : World} (hk : keep Dev.resA w' = keep Dev.resA w) (h : OwnedBy w) :
    OwnedBy w' :=
  h.congr (by rw [keep_rm _ hk]) (rsv_of_keep Dev.resA (·.1) (fun _ => rfl) hk)

/-- Shutting down and restoring keep `OwnedBy`. -/
theorem OwnedBy.of_keepM {w w' : World} (hk : keep Dev.resM w' = keep Dev.resM w) (h : OwnedBy w) :
    OwnedBy w' :=
  h.congr (by rw [keep_rm _ hk]) (rsv_of_keep Dev.resM (·.1) (fun _ => rfl) hk)

/-- **f3.** `procAcquire` preserves `OwnedBy` (for the whole world, not only for `x`): the new
reservation gets a fresh id and is referenced by `x` alone. -/
theorem acquire_preserves_owned (w : World) (x : Nat) (hinv : C09.Inv w.rm) (h : OwnedBy w) :
    OwnedBy (w.procAcquire x).1 := by
  rcases procAcquire_shape w x with ⟨h1, h2⟩ | ⟨hd, hnone, hx, h1, h2⟩
  · exact h.congr h2 h1
  · unfold OwnedBy
    rw [h1, h2]
    have hx' : x < w.rsv.length := by rw [rsv_length]; exact hx
    refine Owned.acquire h ?_ hx' (by rw [rsv_getElem w x hx']; exact hnone) hd
    intro p hp
    obtain ⟨i, hi, hpi⟩ := List.getElem_of_mem hp
    have := hinv.resvIds i hi
    rw [hpi] at this
    omega

/-- **f4.** `releaseReserved` preserves `OwnedBy` (no hypothesis on the manager needed). -/
theorem release_preserves_owned (w : World) (x : Nat) (h : OwnedBy w) :
    OwnedBy (w.releaseReserved x) := by
  obtain ⟨h1, h2⟩ := releaseReserved_shape w x
  unfold OwnedBy
  rw [h1, h2]
  cases hr : (w.dev x).reserved with
  | none =>
    simp only
    rw [set_self_of_getElem]
    · exact h
    · intro hx; rw [rsv_getElem w x hx, hr]
  | some id =>
    have hx : x < w.rsv.length := by rw [rsv_length]; exact valid_of_reserved hr
    have hg : w.rsv[x] = some id := by rw [rsv_getElem w x hx, hr]
    cases hh : w.rm.held id with
    | none =>
      simp only [hh]
      rw [RM.held_eq, alookup_eq_none_iff] at hh
      exact Owned.drop_dangling h hx hg hh
    | some hd =>
      simp only [hh]
      exact Owned.release h hx hg

/-- **f5.** `_fail()` preserves `OwnedBy`. -/
theorem fail_preserves_owned (w : World) (x : Nat) (h : OwnedBy w) : OwnedBy (w.failDev x) := by
  obtain ⟨w0, h1, h2, heq⟩ := failDev_eq w x
  rw [heq]
  apply OwnedBy.of_keepM (shutdownDev_keepM _ x true _)
  have h0 : OwnedBy w0 := h.congr (by rw [h2]) (rsv_of_devs_eq h1)
  have h3 : OwnedBy (w0.modDev x fun d => { d with part := none }) :=
    OwnedBy.congr (w := w0) rfl
      (rsv_of_keep Dev.reserved id (fun _ => rfl) (keep_modDev Dev.reserved w0 x _ rfl)) h0
  exact (release_preserves_owned _ x h3).congr rfl rfl

/-- **f6.** `releaseIfIdle`, a maintenance shutdown and a restore preserve `OwnedBy`. -/
theorem idle_maintenance_preserve_owned (w : World) (x : Nat) (h : OwnedBy w) :
    OwnedBy (w.releaseIfIdle x) ∧ (∀ b l, OwnedBy (w.shutdownDev x b l)) ∧ OwnedBy (w.restoreDev x) := by
  refine ⟨?_, fun b l => h.of_keepM (shutdownDev_keepM w x b l), h.of_keepM (restoreDev_keepM w x)⟩
  unfold releaseIfIdle
  split
  · exact release_preserves_owned w x h
  · exact h

/-- **f7.** Offering a part to a processor (`give`, accepted or not) preserves `OwnedBy`. -/
theorem give_preserves_owned (f : Nat) (w : World) (x p : Nat) (hinv : C09.Inv w.rm)
    (hkind : (w.dev x).kind = .processor) (h : OwnedBy w) : OwnedBy (give (f + 1) w x p).1 := by
  rw [give_processor f w x p hkind]
  split
  · have h1 := acquire_preserves_owned w x hinv h
    rcases hpa : w.procAcquire x with ⟨w1, b⟩
    rw [hpa] at h1
    cases b <;> dsimp only
    · exact h1
    · exact OwnedBy.of_keepA (acceptPart_keepA w1 x p) h1
  · exact h

/-! ### g. "a part in process only while holding" as an invariant of the processor's own operations -/

/-- The local resource invariant of processor `x`: whatever reservation it holds is exactly its
declared one, and it has a part in process only while it holds a reservation. -/
def ProcInv (w : World) (x : Nat) : Prop :=
  ∀ req, (w.dev x).resReq = some req →
    (∀ id, (w.dev x).reserved = some id → w.rm.held id = some (pos req)) ∧
    ((w.dev x).part.isSome = true → (w.dev x).reserved.isSome = true)

/-- What the invariant says: with a part in process the processor holds exactly the declared
amounts. -/
theorem ProcInv.holding {w : World} {x : Nat} (h : ProcInv w x) {req : Req}
    (hreq : (w.dev x).resReq = some req) (hp : (w.dev x).part.isSome = true) : Holding w x req := by
  obtain ⟨h1, h2⟩ := h req hreq
  obtain ⟨id, hid⟩ := Option.isSome_iff_exists.1 (h2 hp)
  exact ⟨id, hid, h1 id hid⟩

/-- The invariant only reads `resReq`, `reserved`, `part` of `x` and the reservations. -/
theorem ProcInv.congr {w w' : World} {x : Nat} (hq : (w'.dev x).resReq = (w.dev x).resReq)
    (hr : (w'.dev x).reserved = (w.dev x).reserved)
    (hp : (w'.dev x).part.isSome = true → (w.dev x).part.isSome = true)
    (hv : w'.rm.resv = w.rm.resv) (h : ProcInv w x) : ProcInv w' x := by
  intro req hreq
  rw [hq] at hreq
  obtain ⟨h1, h2⟩ := h req hreq
  refine ⟨fun id hid => ?_, fun hpp => ?_⟩
  · rw [RM.held_eq, hv, ← RM.held_eq]; exact h1 id (by rw [← hr]; exact hid)
  · rw [hr]; exact h2 (hp hpp)

/-- **g1.** Offering a part to the processor (accepted or refused) preserves its invariant. -/
theorem give_preserves_procInv (f : Nat) (w : World) (x p : Nat) (hinv : C09.Inv w.rm)
    (hkind : (w.dev x).kind = .processor)
    (hwf : ∀ req, (w.dev x).resReq = some req → C09.NodupKeys req ∧ ∀ e ∈ req, 0 ≤ e.2)
    (h : ProcInv w x) : ProcInv (give (f + 1) w x p).1 x := by
  have hq : ((give (f + 1) w x p).1.dev x).resReq = (w.dev x).resReq := by
    rw [give_processor f w x p hkind]
    split
    · rcases hpa : w.procAcquire x with ⟨w1, b⟩
      have h1 : (w1.dev x).resReq = (w.dev x).resReq := by
        have := procAcquire_dev_field (fun d => d.resReq) (fun _ _ _ => rfl) w x x
        rw [hpa] at this; exact this
      cases b <;> dsimp only
      · exact h1
      · exact (Dev.resReq_of_resA (keep_dev _ (acceptPart_keepA w1 x p) x)).trans h1
    · rfl
  rcases hg : give (f + 1) w x p with ⟨w', b⟩
  rw [hg] at hq
  cases b
  · obtain ⟨hp, _, hv, hr⟩ := accept_refused f w w' x p hkind hg
    exact h.congr hq (hr x) (fun hpp => by rw [← hp x]; exact hpp) hv
  · intro req hreq
    rw [hq] at hreq
    obtain ⟨hk, hnn⟩ := hwf req hreq
    obtain ⟨⟨id, hid, hheld⟩, _, _⟩ :=
      accept_holds f w w' x p req hinv hk hnn hkind hreq (h req hreq).1 hg
    refine ⟨fun id' hid' => ?_, fun _ => by rw [hid]; rfl⟩
    rw [hid] at hid'
    cases hid'
    exact hheld

/-- **g2.** `releaseIfIdle` preserves the invariant unless it is run on a processor that is shut
down with a part in process (the one case in which it releases although a part is in process). -/
theorem releaseIfIdle_preserves_procInv (w : World) (x : Nat)
    (hop : w.operational x = true ∨ (w.dev x).part = none) (h : ProcInv w x) :
    ProcInv (w.releaseIfIdle x) x := by
  by_cases hidle : (w.dev x).part = none
  · have heq : w.releaseIfIdle x = w.releaseReserved x := by
      unfold releaseIfIdle; simp [hidle]
    rw [heq]
    intro req _
    have hpart : ((w.releaseReserved x).dev x).part = none :=
      (releaseReserved_dev_field (fun d => d.part) (fun _ _ => rfl) w x x).trans hidle
    refine ⟨fun id hid => ?_, fun hp => ?_⟩
    · rw [releaseReserved_reserved] at hid; cases hid
    · rw [hpart] at hp; cases hp
  · have hop' : w.operational x = true := by
      rcases hop with h | h
      · exact h
      · exact absurd h hidle
    rw [releaseIfIdle_busy w x hop' (by cases hp : (w.dev x).part <;> simp_all)]
    exact h

/-- **g3.** A failure, a (maintenance) shutdown and a restore preserve the invariant. -/
theorem fail_maintenance_preserve_procInv (w : World) (x : Nat) (h : ProcInv w x) :
    ProcInv (w.failDev x) x ∧ (∀ b l, ProcInv (w.shutdownDev x b l) x) ∧
    ProcInv (w.restoreDev x) x := by
  refine ⟨?_, fun b l => ?_, ?_⟩
  · by_cases hx : x < w.devs.length
    · obtain ⟨h1, h2⟩ := failDev_dev w x hx
      intro req _
      refine ⟨fun id hid => ?_, fun hp => ?_⟩
      · rw [h1] at hid; cases hid
      · rw [h2] at hp; cases hp
    · intro req hreq
      have hlen : (w.failDev x).devs.length = w.devs.length := by
        obtain ⟨w0, h1, _, heq⟩ := failDev_eq w x
        rw [heq, keep_length _ (shutdownDev_keepM _ x true _)]
        show (World.releaseReserved _ x).devs.length = _
        rw [releaseReserved_devs_length, modDev_devs_length, h1]
      rw [dev_of_length_le (by rw [hlen]; omega)] at hreq
      cases hreq
  · have hk := shutdownDev_keepM w x b l
    have hd := keep_dev _ hk x
    have hpart : ((World.dev _ x).part) = (w.dev x).part := Dev.part_of_resM hd
    exact h.congr (Dev.resReq_of_resM hd) (Dev.reserved_of_resM hd)
      (fun hp => by rw [← hpart]; exact hp) (by rw [keep_rm _ hk])
  · have hk := restoreDev_keepM w x
    have hd := keep_dev _ hk x
    have hpart : ((World.dev _ x).part) = (w.dev x).part := Dev.part_of_resM hd
    exact h.congr (Dev.resReq_of_resM hd) (Dev.reserved_of_resM hd)
      (fun hp => by rw [← hpart]; exact hp) (by rw [keep_rm _ hk])

/-- **g4.** Finishing a cycle preserves the invariant: the part leaves the input (or stays, if an
assertion fails), the reservation stays until the `RELEASE` event of `finish_schedules_release`. -/
theorem finish_preserves_procInv (w : World) (x : Nat) (hk : (w.dev x).kind = .processor)
    (h : ProcInv w x) : ProcInv (w.finishCycle x) x := by
  have hkeep := finishCycle_keepA w x
  have hd := keep_dev _ hkeep x
  refine h.congr (Dev.resReq_of_resA hd) (Dev.reserved_of_resA hd) (fun hp => ?_) (by rw [keep_rm _ hkeep])
  rcases finishCycle_part w x x hk with h1 | h1
  · rw [← h1]; exact hp
  · rw [h1] at hp; cases hp

/-! ### non-vacuity -/

/-- Pools: resource 0 with capacity 3, resource 1 with capacity 1; initialised. -/
def exRM : RM := ({} : RM).applyAll [.add 0 3, .add 1 1, .init]

/-- Two processors, each declaring `{0: 2, 1: 0}`, cycle time 1; two parts. -/
def exW : World :=
  { rm := exRM
    devs := [{ kind := .processor, aid := 1, inited := true, cycle := 1, resReq := some [(0, 2), (1, 0)] },
             { kind := .processor, aid := 2, inited := true, cycle := 1, resReq := some [(0, 2), (1, 0)] }]
    parts := [{}, {}] }

/-- Processor 0 has accepted part 0. -/
def exW1 : World := (give 3 exW 0 0).1
/-- … and processor 1 has been offered part 1 (refused: only 1 unit of resource 0 is left). -/
def exW2 : World := (give 3 exW1 1 1).1

/-- The hypotheses of the theorems hold in the example worlds. -/
example : C09.Inv exW.rm := C09.inv_reachable _ (by simp [C09.WFOp])
/-- The declared request of the example is a dictionary without negative amounts. -/
theorem exReq_wf : C09.NodupKeys [(0, 2), (1, 0)] ∧ ∀ e ∈ [((0 : Nat), (2 : Int)), (1, 0)], 0 ≤ e.2 := by
  unfold C09.NodupKeys; decide
example : OwnedBy exW := by
  constructor
  · intro id h; simp [exW, rsv] at h
  · intro p hp; simp [exW, exRM, RM.applyAll, RM.apply, RM.add, RM.init, RM.lookup, RM.setPool] at hp
/-- `OwnedBy` holds along the example run (by the preservation theorems f3/f7). -/
theorem exOwned : OwnedBy exW1 ∧ OwnedBy exW2 := by
  have hi : C09.Inv exW.rm := C09.inv_reachable _ (by simp [C09.WFOp])
  have h0 : OwnedBy exW := by
    constructor
    · intro id h; simp [exW, rsv] at h
    · intro p hp; simp [exW, exRM, RM.applyAll, RM.apply, RM.add, RM.init, RM.lookup, RM.setPool] at hp
  have h1 : OwnedBy exW1 := give_preserves_owned 2 exW 0 0 hi (by decide) h0
  have hi1 : C09.Inv exW1.rm := by
    have : exW1.rm = (exW.rm.reserve [(0, 2), (1, 0)]).1 :=
      ((accept_holds 2 exW exW1 0 0 [(0, 2), (1, 0)] hi exReq_wf.1 exReq_wf.2 (by decide)
        (by decide) (by decide) (Prod.ext rfl (by decide))).2.1 (by decide)).2.1
    rw [this]
    exact C09.inv_reserve hi _ exReq_wf.1
  exact ⟨h1, give_preserves_owned 2 exW1 1 1 hi1 (by decide) h1⟩

/-- a/b: acceptance acquires exactly the declared positive amounts; the zero entry is not held. -/
example : C09.fits exW.rm [(0, 2), (1, 0)] := by
  intro e he hpos
  simp at he
  rcases he with rfl | rfl
  · exact ⟨0, 3, by decide, by decide⟩
  · simp at hpos
example :
    (give 3 exW 0 0).2 = true ∧ (exW1.dev 0).reserved = some 0 ∧ (exW1.dev 0).part = some 0 ∧
    exW1.rm.held 0 = some (pos [(0, 2), (1, 0)]) ∧ pos [(0, 2), (1, 0)] = [(0, 2)] ∧
    exW1.rm.usage 0 = 2 ∧ exW1.rm.usage 1 = 0 ∧ exW.rm.usage 0 = 0 := by decide

/-- a/b: the second processor is refused atomically and registered exactly once, also when it is
offered the part a second time. -/
example :
    (give 3 exW1 1 1).2 = false ∧ (exW2.dev 1).part = none ∧ (exW2.dev 1).reserved = none ∧
    (exW2.dev 1).waitingRes = true ∧ exW2.rm.usage 0 = 2 ∧
    exW2.rm.waiting = [([(0, 2), (1, 0)], Cb.proc 1)] ∧
    (give 3 exW2 1 1).2 = false ∧ (give 3 exW2 1 1).1.rm.waiting.length = 1 := by decide

/-- c: a failure of the holder gives everything back. -/
example :
    ((exW2.failDev 0).dev 0).reserved = none ∧ ((exW2.failDev 0).dev 0).part = none ∧
    (exW2.failDev 0).rm.usage 0 = 0 ∧ (exW2.failDev 0).rm.capacity 0 = 3 ∧
    (exW2.failDev 0).rm.held 0 = some [] := by decide

/-- d: a maintenance shutdown with the part in process keeps the reservation; so does restoring. -/
example :
    ((exW2.shutdownDev 0 false none).dev 0).shutDown = true ∧
    ((exW2.shutdownDev 0 false none).dev 0).part = some 0 ∧
    ((exW2.shutdownDev 0 false none).dev 0).reserved = some 0 ∧
    (exW2.shutdownDev 0 false none).rm.usage 0 = 2 ∧
    (((exW2.shutdownDev 0 false none).restoreDev 0).dev 0).reserved = some 0 ∧
    ((exW2.shutdownDev 0 false none).restoreDev 0).rm.usage 0 = 2 := by decide

/-- e: finishing the cycle queues PASS_PART (priority 28) and RELEASE (priority 24) for the same
instant, in this order; the reservation is still held; the release event then frees the idle
processor, whereas with a part in process it does nothing. -/
example :
    ((exW2.finishCycle 0).env.events.map fun e => (Action.ofNat e.act, e.time, e.prio, e.asset)) =
      [(.rmCheck, 0, 44, -1), (.passPart 0, 0, 28, 1), (.releaseIfIdle 0, 0, 24, 1),
       (.finishCycle 0, 1, 32, 1)] := by decide
example :
    ((exW2.finishCycle 0).dev 0).reserved = some 0 ∧ ((exW2.finishCycle 0).dev 0).part = none ∧
    (((exW2.finishCycle 0).releaseIfIdle 0).dev 0).reserved = none ∧
    ((exW2.finishCycle 0).releaseIfIdle 0).rm.usage 0 = 0 ∧
    (exW2.releaseIfIdle 0).rm.usage 0 = 2 ∧ ((exW2.releaseIfIdle 0).dev 0).reserved = some 0 := by
  decide

/-- f: usage is the sum over the holders (2 = 2 + 0), and 0 after the release. -/
example :
    holdersSum exW2 0 = 2 ∧ exW2.rm.usage 0 = 2 ∧ unownedSum exW2 0 = 0 ∧ refCount exW2 0 = 1 ∧
    holdersSum ((exW2.finishCycle 0).releaseIfIdle 0) 0 = 0 := by decide

/-- e6/e7 on a concrete queue: RELEASE scheduled first, PASS_PART second, same instant — the
step takes PASS_PART and does not advance the clock. -/
def exEnv : Env :=
  (({} : Env).applyAll Arith.exact [.sched 0 1 (Action.releaseIfIdle 0).toNat pRelease 0,
    .sched 0 1 (Action.passPart 0).toNat pPassPart 0]).1
example : C01.Inv exEnv := C01.inv_reachable _ _
example :
    exEnv.events.map (fun e => (e.prio, e.time)) = [(28, 0), (24, 0)] ∧
    exEnv.step.map (fun r => (Action.ofNat r.1.act, r.2.now, r.2.events.map (·.prio))) =
      some (.passPart 0, 0, [24]) := by decide

/-- f2 applied to the example world. -/
example : exW2.rm.usage 0 = holdersSum exW2 0 := by
  have hi : C09.Inv exW.rm := C09.inv_reachable _ (by simp [C09.WFOp])
  have hi2 : C09.Inv exW2.rm := by
    have : exW2.rm = ((exW.rm.apply (.reserve [(0, 2), (1, 0)])).1.apply
        (.register [(0, 2), (1, 0)] (.proc 1))).1 := by rfl
    rw [this]
    exact C09.inv_apply _ _ (C09.inv_apply _ _ hi exReq_wf.1) exReq_wf.1
  exact usage_is_sum_of_holders exW2 hi2 exOwned.2 0

/-- Boundary of g2 (why its hypothesis is needed): `releaseIfIdle` run on a processor that is shut
down with a part in process does release — the model relies on the RELEASE event being paused with
the machine's other events during a maintenance shutdown. -/
example :
    (((exW2.shutdownDev 0 false none).releaseIfIdle 0).dev 0).part = some 0 ∧
    (((exW2.shutdownDev 0 false none).releaseIfIdle 0).dev 0).reserved = none := by decide

/-- g: the processor invariant holds in the example and is not trivial there. -/
example : ProcInv exW2 0 ∧ Holding exW2 0 [(0, 2), (1, 0)] := by
  have hh : Holding exW2 0 [(0, 2), (1, 0)] := ⟨0, by decide, by decide⟩
  refine ⟨?_, hh⟩
  intro req hreq
  have : req = [(0, 2), (1, 0)] := by
    have h2 : (exW2.dev 0).resReq = some [(0, 2), (1, 0)] := by decide
    rw [h2] at hreq; cases hreq; rfl
  subst this
  refine ⟨fun id hid => ?_, fun _ => by decide⟩
  have h2 : (exW2.dev 0).reserved = some 0 := by decide
  rw [h2] at hid; cases hid
  decide

end C11
end SimProc
