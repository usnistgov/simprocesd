/-
C15 — the data the simulator records (`simulation_data`, modelled by `World.recs`) is a faithful
log.

(a) The log is append-only: every model function that can run inside an event only appends
    records (`Ext`), and none of them moves the clock (`ExtN`); hence every step of the event loop
    extends the log (`trace_is_append_only`).
(b) Exactly one record per occurrence, stamped with the current time and the current values, for
    every `add_datapoint` site of the model: failure, received, produced, supplied, resource
    update, schedule update, work orders.  The counter of a source moves exactly with its
    `supplied_new_part` records (`supplied_count`), the counter of a sink with the parts received.
(c) Last-record invariants in one-step form: the records returned by the resource manager are a
    faithful log of the pools (`last_resource_eq_*`), the `level` records of a buffer show its
    level (`last_level_eq_*`), and nothing else changes a level.  Beyond one step: every function
    of the factory floor logs every level change (`level_always_logged`), so "last `level` record
    = level" is an invariant of all script-free event actions (`last_level_eq_exec`).
(d) The `add_datapoint` sites regenerated from the Python sources are exactly the ones the model
    mirrors (`sites_complete`).
-/
import SimProc.Proofs.C15Lemmas
import SimProc.Gen.Facts

namespace SimProc
namespace C15
open World

/-! ### (a) the log is append-only -/

/-- `Ext` is reflexive. -/
theorem ext_refl (w : World) : Ext w w := Ext.refl w

/-- `Ext` is transitive. -/
theorem ext_trans {a b c : World} (h₁ : Ext a b) (h₂ : Ext b c) : Ext a c := h₁.trans h₂

/-- `ExtN w w'` (the form in which everything below is stated) says: same clock, and `Ext w w'`. -/
theorem extN_iff (w w' : World) : ExtN w w' ↔ w'.now = w.now ∧ Ext w w' :=
  ⟨fun h => ⟨h.now_eq, h.ext⟩, fun h => ⟨h.1, h.2⟩⟩

/-! Functions that write no record at all: the log and the clock are unchanged. -/

/-- `setWaiting` writes no record and does not move the clock. -/
theorem recs_setWaiting (w : World) (x : Nat) (a b : Bool) :
    (w.setWaiting x a b).recs = w.recs ∧ (w.setWaiting x a b).now = w.now :=
  ⟨RN_recs (RN_setWaiting w x a b), RN_now (RN_setWaiting w x a b)⟩

/-- `schedulePass` writes no record and does not move the clock. -/
theorem recs_schedulePass (w : World) (x : Nat) (o : Int) :
    (w.schedulePass x o).recs = w.recs ∧ (w.schedulePass x o).now = w.now :=
  ⟨RN_recs (RN_schedulePass w x o), RN_now (RN_schedulePass w x o)⟩

/-- `notifyUp` writes no record and does not move the clock. -/
theorem recs_notifyUp (w : World) (n x : Nat) :
    (notifyUp n w x).recs = w.recs ∧ (notifyUp n w x).now = w.now :=
  ⟨RN_recs (RN_notifyUp n w x), RN_now (RN_notifyUp n w x)⟩

/-- `spaceAvail` writes no record and does not move the clock. -/
theorem recs_spaceAvail (w : World) (n x : Nat) :
    (spaceAvail n w x).recs = w.recs ∧ (spaceAvail n w x).now = w.now :=
  ⟨RN_recs (RN_spaceAvail n w x), RN_now (RN_spaceAvail n w x)⟩

/-- `notify` writes no record and does not move the clock. -/
theorem recs_notify (w : World) (x : Nat) :
    (w.notify x).recs = w.recs ∧ (w.notify x).now = w.now :=
  ⟨RN_recs (RN_notify w x), RN_now (RN_notify w x)⟩

/-- `spaceAvailable` writes no record and does not move the clock. -/
theorem recs_spaceAvailable (w : World) (x : Nat) :
    (w.spaceAvailable x).recs = w.recs ∧ (w.spaceAvailable x).now = w.now :=
  ⟨RN_recs (RN_spaceAvailable w x), RN_now (RN_spaceAvailable w x)⟩

/-- `applyPartCb` writes no record and does not move the clock. -/
theorem recs_applyPartCb (w : World) (x p : Nat) (c : PartCb) :
    (w.applyPartCb x p c).recs = w.recs ∧ (w.applyPartCb x p c).now = w.now :=
  ⟨RN_recs (RN_applyPartCb w x p c), RN_now (RN_applyPartCb w x p c)⟩

/-- `senseOutput` writes no record and does not move the clock. -/
theorem recs_senseOutput (w : World) (s p : Nat) :
    (w.senseOutput s p).recs = w.recs ∧ (w.senseOutput s p).now = w.now :=
  ⟨RN_recs (RN_senseOutput w s p), RN_now (RN_senseOutput w s p)⟩

/-- `finishCycleHandler` writes no record and does not move the clock. -/
theorem recs_finishCycleHandler (w : World) (x : Nat) :
    (w.finishCycleHandler x).recs = w.recs ∧ (w.finishCycleHandler x).now = w.now :=
  ⟨RN_recs (RN_finishCycleHandler w x), RN_now (RN_finishCycleHandler w x)⟩

/-- `genPart` writes no record and does not move the clock. -/
theorem recs_genPart (w : World) (x : Nat) :
    ((w.genPart x).1).recs = w.recs ∧ ((w.genPart x).1).now = w.now :=
  ⟨RN_recs (RN_genPart w x), RN_now (RN_genPart w x)⟩

/-- `addHist` writes no record and does not move the clock. -/
theorem recs_addHist (w : World) (p d : Nat) :
    (w.addHist p d).recs = w.recs ∧ (w.addHist p d).now = w.now :=
  ⟨RN_recs (RN_addHist w p d), RN_now (RN_addHist w p d)⟩

/-- `dropHist` writes no record and does not move the clock. -/
theorem recs_dropHist (w : World) (p : Nat) :
    (w.dropHist p).recs = w.recs ∧ (w.dropHist p).now = w.now :=
  ⟨RN_recs (RN_dropHist w p), RN_now (RN_dropHist w p)⟩

/-- `batcherLoop` writes no record and does not move the clock. -/
theorem recs_batcherLoop (w : World) (n x : Nat) :
    (batcherLoop n w x).recs = w.recs ∧ (batcherLoop n w x).now = w.now :=
  ⟨RN_recs (RN_batcherLoop n w x), RN_now (RN_batcherLoop n w x)⟩

/-- `shutdownDev` writes no record and does not move the clock. -/
theorem recs_shutdownDev (w : World) (x : Nat) (f : Bool) (lost : Option Nat) :
    (w.shutdownDev x f lost).recs = w.recs ∧ (w.shutdownDev x f lost).now = w.now :=
  ⟨RN_recs (RN_shutdownDev w x f lost), RN_now (RN_shutdownDev w x f lost)⟩

/-- `restoreDev` writes no record and does not move the clock. -/
theorem recs_restoreDev (w : World) (x : Nat) :
    (w.restoreDev x).recs = w.recs ∧ (w.restoreDev x).now = w.now :=
  ⟨RN_recs (RN_restoreDev w x), RN_now (RN_restoreDev w x)⟩

/-- `procResourceCb` writes no record and does not move the clock. -/
theorem recs_procResourceCb (w : World) (x : Nat) :
    (w.procResourceCb x).recs = w.recs ∧ (w.procResourceCb x).now = w.now :=
  ⟨RN_recs (RN_procResourceCb w x), RN_now (RN_procResourceCb w x)⟩

/-- `setBlock` writes no record and does not move the clock. -/
theorem recs_setBlock (w : World) (x : Nat) (b : Bool) :
    (w.setBlock x b).recs = w.recs ∧ (w.setBlock x b).now = w.now :=
  ⟨RN_recs (RN_setBlock w x b), RN_now (RN_setBlock w x b)⟩

/-- `adjustParts` writes no record and does not move the clock. -/
theorem recs_adjustParts (w : World) (x : Nat) (v : Int) :
    (w.adjustParts x v).recs = w.recs ∧ (w.adjustParts x v).now = w.now :=
  ⟨RN_recs (RN_adjustParts w x v), RN_now (RN_adjustParts w x v)⟩

/-- `rewire` writes no record and does not move the clock. -/
theorem recs_rewire (w : World) (x : Nat) (ups : List Nat) :
    (w.rewire x ups).recs = w.recs ∧ (w.rewire x ups).now = w.now :=
  ⟨RN_recs (RN_rewire w x ups), RN_now (RN_rewire w x ups)⟩

/-! Every function that can run inside an event only extends the log, and keeps the clock. -/

/-- `setWaiting` only extends the log (trivially: it writes nothing). -/
theorem ext_setWaiting (w : World) (x : Nat) (a b : Bool) : ExtN w (w.setWaiting x a b) :=
  ExtN.floor.setWaiting w x a b

/-- `schedulePass` only extends the log (trivially: it writes nothing). -/
theorem ext_schedulePass (w : World) (x : Nat) (o : Int) : ExtN w (w.schedulePass x o) :=
  ExtN.floor.schedulePass w x o

/-- `notifyUp` only extends the log (trivially: it writes nothing). -/
theorem ext_notifyUp (w : World) (n x : Nat) : ExtN w (notifyUp n w x) :=
  ExtN.floor.notifyUp n w x

/-- `spaceAvail` only extends the log (trivially: it writes nothing). -/
theorem ext_spaceAvail (w : World) (n x : Nat) : ExtN w (spaceAvail n w x) :=
  ExtN.floor.spaceAvail n w x

/-- `notify` only extends the log (trivially: it writes nothing). -/
theorem ext_notify (w : World) (x : Nat) : ExtN w (w.notify x) :=
  ExtN.floor.notify w x

/-- `spaceAvailable` only extends the log (trivially: it writes nothing). -/
theorem ext_spaceAvailable (w : World) (x : Nat) : ExtN w (w.spaceAvailable x) :=
  ExtN.floor.spaceAvailable w x

/-- `applyPartCb` only extends the log (trivially: it writes nothing). -/
theorem ext_applyPartCb (w : World) (x p : Nat) (c : PartCb) : ExtN w (w.applyPartCb x p c) :=
  ExtN.floor.applyPartCb w x p c

/-- `senseOutput` only extends the log (trivially: it writes nothing). -/
theorem ext_senseOutput (w : World) (s p : Nat) : ExtN w (w.senseOutput s p) :=
  World.senseOutput_walk ExtN.refl ExtN.trans (fun _ _ => ExtN.of_RN rfl) (fun _ _ _ => ExtN.of_RN rfl) w s p

/-- `finishCycleHandler` only extends the log (trivially: it writes nothing). -/
theorem ext_finishCycleHandler (w : World) (x : Nat) : ExtN w (w.finishCycleHandler x) :=
  ExtN.floor.finishCycleHandler w x

/-- `genPart` only extends the log (trivially: it writes nothing). -/
theorem ext_genPart (w : World) (x : Nat) : ExtN w ((w.genPart x).1) :=
  ExtN.floor.genPart w x

/-- `addHist` only extends the log (trivially: it writes nothing). -/
theorem ext_addHist (w : World) (p d : Nat) : ExtN w (w.addHist p d) :=
  ExtN.floor.addHist w p d

/-- `dropHist` only extends the log (trivially: it writes nothing). -/
theorem ext_dropHist (w : World) (p : Nat) : ExtN w (w.dropHist p) :=
  ExtN.floor.dropHist w p

/-- `batcherLoop` only extends the log (trivially: it writes nothing). -/
theorem ext_batcherLoop (w : World) (n x : Nat) : ExtN w (batcherLoop n w x) :=
  ExtN.floor.batcherLoop n w x

/-- `shutdownDev` only extends the log (trivially: it writes nothing). -/
theorem ext_shutdownDev (w : World) (x : Nat) (f : Bool) (lost : Option Nat) : ExtN w (w.shutdownDev x f lost) :=
  ExtN.floor.shutdownDev w x f lost

/-- `restoreDev` only extends the log (trivially: it writes nothing). -/
theorem ext_restoreDev (w : World) (x : Nat) : ExtN w (w.restoreDev x) :=
  ExtN.floor.restoreDev w x

/-- `procResourceCb` only extends the log (trivially: it writes nothing). -/
theorem ext_procResourceCb (w : World) (x : Nat) : ExtN w (w.procResourceCb x) :=
  ExtN.floor.procResourceCb w x

/-- `setBlock` only extends the log (trivially: it writes nothing). -/
theorem ext_setBlock (w : World) (x : Nat) (b : Bool) : ExtN w (w.setBlock x b) :=
  ExtN.floor.setBlock w x b

/-- `adjustParts` only extends the log (trivially: it writes nothing). -/
theorem ext_adjustParts (w : World) (x : Nat) (v : Int) : ExtN w (w.adjustParts x v) :=
  ExtN.floor.adjustParts w x v

/-- `rewire` only extends the log (trivially: it writes nothing). -/
theorem ext_rewire (w : World) (x : Nat) (ups : List Nat) : ExtN w (w.rewire x ups) :=
  ExtN.floor.rewire w x ups

/-- `rmEffects` only extends the log and keeps the clock. -/
theorem ext_rmEffects (w : World) (recs : List ResRec) (chk : Bool) : ExtN w (w.rmEffects recs chk) :=
  ExtN.floor.rmEffects w recs chk

/-- `releaseReserved` only extends the log and keeps the clock. -/
theorem ext_releaseReserved (w : World) (x : Nat) : ExtN w (w.releaseReserved x) :=
  ExtN.floor.releaseReserved w x

/-- `procAcquire` only extends the log and keeps the clock. -/
theorem ext_procAcquire (w : World) (x : Nat) : ExtN w ((w.procAcquire x).1) :=
  ExtN.floor.procAcquire w x

/-- `finishCycle` only extends the log and keeps the clock. -/
theorem ext_finishCycle (w : World) (x : Nat) : ExtN w (w.finishCycle x) :=
  ExtN.floor.finishCycle w x

/-- `scheduleFinish` only extends the log and keeps the clock. -/
theorem ext_scheduleFinish (w : World) (x : Nat) : ExtN w (w.scheduleFinish x) :=
  ExtN.floor.scheduleFinish w x

/-- `tryMove` only extends the log and keeps the clock. -/
theorem ext_tryMove (w : World) (x : Nat) : ExtN w (w.tryMove x) :=
  ExtN.floor.tryMove w x

/-- `onReceived` only extends the log and keeps the clock. -/
theorem ext_onReceived (w : World) (x p : Nat) : ExtN w (w.onReceived x p) :=
  ExtN.floor.onReceived w x p

/-- `acceptPart` only extends the log and keeps the clock. -/
theorem ext_acceptPart (w : World) (x p : Nat) : ExtN w (w.acceptPart x p) :=
  ExtN.floor.acceptPart w x p

/-- `give` only extends the log and keeps the clock. -/
theorem ext_give (w : World) (n x p : Nat) : ExtN w ((give n w x p).1) :=
  ExtN.floor.give n w x p

/-- `givePart` only extends the log and keeps the clock. -/
theorem ext_givePart (w : World) (x p : Nat) : ExtN w ((w.givePart x p).1) :=
  ExtN.floor.givePart w x p

/-- `tryList_givePart` only extends the log and keeps the clock. -/
theorem ext_tryList_givePart (w : World) (l : List Nat) (p : Nat) : ExtN w ((tryList givePart w l p).1) :=
  ExtN.floor.tryList_givePart w l p

/-- `passHandler` only extends the log and keeps the clock. -/
theorem ext_passHandler (w : World) (x : Nat) : ExtN w (w.passHandler x) :=
  ExtN.floor.passHandler w x

/-- `bufferLoop` only extends the log and keeps the clock. -/
theorem ext_bufferLoop (w : World) (n x : Nat) : ExtN w (bufferLoop n w x) :=
  ExtN.floor.bufferLoop n w x

/-- `passPart` only extends the log and keeps the clock. -/
theorem ext_passPart (w : World) (x : Nat) : ExtN w (w.passPart x) :=
  ExtN.floor.passPart w x

/-- `failDev` only extends the log and keeps the clock. -/
theorem ext_failDev (w : World) (x : Nat) : ExtN w (w.failDev x) :=
  ExtN.floor.failDev w x

/-- `releaseIfIdle` only extends the log and keeps the clock. -/
theorem ext_releaseIfIdle (w : World) (x : Nat) : ExtN w (w.releaseIfIdle x) :=
  ExtN.floor.releaseIfIdle w x

/-- `initDev` only extends the log and keeps the clock. -/
theorem ext_initDev (w : World) (x : Nat) : ExtN w (w.initDev x) :=
  ExtN.floor.initDev w x

/-- `applyOp` only extends the log and keeps the clock. -/
theorem ext_applyOp (w : World) (op : Op) : ExtN w ((w.applyOp op).1) :=
  ExtN_applyOp w op

/-- `applyOps` only extends the log and keeps the clock. -/
theorem ext_applyOps (w : World) (ops : List Op) : ExtN w (w.applyOps ops) :=
  ExtN_applyOps w ops

/-- `runScript` only extends the log and keeps the clock. -/
theorem ext_runScript (w : World) (k : Nat) : ExtN w (w.runScript k) :=
  ExtN_runScript w k

/-- `scanWaiting` only extends the log and keeps the clock. -/
theorem ext_scanWaiting (w : World) (n i : Nat) : ExtN w (scanWaiting scanOps n w i) :=
  ExtN_scanWaiting n w i

/-- `rmCheck` only extends the log and keeps the clock. -/
theorem ext_rmCheck (w : World)  : ExtN w (w.rmCheck) :=
  ExtN_rmCheck w

/-- `hookStart` only extends the log and keeps the clock. -/
theorem ext_hookStart (w : World) (tgt : Nat) (tag : Int) : ExtN w (w.hookStart tgt tag) :=
  ExtN_hookStart w tgt tag

/-- `hookEnd` only extends the log and keeps the clock. -/
theorem ext_hookEnd (w : World) (tgt : Nat) (tag : Int) : ExtN w (w.hookEnd tgt tag) :=
  ExtN_hookEnd w tgt tag

/-- `startWork` only extends the log and keeps the clock. -/
theorem ext_startWork (w : World) (m seq : Nat) : ExtN w (w.startWork m seq) :=
  ExtN_startWork w m seq

/-- `finishWork` only extends the log and keeps the clock. -/
theorem ext_finishWork (w : World) (m seq : Nat) : ExtN w (w.finishWork m seq) :=
  ExtN_finishWork w m seq

/-- `schedUpdate` only extends the log and keeps the clock. -/
theorem ext_schedUpdate (w : World) (s : Nat) (advance : Bool) : ExtN w (w.schedUpdate s advance) :=
  ExtN_schedUpdate w s advance

/-- `periodicSense` only extends the log and keeps the clock. -/
theorem ext_periodicSense (w : World) (s : Nat) : ExtN w (w.periodicSense s) :=
  ExtN_periodicSense w s

/-- `exec` only extends the log and keeps the clock. -/
theorem ext_exec (w : World) (a : Action) : ExtN w (w.exec a) :=
  ExtN_exec w a

/-- `initAsset` only extends the log and keeps the clock. -/
theorem ext_initAsset (w : World) (a : AssetRef) : ExtN w (w.initAsset a) :=
  ExtN_initAsset w a

/-- `addDev` only extends the log and keeps the clock. -/
theorem ext_addDev (w : World) (d : Dev) : ExtN w (w.addDev d) :=
  ExtN_addDev w d

/-- `addAsset` only extends the log and keeps the clock. -/
theorem ext_addAsset (w : World) (spec : AssetSpec) : ExtN w (w.addAsset spec) :=
  ExtN_addAsset w spec

/-- `simulateInit` only extends the log and keeps the clock. -/
theorem ext_simulateInit (w : World)  : ExtN w (w.simulateInit) :=
  ExtN_simulateInit w

/-- A general `tryList` extends the log if the function it iterates does. -/
theorem ext_tryList (g : World → Nat → Nat → World × Bool)
    (hg : ∀ w y p, ExtN w (g w y p).1) (w : World) (l : List Nat) (p : Nat) :
    ExtN w (tryList g w l p).1 :=
  ExtN.floor.tryList g hg w l p

/-- **The trace is append-only**: a step of the event loop (`Environment.step`: pop an event, set
the clock, run its action unless cancelled) never removes or rewrites a record. -/
theorem trace_is_append_only {w w' : World} {e : Event} (h : w.step = some (e, w')) : Ext w w' :=
  Ext_step h

/-- Consequently every record of the old log is still there, at the same position. -/
theorem trace_prefix {w w' : World} {e : Event} (h : w.step = some (e, w')) (i : Nat)
    (hi : i < w.recs.length) : w'.recs[i]? = w.recs[i]? := by
  obtain ⟨l, hl⟩ := trace_is_append_only h
  rw [hl, List.getElem?_append_left hi]

/-! ### (b) exactly one record per occurrence, stamped with the current values -/

/-- `rmEffects`: the records returned by the resource manager are appended in order, each stamped
with the current time. -/
theorem resource_records (w : World) (recs : List ResRec) (chk : Bool) :
    (w.rmEffects recs chk).recs =
      w.recs ++ recs.map (fun r => Rec.resUpdate r.res w.now r.inUse r.cap) :=
  rmEffects_recs' w recs chk

/-- `_fail()`: the `resource_update` records of the release of the reserved resources, followed by
exactly one `device_failure` record with the current time and the part that was in process. -/
theorem failure_record (w : World) (x : Nat) :
    (w.failDev x).recs =
      w.recs ++ releaseRecs w x ++ [Rec.failure x w.now (w.dev x).part] :=
  failDev_recs w x

/-- The records in front of the failure record are the stamped records of
`ReservedResources.release()` (none if nothing was reserved). -/
theorem failure_record_resources (w : World) (x : Nat) :
    releaseRecs w x =
      match (w.dev x).reserved with
      | none => []
      | some id => (w.rm.release id none).2.2.1.map
          (fun r => Rec.resUpdate r.res w.now r.inUse r.cap) := rfl

/-- `_on_received_new_part`: (for a buffer: the new level, then) exactly one `received_part`
record with the current time and the part's quality and value BEFORE the receive callbacks run;
everything after it is written by the move attempt. -/
theorem received_record (w : World) (x p : Nat) :
    ∃ tail, (w.onReceived x p).recs =
      w.recs ++
        (if (w.dev x).kind = .buffer then [Rec.level x w.now ((w.dev x).level + w.leafCount p)]
          else []) ++
        [Rec.received x w.now p (w.part p).quality (w.partValue p)] ++ tail :=
  onReceived_recs w x p

/-- The same for `_accept_part` (which calls `_on_received_new_part`). -/
theorem received_record_accept (w : World) (x p : Nat) :
    ∃ tail, (w.acceptPart x p).recs =
      w.recs ++
        (if (w.dev x).kind = .buffer then [Rec.level x w.now ((w.dev x).level + w.leafCount p)]
          else []) ++
        [Rec.received x w.now p (w.part p).quality (w.partValue p)] ++ tail :=
  acceptPart_recs w x p

/-- A buffer that receives a part writes exactly two records: its new level and the
`received_part` record. -/
theorem received_record_buffer (w : World) (x p : Nat) (h : (w.dev x).kind = .buffer) :
    (w.onReceived x p).recs = w.recs ++
      [Rec.level x w.now ((w.dev x).level + w.leafCount p),
       Rec.received x w.now p (w.part p).quality (w.partValue p)] :=
  onReceived_buffer_recs w x p h

/-- The counter of a sink goes up by the number of parts received (a batch counts its parts),
together with the one `received_part` record of `received_record`. -/
theorem sink_count (w : World) (x p : Nat) (h : (w.dev x).kind = .sink) :
    ((w.onReceived x p).dev x).recvCount = (w.dev x).recvCount + w.leafCount p ∧
    ((w.acceptPart x p).dev x).recvCount = (w.dev x).recvCount + w.leafCount p :=
  ⟨onReceived_sink_recvCount w x p h, acceptPart_sink_recvCount w x p h⟩

/-- A processor's `_finish_cycle` writes at most one record, a `produced_part` record, as the
LAST thing it does; it carries the current time and the quality and value the part has AFTER the
finish callbacks (= in the resulting world).  `procPre` is the handler part of the method. -/
theorem produced_record (w : World) (x : Nat) (h : (w.dev x).kind = .processor) :
    (w.finishCycle x).recs = w.recs ++
      match ((procPre w x).dev x).output with
      | none => []
      | some p => [Rec.produced x w.now p ((w.finishCycle x).part p).quality
          ((w.finishCycle x).partValue p)] :=
  finishCycle_processor_recs w x h

/-- Exactly one `produced_part` record per finished cycle: on an operational processor that
holds part `p` and has a free output the handler part succeeds. -/
theorem produced_record_once (w : World) (x p : Nat) (h : (w.dev x).kind = .processor)
    (hop : w.operational x = true) (hp : (w.dev x).part = some p)
    (ho : (w.dev x).output = none) :
    (w.finishCycle x).recs = w.recs ++
      [Rec.produced x w.now p ((w.finishCycle x).part p).quality
          ((w.finishCycle x).partValue p)] :=
  finishCycle_processor_produced w x p h hop hp ho

/-- The `_finish_cycle` of every other device writes nothing. -/
theorem produced_record_only_processors (w : World) (x : Nat) (h : (w.dev x).kind ≠ .processor) :
    (w.finishCycle x).recs = w.recs :=
  finishCycle_other_recs w x h

/-- `Source._pass_part_downstream`: either the hand-over succeeded — then exactly one
`supplied_new_part` record is written (current time, the part that was in the output; the
records around it are not `supplied_new_part` records) and the counter of this source, and of no
other device, goes up by one — or no such record is written and no counter changes (`ExtF`). -/
theorem supplied_record (w : World) (x : Nat) (h : (w.dev x).kind = .source) :
    (∃ p l₁ l₂, (w.dev x).output = some p ∧
        (w.passPart x).recs = w.recs ++ l₁ ++ [Rec.supplied x w.now p] ++ l₂ ∧
        (∀ r ∈ l₁, isSup r = false) ∧ (∀ r ∈ l₂, isSup r = false) ∧
        ((w.passPart x).dev x).produced = (w.dev x).produced + 1 ∧
        ∀ y, y ≠ x → ((w.passPart x).dev y).produced = (w.dev y).produced) ∨
      ExtF w (w.passPart x) :=
  passPart_source_cases w x h

/-- What `ExtF` gives: no `supplied_new_part` record is appended, no counter changes. -/
theorem extF_spec {w w' : World} (h : ExtF w w') :
    w'.now = w.now ∧ (∃ l, w'.recs = w.recs ++ l ∧ ∀ r ∈ l, isSup r = false) ∧
    (∀ y, (w'.dev y).produced = (w.dev y).produced) ∧
    ∀ y, countSupplied w' y = countSupplied w y :=
  ⟨h.now_eq, h.ext, h.produced, h.countSupplied⟩

/-- `_pass_part_downstream` of every device that is not a source writes no
`supplied_new_part` record and changes no counter. -/
theorem supplied_record_only_sources (w : World) (x : Nat) (h : (w.dev x).kind ≠ .source) :
    ExtF w (w.passPart x) :=
  ExtF.frame.passPart_other w x h

/-- **supplied_count**, one step: `_pass_part_downstream` of ANY device `x` preserves, for EVERY
device `y`, the difference between the counter `produced` and the number of
`supplied_new_part` records of `y`: both go up by one together or not at all. -/
theorem supplied_count (w : World) (x y : Nat) :
    ((w.passPart x).dev y).produced - countSupplied (w.passPart x) y =
      (w.dev y).produced - countSupplied w y :=
  passPart_supplied_count w x y

/-- The same for the actions of all events that run no scenario script (the remaining actions —
`script`, `rmCheck`, `startWork`, `finishWork` — may run scripted operations that create devices). -/
theorem supplied_count_exec (w : World) (a : Action) (y : Nat)
    (ha : match a with
      | .terminate | .finishCycle _ | .passPart _ | .fail _ | .releaseIfIdle _
      | .schedUpdate _ | .periodicSense _ | .unknown _ => True
      | _ => False) :
    ((w.exec a).dev y).produced - countSupplied (w.exec a) y =
      (w.dev y).produced - countSupplied w y :=
  exec_supplied_count w a y ha

/-- Hence `produced = #supplied_new_part records` is preserved by these actions. -/
theorem supplied_count_inv (w : World) (a : Action) (y : Nat)
    (ha : match a with
      | .terminate | .finishCycle _ | .passPart _ | .fail _ | .releaseIfIdle _
      | .schedUpdate _ | .periodicSense _ | .unknown _ => True
      | _ => False)
    (h : (w.dev y).produced = countSupplied w y) :
    ((w.exec a).dev y).produced = countSupplied (w.exec a) y := by
  have := supplied_count_exec w a y ha
  omega

/-- `ActionScheduler._update_state`: exactly one `schedule_update` record (current time, the
state entered) when a transition happens, none when a non-cyclical schedule has run out. -/
theorem schedule_record (w : World) (s : Nat) (advance : Bool) :
    (w.schedUpdate s advance).recs = w.recs ++
      match ((w.scheds.getD s default).s.update advance).2 with
      | none => []
      | some (st, _, _) => [Rec.schedUpdate s w.now st] :=
  schedUpdate_recs w s advance

/-- `create_work_order`: exactly one `enter_queue` record (current time, target, tag, info) iff
the request is not a duplicate; nothing else is written. -/
theorem work_order_enter_record (w : World) (m tgt : Nat) (tag info : Int) :
    (w.applyOp (.workOrder m tgt tag info)).1.recs = w.recs ++
      if (w.maint m).requested tgt tag then [] else [Rec.workOrder 0 m w.now tgt tag info] :=
  applyOp_workOrder_recs w m tgt tag info

/-- `_start_work_order`: exactly one `start` record for the order, written before the target's
`start_work` hook runs (the tail is what the hook writes; nothing for a processor target). -/
theorem work_order_start_record (w : World) (m seq : Nat) (o : Order)
    (h : (w.maint m).findActive seq = some o) :
    ∃ tail, (w.startWork m seq).recs =
      w.recs ++ [Rec.workOrder 1 m w.now o.target o.tag o.info] ++ tail :=
  startWork_recs w m seq o h

/-- `_finish_work_order`: exactly one `finish` record for the order, the LAST record, written
after the target's `end_work` hook has run (`pre` is what the hook writes). -/
theorem work_order_finish_record (w : World) (m seq : Nat) (o : Order)
    (h : (w.maint m).findActive seq = some o) :
    ∃ pre, (w.finishWork m seq).recs =
      w.recs ++ pre ++ [Rec.workOrder 2 m w.now o.target o.tag o.info] :=
  finishWork_recs w m seq o h

/-- No order, no record. -/
theorem work_order_unknown (w : World) (m seq : Nat) (h : (w.maint m).findActive seq = none) :
    (w.startWork m seq).recs = w.recs ∧ (w.finishWork m seq).recs = w.recs :=
  ⟨startWork_none_recs w m seq h, finishWork_none_recs w m seq h⟩

/-- The default hooks (the target is a processor: shut down / restore) write nothing. -/
theorem work_order_default_hooks (w : World) (tgt : Nat) (tag : Int) (d : Nat)
    (h : (w.targets.getD tgt default).dev = some d) :
    (w.hookStart tgt tag).recs = w.recs ∧ (w.hookEnd tgt tag).recs = w.recs :=
  ⟨hookStart_dev_recs w tgt tag d h, hookEnd_dev_recs w tgt tag d h⟩

/-! ### (c) last-record invariants, one step -/

/-- What `Faithful rm rm' recs` says, spelled out: if the pool of `r` changed, `recs` contains a
record about `r` and the last such record is the new pool; a resource without a record is
unchanged. -/
theorem faithful_spec {rm rm' : RM} {recs : List ResRec} (h : Faithful rm rm' recs) (r : Nat) :
    (∀ x, lastFor recs r = some x → x = ⟨r, rm'.usage r, rm'.capacity r⟩) ∧
    (lastFor recs r = none → rm'.usage r = rm.usage r ∧ rm'.capacity r = rm.capacity r) ∧
    ((rm'.usage r, rm'.capacity r) ≠ (rm.usage r, rm.capacity r) →
      ∃ x, x ∈ recs ∧ lastFor recs r = some x ∧ x = ⟨r, rm'.usage r, rm'.capacity r⟩) := by
  have hr := h r
  refine ⟨?_, ?_, ?_⟩
  · intro x hx; rw [hx] at hr; exact hr
  · intro hn; rw [hn] at hr
    exact ⟨congrArg Prod.fst hr, congrArg Prod.snd hr⟩
  · intro hne
    cases e : lastFor recs r with
    | none => rw [e] at hr; exact absurd hr hne
    | some x =>
      rw [e] at hr
      refine ⟨x, ?_, rfl, hr⟩
      have : x ∈ recs.filter (fun y => y.res == r) := List.mem_of_getLast? e
      exact (List.mem_filter.1 this).1

/-- **last_resource_eq**, `add_resources` on an initialised manager. -/
theorem last_resource_eq_add (rm : RM) (r : Nat) (amt : Int) (hi : rm.inited = true) :
    Faithful rm (rm.add r amt).1 (rm.add r amt).2.2.1 :=
  Faithful.add rm r amt hi

/-- **last_resource_eq**, `reserve_resources` on an initialised manager. -/
theorem last_resource_eq_reserve (rm : RM) (req : Req) (hi : rm.inited = true) :
    Faithful rm (rm.reserve req).1 (rm.reserve req).2.2.2 :=
  Faithful.reserve rm req hi

/-- **last_resource_eq**, `ReservedResources.release` (all or part) on an initialised manager. -/
theorem last_resource_eq_release (rm : RM) (id : Nat) (part : Option Req)
    (hi : rm.inited = true) :
    Faithful rm (rm.release id part).1 (rm.release id part).2.2.1 :=
  Faithful.release rm id part hi

/-- The pool-level functions `take` / `credit` (`_reserve` / `_release_resources`). -/
theorem last_resource_eq_take_credit (rm : RM) (req : Req) (hi : rm.inited = true) :
    Faithful rm (rm.take req).1 (rm.take req).2 ∧ Faithful rm (rm.credit req).1 (rm.credit req).2 :=
  ⟨Faithful.take rm req hi, Faithful.credit rm req hi⟩

/-- The same at the level of the world's log (`ResStep w w'`: the log is extended, the last
`resource_update` record of every resource in the new piece shows the new pool, a resource
without a new record has an unchanged pool), for the scripted operations and for
`_release_reserved_resources`. -/
theorem last_resource_eq_world (w : World) (hi : w.rm.inited = true) :
    (∀ r amt, ResStep w (w.applyOp (.addRes r amt)).1) ∧
    (∀ h req, ResStep w (w.applyOp (.reserve h req)).1) ∧
    (∀ h part, ResStep w (w.applyOp (.release h part)).1) ∧
    (∀ x, ResStep w (w.releaseReserved x)) :=
  ⟨fun r amt => applyOp_addRes_resStep w r amt hi,
   fun h req => applyOp_reserve_resStep w h req hi,
   fun h part => applyOp_release_resStep w h part hi,
   fun x => releaseReserved_resStep w x hi⟩

/-- **last_level_eq**, receiving: after a buffer accepted a part, its last `level` record is its
level (which went up by the number of parts received). -/
theorem last_level_eq_accept (w : World) (x p : Nat) (h : (w.dev x).kind = .buffer) :
    lastLevel (w.acceptPart x p).recs x = some ((w.acceptPart x p).dev x).level ∧
    ((w.acceptPart x p).dev x).level = (w.dev x).level + w.leafCount p :=
  ⟨acceptPart_buffer_lastLevel w x p h, acceptPart_buffer_level w x p h⟩

/-- The release loop of `Buffer._pass_part_downstream`, unfolded once: after every successful
hand-over it performs the release step `releaseStep` … -/
theorem bufferLoop_step (f : Nat) (w : World) (x : Nat) :
    bufferLoop (f + 1) w x =
      match (w.dev x).buf with
      | [] => w
      | (t, p) :: _ =>
        if (w.dev x).delay - (w.now - t) > 0 then w
        else match tryList givePart w (w.sortedDown x) p with
          | (w1, true) => bufferLoop f (releaseStep w1 x (w.leafCount p)) x
          | (w1, false) => w1 :=
  bufferLoop_succ f w x

/-- … **last_level_eq**, releasing: and the release step writes exactly one `level` record, equal
to the buffer's new level (the old level minus the parts released). -/
theorem last_level_eq_release (w : World) (x n : Nat) :
    (releaseStep w x n).recs = w.recs ++ [Rec.level x w.now ((releaseStep w x n).dev x).level] ∧
    lastLevel (releaseStep w x n).recs x = some ((releaseStep w x n).dev x).level ∧
    (x < w.devs.length → ((releaseStep w x n).dev x).level = (w.dev x).level - n) :=
  ⟨releaseStep_recs w x n, releaseStep_lastLevel w x n, releaseStep_level w x n⟩

/-- What `ExtL` gives: no `level` record is appended and the level of every device is unchanged
(and the clock; the log is only extended). -/
theorem extL_spec {w w' : World} (h : ExtL w w') :
    w'.now = w.now ∧ (∃ l, w'.recs = w.recs ++ l ∧ ∀ r ∈ l, isLevel r = false) ∧
    ∀ y, (w'.dev y).level = (w.dev y).level :=
  ⟨h.now_eq, h.ext, h.level⟩

/-- The level of a buffer changes nowhere else among the functions covered in (b): not in `_fail`,
`_finish_cycle`, the cycle machinery behind them, the release of resources, shutdown / restore,
the scheduler's transition, and not when a device other than a buffer receives a part. -/
theorem level_changes_nowhere_else (w : World) :
    (∀ x, ExtL w (w.failDev x)) ∧ (∀ x, ExtL w (w.finishCycle x)) ∧
    (∀ x, ExtL w (w.scheduleFinish x)) ∧ (∀ x, ExtL w (w.tryMove x)) ∧
    (∀ x, ExtL w (w.releaseReserved x)) ∧ (∀ x, ExtL w (w.procAcquire x).1) ∧
    (∀ x, ExtL w (w.releaseIfIdle x)) ∧
    (∀ x f lost, ExtL w (w.shutdownDev x f lost)) ∧ (∀ x, ExtL w (w.restoreDev x)) ∧
    (∀ recs chk, ExtL w (w.rmEffects recs chk)) ∧ (∀ s adv, ExtL w (w.schedUpdate s adv)) ∧
    (∀ x p, (w.dev x).kind ≠ .buffer → ExtL w (w.onReceived x p)) ∧
    (∀ x p, (w.dev x).kind ≠ .buffer → ExtL w (w.acceptPart x p)) :=
  have h := ExtL.frame
  ⟨h.failDev w, h.finishCycle w, h.scheduleFinish w, h.tryMove w, h.releaseReserved w,
   h.procAcquire w, h.releaseIfIdle w, h.shutdownDev w, h.restoreDev w, h.rmEffects w,
   h.schedUpdate w, h.onReceived_other w, h.acceptPart_other w⟩

/-- What `ExtV` gives: the new piece of the log records every level change — for every device,
the last `level` record about it in the new piece is its new level, and a device without a new
`level` record keeps its level. -/
theorem extV_spec {w w' : World} (h : ExtV w w') :
    w'.now = w.now ∧ ∃ l, w'.recs = w.recs ++ l ∧
      ∀ y, (lastLevel l y).getD (w.dev y).level = (w'.dev y).level :=
  ⟨h.now_eq, h.ext⟩

/-- **last_level_eq** beyond one step: EVERY function of the factory floor logs every level change
(`ExtV`): receiving and passing parts through arbitrary networks of devices (`give`, which may
loop back into the same buffer), the buffer's release loop, `_pass_part_downstream` of every
kind of device, initialisation. -/
theorem level_always_logged (w : World) :
    (∀ x p, ExtV w (w.onReceived x p)) ∧ (∀ x p, ExtV w (w.acceptPart x p)) ∧
    (∀ n x p, ExtV w (give n w x p).1) ∧ (∀ x p, ExtV w (w.givePart x p).1) ∧
    (∀ x, ExtV w (w.passHandler x)) ∧ (∀ n x, ExtV w (bufferLoop n w x)) ∧
    (∀ x, ExtV w (w.passPart x)) ∧ (∀ x, ExtV w (w.initDev x)) :=
  have h := ExtV.frame
  ⟨h.onReceived w, h.acceptPart w, fun n x p => h.give n w x p, h.givePart w, h.passHandler w,
   fun n x => h.bufferLoop n w x, ExtV_passPart w, h.initDev w⟩

/-- **last_level_eq** as an invariant: "the last `level` record of every device is its level
(0 if there is none)" is preserved by the action of every event that runs no scenario script
(the remaining actions — `script`, `rmCheck`, `startWork`, `finishWork` — may run scripted
operations; not covered here). -/
theorem last_level_eq_exec (w : World) (a : Action)
    (ha : match a with
      | .terminate | .finishCycle _ | .passPart _ | .fail _ | .releaseIfIdle _
      | .schedUpdate _ | .periodicSense _ | .unknown _ => True
      | _ => False)
    (h : ∀ y, (lastLevel w.recs y).getD 0 = (w.dev y).level) :
    ∀ y, (lastLevel (w.exec a).recs y).getD 0 = ((w.exec a).dev y).level :=
  (ExtV_exec w a ha).levelInv h

/-! ### (d) the `add_datapoint` sites regenerated from the Python sources -/

/-- The (class, method) pairs that write datapoints with the given label. -/
def sitesOf (label : String) : List (String × String) :=
  (Gen.datapointSites.filter (fun s => s.1 == label)).map (·.2)

/-- **sites_complete**: every label has precisely the sites the model mirrors — one site each
for `received_part` (`onReceived`), `produced_part` (processor `finishCycle`),
`supplied_new_part` (source `passPart`), `device_failure` (`failDev`), `resource_update`
(`rmEffects`), `schedule_update` (`schedUpdate`), the maintainer's generic
`_record_work_order_datapoint` (`applyOp .workOrder` / `startWork` / `finishWork`), and two for
`level` (`onReceived` and `bufferLoop`) — and there is no other site. -/
theorem sites_complete :
    sitesOf "received_part" = [("PartHandler", "_on_received_new_part")] ∧
    sitesOf "produced_part" = [("PartProcessor", "_finish_cycle")] ∧
    sitesOf "supplied_new_part" = [("Source", "_pass_part_downstream")] ∧
    sitesOf "device_failure" = [("PartProcessor", "_fail")] ∧
    (sitesOf "level").isPerm
      [("Buffer", "_on_received_new_part"), ("Buffer", "_pass_part_downstream")] = true ∧
    sitesOf "resource_update" = [("ResourceManager", "_record_resource_amount_update")] ∧
    sitesOf "schedule_update" = [("ActionScheduler", "_update_state")] ∧
    sitesOf "$list_label" = [("Maintainer", "_record_work_order_datapoint")] ∧
    (Gen.datapointSites.map (·.1)).isPerm
      ["received_part", "produced_part", "supplied_new_part", "device_failure", "level", "level",
       "resource_update", "schedule_update", "$list_label"] = true := by
  decide

/-! ### non-vacuity -/

/-- A buffer (device 0) in front of a sink (device 1); part 0 exists. -/
def wB : World :=
  { devs := [{ kind := .buffer, inited := true, aid := 1, down := [1] },
             { kind := .sink, inited := true, aid := 2, up := [0] }],
    parts := [{ quality := 3, value := 7 }] }

/-- A processor (device 0) holding part 0, with a finish callback that changes value and quality. -/
def wP : World :=
  { devs := [{ kind := .processor, inited := true, aid := 1, part := some 0,
               finCbs := [{ addValue := 5, setQuality := some 9 }] }],
    parts := [{ quality := 3, value := 7 }] }

/-- A source (device 0) with part 0 in its output, in front of a sink (device 1). -/
def wS : World :=
  { devs := [{ kind := .source, inited := true, aid := 1, output := some 0, down := [1], cycle := 4 },
             { kind := .sink, inited := true, aid := 2, up := [0] }],
    parts := [{ quality := 1, value := 2 }] }

/-- A maintainer and a plain target with parameters for tag 1. -/
def wM : World :=
  { maints := [{ m := {}, aid := 1, inited := true }], targets := [{ params := [(1, 10, 0, 3)] }] }

/-- A scheduler with a two-entry timetable. -/
def wT : World := { scheds := [{ s := { tt := [(5, 1), (3, 0)] }, aid := 1 }] }

/-- An initialised resource manager with one pool. -/
def rm0 : RM := { pools := [(0, 1, 5)], inited := true }

/-- The buffer accepts the part: level record, then the `received_part` record with the part's
quality 3 and value 7; its level is the one recorded. -/
example : (wB.acceptPart 0 0).recs = [Rec.level 0 0 1, Rec.received 0 0 0 3 7] := by decide
example : (wB.dev 0).kind = .buffer ∧ ((wB.acceptPart 0 0).dev 0).level = 1 := by decide
example : lastLevel (wB.acceptPart 0 0).recs 0 = some 1 := by decide

/-- The level invariant holds in `wB` (no record, level 0) and after the buffer received the part
(record 1, level 1): `last_level_eq_exec` is not vacuous. -/
example : (∀ y, y < 2 → (lastLevel wB.recs y).getD 0 = (wB.dev y).level) ∧
    (∀ y, y < 2 → (lastLevel (wB.acceptPart 0 0).recs y).getD 0 = ((wB.acceptPart 0 0).dev y).level) := by
  decide

/-- The sink accepts the part: one `received_part` record, the counter goes from 0 to 1. -/
example : (wB.acceptPart 1 0).recs = [Rec.received 1 0 0 3 7] ∧
    (wB.dev 1).kind = .sink ∧ ((wB.acceptPart 1 0).dev 1).recvCount = 1 := by decide

/-- The hypotheses of `produced_record_once` hold in `wP`; the record carries quality 9 and value
12 — the values AFTER the finish callback (before: 3 and 7). -/
example : (wP.dev 0).kind = .processor ∧ wP.operational 0 = true ∧ (wP.dev 0).part = some 0 ∧
    (wP.dev 0).output = none := by decide
example : (wP.finishCycle 0).recs = [Rec.produced 0 0 0 9 12] := by decide

/-- A failure of the same processor: exactly the failure record with the lost part. -/
example : (wP.failDev 0).recs = [Rec.failure 0 0 (some 0)] := by decide

/-- The source hands its part over: the first alternative of `supplied_record` happens — one
`supplied_new_part` record, the counter goes from 0 to 1 — and the sink's record is in front. -/
example : (wS.dev 0).kind = .source ∧ (wS.passPart 0).recs =
    [Rec.received 1 0 0 1 2, Rec.supplied 0 0 0] ∧
    ((wS.passPart 0).dev 0).produced = 1 ∧ countSupplied (wS.passPart 0) 0 = 1 ∧
    (wS.passPart 0).error = none := by decide

/-- … and the second alternative: with a blocked sink nothing is supplied. -/
example : (({ wS with devs := wS.devs.set 1 { kind := .sink, blockInput := true } }).passPart 0).recs
    = [] := by decide

/-- Work orders: one record per transition. -/
example : (wM.applyOp (.workOrder 0 0 1 42)).1.recs = [Rec.workOrder 0 0 0 0 1 42] := by decide
example : ((wM.applyOp (.workOrder 0 0 1 42)).1.applyOp (.workOrder 0 0 1 43)).1.recs =
    [Rec.workOrder 0 0 0 0 1 42] := by decide
example : (((wM.applyOp (.workOrder 0 0 1 42)).1.startWork 0 0).finishWork 0 0).recs =
    [Rec.workOrder 0 0 0 0 1 42, Rec.workOrder 1 0 0 0 1 42, Rec.workOrder 2 0 0 0 1 42] := by
  decide

/-- A scheduler transition writes its record. -/
example : (wT.schedUpdate 0 false).recs = [Rec.schedUpdate 0 0 1] := by decide

/-- The resource manager: the records show the new pools. -/
example : rm0.inited = true ∧ (rm0.add 0 3).2.2.1 = [⟨0, 1, 8⟩] ∧
    (rm0.reserve [(0, 2)]).2.2.2 = [⟨0, 3, 5⟩] ∧
    ((rm0.add 0 3).1.usage 0, (rm0.add 0 3).1.capacity 0) = (1, 8) := by decide

example : lastFor (rm0.add 0 3).2.2.1 0 = some ⟨0, 1, 8⟩ ∧ lastFor (rm0.add 0 3).2.2.1 1 = none := by
  decide

/-- The hypothesis `inited = true` of `last_resource_eq_*` is needed: before `initialize` the
manager changes pools without writing records (`_env is None` in the source). -/
example : ¬ Faithful { pools := [(0, 1, 5)] } (RM.add { pools := [(0, 1, 5)] } 0 3).1
    (RM.add { pools := [(0, 1, 5)] } 0 3).2.2.1 := by
  intro h
  have := (faithful_spec h 0).2.1 (by decide)
  revert this
  decide

/-- The world-level form on a concrete world. -/
example : ({ rm := rm0 } : World).rm.inited = true ∧
    (({ rm := rm0 } : World).applyOp (.addRes 0 3)).1.recs = [Rec.resUpdate 0 0 1 8] := by decide

/-- `Ext` is not trivial: it fails when a record is dropped. -/
example : ¬ Ext (wB.acceptPart 0 0) wB := by
  intro ⟨l, h⟩
  have : (wB.acceptPart 0 0).recs = [Rec.level 0 0 1, Rec.received 0 0 0 3 7] := by decide
  rw [this] at h
  cases h

/-- `wS` with a pending `pass_part` event of the source at time 2. -/
def wE : World :=
  { wS with env := { events := [{ uid := 0, time := 2, prio := 28, «weight» := 0, asset := 1,
                                  act := (Action.passPart 0).toNat }] } }

/-- A step of the event loop: the clock moves to 2 and the log is extended. -/
example : ∃ e w', wE.step = some (e, w') ∧
    w'.recs = [Rec.received 1 2 0 1 2, Rec.supplied 0 2 0] := by
  refine ⟨_, _, rfl, ?_⟩
  decide

end C15
end SimProc
