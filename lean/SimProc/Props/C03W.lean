/-
C03W — the closed-world "no lost wake-up" invariant (property C03): stages S1, A, B, C, mid-run
RE-WIRING (stages R, RA, RC, RF), and SEVERAL GROUPS — in sequence, re-entrant, nested — (stages D, E,
F: the last part of this file).

"Whenever simulated time is about to advance, no device is holding a part that is ready to leave
while one of its downstream neighbours would accept that part if it were offered; every blocked
part is genuinely blocked.  Every change that can unblock a part (…, CONNECTION ADDED) leads to a
new hand-over attempt at that same instant."

STAGE S1.  SCOPE (`S1 w`, decidable, preserved by every step — `Proofs/C03WDefs.lean`): only sources,
handlers, processors WITHOUT resource requirement, buffers (delay ≥ 0), gates and sinks;
receive/finish callbacks may change cycle time and offset of the device but not the part; sources
generate single parts and have no upstream neighbour; every downstream connection is in range and
has its upstream counterpart (`y ∈ down x → x ∈ up y`; the converse is not needed); asset ids of
devices pairwise distinct; no cycle through gates only (every chain of gates has at most
`devs.length` gates and no device reaches itself through gates); maintenance targets are processors;
scripts contain no `rewire`, no `create`, and `pause / unpause / cancel` only for asset ids that are
not a device's (everything else — failures, shutdown/restore, block toggles, budget adjustments,
cycle-time changes, offsets, work orders, resource operations — is allowed); no batch exists.

STAGE A.  SCOPE (`S2 w ⊇ S1 w`, decidable, preserved by every step: `s2_step`): as S1, but
processors may declare resource requirements `resReq = some req` (no negative amount).  If some
device does, the world must also be of the class `C11W.S` of the resource theorems (scripts do not
`reserve / release / merge / register` and do not pause / cancel the manager's events, asset id −1;
asset ids positive; fewer than 10000 devices).

STAGE B.  SCOPE (`S3 w ⊇ S2 w`, decidable, preserved by every step: `s3_step`): in addition
batchers (`Kind.batcher`, with or without a batch size), sources that generate batches
(`genBatch ≠ 0`, also empty ones) and hence parts with `kids`.  If batchers or batch-generating
sources exist (`¬ NoBatch w`), the world must also satisfy the conditions of the batcher theorems
`C17W` / the conservation theorem C02: scripts schedule failures of non-sinks only (`ScrB`), every
configured batch size is positive (`C17W.SizesPos`).

STAGE C.  SCOPE (`S4 w ⊇ S3 w`, decidable, preserved by every step: `s4_step`): in addition the
devices of ONE group (`Kind.gpath`, `Kind.ginput`, `Kind.goutput`): any number of group paths that
share one group input and one group output (a "shared group": several lines use the same
machines; the part leaves towards the downstream devices of the path it came in through — its
`stack`).  The group records must be consistent (`GroupOK`, part of `SC`): the group of a group path
names a group input and a group output of the same group and registers the path; a group input has
no upstream neighbour (it is reached through group paths only — necessary:
`group_input_upstream_false`); and there is ONE group (`OneGrp`, a conjunct of `S4` / `S4R` of its
own since the machinery's scope `SC` now admits any number of groups): every group path leads out
through every group output.  The static
bound on chains of controllers (gates, group inputs / paths / outputs) replaces the bound on chains
of gates: every chain of controllers ends within `devs.length` controllers, costs the notification
dispatch at most `2·devs.length + 1` recursion levels on the way back (`costLe`), and no device
reaches itself through controllers (`cReach`).  Group devices count as "batch devices": with them
the conditions `ScrB`, `SizesPos` of the conservation theorem are required (the proof uses C02's
"no part is held twice").
Several groups (in sequence, re-entrant, nested) are stages D, E, F below (`S5 cl w ⊇ S4 w`).
`S1 w ↔ SC w ∧ hasRes w = false ∧ NoBatch w ∧ PartsLeaf w ∧ NR w` (`S1_iff`; `NR`: no script re-wires),
`S2 w = S3 w ∧ NoBatch w`, `S3 w = S4 w ∧ NoGroups w`,
`S4 w = (SC w ∧ NR w) ∧ (hasRes w → C11W.S w) ∧ (¬ NoBatch w → ScrB w ∧ SizesPos w) ∧ OneGrp w`,
`S5 cl w = … the same with `OneGrp w ∨ C03Z.Typed cl w` in the place of `OneGrp w`.

STAGES D, E, F: SEVERAL GROUPS.  SCOPE (`S5 cl w ⊇ S4 w`, decidable for a given certificate `cl`;
`C03Z.ctxInfer w` computes one; preserved by every step: `s5_step`): the world is TYPED by group
contexts, `C03Z.Typed cl w` (`Proofs/C03ZTyp.lean`) — `cl` assigns to every device the list of the
ids of the groups it is inside (outermost first); a downstream connection stays in the context (for a
group path: the devices behind the group stand in the context of the path); the input device of the
group of a group path stands one level deeper; a group output is the output of its group and its
context ends with its group; every BATCHER stands at nesting depth ≤ 1 (`BatShallow`; necessary:
`nested_batcher_false`, finding F14).  This covers groups used one after the other or in parallel
(stage D: `exChain`), the same group entered through several paths, also twice by the same part with
other groups in between (stage E: `exShared`, `exReent`), groups nested in groups — a path of an
inner group a member or the input device of an outer group — (stage F: `exNested`, `exNestBat`), with
batchers, batches, resources, buffers, gates as in stage C.  The controller-chain bounds `costLe` /
`cReach` of `SC` are unchanged (they were group-aware already: a group output continues with the
downstream devices of the paths of ITS group).
THE INVARIANT "each entry of a part's group-path stack belongs to the group whose output the part
will leave through": `C03Z.TInv cl w` (`Proofs/C03ZFloor.lean`) — the stack of every part that a
device (not a sink) holds is TYPED for the context of the device (`C03Z.TS`: reading the stack from
the innermost entry `g`, the context is `ctx g ++ [group g]` and the rest of the stack is typed for
`ctx g` — a suffix typing: the empty stack is typed for every context, so a part generated or
unpacked inside a group is covered: it is genuinely blocked at the group output); the stacks of the
parts INSIDE a held batch are typed for the context below the stack of the batch; a batch under
construction has the empty stack.  `C03Z.gchain_ts`: a hand-over chain (`C08W.GChain`) carries typed
stacks to typed stacks; `C03Z.consS_of_ts`: a typed stack meets, at every group output an offer can
reach, the output of the group of its innermost path (`consS`), which is what the machinery needs
(`exits_through_own_output`).  Preservation along the event loop (`C03Z.tinv_step`,
`Proofs/C03ZWorld.lean`) follows the pattern of the routing invariant C08W (slot view, `Steps`,
hand-over `tv_bump`; the moves of a batcher — unpacking, packing — need the nesting depth ≤ 1:
`C03Z.ts_flat`).  `GoodB` has the new clause `k : C03Z.GC w` ("there is one group, or the world is
typed and `TInv` holds for some certificate"); `GoodD cl w` = `GoodB w`, `NR w`, and — unless there
is one group only — `Typed cl w ∧ TInv cl w` for the certificate of the scope.
Theorems: `wake5_init`, `wake5_step`, `wake5_runLoop`, `wake5_reachable`, `wake5_simulate`, `s5_step`,
`stacks_typed`, `exits_through_own_output`, `blocked_genuinely5`, `no_lost_wakeup5`,
**`no_lost_wakeup5_reachable`**, `no_lost_wakeup5_simulate`, `no_lost_wakeup5_infer` (the computed
certificate: a decidable scope of the world alone); re-wiring issued from OUTSIDE (`ReachD`: the
re-wired world must be in `SC` and typed by the same certificate — decidable on the current world):
`S5.rewire`, `wake5_rewire`, `wake5_rewire_reachable`, **`no_lost_wakeup5_rewire_reachable`**.
NOT covered (`no_lost_wakeup5_partial`): batchers at nesting depth ≥ 2 (FALSE: `nested_batcher_false`);
a group whose paths stand in different contexts; re-wiring IN SCRIPTS together with several groups
(`S5` requires `NR`; the stages R … RF keep `OneGrp`) — covered by STAGE V below.
Changed with respect to the one-group version of this file: `GoodB` (clause `k`), `GoodF` (clause
`o : OneGrp w`), `S4`, `S4R` (conjunct `OneGrp w`; the worlds are the same as before); the helper
theorems stated for the machinery's invariant `G` — `wakeB_exec`, `wake_w3_of`,
`blocked_genuinely_of`, `quiescent_of` — take the additional hypothesis `C03Z.GC w` (for one group:
`Or.inl`), since `G.sc : SC w` no longer implies that there is one group only.

STAGE V: SEVERAL GROUPS AND RE-WIRING IN SCRIPTS (the last part of this file; machinery
`Proofs/C03V*.lean`).  SCOPE `S5R cl w ⊇ S4R w, S5 cl w` (decidable; preserved by every step:
`s5r_reachable`): `S4R` with "one group" replaced by "one group, or the ENVELOPE is typed by the
certificate", `C03V.TE cl w = C03Z.Typed cl (envl w)` — the wiring plus every connection `u → x` that a
scripted `rewire x ups`, `u ∈ ups`, may add respects the group contexts (`C03Z.ctxInfer (envl w)`
computes a candidate).  No other side condition: what is re-wired may be a plain device, a group
path, a group output, inside whichever group (`exChainS`, `exNestedS`, `exNestedT`); the condition is
NECESSARY (`script_rewire_untyped_false`, `outside_rewire_untyped_false`: a connection across two
group contexts loses a wake-up).  Invariant `GoodV cl w` = `GoodF` with the clause "one group"
replaced by "one group, or `TE cl w ∧ C03Z.TInv cl w`".  Method: the machinery's condition `C03Z.GC`
contains `NR` as baggage only; the wake-up invariant `G` reads the scripts through its scope only
(`C03V.G.esG`) and `passPart` is blind to the scripts, so the hand-over step is taken in the world
without its scripts (`C03V.G.passPartV`, `G.stepV`); the typed-stacks invariant reads neither scripts
nor wiring: the actions that run no script are taken in the world without scripts
(`C03Z.tinv_exec`), the others are frames (`C03V.RW`, `rw_exec_scr`, `C03V.tinv_stepV`); the envelope
can only shrink (`C03V.RW.envl`, `TE.of_rw`).  Theorems: `wakeV_init`, `wakeV_step`, `wakeV_runLoop`,
`wakeV_runBegin`, `wakeV_applyOp`, `wakeV_rewire`, `ReachV` (events, runs, outside operations of the
scripts' vocabulary, outside re-wirings that leave the envelope typed), `wakeV_reachable`,
`s5r_reachable`, `stacks_typedV`, `blocked_genuinelyV`, `no_lost_wakeupV`,
**`no_lost_wakeup5_script_rewire_reachable`**, `…_runLoop`, `…_infer`; `ReachF.reachV`, `ReachD.reachV`
(stage V subsumes stage RF and stages D, E, F with outside re-wiring); `…_partial`: what remains.
(B) ALL PATHS OF A GROUP IN ONE CONTEXT: contexts are labels — a group shared between two nesting
levels IS in the scope `S5` if the two usages are not connected by the wiring (`exLevels`,
`s5_exLevels`); if they are connected, no certificate exists (`shared_levels_untypable`: the
restriction is necessary for the typing / `TInv`), while `Quiescent` holds along the whole run of the
concrete world (`shared_levels_run_quiescent`, by evaluation; no failure of `Quiescent` is known, a
general proof would need sets of contexts per device).  (C) `create`: not covered.

RE-WIRING.  The machinery's scope `SC w` (decidable) admits `rewire x ups` in scripts:
  * `RewOK w x ups` (per operation, a condition on the static world, independent of the order in
    which the scripts run): `x` exists; a source / a group input gets no upstream neighbour; `x` is
    nobody's downstream neighbour twice (`set_upstream` removes ONE entry per old upstream
    neighbour);
  * `EnvOK w` (on the script text): the controller conditions (`costLe`, `cReach`) hold for the
    ENVELOPE `envl w` — the wiring plus every connection `u → x` that some `rewire x ups`, `u ∈ ups`,
    of a script may add.  Every wiring that the scripts can ever produce is a sub-wiring of the
    envelope (`SC.rewired`, `TopoSub`), so the class is preserved by every step INCLUDING the
    re-wiring steps (`s1r_step`, `wakeE_step`, `G.rewireG`).
  For a re-wiring issued from OUTSIDE between two events the conditions are checked on the current
  world: `RewOK w x ups ∧ SC (w.rewire x ups)` (`G.rewireD`).
  `rewire` tells a new upstream neighbour about the space downstream only if that neighbour has been
  initialised: the worlds must satisfy the registration invariant `C20W.Reg` (every device is
  registered; C20W proves that every registered device is initialised by `simulateInit`), carried
  as `Ini w` / `IOK w = NR w ∨ Ini w` (`Proofs/C03YIni.lean`).
STAGE R  (`S1R w ⊇ S1 w` = `SC` without requirements, batchers, batches, groups; scripts may
  re-wire): `wakeR_init`, `wakeR_step`, `s1r_step`, `wakeR_applyOp`, `wakeR_rewire`, `ReachR`
  (events, runs, outside operations from the scripts' vocabulary, outside re-wirings),
  `wakeR_reachable`, `blocked_genuinely_rewire`, `no_lost_wakeup_rewire`,
  **`no_lost_wakeup_rewire_reachable`**, `connection_added` (the new upstream neighbour's attempt is
  queued at that same instant if the newly connected device would accept), `connection_removed`.
STAGE RA (`S2R w ⊇ S1R w`: processors may declare requirements AND scripts may re-wire; if a
  requirement is declared, `C11W.S` must hold for the scripts WITHOUT their re-wirings, `S11R`):
  the resource invariant `C11W.Inv` is carried for the world without its scripts (`es w []` — no
  function of the model but `runScript` reads the scripts: `Proofs/C03YEs*.lean`), a script run is
  handled operation by operation (`C11W.inv_applyOp` / `inv11_rewire`): `wakeE_init`, `wakeE_step`,
  `wakeE_reachable`, **`no_lost_wakeupA_rewire_reachable`**.
STAGE RC (scopes `S2 ⊆ S3 ⊆ S4` as they are — scripts without re-wiring —, re-wiring issued from
  OUTSIDE: the invariants of C11W / C17W are not disturbed by a re-wiring: `inv11_rewire`,
  `ci_rewire`): `ReachC`, `wakeC_rewire`, `wakeC_rewire_reachable`,
  **`no_lost_wakeupC_rewire_reachable`**.
STAGE RF (`S4R w ⊇ S4 w, S2R w`: THE WHOLE SCOPE — resources, batchers, batches, the shared group —
  AND re-wiring in scripts; `S4R w = SC w ∧ (hasRes w → S11R w) ∧ (¬ NoBatch w → ScrB w ∧ SizesPos w)`):
  both auxiliary invariants are carried for the world without its scripts, `C11W.Inv (es w [])` and
  `C17W.CI (es w [])`; an operation `o` of a script is the script run of the world `es v [[o]]`, a
  re-wiring is a frame step (`Proofs/C03YBatR.lean`: `GCI.step`): `wakeF_init`, `wakeF_step`,
  `wakeF_applyOp`, `wakeF_rewire`, `ReachF`, `wakeF_reachable`, `s4r_reachable`,
  **`no_lost_wakeup_rewire_all_reachable`** (subsumes the stages R, RA, RC; `…_partial`: what
  remains excluded — several groups, as in stage C).
Necessity (machine-checked): `rewire_duplicate_false` (third clause of `RewOK`: a lost wake-up),
`rewire_uninitialised_false` (registration: a lost wake-up), `rewire_cycle_breaks_scope` (`EnvOK`),
`rewire_source_breaks_scope` (first two clauses of `RewOK`), `group_input_upstream_false`.
Non-vacuity: `exRew` (a script connects a waiting source to a free machine at t = 5, the part moves
at t = 5), `exCut` (the only would-be acceptor is disconnected: the holder stays flagged, the state
is quiescent), `exResRew` (resources and a scripted by-pass), `reachC_exWaiting` (a by-pass
connected from outside in front of a processor that waits for resources), `exBatRew` (a blocked
batcher gets a second, free sink), `exGrpRew` (a second machine is connected to the group input
mid-run: both lines in front of the group are woken), `exPathRew` (a group path gets a second
downstream neighbour: the machine inside the group is woken through the group output).

DEFINITIONS.  `ready w d p` — `d` holds `p` (finished part of a handler / processor / batcher,
supplied part of a source, head of a buffer) and `p` may leave now; `wouldAccept f w x p` — the pure
acceptance predicate = the answer `give` would return (`give_answerB`, `give_answerC`; a group path
pushes itself on the part's stack and asks the group input, a group output asks the downstream
devices of the innermost group path of the stack; a processor with a
requirement answers what its attempt to acquire, `procAcquire`, would answer: `procReal`; a buffer
counts all parts of a batch: `canAcceptBasic`, `leafCount`); `wouldAcceptR` — the same, except that
a processor that is REGISTERED with the resource manager (`waitingRes`, no reservation) counts as
refusing; `Quiescent w`; `Wake w` (S1) / `WakeA w` (stages A, B) — every holder `d` of a part `p` has
(W1) a live PASS_PART event of `d` queued for the due time of `p` or earlier (`Att`; due time =
`now`, for the head of a buffer `max now (t + delay)`), or (W2) is flagged `waitingDS` and no
downstream neighbour would accept `p` (`BlockedW` with `wouldAccept` / `BlockedR` with
`wouldAcceptR`).  The third clause (W3) of stage A is the theorem `registered_refuses`: a processor
that `wouldAcceptR` counts as refusing although its state would allow acceptance is registered, and
either its request does not fit now or a live `rmCheck` event (the manager's availability check,
which calls `procResourceCb` → `notify`) is queued for the current instant; hence `wake_w3`: every
holder has (W1), or is flagged and genuinely blocked (W2), or is flagged and a live availability
check is pending at `now` (W3).
`Good w` (S1) = `S1`, the queue invariant of C01, `0 ≤ now`, no pending failure of a non-processor
(`EvOK`), every held part exists (`HeldValid`), and `Wake`.  `GoodB w` (stages A, B) = the
generalised invariant `G [] [] [] w` (scope `SC`, `C01.Inv`, `0 ≤ now`, `EvOK`, `HeldValid`,
`KidsValid`, `StkOK` — if there is a group output, every entry of a part's stack is a group path —,
registration `WR`, `WakeA`), and — if a requirement is declared — the resource
invariant `C11W.Inv w`, and — if batchers / batches exist — the batcher and conservation invariant
`C17W.CI w` (no part is held twice, the batchers are settled), and `IOK w` (no script re-wires, or
every device has been initialised).  `GoodA w = GoodB w ∧ NoBatch w`.  `GoodR` (stage R), `GoodE`
(stage RA): see below.

THEOREMS.  S1: `give_answer`, `wake_init`, `wake_exec`, `wake_step`, `wake_runLoop`,
`wake_reachable`, `no_lost_wakeup`, `blocked_genuinely`, `wake_passPart`, `wake_notify`,
`wake_acceptPart` (all as before, now corollaries of the generalised machinery; `wake_passPart`,
`wake_exec`, `wakeB_exec` — stated for the machinery's invariant `G`, which now admits re-wiring
scripts — take the additional hypothesis `NR w` resp. `IOK w`).
Stage A: `give_answerA`, `wakeA_init`, `wakeA_step`, `wakeA_runLoop`, `wakeA_reachable`,
`wakeA_simulate`, `s2_step`, `blocked_genuinelyA`, `no_lost_wakeupA`, `no_lost_wakeupA_reachable`.
Stage B: `give_answerB`, `wakeB_init`, `wakeB_exec`, `wakeB_step`, `wakeB_runLoop`,
`wakeB_reachable`, `wakeB_simulate`, `s3_step`, `wakeA_of_good`, `registered_refuses`, `wake_w3`,
`blocked_genuinelyB`, `no_lost_wakeupB`, `no_lost_wakeupB_reachable`.
Stage C (same invariant `GoodB`): `give_answerC`, `tryList_answerC`, `refused_round_registersC`,
`wakeC_init`, `wakeC_step`, `wakeC_runLoop`, `wakeC_reachable`, `wakeC_simulate`, `s4_step`,
`s4_runLoop`, `blocked_genuinelyC`, `no_lost_wakeupC`, `no_lost_wakeupC_reachable`.
The machinery (generalised invariant `G E N A` with a set `E` of exempt devices, a set `N` of
devices whose notification is pending and a set `A` of batchers that have just notified) is in
`Proofs/C03W*.lean`, `Proofs/C03X*.lean`; re-wiring in `Proofs/C03Y*.lean` (`C03YTopo`: envelope,
sub-wirings, `SC.rewired`; `C03YRewire`: `G.rewiring`, `G.connectG`, `G.rewireG`, `G.rewireD`;
`C03YIni`: initialisation; `C03YSwr`, `C03YSwrW`: the static data without the wiring; `C03YAux`:
C11W / C17W invariants under `rewire`; `C03YEs*`: blindness to the scripts; `C03YResR`: stage RA;
`C03YBatR`: stage RF).
Necessity counterexamples: `wake_exec_false_cancel`, `wake_exec_false_target` (the restrictions on
scripts and maintenance targets cannot be dropped), `cancel_manager_false` (in stage A a script must
not cancel the manager's events); `group_input_upstream_false` (a device wired directly in front of
a group input is never woken); `empty_batch_full_buffer_quiescent` (finding F12, repaired).
-/
import SimProc.Proofs.C03XRes
import SimProc.Proofs.C03YAux
import SimProc.Proofs.C03YResR
import SimProc.Proofs.C03YBatR
import SimProc.Props.C02
import SimProc.Props.C20W
import SimProc.Proofs.C03VTyp

namespace SimProc
namespace C03W
open World FloorCoreL C03

/-! ### the statements' vocabulary -/

/-- (W2) `d` is flagged and no downstream neighbour would accept `p`. -/
def BlockedW (w : World) (d p : Nat) : Prop :=
  (w.dev d).waitingDS = true ∧ ∀ y ∈ (w.dev d).down, wouldAccept w.fuel w y p = false

instance (w : World) (d p : Nat) : Decidable (BlockedW w d p) := by unfold BlockedW; infer_instance

/-- (W2, stages A, B) `d` is flagged and no downstream neighbour would accept `p`, registered
processors counted as refusing. -/
def BlockedR (w : World) (d p : Nat) : Prop :=
  (w.dev d).waitingDS = true ∧ ∀ y ∈ (w.dev d).down, wouldAcceptR w.fuel w y p = false

instance (w : World) (d p : Nat) : Decidable (BlockedR w d p) := by unfold BlockedR; infer_instance

/-- **The wake-up invariant** (decidable form: device indices bounded by the number of devices). -/
def Wake (w : World) : Prop :=
  ∀ d ∈ List.range w.devs.length, ∀ p ∈ (holdsD (w.dev d)).toList, Att w d ∨ BlockedW w d p

instance (w : World) : Decidable (Wake w) := by unfold Wake; infer_instance

/-- **The wake-up invariant of stages A and B.** -/
def WakeA (w : World) : Prop :=
  ∀ d ∈ List.range w.devs.length, ∀ p ∈ (holdsD (w.dev d)).toList, Att w d ∨ BlockedR w d p

instance (w : World) : Decidable (WakeA w) := by unfold WakeA; infer_instance

/-- **Quiescent**: no ready part has a downstream neighbour that would accept it. -/
def Quiescent (w : World) : Prop :=
  ∀ d ∈ List.range w.devs.length, ∀ p ∈ (holdsD (w.dev d)).toList,
    expiredD w.now (w.dev d) = true → ∀ x ∈ (w.dev d).down, wouldAccept w.fuel w x p = false

instance (w : World) : Decidable (Quiescent w) := by unfold Quiescent; infer_instance

theorem blockedR_iff (w : World) (d p : Nat) : BlockedR w d p ↔ Blocked w [] [] d p := Iff.rfl

theorem noGrp_of_noBatch {w : World} (hb : NoBatch w) : NoGrp w := (noGroups_of_noBatch hb).noGrp

theorem blockedW_iff {w : World} (hn : hasRes w = false) (hb : NoBatch w) (d p : Nat) :
    BlockedW w d p ↔ Blocked w [] [] d p := by
  unfold BlockedW Blocked
  simp only [wouldAcceptN_nil hn (noGrp_of_noBatch hb)]

theorem wakeA_iff (w : World) : WakeA w ↔ WakeG [] [] [] w := by
  unfold WakeA WakeG
  constructor
  · intro h d p hd _
    exact h d (by simpa using holdsD_lt hd) p (by simp [hd])
  · intro h d _ p hp
    have hd : holdsD (w.dev d) = some p := by simpa using hp
    exact h d p hd (by simp)

theorem wake_iff {w : World} (hn : hasRes w = false) (hb : NoBatch w) :
    Wake w ↔ WakeG [] [] [] w := by
  rw [← wakeA_iff]
  unfold Wake WakeA
  simp only [blockedW_iff hn hb, blockedR_iff]

/-- `Wake` without the bound on the device index. -/
theorem wake_spec {w : World} (hn : hasRes w = false) (hb : NoBatch w) :
    Wake w ↔ ∀ d p, holdsD (w.dev d) = some p → Att w d ∨ BlockedW w d p := by
  rw [wake_iff hn hb]
  unfold WakeG
  constructor
  · intro h d p hd
    have := h d p hd (by simp)
    rwa [← blockedW_iff hn hb] at this
  · intro h d p hd _
    have := h d p hd
    rwa [blockedW_iff hn hb] at this

/-- `WakeA` without the bound on the device index. -/
theorem wakeA_spec (w : World) :
    WakeA w ↔ ∀ d p, holdsD (w.dev d) = some p → Att w d ∨ BlockedR w d p := by
  rw [wakeA_iff]
  unfold WakeG
  exact ⟨fun h d p hd => h d p hd (by simp), fun h d p hd _ => h d p hd⟩

/-- For a READY part, (W1) is a live PASS_PART event of `d` for exactly the present instant (the
queue invariant of C01 excludes events in the past). -/
theorem att_ready_now {w : World} (hi : C01.Inv w.env) {d p : Nat} (hr : ready w d p) (ha : Att w d) :
    ∃ e ∈ w.env.events, e.act = (Action.passPart d).toNat ∧ e.asset = (w.dev d).aid ∧
      e.cancelled = false ∧ e.time = w.now := by
  obtain ⟨e, he, h1, h2, h3, h4⟩ := ha
  refine ⟨e, he, h1, h2, h3, ?_⟩
  rw [dueD_of_expired hr.2] at h4
  have := hi.future e he
  unfold World.now at h4 ⊢
  omega

/-- `Quiescent` in the form of the property text. -/
theorem quiescent_iff (w : World) :
    Quiescent w ↔ ∀ d p x, ready w d p → x ∈ (w.dev d).down → wouldAccept w.fuel w x p = false := by
  unfold Quiescent ready
  constructor
  · intro h d p x hr hx
    exact h d (by simpa using holdsD_lt hr.1) p (by simp [hr.1]) hr.2 x hx
  · intro h d _ p hp hex x hx
    exact h d p x ⟨by simpa using hp, hex⟩ hx

/-- Everything the closed-world induction carries (stage S1). -/
structure Good (w : World) : Prop where
  s1 : S1 w
  inv : C01.Inv w.env
  now0 : 0 ≤ w.now
  ev : EvOK w
  valid : HeldValid w
  wake : Wake w

theorem kidsValid_of_leaf {w : World} (h : PartsLeaf w) : KidsValid w := by
  intro r hr l hl
  rw [h r hr] at hl; cases hl

theorem stkOK_of_noParts {w : World} (h : w.parts = []) : StkOK w :=
  Or.inr (fun r hr => by rw [h] at hr; cases hr)

theorem stkOK_of_noBatch {w : World} (hb : NoBatch w) : StkOK w :=
  Or.inl (fun x => (noBatch_grp hb x).2.2)

/-- `Good` is the generalised invariant in a world without resource requirements, batchers and
batch-generating sources. -/
theorem good_iff (w : World) :
    Good w ↔ G [] [] [] w ∧ hasRes w = false ∧ NoBatch w ∧ NR w := by
  constructor
  · intro h
    have hpl : PartsLeaf w := ((S1_iff w).mp h.s1).2.2.2.1
    exact ⟨⟨h.s1.sc, fun _ => hpl, h.inv, h.now0, h.ev, h.valid, kidsValid_of_leaf hpl,
      stkOK_of_noBatch h.s1.noBatch, Or.inl h.s1.noRes, (fun _ hx => nomatch hx),
      (wake_iff h.s1.noRes h.s1.noBatch).mp h.wake⟩,
      h.s1.noRes, h.s1.noBatch, h.s1.nr⟩
  · rintro ⟨h, hn, hb, hr⟩
    exact ⟨(S1_iff w).mpr ⟨h.sc, hn, hb, h.pl hb, hr⟩, h.inv, h.now0, h.ev, h.valid,
      (wake_iff hn hb).mpr h.wake⟩

theorem invB_of_noBatch {w : World} (hb : NoBatch w) : InvB w := fun hn => absurd hb hn

theorem settled_of_noBatch {w : World} (hb : NoBatch w) : Settled w :=
  fun x hk _ => absurd hk (noBatch_dev hb x).1

theorem Good.goodB {w : World} (h : Good w) : GoodB w :=
  ⟨((good_iff w).mp h).1, (fun hr => by rw [h.s1.noRes] at hr; cases hr),
    fun hn => absurd h.s1.noBatch hn, Or.inl h.s1.nr, C03Z.gc_noGrp (noGrp_of_noBatch h.s1.noBatch)⟩

/-- the invariant of stage A: that of stage B, without batchers and batch-generating sources -/
structure GoodA (w : World) : Prop where
  b : GoodB w
  nb : NoBatch w

/-! ### (a) the acceptance predicate -/

/-- **(a, stages A and B)** In a world of the scope the Boolean answer of `give` is `wouldAccept`:
it depends neither on the order in which the downstream devices are tried nor on anything `give`
changes on the way (a refusing processor registers with the resource manager — that does not
change anybody's answer). -/
theorem give_answerC (f : Nat) (w : World) (x p : Nat) (h : S4 w) (hp : p < w.parts.length) :
    (give f w x p).2 = wouldAccept f w x p :=
  give_answer_eq f w x p h.1.1.kok (Or.inl hp)

/-- Without group devices the part need not exist. -/
theorem give_answerB (f : Nat) (w : World) (x p : Nat) (h : S3 w) :
    (give f w x p).2 = wouldAccept f w x p :=
  give_answer_eq f w x p h.1.1.1.kok (Or.inr h.2.noGrp)

theorem give_answerA (f : Nat) (w : World) (x p : Nat) (h : S2 w) :
    (give f w x p).2 = wouldAccept f w x p :=
  give_answerB f w x p h.s3

/-- **(a)** In an S1 world the Boolean answer of `give` is `wouldAccept`. -/
theorem give_answer (f : Nat) (w : World) (x p : Nat) (h : S1 w) :
    (give f w x p).2 = wouldAccept f w x p :=
  give_answerA f w x p h.s2

/-- The same for a whole offer round: it succeeds iff some downstream device would accept. -/
theorem tryList_answerC (w : World) (x p : Nat) (h : S4 w) (hp : p < w.parts.length) :
    (tryList givePart w (w.sortedDown x) p).2 =
      (w.dev x).down.any (fun y => wouldAccept w.fuel w y p) := by
  rw [tryList_givePart_answer w _ p h.1.1.kok (Or.inl hp)]
  exact any_perm (C08.sortedDown_perm w x) _

theorem tryList_answerB (w : World) (x p : Nat) (h : S3 w) :
    (tryList givePart w (w.sortedDown x) p).2 =
      (w.dev x).down.any (fun y => wouldAccept w.fuel w y p) := by
  rw [tryList_givePart_answer w _ p h.1.1.1.kok (Or.inr h.2.noGrp)]
  exact any_perm (C08.sortedDown_perm w x) _

theorem tryList_answer' (w : World) (x p : Nat) (h : S1 w) :
    (tryList givePart w (w.sortedDown x) p).2 =
      (w.dev x).down.any (fun y => wouldAccept w.fuel w y p) :=
  tryList_answerB w x p h.s2.s3

/-- After a refused offer round every downstream device refuses in the invariant's sense: a
processor that refused for want of resources is registered now. -/
theorem refused_round_registersC {w w1 : World} (h : S4 w) {x p : Nat} (hp : p < w.parts.length)
    (ht : tryList givePart w (w.sortedDown x) p = (w1, false)) :
    ∀ y ∈ (w.dev x).down, wouldAcceptR w.fuel w1 y p = false :=
  (tryGive_refused h.1.1 (Or.inl hp) ht).2

theorem refused_round_registers {w w1 : World} (h : S3 w) {x p : Nat}
    (ht : tryList givePart w (w.sortedDown x) p = (w1, false)) :
    ∀ y ∈ (w.dev x).down, wouldAcceptR w.fuel w1 y p = false :=
  (tryGive_refused h.1.1.1 (Or.inr h.2.noGrp) ht).2

/-! ### 1. initialisation -/

/-- nobody holds anything -/
theorem heldValid_fresh {w : World} (h : C02.Fresh w) : HeldValid w := by
  intro d hd p hp
  have := h.2.2.2.2 d hd
  unfold C02.held at this
  unfold heldL at hp
  rw [this] at hp; cases hp

theorem wakeG_fresh {w : World} (h : C02.Fresh w) : WakeG [] [] [] w := by
  intro d p hd' _
  have h1 := holdsD_mem_heldL hd'
  have := h.2.2.2.2 (w.dev d) (dev_mem (holdsD_lt hd'))
  unfold C02.held at this
  unfold heldL at h1
  rw [this] at h1; cases h1

theorem wake_fresh {w : World} (h : C02.Fresh w) : Wake w := by
  intro d hd p hp
  have hd' : holdsD (w.dev d) = some p := by simpa using hp
  have h1 := holdsD_mem_heldL hd'
  have := h.2.2.2.2 (w.dev d) (dev_mem (by simpa using hd))
  unfold C02.held at this
  unfold heldL at h1
  rw [this] at h1; cases h1

theorem partsLeaf_fresh {w : World} (h : C02.Fresh w) : PartsLeaf w := by
  intro r hr; rw [h.1] at hr; cases hr

/-- A fresh S1 world (queue invariant, clock not negative, no pending failure of a non-processor)
is good. -/
theorem good_fresh {w : World} (hs : S1 w) (hi : C01.Inv w.env) (h0 : 0 ≤ w.now) (he : EvOK w)
    (hf : C02.Fresh w) : Good w :=
  ⟨hs, hi, h0, he, heldValid_fresh hf, wake_fresh hf⟩

/-- **1. `wake_init`**: after `simulateInit` of a fresh S1 world the invariant holds. -/
theorem wake_init {w : World} (hs : S1 w) (hi : C01.Inv w.env) (h0 : 0 ≤ w.now) (he : EvOK w)
    (hf : C02.Fresh w) : Good w.simulateInit :=
  (good_iff _).mpr ⟨((good_iff w).mp (good_fresh hs hi h0 he hf)).1.simulateInitG,
    by rw [hasRes_of_ss (C02V.ss_simulateInit w)]; exact hs.noRes,
    (noBatch_of_sw (sw_simulateInit w).sw_eq).mpr hs.noBatch, hs.nr.of_sw (sw_simulateInit w)⟩

/-- Fresh worlds of stages A and B: nobody holds anything (`C02.Fresh`), no device is flagged as
waiting for resources, and — if a requirement is declared — the resource manager is fresh
(`C11W.FreshR`: not initialised, no reservations, nobody waiting, …). -/
def FreshA (w : World) : Prop :=
  C02.Fresh w ∧ NoFlag w ∧ (hasRes w = true → C11W.FreshR w)

/-- **1C. `wakeC_init`**: after `simulateInit` of a fresh world of the scope the invariant of
stages B and C holds. -/
theorem wakeC_init {w : World} (hs : S4 w) (hi : C01.Inv w.env) (h0 : 0 ≤ w.now) (he : EvOK w)
    (hf : FreshA w) : GoodB w.simulateInit := by
  have hg : G [] [] [] w :=
    ⟨hs.1.1, fun _ => partsLeaf_fresh hf.1, hi, h0, he, heldValid_fresh hf.1,
      kidsValid_of_leaf (partsLeaf_fresh hf.1), stkOK_of_noParts hf.1.1,
      wr_fresh hf.2.1 (fun hr => (hf.2.2 hr).2.2.1), (fun _ hx => nomatch hx), wakeG_fresh hf.1⟩
  refine ⟨hg.simulateInitG, fun hr => ?_, fun hn => ?_, Or.inl (hs.1.2.of_sw (sw_simulateInit w)),
    Or.inl (hs.2.2.2.of_sw (sw_simulateInit w).sw_eq)⟩
  · rw [hasRes_of_ss (C02V.ss_simulateInit w)] at hr
    exact C11W.inv_simulateInit w (hs.2.1 hr) (hf.2.2 hr)
  · have hn0 : ¬ NoBatch w := fun hb => hn ((noBatch_of_sw (sw_simulateInit w).sw_eq).mpr hb)
    exact C17W.ci_init w ⟨hf.1, static_of hs.1.1 hs.1.2 (hs.2.2.1 hn0).1 he, (hs.2.2.1 hn0).2⟩

/-- **1B. `wakeB_init`**. -/
theorem wakeB_init {w : World} (hs : S3 w) (hi : C01.Inv w.env) (h0 : 0 ≤ w.now) (he : EvOK w)
    (hf : FreshA w) : GoodB w.simulateInit := wakeC_init hs.s4 hi h0 he hf

/-- **1A. `wakeA_init`**. -/
theorem wakeA_init {w : World} (hs : S2 w) (hi : C01.Inv w.env) (h0 : 0 ≤ w.now) (he : EvOK w)
    (hf : FreshA w) : GoodA w.simulateInit :=
  ⟨wakeB_init hs.s3 hi h0 he hf, (noBatch_of_sw (sw_simulateInit w).sw_eq).mpr hs.2⟩

/-! ### 2. every event preserves the invariant -/

/-- **(b) `wake_passPart`**: if the invariant holds for every device except `d` (whose hand-over
attempt has just been popped), then after `passPart d` it holds for every device: `d` has handed
its part over, or has queued a new attempt (buffer head not yet due), or is flagged with no
downstream device willing. -/
theorem wake_passPart {w : World} {d : Nat} (h : G [d] [] [] w) (hn : hasRes w = false)
    (hb : NoBatch w) (hr : NR w) : Good (w.passPart d) :=
  (good_iff _).mpr ⟨h.passPartG (invB_of_noBatch hb) (settled_of_noBatch hb)
      (C03Z.gc_noGrp (noGrp_of_noBatch hb)),
    by rw [hasRes_of_sd (C02V.sd_blind.floor.passPart w d)]; exact hn,
    (noBatch_of_swv (C02V.swv_blind.floor.passPart w d)).mpr hb, hr.of_scripts (C02V.scr_floor.passPart w d)⟩

/-- **(c)** a notification never destroys the invariant … -/
theorem wake_notify {w : World} (h : Good w) (x : Nat) : Good (w.notify x) :=
  (good_iff _).mpr ⟨((good_iff w).mp h).1.notify x (fun _ hy => Or.inr hy),
    by rw [hasRes_of_sd (C02V.sd_blind.floor.notify w x)]; exact h.s1.noRes,
    (noBatch_of_swv (C02V.swv_blind.floor.notify w x)).mpr h.s1.noBatch,
    h.s1.nr.of_scripts (C02V.scr_floor.notify w x)⟩

/-- **(c)** … nor does a downstream device accepting a part. -/
theorem wake_acceptPart {w : World} (h : Good w) (x p : Nat) (hp : p < w.parts.length) :
    Good (w.acceptPart x p) :=
  (good_iff _).mpr ⟨((good_iff w).mp h).1.acceptPart x p hp
      (fun hk => absurd hk (noBatch_dev h.s1.noBatch x).1),
    by rw [hasRes_of_sd (C02V.sd_blind.floor.acceptPart w x p)]; exact h.s1.noRes,
    (noBatch_of_swv (C02V.swv_blind.floor.acceptPart w x p)).mpr h.s1.noBatch,
    h.s1.nr.of_scripts (C02V.scr_floor.acceptPart w x p)⟩

/-- **2. `wake_exec`** — one lemma for all twelve action kinds: `terminate`, `script k`,
`finishCycle d`, `passPart d` (with `d` exempt beforehand: its attempt has just been popped),
`fail d` (of a processor), `releaseIfIdle d`, `rmCheck`, `startWork`, `finishWork`, `schedUpdate`,
`periodicSense`, `unknown`. -/
theorem wake_exec {w : World} (a : Action) (h : G (exemptA a) [] [] w) (hn : hasRes w = false)
    (hb : NoBatch w) (hr : NR w) (ha : ∀ d, a = .fail d → (w.dev d).kind = .processor) :
    Good (w.exec a) :=
  (good_iff _).mpr ⟨h.execG a ha (invB_of_noBatch hb) (settled_of_noBatch hb) (Or.inl hr)
      (C03Z.gc_noGrp (noGrp_of_noBatch hb)),
    by rw [hasRes_of_ss (nr_exec w a hr)]; exact hn,
    (noBatch_of_sw (sw_exec w a hr).sw_eq).mpr hb, hr.of_sw (sw_exec w a hr)⟩

/-- The same for stages A and B (the wake-up part of the invariant; the resource part is
`C11W.inv_exec`, the batcher part `C17W`): if batchers or batches exist, the conservation
invariant of C02 must hold and the batchers must be settled. -/
theorem wakeB_exec {w : World} (a : Action) (h : G (exemptA a) [] [] w)
    (ha : ∀ d, a = .fail d → (w.dev d).kind = .processor) (hI : InvB w) (hset : Settled w)
    (hio : IOK w) (hgc : C03Z.GC w) : G [] [] [] (w.exec a) :=
  h.execG a ha hI hset hio hgc

/-- For every action other than `passPart` the hypothesis of `wake_exec` is `Good w`. -/
theorem wake_exec' {w : World} (a : Action) (h : Good w) (hp : ∀ d, a ≠ .passPart d)
    (ha : ∀ d, a = .fail d → (w.dev d).kind = .processor) : Good (w.exec a) := by
  refine wake_exec a ?_ h.s1.noRes h.s1.noBatch h.s1.nr ha
  have : exemptA a = [] := by
    cases a <;> first | rfl | exact absurd rfl (hp _)
  rw [this]; exact ((good_iff w).mp h).1

/-- **2B. `wakeB_step`**: `Environment.step` (pop, set the clock, run the action unless cancelled)
preserves the invariant of stage B — including the scope of the machinery, the queue invariant,
`EvOK`, `HeldValid`, the registration invariant, the resource invariant of C11W and the batcher /
conservation invariant of C17W. -/
theorem wakeB_step {w w' : World} {e : Event} (h : GoodB w) (hst : w.step = some (e, w')) :
    GoodB w' := h.step hst

/-- **2C. `wakeC_step`** = `wakeB_step`: the invariant covers group devices too. -/
theorem wakeC_step {w w' : World} {e : Event} (h : GoodB w) (hst : w.step = some (e, w')) :
    GoodB w' := h.step hst

/-- The scope of stage C is preserved by every step. -/
theorem s4_step {w w' : World} {e : Event} (hs : S4 w) (h : GoodB w) (hst : w.step = some (e, w')) :
    S4 w' :=
  hs.of_sw (h.step hst).g.sc (sw_step w w' e hs.1.2 hst) (nr_step w w' e hs.1.2 hst)

theorem s4_runLoop (n : Nat) {w : World} (hs : S4 w) (h : GoodB w) : S4 (runLoop n w) :=
  hs.of_sw (h.runLoop n).g.sc (sw_runLoop n w hs.1.2) (nr_runLoop n w hs.1.2)

/-- The scope of stage B is preserved by every step. -/
theorem s3_step {w w' : World} {e : Event} (hs : S3 w) (h : GoodB w) (hst : w.step = some (e, w')) :
    S3 w' :=
  hs.of_sw (h.step hst).g.sc (sw_step w w' e hs.1.1.2 hst) (nr_step w w' e hs.1.1.2 hst)

theorem s3_runLoop (n : Nat) {w : World} (hs : S3 w) (h : GoodB w) : S3 (runLoop n w) :=
  hs.of_sw (h.runLoop n).g.sc (sw_runLoop n w hs.1.1.2) (nr_runLoop n w hs.1.1.2)

/-- **2A. `wakeA_step`**. -/
theorem wakeA_step {w w' : World} {e : Event} (h : GoodA w) (hst : w.step = some (e, w')) :
    GoodA w' :=
  ⟨h.b.step hst, (noBatch_of_swr' (swrw_step w w' e h.b.g.sc.nc hst)).mpr h.nb⟩

/-- The scope of stage A is preserved by every step. -/
theorem s2_step {w w' : World} {e : Event} (hs : S2 w) (h : GoodA w) (hst : w.step = some (e, w')) :
    S2 w' :=
  ⟨s3_step hs.s3 h.b hst, (wakeA_step h hst).nb⟩

/-- **2. `wake_step`**: `Environment.step` preserves the invariant — including `S1`, the queue
invariant, `EvOK`, `HeldValid`. -/
theorem wake_step {w w' : World} {e : Event} (h : Good w) (hst : w.step = some (e, w')) : Good w' :=
  (good_iff _).mpr ⟨(h.goodB.step hst).g,
    by rw [hasRes_of_ss (nr_step w w' e h.s1.nr hst)]; exact h.s1.noRes,
    (noBatch_of_sw (sw_step w w' e h.s1.nr hst).sw_eq).mpr h.s1.noBatch,
    h.s1.nr.of_sw (sw_step w w' e h.s1.nr hst)⟩

/-- `S1` is preserved by every step. -/
theorem s1_step {w w' : World} {e : Event} (h : Good w) (hst : w.step = some (e, w')) : S1 w' :=
  (wake_step h hst).s1

/-! ### 3. all reachable states -/

/-- **3. `wake_runLoop`**. -/
theorem wake_runLoop (n : Nat) {w : World} (h : Good w) : Good (runLoop n w) :=
  (good_iff _).mpr ⟨(h.goodB.runLoop n).g,
    by rw [hasRes_of_ss (nr_runLoop n w h.s1.nr)]; exact h.s1.noRes,
    (noBatch_of_sw (sw_runLoop n w h.s1.nr).sw_eq).mpr h.s1.noBatch,
    h.s1.nr.of_sw (sw_runLoop n w h.s1.nr)⟩

theorem wakeB_runLoop (n : Nat) {w : World} (h : GoodB w) : GoodB (runLoop n w) := h.runLoop n

theorem wakeC_runLoop (n : Nat) {w : World} (h : GoodB w) : GoodB (runLoop n w) := h.runLoop n

theorem wakeA_runLoop (n : Nat) {w : World} (h : GoodA w) : GoodA (runLoop n w) :=
  ⟨h.b.runLoop n, (noBatch_of_swr' (swrw_runLoop n w h.b.g.sc.nc)).mpr h.nb⟩

/-- In every state reachable from an initialised fresh S1 world the invariant holds. -/
theorem wake_reachable (n : Nat) {w : World} (hs : S1 w) (hi : C01.Inv w.env) (h0 : 0 ≤ w.now)
    (he : EvOK w) (hf : C02.Fresh w) : Good (runLoop n w.simulateInit) :=
  wake_runLoop n (wake_init hs hi h0 he hf)

/-- **3B.** In every state reachable from an initialised fresh world of the scope of stage B the
invariant holds. -/
theorem wakeB_reachable (n : Nat) {w : World} (hs : S3 w) (hi : C01.Inv w.env) (h0 : 0 ≤ w.now)
    (he : EvOK w) (hf : FreshA w) : GoodB (runLoop n w.simulateInit) :=
  wakeB_runLoop n (wakeB_init hs hi h0 he hf)

/-- **3C.** In every state reachable from an initialised fresh world of the scope of stage C the
invariant holds. -/
theorem wakeC_reachable (n : Nat) {w : World} (hs : S4 w) (hi : C01.Inv w.env) (h0 : 0 ≤ w.now)
    (he : EvOK w) (hf : FreshA w) : GoodB (runLoop n w.simulateInit) :=
  wakeC_runLoop n (wakeC_init hs hi h0 he hf)

/-- **3A.** -/
theorem wakeA_reachable (n : Nat) {w : World} (hs : S2 w) (hi : C01.Inv w.env) (h0 : 0 ≤ w.now)
    (he : EvOK w) (hf : FreshA w) : GoodA (runLoop n w.simulateInit) :=
  wakeA_runLoop n (wakeA_init hs hi h0 he hf)

/-- `Environment.run(d)` begins by scheduling the terminate event: the invariant is kept. -/
theorem wake_runBegin {w : World} (h : Good w) (d : Int) : Good (w.runBegin d).1 :=
  (good_iff _).mpr ⟨((good_iff w).mp h).1.runBeginG d,
    by rw [hasRes_of_ss (ss_runBegin w d)]; exact h.s1.noRes,
    (noBatch_of_sw (sw_runBegin w d).sw_eq).mpr h.s1.noBatch, h.s1.nr.of_sw (sw_runBegin w d)⟩

theorem wakeB_runBegin {w : World} (h : GoodB w) (d : Int) : GoodB (w.runBegin d).1 := h.runBegin d

theorem wakeA_runBegin {w : World} (h : GoodA w) (d : Int) : GoodA (w.runBegin d).1 :=
  ⟨h.b.runBegin d, (noBatch_of_sw (sw_runBegin w d).sw_eq).mpr h.nb⟩

/-- `System.simulate(d)` = initialise, begin the run, loop: every state reached is good. -/
theorem wake_simulate (n : Nat) (d : Int) {w : World} (hs : S1 w) (hi : C01.Inv w.env)
    (h0 : 0 ≤ w.now) (he : EvOK w) (hf : C02.Fresh w) :
    Good (runLoop n (w.simulateInit.runBegin d).1) :=
  wake_runLoop n (wake_runBegin (wake_init hs hi h0 he hf) d)

theorem wakeB_simulate (n : Nat) (d : Int) {w : World} (hs : S3 w) (hi : C01.Inv w.env)
    (h0 : 0 ≤ w.now) (he : EvOK w) (hf : FreshA w) :
    GoodB (runLoop n (w.simulateInit.runBegin d).1) :=
  wakeB_runLoop n (wakeB_runBegin (wakeB_init hs hi h0 he hf) d)

theorem wakeC_simulate (n : Nat) (d : Int) {w : World} (hs : S4 w) (hi : C01.Inv w.env)
    (h0 : 0 ≤ w.now) (he : EvOK w) (hf : FreshA w) :
    GoodB (runLoop n (w.simulateInit.runBegin d).1) :=
  wakeC_runLoop n (wakeB_runBegin (wakeC_init hs hi h0 he hf) d)

theorem wakeA_simulate (n : Nat) (d : Int) {w : World} (hs : S2 w) (hi : C01.Inv w.env)
    (h0 : 0 ≤ w.now) (he : EvOK w) (hf : FreshA w) :
    GoodA (runLoop n (w.simulateInit.runBegin d).1) :=
  wakeA_runLoop n (wakeA_runBegin (wakeA_init hs hi h0 he hf) d)

/-- "time is about to advance": the next event to be popped (if any) lies in the future -/
def ClockAdvances (w : World) : Prop := ∀ e, w.env.events.head? = some e → w.now < e.time

instance (w : World) : Decidable (ClockAdvances w) := by
  unfold ClockAdvances
  cases h : w.env.events.head? with
  | none => exact isTrue (fun e he => by cases he)
  | some e0 =>
    exact decidable_of_iff (w.now < e0.time)
      ⟨fun hh e he => by cases he; exact hh, fun hh => hh e0 rfl⟩

theorem no_event_now {w : World} (hi : C01.Inv w.env) (hc : ClockAdvances w) :
    ∀ e ∈ w.env.events, w.now < e.time := by
  intro e he
  cases hev : w.env.events with
  | nil => rw [hev] at he; cases he
  | cons e0 es =>
    have h0 := hc e0 (by rw [hev]; rfl)
    rw [hev] at he
    rcases List.mem_cons.mp he with rfl | he
    · exact h0
    · have hs : SortedEv (e0 :: es) := hev ▸ hi.sorted
      have := Event.nlt_time (hs.head_min e he)
      omega

/-! ### 4. the statements of stages A and B -/

/-- what `GoodB` says about holders, in decidable form -/
theorem wakeA_of_good {w : World} (h : GoodB w) : WakeA w := (wakeA_iff w).mpr h.g.wake

/-- **(W3) `registered_refuses`.**  In a reachable state, a processor that the invariant counts as
refusing for want of resources (declared requirement, no reservation, registered with the resource
manager) cannot get its resources now — or a live availability check (`rmCheck`, which will call
`procResourceCb` and thereby notify upstream) is queued for the current instant. -/
theorem registered_refuses {w : World} (h : GoodB w) (y : Nat) (hk : (w.dev y).kind = .processor)
    (hm : procM (w.dev y) = false) :
    procReal w y = false ∨ C11W.QueuedL w .rmCheck w.now pOtherHigh (-1) :=
  h.registered y hk hm

/-- **The three clauses**, from the wake-up invariant `G` and the clause `C11W.Pend` of the resource
invariant ("a feasible waiting request has a live availability check queued for now"). -/
theorem wake_w3_of {w : World} (hg : G [] [] [] w) (hp : hasRes w = true → C11W.Pend w)
    (hgc : C03Z.GC w) (d p : Nat) (hd : holdsD (w.dev d) = some p) :
    Att w d ∨ BlockedW w d p ∨
      ((w.dev d).waitingDS = true ∧ C11W.QueuedL w .rmCheck w.now pOtherHigh (-1)) := by
  rcases hg.wake d p hd (by simp) with ha | hb
  · exact Or.inl ha
  · by_cases hq : C11W.QueuedL w .rmCheck w.now pOtherHigh (-1)
    · exact Or.inr (Or.inr ⟨hb.1, hq⟩)
    · exact Or.inr (Or.inl ⟨hb.1, fun y hy => real_of_R_of hg hp hgc hq _ hd hy (hb.2 y hy)⟩)

/-- **The three clauses.**  Every holder `d` of a part `p` has (W1) a live hand-over attempt queued,
or (W2) is flagged and NO downstream neighbour would accept `p` (`wouldAccept`: what `give` would
really answer, resources included), or (W3) is flagged and a live availability check of the
resource manager is queued for the current instant. -/
theorem wake_w3 {w : World} (h : GoodB w) (d p : Nat) (hd : holdsD (w.dev d) = some p) :
    Att w d ∨ BlockedW w d p ∨
      ((w.dev d).waitingDS = true ∧ C11W.QueuedL w .rmCheck w.now pOtherHigh (-1)) :=
  wake_w3_of h.g (fun hr => (h.r hr).pend) h.k d p hd

theorem blocked_genuinely_of {w : World} (hg : G [] [] [] w) (hp : hasRes w = true → C11W.Pend w)
    (hgc : C03Z.GC w) (hc : ClockAdvances w) (d p : Nat) (hr : ready w d p) : BlockedW w d p := by
  have hadv := no_event_now hg.inv hc
  rcases wake_w3_of hg hp hgc d p hr.1 with ⟨e, he, _, _, _, ht⟩ | hb | ⟨_, hq⟩
  · exfalso
    have := hadv e he
    rw [dueD_of_expired hr.2] at ht
    omega
  · exact hb
  · exact absurd hq (no_check_of_advance hadv)

theorem quiescent_of {w : World} (hg : G [] [] [] w) (hp : hasRes w = true → C11W.Pend w)
    (hgc : C03Z.GC w) (hc : ClockAdvances w) : Quiescent w := by
  rw [quiescent_iff]
  intro d p x hr hx
  exact (blocked_genuinely_of hg hp hgc hc d p hr).2 x hx

/-- **4B. `blocked_genuinelyB`**: when time is about to advance, every ready part is flagged and no
downstream neighbour would accept it — the answer `give` would return, resources and batch sizes
included. -/
theorem blocked_genuinelyB {w : World} (h : GoodB w) (hc : ClockAdvances w) (d p : Nat)
    (hr : ready w d p) : BlockedW w d p :=
  blocked_genuinely_of h.g (fun hr => (h.r hr).pend) h.k hc d p hr

theorem blocked_genuinelyA {w : World} (h : GoodA w) (hc : ClockAdvances w) (d p : Nat)
    (hr : ready w d p) : BlockedW w d p := blocked_genuinelyB h.b hc d p hr

/-- **3B. `no_lost_wakeupB`**: when time is about to advance (the queue is empty or its first event
lies in the future), the state is quiescent. -/
theorem no_lost_wakeupB {w : World} (h : GoodB w) (hc : ClockAdvances w) : Quiescent w := by
  rw [quiescent_iff]
  intro d p x hr hx
  exact (blocked_genuinelyB h hc d p hr).2 x hx

theorem no_lost_wakeupA {w : World} (h : GoodA w) (hc : ClockAdvances w) : Quiescent w :=
  no_lost_wakeupB h.b hc

/-- **The closed-world statement of stage B**: in every state reachable by `runLoop` from an
initialised fresh world of the scope `S3`, whenever the clock is about to advance no ready part
could be handed over. -/
theorem no_lost_wakeupB_reachable (n : Nat) {w : World} (hs : S3 w) (hi : C01.Inv w.env)
    (h0 : 0 ≤ w.now) (he : EvOK w) (hf : FreshA w)
    (hc : ClockAdvances (runLoop n w.simulateInit)) : Quiescent (runLoop n w.simulateInit) :=
  no_lost_wakeupB (wakeB_reachable n hs hi h0 he hf) hc

/-- **4C.** `blocked_genuinelyC` = `blocked_genuinelyB` (the invariant `GoodB` covers group devices):
a ready part inside or in front of a group is flagged, and no downstream neighbour — group path,
group input, group output … — would pass it on to anybody who accepts. -/
theorem blocked_genuinelyC {w : World} (h : GoodB w) (hc : ClockAdvances w) (d p : Nat)
    (hr : ready w d p) : BlockedW w d p := blocked_genuinelyB h hc d p hr

theorem no_lost_wakeupC {w : World} (h : GoodB w) (hc : ClockAdvances w) : Quiescent w :=
  no_lost_wakeupB h hc

/-- **The closed-world statement of stage C**: in every state reachable by `runLoop` from an
initialised fresh world of the scope `S4` (one group, shared by any number of group paths),
whenever the clock is about to advance no ready part could be handed over. -/
theorem no_lost_wakeupC_reachable (n : Nat) {w : World} (hs : S4 w) (hi : C01.Inv w.env)
    (h0 : 0 ≤ w.now) (he : EvOK w) (hf : FreshA w)
    (hc : ClockAdvances (runLoop n w.simulateInit)) : Quiescent (runLoop n w.simulateInit) :=
  no_lost_wakeupC (wakeC_reachable n hs hi h0 he hf) hc

/-- Stage C is PARTIAL with respect to "groups" in general: `S4` admits ONE group (shared by any
number of group paths).  Several groups — in sequence, re-entrant, nested — are stages D, E, F at
the end of this file (`no_lost_wakeup5_reachable`; the invariant tying every entry of a part's
group-path stack to the group output the part will leave through is `C03Z.TInv`). -/
theorem no_lost_wakeupC_partial (n : Nat) {w : World} (hs : S4 w) (hi : C01.Inv w.env)
    (h0 : 0 ≤ w.now) (he : EvOK w) (hf : FreshA w)
    (hc : ClockAdvances (runLoop n w.simulateInit)) : Quiescent (runLoop n w.simulateInit) :=
  no_lost_wakeupC_reachable n hs hi h0 he hf hc

/-- **The closed-world statement of stage A.** -/
theorem no_lost_wakeupA_reachable (n : Nat) {w : World} (hs : S2 w) (hi : C01.Inv w.env)
    (h0 : 0 ≤ w.now) (he : EvOK w) (hf : FreshA w)
    (hc : ClockAdvances (runLoop n w.simulateInit)) : Quiescent (runLoop n w.simulateInit) :=
  no_lost_wakeupB_reachable n hs.s3 hi h0 he hf hc

/-! ### 4. the statements of stage S1 -/

/-- **4. `blocked_genuinely`**: when time is about to advance, every ready part is flagged and no
downstream neighbour would accept it. -/
theorem blocked_genuinely {w : World} (h : Good w) (hc : ClockAdvances w) (d p : Nat)
    (hr : ready w d p) : BlockedW w d p :=
  blocked_genuinelyB h.goodB hc d p hr

/-- **3. `no_lost_wakeup`**: when time is about to advance (the queue is empty or its first event
lies in the future), the state is quiescent. -/
theorem no_lost_wakeup {w : World} (h : Good w) (hc : ClockAdvances w) : Quiescent w :=
  no_lost_wakeupB h.goodB hc

/-- The closed-world statement: in every state reachable by `runLoop` from an initialised fresh S1
world, whenever the clock is about to advance no ready part could be handed over. -/
theorem no_lost_wakeup_reachable (n : Nat) {w : World} (hs : S1 w) (hi : C01.Inv w.env)
    (h0 : 0 ≤ w.now) (he : EvOK w) (hf : C02.Fresh w)
    (hc : ClockAdvances (runLoop n w.simulateInit)) : Quiescent (runLoop n w.simulateInit) :=
  no_lost_wakeup (wake_reachable n hs hi h0 he hf) hc

/-! ### non-vacuity -/

/-- source 0 (cycle 1, 5 parts) → handler 1 (cycle 0) → slow sink 2 (cycle 10) -/
def exLine : World :=
  { devs := [{ kind := .source, aid := 1, down := [1], cycle := 1, maxParts := some 5 },
             { kind := .handler, aid := 2, up := [0], down := [2] },
             { kind := .sink, aid := 3, up := [1], cycle := 10 }],
    assets := [.dev 0, .dev 1, .dev 2] }

theorem s1_exLine : S1 exLine := by decide

theorem fresh_exLine : C02.Fresh exLine := by
  refine ⟨rfl, rfl, rfl, rfl, ?_⟩
  decide

theorem evOK_exLine : EvOK exLine := by
  intro n hn; simp [C02V.acts, exLine] at hn

/-- the hypotheses of the closed-world theorems are satisfiable -/
theorem good_exLine (n : Nat) : Good (runLoop n exLine.simulateInit) :=
  wake_reachable n s1_exLine C01.inv_init (by decide) evOK_exLine fresh_exLine


/-- the congested state: at time 3 the source holds part 2 and the handler holds part 1, both flagged;
the sink is busy until time 11 -/
def exCongested : World := runLoop 8 (exLine.simulateInit.runBegin 100).1

/-- the closed-world theorem applies to it … -/
example : Good exCongested := wake_simulate 8 100 s1_exLine C01.inv_init (by decide) evOK_exLine fresh_exLine

/-- … and its conclusions are non-trivial: the clock is about to advance (next event at time 11),
two parts are ready, both holders are flagged, and `Wake` / `Quiescent` hold (computed). -/
example : S1 exCongested ∧ Wake exCongested ∧ Quiescent exCongested ∧ ClockAdvances exCongested ∧
    exCongested.now = 3 ∧ ready exCongested 0 2 ∧ ready exCongested 1 1 ∧
    BlockedW exCongested 0 2 ∧ BlockedW exCongested 1 1 ∧
    wouldAccept exCongested.fuel exCongested 2 1 = false := by decide

/-- a state in which `Wake` holds through (W1): the source holds part 1 and its attempt is queued
for the present instant — the clock is NOT about to advance, and the handler would accept -/
example : Wake (runLoop 4 (exLine.simulateInit.runBegin 100).1) ∧
    Att (runLoop 4 (exLine.simulateInit.runBegin 100).1) 0 ∧
    ¬ ClockAdvances (runLoop 4 (exLine.simulateInit.runBegin 100).1) ∧
    ¬ Quiescent (runLoop 4 (exLine.simulateInit.runBegin 100).1) := by decide

/-- `give` answers `wouldAccept` on the congested state (refused) and on the state above (accepted) -/
example : (exCongested.givePart 2 1).2 = false ∧
    wouldAccept exCongested.fuel exCongested 2 1 = false ∧
    ((runLoop 4 (exLine.simulateInit.runBegin 100).1).givePart 1 1).2 = true := by decide

/-- source 0 → gate 1 (quality ≥ 1) → buffer 2 (capacity 1, delay 2) → slow sink 3 -/
def exGB : World :=
  { devs := [{ kind := .source, aid := 1, down := [1], cycle := 1, maxParts := some 6 },
             { kind := .gate, aid := 2, up := [0], down := [2], pred := .qualityGe 1 },
             { kind := .buffer, aid := 3, up := [1], down := [3], cap := some 1, delay := 2 },
             { kind := .sink, aid := 4, up := [2], cycle := 10 }],
    assets := [.dev 0, .dev 1, .dev 2, .dev 3] }

theorem s1_exGB : S1 exGB := by decide

/-- at time 5: the buffer's head (stored at 3, delay 2) is ready and refused by the busy sink, the
source is blocked behind the gate by the full buffer; the clock is about to advance to 13 -/
example : Good (runLoop 9 (exGB.simulateInit.runBegin 100).1) :=
  wake_simulate 9 100 s1_exGB C01.inv_init (by decide)
    (by intro n hn; simp [C02V.acts, exGB] at hn) ⟨rfl, rfl, rfl, rfl, by decide⟩

example : Wake (runLoop 9 (exGB.simulateInit.runBegin 100).1) ∧
    Quiescent (runLoop 9 (exGB.simulateInit.runBegin 100).1) ∧
    ClockAdvances (runLoop 9 (exGB.simulateInit.runBegin 100).1) ∧
    ready (runLoop 9 (exGB.simulateInit.runBegin 100).1) 0 2 ∧
    ready (runLoop 9 (exGB.simulateInit.runBegin 100).1) 2 1 ∧
    wouldAccept (runLoop 9 (exGB.simulateInit.runBegin 100).1).fuel
      (runLoop 9 (exGB.simulateInit.runBegin 100).1) 1 2 = false := by decide

/-- at time 2 the buffer's head (stored at 1) is NOT yet ready: (W1) holds through the PASS_PART
event queued for the expiry time 3 -/
example : Wake (runLoop 4 (exGB.simulateInit.runBegin 100).1) ∧
    Att (runLoop 4 (exGB.simulateInit.runBegin 100).1) 2 ∧
    ¬ ready (runLoop 4 (exGB.simulateInit.runBegin 100).1) 2 0 ∧
    holdsD ((runLoop 4 (exGB.simulateInit.runBegin 100).1).dev 2) = some 0 := by decide

/-! ### the restrictions of S1 are needed (machine-checked counterexamples) -/

/-- source 0 holds part 0 and its attempt is queued; the input of handler 1 is blocked; script 0
cancels the events of the source's asset id -/
def cexCancel : World :=
  { devs := [{ kind := .source, aid := 1, down := [1], output := some 0 },
             { kind := .handler, aid := 2, up := [0], blockInput := true }],
    parts := [{}],
    scripts := [[.cancel 1]],
    env := { events := [{ uid := 0, time := 0, prio := 28, weight := 0, asset := 1, act := 3 }],
             nextUid := 1 } }

/-- **A script that cancels a device's events destroys the invariant**: the world satisfies `S1`
except for that script (it does without it) and `Wake`; after the script the source holds a ready
part, is not flagged and has no live attempt. -/
theorem wake_exec_false_cancel :
    S1 { cexCancel with scripts := [] } ∧ ¬ S1 cexCancel ∧ Wake cexCancel ∧ HeldValid cexCancel ∧
    ¬ Wake (cexCancel.exec (.script 0)) := by decide

/-- handler 0 holds part 0 with its attempt queued, sink 1 is free; maintenance target 0 is the
HANDLER (not a processor), with an active work order -/
def cexTarget : World :=
  { devs := [{ kind := .handler, aid := 1, down := [1], output := some 0 },
             { kind := .sink, aid := 2, up := [0] }],
    parts := [{}],
    targets := [{ dev := some 0, params := [(0, 5, 0, 0)] }],
    maints := [{ m := { active := [{ seq := 0, target := 0, tag := 0, needed := 0 }] }, aid := 3 }],
    env := { events := [{ uid := 0, time := 0, prio := 28, weight := 0, asset := 1, act := 3 }],
             nextUid := 1 } }

/-- **Maintenance of a device that is not a processor loses a wake-up**: `_shutdown` pauses the
handler's PASS_PART event although a plain handler stays operational; afterwards the clock is about
to advance (next event: the end of the work at time 5) while the free sink would accept the
handler's ready part. -/
theorem wake_exec_false_target :
    S1 { cexTarget with targets := [] } ∧ ¬ S1 cexTarget ∧ Wake cexTarget ∧
    ClockAdvances (cexTarget.exec (.startWork 0 0)) ∧
    ¬ Quiescent (cexTarget.exec (.startWork 0 0)) := by decide

/-- source 0 (flagged) holds the EMPTY batch 1; buffer 1 is full (1 of 1), its input is blocked;
script 0 unblocks it -/
def cexBatch : World :=
  { devs := [{ kind := .source, aid := 1, down := [1], output := some 1, waitingDS := true,
               genBatch := -1 },
             { kind := .buffer, aid := 2, up := [0], down := [2], cap := some 1, level := 1,
               delay := 100, buf := [(0, 0)], blockInput := true },
             { kind := .sink, aid := 3, up := [1] }],
    parts := [{}, { kids := some [] }],
    scripts := [[.block 1 false]],
    env := { events := [{ uid := 0, time := 100, prio := 28, weight := 0, asset := 2, act := 19 }],
             nextUid := 1 } }

/-- **Empty batches (finding F12, repaired).**  Unblocking the input of a FULL buffer notifies
nobody (a full buffer does not forward `notify_upstream_of_available_space`).  Before the repair a
full buffer still accepted an empty batch (it has no parts), so this state lost a wake-up: the clock
was about to advance (to 100), the source held a ready empty batch that the buffer would have
accepted, and no attempt was queued.  Since the repair a full buffer refuses every offer
(`canAcceptBasic`: `level < cap`), so the same state is quiescent: the part is genuinely blocked. -/
theorem empty_batch_full_buffer_quiescent :
    Wake cexBatch ∧ ClockAdvances (cexBatch.exec (.script 0)) ∧
    ready (cexBatch.exec (.script 0)) 0 1 ∧
    ((cexBatch.exec (.script 0)).givePart 1 1).2 = false ∧
    Quiescent (cexBatch.exec (.script 0)) ∧ Wake (cexBatch.exec (.script 0)) := by decide

/-! ### non-vacuity, stage A -/

/-- one scripted event: at t = 5 script 0 adds one unit of capacity to pool 0 -/
def exEnvA : Env :=
  (({ terminated := false } : Env).applyAll Arith.exact [.sched 5 0 (Action.script 0).toNat 8 0]).1

/-- source 0 (cycle 1, 3 parts) → processor 1 (cycle 2, needs one unit of pool 0) → sink 2; the pool
has capacity 0 until the script adds a unit at t = 5 -/
def exRes : World :=
  { env := exEnvA
    scripts := [[.addRes 0 1]]
    rm := { pools := [(0, 0, 0)] }
    devs := [{ kind := .source, aid := 1, down := [1], cycle := 1, maxParts := some 3 },
             { kind := .processor, aid := 2, up := [0], down := [2], cycle := 2, resReq := some [(0, 1)] },
             { kind := .sink, aid := 3, up := [1] }]
    assets := [.dev 0, .dev 1, .dev 2] }

/-- the world is in the scope of stage A, not in that of stage S1 -/
theorem s2_exRes : S2 exRes ∧ ¬ S1 exRes ∧ hasRes exRes = true := by decide

theorem freshA_exRes : FreshA exRes :=
  ⟨⟨rfl, rfl, rfl, rfl, by decide⟩, by decide, fun _ => by decide⟩

theorem evOK_exRes : EvOK exRes := by
  intro n hn d hd
  have : n = 1 := by
    simpa [C02V.acts, exRes, exEnvA, Env.applyAll, Env.apply, Env.schedule, insort, Env.newEvent,
      Action.toNat] using hn
  subst this
  simp [Action.ofNat] at hd

/-- the hypotheses of the closed-world theorems of stage A are satisfiable -/
theorem goodA_exRes (n : Nat) : GoodA (runLoop n exRes.simulateInit) :=
  wakeA_reachable n s2_exRes.1 (by decide) (by decide) evOK_exRes freshA_exRes

/-- t = 1: the source holds part 0 and has been refused — the processor cannot get its unit, it
is registered with the manager (`waitingRes`, one waiting request), the source is flagged; the next
event is the script at t = 5: the clock is about to advance, the part is genuinely blocked -/
def exWaiting : World := runLoop 3 exRes.simulateInit

example : exWaiting.now = 1 ∧ ClockAdvances exWaiting ∧ ready exWaiting 0 0 ∧
    (exWaiting.dev 1).waitingRes = true ∧ exWaiting.rm.waiting = [([(0, 1)], Cb.proc 1)] ∧
    procReal exWaiting 1 = false ∧ procM (exWaiting.dev 1) = false ∧
    WakeA exWaiting ∧ BlockedR exWaiting 0 0 ∧ BlockedW exWaiting 0 0 ∧
    wouldAccept exWaiting.fuel exWaiting 1 0 = false ∧ Quiescent exWaiting := by decide

/-- … as the theorem says -/
example : Quiescent exWaiting := no_lost_wakeupA (goodA_exRes 3) (by decide)

/-- t = 5, right after the script has added the unit: (W3) — the processor WOULD accept now
(`wouldAccept`), the source is still flagged and has no attempt queued, but the manager's
availability check is queued for the current instant; the clock is not about to advance -/
def exChecking : World := runLoop 4 exRes.simulateInit

example : exChecking.now = 5 ∧ ready exChecking 0 0 ∧ ¬ Att exChecking 0 ∧
    (exChecking.dev 0).waitingDS = true ∧
    wouldAccept exChecking.fuel exChecking 1 0 = true ∧ procReal exChecking 1 = true ∧
    wouldAcceptR exChecking.fuel exChecking 1 0 = false ∧ ¬ BlockedW exChecking 0 0 ∧
    BlockedR exChecking 0 0 ∧ WakeA exChecking ∧
    C11W.QueuedL exChecking .rmCheck exChecking.now pOtherHigh (-1) ∧
    ¬ ClockAdvances exChecking ∧ ¬ Quiescent exChecking := by decide

/-- one event later the check has called the processor back (`procResourceCb` → `notify`): the
source has its attempt queued (W1); another event later the part has been handed over and the
processor holds its reservation -/
example : Att (runLoop 5 exRes.simulateInit) 0 ∧
    ((runLoop 5 exRes.simulateInit).dev 1).waitingRes = false ∧
    (runLoop 5 exRes.simulateInit).rm.waiting = [] ∧
    ((runLoop 6 exRes.simulateInit).dev 1).part = some 0 ∧
    ((runLoop 6 exRes.simulateInit).dev 1).reserved = some 0 ∧
    ((runLoop 6 exRes.simulateInit).dev 0).output = none := by decide

/-- `give` answers `wouldAccept` in both states (refused for want of resources / accepted) -/
example : (exWaiting.givePart 1 0).2 = false ∧ (exChecking.givePart 1 0).2 = true := by decide

/-- t = 8: the processor is busy with part 1 (holding its reservation), the source is blocked with
part 2 for the ordinary reason; the clock advances to 9 -/
example : ClockAdvances (runLoop 14 exRes.simulateInit) ∧ ready (runLoop 14 exRes.simulateInit) 0 2 ∧
    BlockedW (runLoop 14 exRes.simulateInit) 0 2 ∧ Quiescent (runLoop 14 exRes.simulateInit) := by
  decide

/-- As `exRes`, but the script also cancels the events of asset −1 (the resource manager's). -/
def cexCancelM : World := { exRes with scripts := [[.addRes 0 1, .cancel (-1)]] }

/-- **In stage A a script must not cancel the manager's events.**  The world is of the machinery's
scope `SC` and fresh, only `C11W.S` fails (the script cancels asset −1).  The script cancels the
availability check it has just caused: at t = 5 the queue runs empty while the source holds a ready
part that the processor — whose request fits now — would accept. -/
theorem cancel_manager_false :
    SC cexCancelM ∧ ¬ S2 cexCancelM ∧ FreshA cexCancelM ∧
    ClockAdvances (runLoop 5 cexCancelM.simulateInit) ∧
    ready (runLoop 5 cexCancelM.simulateInit) 0 0 ∧
    wouldAccept (runLoop 5 cexCancelM.simulateInit).fuel (runLoop 5 cexCancelM.simulateInit) 1 0 = true ∧
    ¬ Quiescent (runLoop 5 cexCancelM.simulateInit) := by
  refine ⟨by decide, by decide, ⟨⟨rfl, rfl, rfl, rfl, by decide⟩, by decide, fun _ => by decide⟩,
    by decide, by decide, by decide, by decide⟩

/-! ### non-vacuity, stage B -/

/-- source 0 (cycle 1, 7 parts) → batcher 1 (batches of 2) → slow sink 2 (cycle 5) -/
def exBat : World :=
  { devs := [{ kind := .source, aid := 1, down := [1], cycle := 1, maxParts := some 7 },
             { kind := .batcher, aid := 2, up := [0], down := [2], bsize := some 2 },
             { kind := .sink, aid := 3, up := [1], cycle := 5 }],
    assets := [.dev 0, .dev 1, .dev 2] }

/-- source 0 generates batches of 3 → buffer 1 (capacity 4) → unbatcher 2 → slow sink 3 -/
def exUnb : World :=
  { devs := [{ kind := .source, aid := 1, down := [1], cycle := 1, maxParts := some 4, genBatch := 3 },
             { kind := .buffer, aid := 2, up := [0], down := [2], cap := some 4 },
             { kind := .batcher, aid := 3, up := [1], down := [3] },
             { kind := .sink, aid := 4, up := [2], cycle := 2 }],
    assets := [.dev 0, .dev 1, .dev 2, .dev 3] }

/-- both are in the scope of stage B, not in that of stage A -/
theorem s3_exBat : S3 exBat ∧ ¬ S2 exBat ∧ S3 exUnb ∧ ¬ S2 exUnb := by decide

theorem freshA_exBat : FreshA exBat ∧ FreshA exUnb :=
  ⟨⟨⟨rfl, rfl, rfl, rfl, by decide⟩, by decide, fun h => by cases h⟩,
   ⟨⟨rfl, rfl, rfl, rfl, by decide⟩, by decide, fun h => by cases h⟩⟩

theorem evOK_exBat : EvOK exBat ∧ EvOK exUnb :=
  ⟨fun n hn => by simp [C02V.acts, exBat] at hn, fun n hn => by simp [C02V.acts, exUnb] at hn⟩

/-- the hypotheses of the closed-world theorems of stage B are satisfiable -/
theorem goodB_exBat (n : Nat) : GoodB (runLoop n (exBat.simulateInit.runBegin 100).1) :=
  wakeB_simulate n 100 s3_exBat.1 C01.inv_init (by decide) evOK_exBat.1 freshA_exBat.1

theorem goodB_exUnb (n : Nat) : GoodB (runLoop n (exUnb.simulateInit.runBegin 100).1) :=
  wakeB_simulate n 100 s3_exBat.2.2.1 C01.inv_init (by decide) evOK_exBat.2 freshA_exBat.2

/-- t = 5: the batcher holds the complete batch 4 = [3, 5] in its output slot and is flagged (the
sink is busy until 7), the source holds part 6 and is flagged (the batcher refuses: its output is
occupied); the clock is about to advance; both parts are genuinely blocked -/
def exBatBlocked : World := runLoop 12 (exBat.simulateInit.runBegin 100).1

example : exBatBlocked.now = 5 ∧ ClockAdvances exBatBlocked ∧
    (exBatBlocked.part 4).kids = some [3, 5] ∧ ready exBatBlocked 1 4 ∧ ready exBatBlocked 0 6 ∧
    BlockedW exBatBlocked 1 4 ∧ BlockedW exBatBlocked 0 6 ∧ WakeA exBatBlocked ∧
    Quiescent exBatBlocked := by decide

example : Quiescent exBatBlocked := no_lost_wakeupB (goodB_exBat 12) (by decide)

/-- t = 7: the sink has notified, the batcher has handed its batch over and — counted as willing
after its own notification — is free again; the source's attempt is queued (W1); one event later
the batcher has taken part 6 into a new batch under construction and accepts again without any
further notification -/
example : Att (runLoop 14 (exBat.simulateInit.runBegin 100).1) 0 ∧
    ((runLoop 14 (exBat.simulateInit.runBegin 100).1).dev 1).output = none ∧
    ((runLoop 15 (exBat.simulateInit.runBegin 100).1).dev 1).inprog = some 7 ∧
    ((runLoop 15 (exBat.simulateInit.runBegin 100).1).part 7).kids = some [6] ∧
    wouldAccept (runLoop 15 (exBat.simulateInit.runBegin 100).1).fuel
      (runLoop 15 (exBat.simulateInit.runBegin 100).1) 1 0 = true := by decide

/-- t = 3 in the second line: the buffer holds batch 7 (3 parts, level 3 of 4); the source holds
batch 11 (3 parts) and is refused because 3 + 3 > 4 — a buffer counts all parts of a batch; the
buffer's head is refused by the busy unbatcher; the clock is about to advance, everything is
genuinely blocked.  A SINGLE part would be accepted by the buffer. -/
def exUnbBlocked : World := runLoop 15 (exUnb.simulateInit.runBegin 100).1

example : exUnbBlocked.now = 3 ∧ ClockAdvances exUnbBlocked ∧
    exUnbBlocked.leafCount 11 = 3 ∧ (exUnbBlocked.dev 1).level = 3 ∧
    ready exUnbBlocked 0 11 ∧ ready exUnbBlocked 1 7 ∧ ready exUnbBlocked 2 2 ∧
    wouldAccept exUnbBlocked.fuel exUnbBlocked 1 11 = false ∧
    wouldAccept exUnbBlocked.fuel exUnbBlocked 1 2 = true ∧
    BlockedW exUnbBlocked 0 11 ∧ BlockedW exUnbBlocked 1 7 ∧ BlockedW exUnbBlocked 2 2 ∧
    WakeA exUnbBlocked ∧ Quiescent exUnbBlocked := by decide

example : Quiescent exUnbBlocked := no_lost_wakeupB (goodB_exUnb 15) (by decide)

/-- `give` answers `wouldAccept` for a batch offered to the buffer (refused) -/
example : (exUnbBlocked.givePart 1 11).2 = false := by decide

/-! #### stage C: one group shared by two lines -/

/-- two lines share the machine 5 of one group: source 0 → group path 2 → sink 7 and source 1 →
group path 3 → sink 8; the group (input 4 → handler 5 (cycle 2) → output 6) is entered through
either path, and the part leaves towards the sink of the path it came in through (slow sinks,
cycle 5) -/
def exGrp : World :=
  { devs := [{ kind := .source, aid := 1, down := [2], cycle := 1, maxParts := some 3 },
             { kind := .source, aid := 2, down := [3], cycle := 1, maxParts := some 3 },
             { kind := .gpath, aid := 3, group := 0, up := [0], down := [7] },
             { kind := .gpath, aid := 4, group := 0, up := [1], down := [8] },
             { kind := .ginput, aid := 5, group := 0, down := [5] },
             { kind := .handler, aid := 6, up := [4], down := [6], cycle := 2 },
             { kind := .goutput, aid := 7, group := 0, up := [5] },
             { kind := .sink, aid := 8, up := [2], cycle := 5 },
             { kind := .sink, aid := 9, up := [3], cycle := 5 }],
    groups := [{ paths := [2, 3], input := 4, output := 6 }],
    assets := [.dev 0, .dev 1, .dev 2, .dev 3, .dev 4, .dev 5, .dev 6, .dev 7, .dev 8] }

/-- in the scope of stage C, not in that of stage B -/
theorem s4_exGrp : S4 exGrp ∧ ¬ S3 exGrp := by decide

theorem freshA_exGrp : FreshA exGrp :=
  ⟨⟨rfl, rfl, rfl, rfl, by decide⟩, by decide, fun h => by cases h⟩

theorem evOK_exGrp : EvOK exGrp := fun n hn => by simp [C02V.acts, exGrp] at hn

/-- the hypotheses of the closed-world theorems of stage C are satisfiable -/
theorem goodC_exGrp (n : Nat) : GoodB (runLoop n (exGrp.simulateInit.runBegin 100).1) :=
  wakeC_simulate n 100 s4_exGrp.1 C01.inv_init (by decide) evOK_exGrp freshA_exGrp

/-- t = 5: the shared machine 5 holds part 2 of the first line (group-path stack [2]) and is flagged:
the sink 7 of ITS path is busy until 8 (the sink 8 of the other line is idle — the group output
passes the part on along the path it came in through only); both sources hold a part and are
flagged, the machine being occupied; the clock is about to advance; everything is genuinely
blocked -/
def exGrpBlocked : World := runLoop 14 (exGrp.simulateInit.runBegin 100).1

example : exGrpBlocked.now = 5 ∧ ClockAdvances exGrpBlocked ∧
    (exGrpBlocked.part 2).stack = [2] ∧ (exGrpBlocked.dev 8).part = none ∧
    ready exGrpBlocked 5 2 ∧ ready exGrpBlocked 0 3 ∧ ready exGrpBlocked 1 1 ∧
    BlockedW exGrpBlocked 5 2 ∧ BlockedW exGrpBlocked 0 3 ∧ BlockedW exGrpBlocked 1 1 ∧
    WakeA exGrpBlocked ∧ Quiescent exGrpBlocked := by decide

example : Quiescent exGrpBlocked := no_lost_wakeupC (goodC_exGrp 14) (by decide)

/-- `give` answers `wouldAccept` through the group: the offer of part 3 to group path 2 is refused
(the machine is occupied) -/
example : (exGrpBlocked.givePart 2 3).2 = false ∧
    wouldAccept exGrpBlocked.fuel exGrpBlocked 2 3 = false := by decide

/-- t = 8: the sink 7 has notified its group path, the notification has gone through the group
output to the machine, which has handed its part over and notified — through the group input —
BOTH group paths: both sources have a hand-over attempt queued (W1) -/
example : (runLoop 16 (exGrp.simulateInit.runBegin 100).1).now = 8 ∧
    Att (runLoop 16 (exGrp.simulateInit.runBegin 100).1) 0 ∧
    Att (runLoop 16 (exGrp.simulateInit.runBegin 100).1) 1 ∧
    ((runLoop 16 (exGrp.simulateInit.runBegin 100).1).dev 5).output = none := by decide

/-- Necessity of "a group input has no upstream neighbour" (`GroupOK`): a device wired DIRECTLY in
front of a group input (not through a group path) is never woken — a group input forwards
notifications to the group paths only. -/
def cexGin : World :=
  { devs := [{ kind := .source, aid := 1, down := [1], cycle := 1, maxParts := some 3 },
             { kind := .ginput, aid := 2, group := 0, up := [0], down := [2] },
             { kind := .handler, aid := 3, up := [1], down := [3], cycle := 3 },
             { kind := .sink, aid := 4, up := [2] }],
    groups := [{ paths := [], input := 1, output := 0 }],
    assets := [.dev 0, .dev 1, .dev 2, .dev 3] }

/-- t = 4: the handler has handed its part over and is free, the source still holds part 1 and is
flagged, nothing is queued before the end of the run: a lost wake-up.  The world violates only the
clause "a group input has no upstream neighbour" of the scope. -/
theorem group_input_upstream_false :
    ¬ S4 cexGin ∧ FreshA cexGin ∧
    ClockAdvances (runLoop 6 (cexGin.simulateInit.runBegin 100).1) ∧
    ready (runLoop 6 (cexGin.simulateInit.runBegin 100).1) 0 1 ∧
    wouldAccept (runLoop 6 (cexGin.simulateInit.runBegin 100).1).fuel
      (runLoop 6 (cexGin.simulateInit.runBegin 100).1) 1 1 = true ∧
    ¬ Quiescent (runLoop 6 (cexGin.simulateInit.runBegin 100).1) := by
  refine ⟨by decide, ⟨⟨rfl, rfl, rfl, rfl, by decide⟩, by decide, fun h => by cases h⟩,
    by decide, by decide, by decide, by decide⟩

/-! ## STAGE R: mid-run re-wiring ("connection added")

`S1R w` — the scope of stage S1, but scripts MAY contain `rewire x ups` (`OpSC`, `RewOK`, `EnvOK`).
`GoodR w` — what the induction carries.  `ReachR w0 w` — the reachable states: initialisation,
events, whole runs, beginnings of runs, and operations issued from outside between events that are
taken from the vocabulary of the scripts. -/

/-- **The scope of stage S1 with mid-run re-wiring**: the machinery's scope `SC` (which admits
`rewire x ups` in scripts under the static conditions `RewOK`, `EnvOK`) without resource
requirements, batchers, batches and groups. -/
def S1R (w : World) : Prop := SC w ∧ hasRes w = false ∧ NoBatch w ∧ PartsLeaf w

instance (w : World) : Decidable (S1R w) := by unfold S1R; infer_instance

/-- S1 is S1R without re-wiring scripts. -/
theorem s1_iff_s1r (w : World) : S1 w ↔ S1R w ∧ NR w := by
  rw [S1_iff]
  constructor
  · rintro ⟨a, b, c, d, e⟩; exact ⟨⟨a, b, c, d⟩, e⟩
  · rintro ⟨⟨a, b, c, d⟩, e⟩; exact ⟨a, b, c, d, e⟩

theorem S1.s1r {w : World} (h : S1 w) : S1R w := ((s1_iff_s1r w).mp h).1

/-- `RewOK` in a world without group devices. -/
theorem rewOK_iff_of_s1r {w : World} (h : S1R w) (x : Nat) (ups : List Nat) :
    RewOK w x ups ↔ (x < w.devs.length ∧ ((w.dev x).kind = .source → ups = []) ∧
      ∀ d ∈ w.devs, d.down.count x ≤ 1) := by
  have hg := noGrp_of_noBatch h.2.2.1
  unfold RewOK
  constructor
  · rintro ⟨h1, h2, h3⟩; exact ⟨h1, fun hk => h2 (Or.inl hk), h3⟩
  · rintro ⟨h1, h2, h3⟩
    exact ⟨h1, fun hk => hk.elim h2 (fun hk => absurd hk (hg x).2.1), h3⟩

/-- Everything the closed-world induction carries (stage R). -/
structure GoodR (w : World) : Prop where
  s : S1R w
  inv : C01.Inv w.env
  now0 : 0 ≤ w.now
  ev : EvOK w
  valid : HeldValid w
  wake : Wake w
  /-- no script re-wires, or every device is registered and has been initialised -/
  ini : IOK w

theorem goodR_iff (w : World) :
    GoodR w ↔ G [] [] [] w ∧ hasRes w = false ∧ NoBatch w ∧ IOK w := by
  constructor
  · intro h
    obtain ⟨hsc, hn, hb, hpl⟩ := h.s
    exact ⟨⟨hsc, fun _ => hpl, h.inv, h.now0, h.ev, h.valid, kidsValid_of_leaf hpl,
      stkOK_of_noBatch hb, Or.inl hn, (fun _ hx => nomatch hx), (wake_iff hn hb).mp h.wake⟩,
      hn, hb, h.ini⟩
  · rintro ⟨h, hn, hb, hi⟩
    exact ⟨⟨h.sc, hn, hb, h.pl hb⟩, h.inv, h.now0, h.ev, h.valid, (wake_iff hn hb).mpr h.wake, hi⟩

theorem GoodR.goodB {w : World} (h : GoodR w) : GoodB w :=
  ⟨((goodR_iff w).mp h).1, (fun hr => by rw [h.s.2.1] at hr; cases hr),
    fun hn => absurd h.s.2.2.1 hn, h.ini, C03Z.gc_noGrp (noGrp_of_noBatch h.s.2.2.1)⟩

theorem goodR_of_goodB {w : World} (h : GoodB w) (hn : hasRes w = false) (hb : NoBatch w) :
    GoodR w := (goodR_iff w).mpr ⟨h.g, hn, hb, h.i⟩

/-- `Good` (stage S1) is `GoodR` in a world whose scripts do not re-wire. -/
theorem Good.goodR {w : World} (h : Good w) : GoodR w :=
  goodR_of_goodB h.goodB h.s1.noRes h.s1.noBatch

/-- **R1. `wakeR_init`**: after `simulateInit` of a fresh world of the scope that satisfies the
registration invariant (`C20W.Reg`: every device is registered, asset id = registration index + 1,
nothing initialised yet — what the constructors of the Python library guarantee) the invariant
holds, and every device has been initialised. -/
theorem wakeR_init {w : World} (hs : S1R w) (hi : C01.Inv w.env) (h0 : 0 ≤ w.now) (he : EvOK w)
    (hf : C02.Fresh w) (hreg : C20W.Reg w) : GoodR w.simulateInit := by
  obtain ⟨hsc, hn, hb, hpl⟩ := hs
  have hg : G [] [] [] w :=
    ⟨hsc, fun _ => hpl, hi, h0, he, heldValid_fresh hf, kidsValid_of_leaf hpl, stkOK_of_noBatch hb,
      Or.inl hn, (fun _ hx => nomatch hx), wakeG_fresh hf⟩
  exact (goodR_iff _).mpr ⟨hg.simulateInitG,
    by rw [hasRes_of_ss (C02V.ss_simulateInit w)]; exact hn,
    (noBatch_of_sw (sw_simulateInit w).sw_eq).mpr hb, Or.inr (ini_simulateInit hreg)⟩

/-- **R2. `wakeR_step`**: `Environment.step` preserves the invariant — including the scope `S1R`
(whatever the scripts re-wire), the queue invariant, `EvOK`, `HeldValid` and `Wake`. -/
theorem wakeR_step {w w' : World} {e : Event} (h : GoodR w) (hst : w.step = some (e, w')) :
    GoodR w' := by
  have r := swrw_step w w' e h.goodB.g.sc.nc hst
  exact goodR_of_goodB (h.goodB.step hst) (by rw [hasRes_of_swr' r]; exact h.s.2.1)
    ((noBatch_of_swr' r).mpr h.s.2.2.1)

/-- The scope of stage R is preserved by every step (the re-wired world is in the scope again). -/
theorem s1r_step {w w' : World} {e : Event} (h : GoodR w) (hst : w.step = some (e, w')) : S1R w' :=
  (wakeR_step h hst).s

theorem wakeR_runLoop (n : Nat) {w : World} (h : GoodR w) : GoodR (runLoop n w) := by
  have r := swrw_runLoop n w h.goodB.g.sc.nc
  exact goodR_of_goodB (h.goodB.runLoop n) (by rw [hasRes_of_swr' r]; exact h.s.2.1)
    ((noBatch_of_swr' r).mpr h.s.2.2.1)

theorem wakeR_runBegin {w : World} (h : GoodR w) (d : Int) : GoodR (w.runBegin d).1 :=
  goodR_of_goodB (h.goodB.runBegin d) (by rw [hasRes_of_ss (ss_runBegin w d)]; exact h.s.2.1)
    ((noBatch_of_sw (sw_runBegin w d).sw_eq).mpr h.s.2.2.1)

/-- **R2'. An operation issued from outside** between two events preserves the invariant, if it is
taken from the vocabulary of the scripts (every operation a script of the world contains is
admissible whenever it is issued — the conditions of the scope do not depend on the state). -/
theorem wakeR_applyOp {w : World} (h : GoodR w) (o : Op) (ho : ∃ l ∈ w.scripts, o ∈ l) :
    GoodR (w.applyOp o).1 := by
  obtain ⟨l, hl, hol⟩ := ho
  have hg := ((goodR_iff w).mp h).1
  have hop := hg.sc.scriptOp hl hol
  have hnc := opSC_not_create hop
  have r : C02V.swr (w.applyOp o).1 = C02V.swr w := C02V.swr_applyOp w o hnc
  refine (goodR_iff _).mpr ⟨hg.applyOpG o hop h.ini ⟨l, hl, hol⟩,
    by rw [hasRes_of_swr r]; exact h.s.2.1, (noBatch_of_swr r).mpr h.s.2.2.1, ?_⟩
  have := h.ini.step (istep_applyOp w o hnc)
  exact this.step ⟨rfl, C20W.Pv.of_same rfl⟩

/-- **A re-wiring issued from outside** (between two events), whether or not a script contains it:
the invariant is kept if the re-wiring is admissible (`RewOK`) and the re-wired world is in the
scope `SC` again — both decidable on the current world — and every device has been initialised. -/
theorem wakeR_rewire {w : World} (h : GoodR w) (hi : Ini w) (x : Nat) (ups : List Nat)
    (hok : RewOK w x ups) (hfin : SC (w.rewire x ups)) :
    GoodR (w.rewire x ups) ∧ Ini (w.rewire x ups) := by
  have hg := ((goodR_iff w).mp h).1.rewireD x ups hok hfin (fun z hz => hi.inited hz)
  have r : C02V.swr (w.rewire x ups) = C02V.swr w := C02V.swr_rewire w x ups
  have hi' : Ini (w.rewire x ups) :=
    hi.step ⟨C02V.scr_floor.rewire w x ups, C20W.Pv_applyOp w (.rewire x ups) rfl⟩
  exact ⟨(goodR_iff _).mpr ⟨hg, by rw [hasRes_of_swr r]; exact h.s.2.1,
    (noBatch_of_swr r).mpr h.s.2.2.1, Or.inr hi'⟩, hi'⟩

/-- **Reachable states** (stage R): `System.simulate`'s initialisation of the fresh world, then any
number of events (`Environment.step`, or whole runs of the event loop `runLoop` with any fuel),
beginnings of `Environment.run(d)`, operations issued from outside between events that occur in
some script of the world, and ANY re-wiring issued from outside that is admissible and leaves the
world in the scope (`RewOK`, `SC` of the re-wired world: decidable on the current world). -/
inductive ReachR (w0 : World) : World → Prop
  | init : ReachR w0 w0.simulateInit
  | step {w w' : World} {e : Event} : ReachR w0 w → w.step = some (e, w') → ReachR w0 w'
  | loop {w : World} (n : Nat) : ReachR w0 w → ReachR w0 (runLoop n w)
  | run {w : World} (d : Int) : ReachR w0 w → ReachR w0 (w.runBegin d).1
  | op {w : World} (o : Op) : ReachR w0 w → (∃ l ∈ w.scripts, o ∈ l) → ReachR w0 (w.applyOp o).1
  | rew {w : World} (x : Nat) (ups : List Nat) : ReachR w0 w → RewOK w x ups →
      SC (w.rewire x ups) → ReachR w0 (w.applyOp (.rewire x ups)).1

/-- the invariant and "every device has been initialised" hold in every reachable state -/
theorem wakeR_reachable' {w0 w : World} (hs : S1R w0) (hi : C01.Inv w0.env) (h0 : 0 ≤ w0.now)
    (he : EvOK w0) (hf : C02.Fresh w0) (hreg : C20W.Reg w0) (hr : ReachR w0 w) :
    GoodR w ∧ Ini w := by
  induction hr with
  | init => exact ⟨wakeR_init hs hi h0 he hf hreg, ini_simulateInit hreg⟩
  | step _ hst ih => exact ⟨wakeR_step ih.1 hst, ih.2.step (istep_step hst)⟩
  | loop n _ ih => exact ⟨wakeR_runLoop n ih.1, ih.2.step (istep_runLoop n _)⟩
  | run d _ ih => exact ⟨wakeR_runBegin ih.1 d, ih.2.step (istep_runBegin _ d)⟩
  | @op w o _ ho ih =>
    obtain ⟨l, hl, hol⟩ := ho
    have hnc := opSC_not_create (((goodR_iff w).mp ih.1).1.sc.scriptOp hl hol)
    refine ⟨wakeR_applyOp ih.1 o ⟨l, hl, hol⟩, ?_⟩
    exact (ih.2.step (istep_applyOp w o hnc)).step ⟨rfl, C20W.Pv.of_same rfl⟩
  | rew x ups _ hok hfin ih => exact wakeR_rewire ih.1 ih.2 x ups hok hfin

/-- **R3. `wakeR_reachable`**: the invariant holds in every reachable state. -/
theorem wakeR_reachable {w0 w : World} (hs : S1R w0) (hi : C01.Inv w0.env) (h0 : 0 ≤ w0.now)
    (he : EvOK w0) (hf : C02.Fresh w0) (hreg : C20W.Reg w0) (hr : ReachR w0 w) : GoodR w :=
  (wakeR_reachable' hs hi h0 he hf hreg hr).1

/-- the static class is preserved along every reachable state -/
theorem s1r_reachable {w0 w : World} (hs : S1R w0) (hi : C01.Inv w0.env) (h0 : 0 ≤ w0.now)
    (he : EvOK w0) (hf : C02.Fresh w0) (hreg : C20W.Reg w0) (hr : ReachR w0 w) : S1R w :=
  (wakeR_reachable hs hi h0 he hf hreg hr).s

theorem wakeR_simulate (n : Nat) (d : Int) {w : World} (hs : S1R w) (hi : C01.Inv w.env)
    (h0 : 0 ≤ w.now) (he : EvOK w) (hf : C02.Fresh w) (hreg : C20W.Reg w) :
    GoodR (runLoop n (w.simulateInit.runBegin d).1) :=
  wakeR_reachable hs hi h0 he hf hreg (.loop n (.run d .init))

/-- **R4. `blocked_genuinely_rewire`**: when time is about to advance, every ready part is flagged
and no downstream neighbour — in the wiring of that moment — would accept it. -/
theorem blocked_genuinely_rewire {w : World} (h : GoodR w) (hc : ClockAdvances w) (d p : Nat)
    (hr : ready w d p) : BlockedW w d p :=
  blocked_genuinelyB h.goodB hc d p hr

theorem no_lost_wakeup_rewire {w : World} (h : GoodR w) (hc : ClockAdvances w) : Quiescent w :=
  no_lost_wakeupB h.goodB hc

/-- **The closed-world statement with mid-run re-wiring**: in every state reachable (by events,
runs, and outside operations from the scripts' vocabulary) from an initialised fresh world of the
scope `S1R` — whose scripts may re-wire the line — whenever the clock is about to advance no ready
part could be handed over. -/
theorem no_lost_wakeup_rewire_reachable {w0 w : World} (hs : S1R w0) (hi : C01.Inv w0.env)
    (h0 : 0 ≤ w0.now) (he : EvOK w0) (hf : C02.Fresh w0) (hreg : C20W.Reg w0) (hr : ReachR w0 w)
    (hc : ClockAdvances w) : Quiescent w :=
  no_lost_wakeup_rewire (wakeR_reachable hs hi h0 he hf hreg hr) hc

/-- the same in the shape of `no_lost_wakeup_reachable` -/
theorem no_lost_wakeup_rewire_runLoop (n : Nat) {w : World} (hs : S1R w) (hi : C01.Inv w.env)
    (h0 : 0 ≤ w.now) (he : EvOK w) (hf : C02.Fresh w) (hreg : C20W.Reg w)
    (hc : ClockAdvances (runLoop n w.simulateInit)) : Quiescent (runLoop n w.simulateInit) :=
  no_lost_wakeup_rewire_reachable hs hi h0 he hf hreg (.loop n .init) hc

/-- **"Connection added" — the one-call statement inside the closed world.**  In a state of the
invariant, after `rewire x ups` (issued by a script or from outside) every holder of a part — in
particular every new upstream neighbour `u ∈ ups` — has a live hand-over attempt queued for the due
time of its part, or is flagged and genuinely blocked IN THE NEW WIRING: if the newly connected `x`
would accept the part of `u`, the attempt of `u` is queued at that same instant. -/
theorem connection_added {w : World} (h : GoodR w) (x : Nat) (ups : List Nat)
    (ho : ∃ l ∈ w.scripts, Op.rewire x ups ∈ l) (u p : Nat)
    (hu : ready (w.rewire x ups) u p) (hx : x ∈ ((w.rewire x ups).dev u).down)
    (hacc : wouldAccept (w.rewire x ups).fuel (w.rewire x ups) x p = true) :
    ∃ e ∈ (w.rewire x ups).env.events, e.act = (Action.passPart u).toNat ∧
      e.asset = ((w.rewire x ups).dev u).aid ∧ e.cancelled = false ∧ e.time = (w.rewire x ups).now := by
  have hg : GoodR (w.applyOp (.rewire x ups)).1 := wakeR_applyOp h _ ho
  have hg' : GoodR (w.rewire x ups) := hg
  rcases (wake_spec hg'.s.2.1 hg'.s.2.2.1).mp hg'.wake u p hu.1 with ha | hb
  · exact att_ready_now hg'.inv hu ha
  · rw [hb.2 x hx] at hacc; cases hacc

/-- **"Connection removed".**  After `rewire x ups` a holder that has lost its only would-be
acceptor is still covered by the invariant: flagged with no downstream neighbour willing, or with
an attempt queued (which will find nobody and flag it). -/
theorem connection_removed {w : World} (h : GoodR w) (x : Nat) (ups : List Nat)
    (ho : ∃ l ∈ w.scripts, Op.rewire x ups ∈ l) : Wake (w.rewire x ups) :=
  (show GoodR (w.rewire x ups) from wakeR_applyOp h _ ho).wake

/-! ### non-vacuity, stage R -/

/-- one scripted event: script `k` runs at time `t` -/
def envAt (t : Int) (k : Nat) : Env :=
  (({ terminated := false } : Env).applyAll Arith.exact [.sched t 0 (Action.script k).toNat 8 0]).1

/-- the only event queued initially is the script's: no failure is pending -/
theorem evOK_envAt5 (w : World) (h : w.env = envAt 5 0) : EvOK w := by
  intro n hn d hd
  have : n = 1 := by
    rw [h] at hn
    simpa [C02V.acts, envAt, Env.applyAll, Env.apply, Env.schedule, insort, Env.newEvent,
      Action.toNat] using hn
  subst this
  simp [Action.ofNat] at hd

theorem evOK_envAt3 (w : World) (h : w.env = envAt 3 0) : EvOK w := by
  intro n hn d hd
  have : n = 1 := by
    rw [h] at hn
    simpa [C02V.acts, envAt, Env.applyAll, Env.apply, Env.schedule, insort, Env.newEvent,
      Action.toNat] using hn
  subst this
  simp [Action.ofNat] at hd

/-- source 0 (cycle 1, 5 parts) is NOT connected; machine 1 (cycle 3) → sink 2; at t = 5 script 0
connects the source to the machine: `rewire 1 [0]` -/
def exRew : World :=
  { env := envAt 5 0
    scripts := [[.rewire 1 [0]]]
    devs := [{ kind := .source, aid := 1, cycle := 1, maxParts := some 5 },
             { kind := .handler, aid := 2, down := [2], cycle := 3 },
             { kind := .sink, aid := 3, up := [1] }]
    assets := [.dev 0, .dev 1, .dev 2] }

/-- the world is in the scope of stage R (its script re-wires), not in that of stage S1; it
satisfies the registration invariant; the re-wiring is admissible and within the envelope -/
theorem s1r_exRew : S1R exRew ∧ ¬ S1 exRew ∧ C20W.Reg exRew ∧ RewOK exRew 1 [0] ∧ EnvOK exRew := by
  decide

theorem fresh_exRew : C02.Fresh exRew := ⟨rfl, rfl, rfl, rfl, by decide⟩

/-- the hypotheses of the closed-world theorem of stage R are satisfiable -/
theorem goodR_exRew (n : Nat) : GoodR (runLoop n exRew.simulateInit) :=
  wakeR_reachable s1r_exRew.1 (by decide) (by decide) (evOK_envAt5 _ rfl) fresh_exRew
    s1r_exRew.2.2.1 (.loop n .init)

/-- t = 1: the source holds part 0, has found nobody to hand it to (no downstream neighbour) and is
flagged; the clock is about to advance to 5; the part is genuinely blocked -/
example : (runLoop 2 exRew.simulateInit).now = 1 ∧ ClockAdvances (runLoop 2 exRew.simulateInit) ∧
    ready (runLoop 2 exRew.simulateInit) 0 0 ∧ BlockedW (runLoop 2 exRew.simulateInit) 0 0 ∧
    ((runLoop 2 exRew.simulateInit).dev 0).down = [] ∧
    Quiescent (runLoop 2 exRew.simulateInit) := by decide

/-- **Connection added.**  t = 5, right after the script: the source is connected to the free
machine (`down = [1]`), which would accept its part; the source is no longer flagged and its
hand-over attempt is queued for this very instant (W1): the clock is NOT about to advance -/
example : (runLoop 3 exRew.simulateInit).now = 5 ∧
    ((runLoop 3 exRew.simulateInit).dev 0).down = [1] ∧
    ((runLoop 3 exRew.simulateInit).dev 1).up = [0] ∧
    wouldAccept (runLoop 3 exRew.simulateInit).fuel (runLoop 3 exRew.simulateInit) 1 0 = true ∧
    ((runLoop 3 exRew.simulateInit).dev 0).waitingDS = false ∧
    Att (runLoop 3 exRew.simulateInit) 0 ∧ Wake (runLoop 3 exRew.simulateInit) ∧
    ¬ ClockAdvances (runLoop 3 exRew.simulateInit) ∧ S1R (runLoop 3 exRew.simulateInit) := by decide

/-- … and one event later — still at t = 5 — the part has moved into the machine -/
example : (runLoop 4 exRew.simulateInit).now = 5 ∧
    ((runLoop 4 exRew.simulateInit).dev 1).part = some 0 ∧
    ((runLoop 4 exRew.simulateInit).dev 0).output = none := by decide

/-- the theorem applies to the state at t = 6 (machine busy, source blocked behind it): quiescent -/
example : Quiescent (runLoop 6 exRew.simulateInit) :=
  no_lost_wakeup_rewire (goodR_exRew 6) (by decide)

example : ready (runLoop 6 exRew.simulateInit) 0 1 ∧ BlockedW (runLoop 6 exRew.simulateInit) 0 1 ∧
    wouldAccept (runLoop 6 exRew.simulateInit).fuel (runLoop 6 exRew.simulateInit) 1 1 = false := by
  decide

/-- source 0 → slow machine 1 (cycle 10) → sink 2; at t = 3 script 0 DISCONNECTS the machine from
the source: `rewire 1 []` -/
def exCut : World :=
  { env := envAt 3 0
    scripts := [[.rewire 1 []]]
    devs := [{ kind := .source, aid := 1, down := [1], cycle := 1, maxParts := some 5 },
             { kind := .handler, aid := 2, up := [0], down := [2], cycle := 10 },
             { kind := .sink, aid := 3, up := [1] }]
    assets := [.dev 0, .dev 1, .dev 2] }

theorem s1r_exCut : S1R exCut ∧ C20W.Reg exCut := by decide

theorem goodR_exCut (n : Nat) : GoodR (runLoop n exCut.simulateInit) :=
  wakeR_reachable s1r_exCut.1 (by decide) (by decide) (evOK_envAt3 _ rfl)
    ⟨rfl, rfl, rfl, rfl, by decide⟩ s1r_exCut.2 (.loop n .init)

/-- **Connection removed.**  t = 11: the machine — the only would-be acceptor of the source's part —
has finished, is free and WOULD accept, but it is no longer a downstream neighbour of the source
(`down = []`); the source is still flagged, nothing is queued, the part is genuinely blocked: the
state is quiescent (the removed device notifies its NEW upstream neighbours only — nobody) -/
example : (runLoop 8 exCut.simulateInit).now = 11 ∧ ClockAdvances (runLoop 8 exCut.simulateInit) ∧
    ready (runLoop 8 exCut.simulateInit) 0 1 ∧
    ((runLoop 8 exCut.simulateInit).dev 0).down = [] ∧
    wouldAccept (runLoop 8 exCut.simulateInit).fuel (runLoop 8 exCut.simulateInit) 1 1 = true ∧
    BlockedW (runLoop 8 exCut.simulateInit) 0 1 ∧ Quiescent (runLoop 8 exCut.simulateInit) := by
  decide

example : Quiescent (runLoop 8 exCut.simulateInit) :=
  no_lost_wakeup_rewire (goodR_exCut 8) (by decide)

/-- an operation issued from outside (taken from the scripts' vocabulary): re-wiring at t = 1 -/
example : GoodR ((runLoop 2 exRew.simulateInit).applyOp (.rewire 1 [0])).1 :=
  wakeR_applyOp (goodR_exRew 2) _ ⟨_, List.mem_singleton.mpr rfl, List.mem_singleton.mpr rfl⟩

/-! ### the restrictions of stage R are needed (machine-checked counterexamples) -/

/-- as `exCut`, but the machine is entered TWICE in the source's `down` list; the script runs at
t = 2 -/
def cexDup : World :=
  { env := envAt 2 0
    scripts := [[.rewire 1 []]]
    devs := [{ kind := .source, aid := 1, down := [1, 1], cycle := 1, maxParts := some 5 },
             { kind := .handler, aid := 2, up := [0], down := [2], cycle := 3 },
             { kind := .sink, aid := 3, up := [1] }]
    assets := [.dev 0, .dev 1, .dev 2] }

/-- **A re-wired device must be nobody's downstream neighbour twice** (`RewOK`, third clause).
`set_upstream` removes ONE entry per old upstream neighbour: the machine stays in the source's
`down` list but no longer notifies the source.  The world violates only that clause (without the
script it is in the scope; it is fresh and registered); at t = 4 the queue runs empty while the
source holds a ready part that the free machine would accept: a lost wake-up. -/
theorem rewire_duplicate_false :
    S1R { cexDup with scripts := [] } ∧ ¬ S1R cexDup ∧ C20W.Reg cexDup ∧ C02.Fresh cexDup ∧
    (1 < cexDup.devs.length ∧ (cexDup.dev 1).kind ≠ .source ∧
      ¬ ∀ d ∈ cexDup.devs, d.down.count 1 ≤ 1) ∧
    ClockAdvances (runLoop 7 cexDup.simulateInit) ∧ ready (runLoop 7 cexDup.simulateInit) 0 1 ∧
    1 ∈ ((runLoop 7 cexDup.simulateInit).dev 0).down ∧
    wouldAccept (runLoop 7 cexDup.simulateInit).fuel (runLoop 7 cexDup.simulateInit) 1 1 = true ∧
    ¬ Quiescent (runLoop 7 cexDup.simulateInit) := by
  refine ⟨by decide, by decide, by decide, ⟨rfl, rfl, rfl, rfl, by decide⟩, by decide, by decide,
    by decide, by decide, by decide, by decide⟩

/-- source 0 → machine 1 (cycle 0, NOT registered with the system, hence never initialised); sink 2
is not connected; at t = 5 script 0 connects the machine to the sink: `rewire 2 [1]` -/
def cexIni : World :=
  { env := envAt 5 0
    scripts := [[.rewire 2 [1]]]
    devs := [{ kind := .source, aid := 1, down := [1], cycle := 1, maxParts := some 5 },
             { kind := .handler, aid := 2, up := [0] },
             { kind := .sink, aid := 3 }]
    assets := [.dev 0, .dev 2] }

/-- **Every device must be registered (hence initialised)**: `set_upstream` tells a new upstream
neighbour about the space downstream only if that neighbour has been initialised.  The world is in
the scope and fresh, only the registration invariant fails (device 1 is not registered); after the
script has connected the flagged machine 1 to the free sink nothing is queued: a lost wake-up. -/
theorem rewire_uninitialised_false :
    S1R cexIni ∧ ¬ C20W.Reg cexIni ∧ C02.Fresh cexIni ∧
    ClockAdvances (runLoop 6 cexIni.simulateInit) ∧ ready (runLoop 6 cexIni.simulateInit) 1 0 ∧
    2 ∈ ((runLoop 6 cexIni.simulateInit).dev 1).down ∧
    wouldAccept (runLoop 6 cexIni.simulateInit).fuel (runLoop 6 cexIni.simulateInit) 2 0 = true ∧
    ¬ Quiescent (runLoop 6 cexIni.simulateInit) := by
  refine ⟨by decide, by decide, ⟨rfl, rfl, rfl, rfl, by decide⟩, by decide, by decide, by decide,
    by decide, by decide⟩

/-- source 0 → gate 1 → sink 3; gate 2 → gate 1; script 0 makes gate 1 an upstream neighbour of
gate 2: a cycle of gates 1 → 2 → 1 -/
def cexCyc : World :=
  { env := envAt 5 0
    scripts := [[.rewire 2 [1]]]
    devs := [{ kind := .source, aid := 1, down := [1], cycle := 1, maxParts := some 5 },
             { kind := .gate, aid := 2, up := [0, 2], down := [3] },
             { kind := .gate, aid := 3, down := [1] },
             { kind := .sink, aid := 4, up := [1], cycle := 10 }]
    assets := [.dev 0, .dev 1, .dev 2, .dev 3] }

/-- **The connections the scripts may add must keep the controller conditions** (`EnvOK`: checked
on the envelope, i.e. on the script text).  Without the script the world is in the scope; the
script is admissible device by device (`RewOK`), only `EnvOK` fails; after the script has run the
static class of the machinery is broken (gate 1 reaches itself through gates). -/
theorem rewire_cycle_breaks_scope :
    S1R { cexCyc with scripts := [] } ∧ RewOK cexCyc 2 [1] ∧ ¬ EnvOK cexCyc ∧ ¬ S1R cexCyc ∧
    (runLoop 5 cexCyc.simulateInit).now = 5 ∧
    ((runLoop 5 cexCyc.simulateInit).dev 1).down = [3, 2] ∧
    ((runLoop 5 cexCyc.simulateInit).dev 2).down = [1] ∧
    ¬ SC { runLoop 5 cexCyc.simulateInit with scripts := [] } := by decide

/-- script 0 gives the SOURCE an upstream neighbour / re-wires a device that does not exist -/
def cexSrc : World :=
  { scripts := [[.rewire 0 [1]]]
    devs := [{ kind := .source, aid := 1, down := [1], cycle := 1, maxParts := some 5 },
             { kind := .handler, aid := 2, up := [0], down := [2] },
             { kind := .sink, aid := 3, up := [1] }]
    assets := [.dev 0, .dev 1, .dev 2] }

def cexOut : World := { cexSrc with scripts := [[.rewire 7 [1]]] }

/-- **A source gets no upstream neighbour, the re-wired device exists** (`RewOK`, first two
clauses): otherwise the static class is broken after the script (a source / a device that does not
exist becomes somebody's downstream neighbour — the hand-over would "deliver" a part to it). -/
theorem rewire_source_breaks_scope :
    S1R { cexSrc with scripts := [] } ∧ ¬ S1R cexSrc ∧ ¬ S1R cexOut ∧
    ¬ SC { cexSrc.simulateInit.exec (.script 0) with scripts := [] } ∧
    ¬ SC { cexOut.simulateInit.exec (.script 0) with scripts := [] } ∧
    wouldAccept (cexOut.simulateInit.exec (.script 0)).fuel (cexOut.simulateInit.exec (.script 0)) 7 0
      = true := by decide

/-! ## STAGES A, B, C with re-wiring issued from outside

The classes of the resource theorems (`C11W.S`) and of the batcher / conservation theorems (`C17W`,
`C02V.Static`) — which may not be changed — do not admit `rewire` in SCRIPTS; the invariants they
maintain (`C11W.Inv`, `C17W.CI`) are, however, not disturbed by a re-wiring (`inv11_rewire`,
`ci_rewire`).  Hence: in the scopes `S2 ⊆ S3 ⊆ S4` the line may be re-wired FROM OUTSIDE between two
events (any admissible re-wiring after which the world is in the scope: `RewOK`, `S4`-part `SC` of
the re-wired world — decidable on the current world), and no wake-up is lost. -/

/-- **Reachable states** (stages A, B, C with outside re-wiring). -/
inductive ReachC (w0 : World) : World → Prop
  | init : ReachC w0 w0.simulateInit
  | step {w w' : World} {e : Event} : ReachC w0 w → w.step = some (e, w') → ReachC w0 w'
  | loop {w : World} (n : Nat) : ReachC w0 w → ReachC w0 (runLoop n w)
  | run {w : World} (d : Int) : ReachC w0 w → ReachC w0 (w.runBegin d).1
  | rew {w : World} (x : Nat) (ups : List Nat) : ReachC w0 w → RewOK w x ups →
      SC (w.rewire x ups) → ReachC w0 (w.applyOp (.rewire x ups)).1

/-- **`wakeC_rewire`**: a re-wiring issued from outside preserves the invariant of stages A, B, C
and the scope. -/
theorem wakeC_rewire {w : World} (hs : S4 w) (h : GoodB w) (hi : Ini w) (x : Nat) (ups : List Nat)
    (hok : RewOK w x ups) (hfin : SC (w.rewire x ups)) :
    GoodB (w.rewire x ups) ∧ S4 (w.rewire x ups) ∧ Ini (w.rewire x ups) := by
  obtain ⟨h1, h2⟩ := h.rewireD hi hs.1.2 (fun hn => (hs.2.2.1 hn).1) x ups hok hfin
    (fun h1 => absurd hs.2.2.2 h1)
  exact ⟨h1, hs.rewire x ups hfin, h2⟩

/-- **In every reachable state** (events, runs, outside re-wirings) of a fresh world of the scope
`S4` that satisfies the registration invariant: the invariant of stages A, B, C holds, the world is
in the scope, every device has been initialised. -/
theorem wakeC_rewire_reachable {w0 w : World} (hs : S4 w0) (hi : C01.Inv w0.env) (h0 : 0 ≤ w0.now)
    (he : EvOK w0) (hf : FreshA w0) (hreg : C20W.Reg w0) (hr : ReachC w0 w) :
    GoodB w ∧ S4 w ∧ Ini w := by
  induction hr with
  | init =>
    have hg := wakeC_init hs hi h0 he hf
    exact ⟨hg, hs.of_sw hg.g.sc (sw_simulateInit w0) (C02V.ss_simulateInit w0), ini_simulateInit hreg⟩
  | step _ hst ih => exact ⟨ih.1.step hst, s4_step ih.2.1 ih.1 hst, ih.2.2.step (istep_step hst)⟩
  | loop n _ ih => exact ⟨ih.1.runLoop n, s4_runLoop n ih.2.1 ih.1, ih.2.2.step (istep_runLoop n _)⟩
  | run d _ ih =>
    exact ⟨ih.1.runBegin d, ih.2.1.of_sw (ih.1.runBegin d).g.sc (sw_runBegin _ d) (ss_runBegin _ d),
      ih.2.2.step (istep_runBegin _ d)⟩
  | rew x ups _ hok hfin ih => exact wakeC_rewire ih.2.1 ih.1 ih.2.2 x ups hok hfin

/-- **The closed-world statement of stages A, B, C with re-wiring issued from outside**: whenever
the clock is about to advance no ready part could be handed over — resources, batchers and the
shared group included, in the wiring of that moment. -/
theorem no_lost_wakeupC_rewire_reachable {w0 w : World} (hs : S4 w0) (hi : C01.Inv w0.env)
    (h0 : 0 ≤ w0.now) (he : EvOK w0) (hf : FreshA w0) (hreg : C20W.Reg w0) (hr : ReachC w0 w)
    (hc : ClockAdvances w) : Quiescent w :=
  no_lost_wakeupC (wakeC_rewire_reachable hs hi h0 he hf hreg hr).1 hc

/-- The same under its `_partial` name: in the scopes S2 / S3 / S4 AS THEY ARE (classes of C11W /
C17W: no `rewire` in scripts) re-wiring is covered when issued from outside; re-wiring IN SCRIPTS for
the whole scope is stage RF below (`no_lost_wakeup_rewire_all_reachable`). -/
theorem no_lost_wakeupC_rewire_partial {w0 w : World} (hs : S4 w0) (hi : C01.Inv w0.env)
    (h0 : 0 ≤ w0.now) (he : EvOK w0) (hf : FreshA w0) (hreg : C20W.Reg w0) (hr : ReachC w0 w)
    (hc : ClockAdvances w) : Quiescent w :=
  no_lost_wakeupC_rewire_reachable hs hi h0 he hf hreg hr hc

/-! ### non-vacuity: a by-pass connected from outside -/

/-- `exWaiting` (t = 1: the source is blocked in front of the processor that cannot get its
resources) is reachable; the re-wiring `rewire 2 [0, 1]` (the sink becomes a downstream neighbour of
the source as well) is admissible there and leaves the world in the scope -/
theorem reachC_exWaiting : ReachC exRes exWaiting ∧ C20W.Reg exRes ∧ RewOK exWaiting 2 [0, 1] ∧
    SC (exWaiting.rewire 2 [0, 1]) :=
  ⟨.loop 3 .init, by decide, by decide, by decide⟩

/-- the state after the outside re-wiring is covered by the theorem … -/
example : GoodB (exWaiting.rewire 2 [0, 1]) :=
  (wakeC_rewire_reachable s2_exRes.1.s3.s4 (by decide) (by decide) evOK_exRes freshA_exRes
    reachC_exWaiting.2.1
    (.rew 2 [0, 1] reachC_exWaiting.1 reachC_exWaiting.2.2.1 reachC_exWaiting.2.2.2)).1

/-- … the flagged source has been woken at once (its attempt is queued for t = 1, the present
instant), and one event later — still at t = 1 — its part has gone to the sink past the processor
that is still waiting for its resources -/
example : (exWaiting.dev 0).waitingDS = true ∧
    ((exWaiting.rewire 2 [0, 1]).dev 0).down = [1, 2] ∧
    ((exWaiting.rewire 2 [0, 1]).dev 0).waitingDS = false ∧ Att (exWaiting.rewire 2 [0, 1]) 0 ∧
    ¬ ClockAdvances (exWaiting.rewire 2 [0, 1]) ∧
    (runLoop 1 (exWaiting.rewire 2 [0, 1])).now = 1 ∧
    ((runLoop 1 (exWaiting.rewire 2 [0, 1])).dev 0).output = none ∧
    (runLoop 1 (exWaiting.rewire 2 [0, 1])).delivered = [0] ∧
    ((runLoop 1 (exWaiting.rewire 2 [0, 1])).dev 1).waitingRes = true := by decide

/-- the same re-wiring in front of the blocked batcher line is admissible, too -/
example : RewOK exBatBlocked 2 [0, 1] ∧ SC (exBatBlocked.rewire 2 [0, 1]) ∧ C20W.Reg exBat := by
  decide

/-! ## STAGE RA: resources AND re-wiring in scripts

`S2R w` — the scope of stage A (processors may declare resource requirements), but scripts MAY
contain `rewire x ups`: the machinery's scope `SC` without batchers, batches and groups, and — if a
requirement is declared — the class `C11W.S` of the resource theorems FOR THE SCRIPTS WITHOUT THEIR
RE-WIRINGS (`S11R`).  The resource invariant `C11W.Inv` is carried for the world without its
scripts (`es w []`; no function of the model but `runScript` reads them: `Proofs/C03YEs*.lean`). -/

/-- **The scope of stage A with mid-run re-wiring.** -/
def S2R (w : World) : Prop := SC w ∧ NoBatch w ∧ (hasRes w = true → S11R w)

instance (w : World) : Decidable (S2R w) := by unfold S2R; infer_instance

theorem S1R.s2r {w : World} (h : S1R w) : S2R w :=
  ⟨h.1, h.2.2.1, fun hr => by rw [h.2.1] at hr; cases hr⟩

/-- Everything the closed-world induction carries (stage RA). -/
structure GoodE (w : World) : Prop where
  g : G [] [] [] w
  nb : NoBatch w
  /-- the resource invariant of C11W, for the world without its scripts -/
  r : hasRes w = true → C11W.Inv (es w [])
  s : hasRes w = true → S11R w
  i : IOK w

theorem GoodE.s2r {w : World} (h : GoodE w) : S2R w := ⟨h.g.sc, h.nb, h.s⟩

theorem GoodE.pend {w : World} (h : GoodE w) (hr : hasRes w = true) : C11W.Pend w := (h.r hr).pend

theorem GoodE.gc {w : World} (h : GoodE w) : C03Z.GC w := C03Z.gc_noGrp (noGrp_of_noBatch h.nb)

theorem GoodE.procs {w : World} (h : GoodE w) (hr : hasRes w = true) :
    ∀ e ∈ w.rm.waiting, ∃ x, e.2 = Cb.proc x := by
  rcases h.g.wr with hn | hreg
  · rw [hr] at hn; cases hn
  · exact hreg.1

/-- **RA2. `wakeE_step`**: every event preserves the invariant (scope included). -/
theorem wakeE_step {w w' : World} {e : Event} (h : GoodE w) (hst : w.step = some (e, w')) :
    GoodE w' := by
  have r := swrw_step w w' e h.g.sc.nc hst
  have hres : hasRes w' = true → hasRes w = true := fun hr => by rw [← hasRes_of_swr' r]; exact hr
  exact ⟨h.g.stepG (invB_of_noBatch h.nb) (settled_of_noBatch h.nb) h.i
      (C03Z.gc_noGrp (noGrp_of_noBatch h.nb)) hst,
    (noBatch_of_swr' r).mpr h.nb,
    fun hr => inv11_es_step (h.r (hres hr)) (h.s (hres hr)).opsOK h.g.sc.nc (h.procs (hres hr)) hst,
    fun hr => (h.s (hres hr)).of_step r, h.i.step (istep_step hst)⟩

theorem wakeE_runLoop (n : Nat) : ∀ {w : World}, GoodE w → GoodE (runLoop n w) := by
  induction n with
  | zero =>
    intro w h
    have r := swrw_runLoop 0 w h.g.sc.nc
    have hres : hasRes (runLoop 0 w) = true → hasRes w = true :=
      fun hr => by rw [← hasRes_of_swr' r]; exact hr
    refine ⟨h.g.setErr _, (noBatch_of_swr' r).mpr h.nb, fun hr => ?_, fun hr => (h.s (hres hr)).of_step r,
      h.i.step (istep_runLoop 0 w)⟩
    show C11W.Inv (es (w.setErr "fuel") [])
    rw [← es_setErr]
    exact (h.r (hres hr)).mono (C11W.monoS_setErr _ _).toMono
  | succ n ih =>
    intro w h
    unfold World.runLoop
    split
    · split
      · exact h
      · next e w' hst => exact ih (wakeE_step h hst)
    · exact h

theorem wakeE_runBegin {w : World} (h : GoodE w) (d : Int) : GoodE (w.runBegin d).1 := by
  have r := swrw_runBegin w d
  have hres : hasRes (w.runBegin d).1 = true → hasRes w = true :=
    fun hr => by rw [← hasRes_of_swr' r]; exact hr
  refine ⟨h.g.runBeginG d, (noBatch_of_swr' r).mpr h.nb, fun hr => ?_,
    fun hr => (h.s (hres hr)).of_step r, h.i.step (istep_runBegin w d)⟩
  rw [← es_runBegin]
  exact C11W.inv_runBegin (es w []) d (h.r (hres hr))

/-- **RA1. `wakeE_init`**: after `simulateInit` of a fresh world of the scope that satisfies the
registration invariant the invariant holds. -/
theorem wakeE_init {w : World} (hs : S2R w) (hi : C01.Inv w.env) (h0 : 0 ≤ w.now) (he : EvOK w)
    (hf : FreshA w) (hreg : C20W.Reg w) : GoodE w.simulateInit := by
  have hg : G [] [] [] w :=
    ⟨hs.1, fun _ => partsLeaf_fresh hf.1, hi, h0, he, heldValid_fresh hf.1,
      kidsValid_of_leaf (partsLeaf_fresh hf.1), stkOK_of_noParts hf.1.1,
      wr_fresh hf.2.1 (fun hr => (hf.2.2 hr).2.2.1), (fun _ hx => nomatch hx), wakeG_fresh hf.1⟩
  have r := swrw_simulateInit w
  have hres : hasRes w.simulateInit = true → hasRes w = true :=
    fun hr => by rw [← hasRes_of_swr' r]; exact hr
  refine ⟨hg.simulateInitG, (noBatch_of_swr' r).mpr hs.2.1, fun hr => ?_,
    fun hr => (hs.2.2 (hres hr)).of_step r, Or.inr (ini_simulateInit hreg)⟩
  rw [← es_simulateInit]
  exact C11W.inv_simulateInit (es w []) (hs.2.2 (hres hr)).nil (hf.2.2 (hres hr))

/-- an operation issued from outside that some script of the world contains -/
theorem wakeE_applyOp {w : World} (h : GoodE w) (o : Op) (ho : ∃ l ∈ w.scripts, o ∈ l) :
    GoodE (w.applyOp o).1 := by
  obtain ⟨l, hl, hol⟩ := ho
  have hop := h.g.sc.scriptOp hl hol
  have hnc := opSC_not_create hop
  have r : C02V.swr (w.applyOp o).1 = C02V.swr w := C02V.swr_applyOp w o hnc
  have hres : hasRes (w.applyOp o).1 = true → hasRes w = true :=
    fun hr => by rw [← hasRes_of_swr r]; exact hr
  refine ⟨h.g.applyOpG o hop h.i ⟨l, hl, hol⟩, (noBatch_of_swr r).mpr h.nb,
    fun hr => inv11_es_applyOp1 (h.r (hres hr)) o ((h.s (hres hr)).opsOK l hl o hol) hnc,
    fun hr => (h.s (hres hr)).of_swr r (C02V.scr_applyOp w o), ?_⟩
  exact (h.i.step (istep_applyOp w o hnc)).step ⟨rfl, C20W.Pv.of_same rfl⟩

/-- a re-wiring issued from outside (admissible, leaves the world in the scope) -/
theorem wakeE_rewire {w : World} (h : GoodE w) (hi : Ini w) (x : Nat) (ups : List Nat)
    (hok : RewOK w x ups) (hfin : SC (w.rewire x ups)) :
    GoodE (w.rewire x ups) ∧ Ini (w.rewire x ups) := by
  have r : C02V.swr (w.rewire x ups) = C02V.swr w := C02V.swr_rewire w x ups
  have hres : hasRes (w.rewire x ups) = true → hasRes w = true :=
    fun hr => by rw [← hasRes_of_swr r]; exact hr
  have hi' : Ini (w.rewire x ups) :=
    hi.step ⟨C02V.scr_floor.rewire w x ups, C20W.Pv_applyOp w (.rewire x ups) rfl⟩
  refine ⟨⟨h.g.rewireD x ups hok hfin (fun z hz => hi.inited hz), (noBatch_of_swr r).mpr h.nb,
    fun hr => ?_, fun hr => (h.s (hres hr)).of_swr r (C02V.scr_floor.rewire w x ups), Or.inr hi'⟩, hi'⟩
  rw [← es_rewire]
  exact inv11_rewire (h.r (hres hr)) x ups

/-- **Reachable states** (stage RA): as `ReachR`. -/
inductive ReachE (w0 : World) : World → Prop
  | init : ReachE w0 w0.simulateInit
  | step {w w' : World} {e : Event} : ReachE w0 w → w.step = some (e, w') → ReachE w0 w'
  | loop {w : World} (n : Nat) : ReachE w0 w → ReachE w0 (runLoop n w)
  | run {w : World} (d : Int) : ReachE w0 w → ReachE w0 (w.runBegin d).1
  | op {w : World} (o : Op) : ReachE w0 w → (∃ l ∈ w.scripts, o ∈ l) → ReachE w0 (w.applyOp o).1
  | rew {w : World} (x : Nat) (ups : List Nat) : ReachE w0 w → RewOK w x ups →
      SC (w.rewire x ups) → ReachE w0 (w.applyOp (.rewire x ups)).1

/-- **RA3. `wakeE_reachable`**: the invariant holds in every reachable state (and every device has
been initialised). -/
theorem wakeE_reachable {w0 w : World} (hs : S2R w0) (hi : C01.Inv w0.env) (h0 : 0 ≤ w0.now)
    (he : EvOK w0) (hf : FreshA w0) (hreg : C20W.Reg w0) (hr : ReachE w0 w) : GoodE w ∧ Ini w := by
  induction hr with
  | init => exact ⟨wakeE_init hs hi h0 he hf hreg, ini_simulateInit hreg⟩
  | step _ hst ih => exact ⟨wakeE_step ih.1 hst, ih.2.step (istep_step hst)⟩
  | loop n _ ih => exact ⟨wakeE_runLoop n ih.1, ih.2.step (istep_runLoop n _)⟩
  | run d _ ih => exact ⟨wakeE_runBegin ih.1 d, ih.2.step (istep_runBegin _ d)⟩
  | @op w o _ ho ih =>
    obtain ⟨l, hl, hol⟩ := ho
    have hnc := opSC_not_create (ih.1.g.sc.scriptOp hl hol)
    exact ⟨wakeE_applyOp ih.1 o ⟨l, hl, hol⟩,
      (ih.2.step (istep_applyOp w o hnc)).step ⟨rfl, C20W.Pv.of_same rfl⟩⟩
  | rew x ups _ hok hfin ih => exact wakeE_rewire ih.1 ih.2 x ups hok hfin

/-- the three clauses (W1), (W2), (W3) in stage RA -/
theorem wakeE_w3 {w : World} (h : GoodE w) (d p : Nat) (hd : holdsD (w.dev d) = some p) :
    Att w d ∨ BlockedW w d p ∨
      ((w.dev d).waitingDS = true ∧ C11W.QueuedL w .rmCheck w.now pOtherHigh (-1)) :=
  wake_w3_of h.g h.pend h.gc d p hd

theorem blocked_genuinelyA_rewire {w : World} (h : GoodE w) (hc : ClockAdvances w) (d p : Nat)
    (hr : ready w d p) : BlockedW w d p := blocked_genuinely_of h.g h.pend h.gc hc d p hr

theorem no_lost_wakeupA_rewire {w : World} (h : GoodE w) (hc : ClockAdvances w) : Quiescent w :=
  quiescent_of h.g h.pend h.gc hc

/-- **The closed-world statement of stage A with mid-run re-wiring** (in scripts and from outside):
whenever the clock is about to advance no ready part could be handed over — resources included,
in the wiring of that moment. -/
theorem no_lost_wakeupA_rewire_reachable {w0 w : World} (hs : S2R w0) (hi : C01.Inv w0.env)
    (h0 : 0 ≤ w0.now) (he : EvOK w0) (hf : FreshA w0) (hreg : C20W.Reg w0) (hr : ReachE w0 w)
    (hc : ClockAdvances w) : Quiescent w :=
  no_lost_wakeupA_rewire (wakeE_reachable hs hi h0 he hf hreg hr).1 hc

/-- the scope is preserved -/
theorem s2r_reachable {w0 w : World} (hs : S2R w0) (hi : C01.Inv w0.env) (h0 : 0 ≤ w0.now)
    (he : EvOK w0) (hf : FreshA w0) (hreg : C20W.Reg w0) (hr : ReachE w0 w) : S2R w :=
  (wakeE_reachable hs hi h0 he hf hreg hr).1.s2r

/-! ### non-vacuity, stage RA -/

/-- source 0 → processor 1 (needs one unit of pool 0, capacity 0) → sink 2; at t = 5 script 0
connects the sink to the source as well (a by-pass: `rewire 2 [0, 1]`) and adds one unit -/
def exResRew : World :=
  { env := envAt 5 0
    scripts := [[.rewire 2 [0, 1], .addRes 0 1]]
    rm := { pools := [(0, 0, 0)] }
    devs := [{ kind := .source, aid := 1, down := [1], cycle := 1, maxParts := some 3 },
             { kind := .processor, aid := 2, up := [0], down := [2], cycle := 2, resReq := some [(0, 1)] },
             { kind := .sink, aid := 3, up := [1] }]
    assets := [.dev 0, .dev 1, .dev 2] }

/-- in the scope of stage RA (a requirement is declared AND a script re-wires): neither in that of
stage R nor in that of stage A -/
theorem s2r_exResRew : S2R exResRew ∧ ¬ S1R exResRew ∧ ¬ S2 exResRew ∧ C20W.Reg exResRew ∧
    hasRes exResRew = true := by decide

theorem freshA_exResRew : FreshA exResRew :=
  ⟨⟨rfl, rfl, rfl, rfl, by decide⟩, by decide, fun _ => by decide⟩

/-- the hypotheses of the closed-world theorem of stage RA are satisfiable -/
theorem goodE_exResRew (n : Nat) : GoodE (runLoop n exResRew.simulateInit) :=
  (wakeE_reachable s2r_exResRew.1 (by decide) (by decide) (evOK_envAt5 _ rfl) freshA_exResRew
    s2r_exResRew.2.2.2.1 (.loop n .init)).1

/-- t = 1: the source is blocked in front of the processor, which is registered with the resource
manager; the clock is about to advance to 5; genuinely blocked -/
example : (runLoop 3 exResRew.simulateInit).now = 1 ∧ ClockAdvances (runLoop 3 exResRew.simulateInit) ∧
    ready (runLoop 3 exResRew.simulateInit) 0 0 ∧
    ((runLoop 3 exResRew.simulateInit).dev 1).waitingRes = true ∧
    BlockedW (runLoop 3 exResRew.simulateInit) 0 0 ∧ Quiescent (runLoop 3 exResRew.simulateInit) := by
  decide

example : Quiescent (runLoop 3 exResRew.simulateInit) :=
  no_lost_wakeupA_rewire (goodE_exResRew 3) (by decide)

/-- t = 5, right after the script: the by-pass is connected (`down = [1, 2]`), the source has its
attempt queued for this instant (W1), and the manager's availability check is queued as well -/
example : (runLoop 4 exResRew.simulateInit).now = 5 ∧
    ((runLoop 4 exResRew.simulateInit).dev 0).down = [1, 2] ∧
    ((runLoop 4 exResRew.simulateInit).dev 0).waitingDS = false ∧
    Att (runLoop 4 exResRew.simulateInit) 0 ∧
    C11W.QueuedL (runLoop 4 exResRew.simulateInit) .rmCheck 5 pOtherHigh (-1) ∧
    ¬ ClockAdvances (runLoop 4 exResRew.simulateInit) ∧ S2R (runLoop 4 exResRew.simulateInit) := by
  decide

/-- later the parts flow through both branches: t = 7, parts 1 and 2 have reached the sink through
the by-pass, part 0 through the processor -/
example : (runLoop 12 exResRew.simulateInit).now = 7 ∧
    (runLoop 12 exResRew.simulateInit).delivered = [1, 2, 0] := by decide

/-! ## STAGE RF: the whole scope (resources, batchers, batches, the shared group) AND re-wiring in
scripts

`S4R w ⊇ S4 w, S2R w` — the machinery's scope `SC` (scripts may re-wire), with the classes of the
resource theorems (`S11R`: the re-wirings of the scripts aside) and of the batcher / conservation
theorems (`ScrB`, `SizesPos`) where they are needed.  Both auxiliary invariants are carried for
the world without its scripts: `C11W.Inv (es w [])`, `C17W.CI (es w [])` (`Proofs/C03YResR.lean`,
`Proofs/C03YBatR.lean`). -/

/-- **The whole scope with mid-run re-wiring.** -/
def S4R (w : World) : Prop :=
  SC w ∧ (hasRes w = true → S11R w) ∧ (¬ NoBatch w → ScrB w ∧ C17W.SizesPos w) ∧ OneGrp w

instance (w : World) : Decidable (S4R w) := by unfold S4R; infer_instance

theorem S2R.s4r {w : World} (h : S2R w) : S4R w :=
  ⟨h.1, h.2.2, fun hn => absurd h.2.1 hn, oneGrp_of_noBatch h.2.1⟩

/-- the class of C11W implies the class "re-wirings aside" -/
theorem s11R_of_S {w : World} (h : C11W.S w) : S11R w := by
  unfold S11R C11W.S C11W.SB at *
  simp only [es_devs, es_scripts, sc, Bool.and_eq_true, List.all_eq_true] at h ⊢
  refine ⟨⟨⟨⟨fun l hl op hop => ?_, h.1.1.1.2⟩, h.1.1.2⟩, h.1.2⟩, h.2⟩
  obtain ⟨l0, hl0, rfl⟩ := List.mem_map.mp hl
  exact h.1.1.1.1 l0 hl0 op (List.mem_filter.mp hop).1

theorem S4.s4r {w : World} (h : S4 w) : S4R w := ⟨h.1.1, fun hr => s11R_of_S (h.2.1 hr), h.2.2⟩

/-- Everything the closed-world induction carries (stage RF). -/
structure GoodF (w : World) : Prop where
  g : G [] [] [] w
  r : hasRes w = true → C11W.Inv (es w [])
  s : hasRes w = true → S11R w
  c : ¬ NoBatch w → C17W.CI (es w [])
  cs : ¬ NoBatch w → ScrB w ∧ C17W.SizesPos w
  i : IOK w
  /-- there is one group only -/
  o : OneGrp w

theorem GoodF.s4r {w : World} (h : GoodF w) : S4R w := ⟨h.g.sc, h.s, h.cs, h.o⟩

theorem GoodF.gc {w : World} (h : GoodF w) : C03Z.GC w := Or.inl h.o

theorem GoodF.invB {w : World} (h : GoodF w) : InvB w :=
  fun hnb => (h.c hnb).inv.of_sv (w := es w []) (w' := w) rfl

theorem GoodF.settled {w : World} (h : GoodF w) : Settled w := by
  intro x hk ho
  have hnb : ¬ NoBatch w := fun hn => (noBatch_dev hn x).1 hk
  rcases ((h.c hnb).bat x hk).settled with h1 | h1
  · have h1' : (w.dev x).output.isSome = true := h1
    rw [ho] at h1'; cases h1'
  · exact h1

theorem GoodF.procs {w : World} (h : GoodF w) (hr : hasRes w = true) :
    ∀ e ∈ w.rm.waiting, ∃ x, e.2 = Cb.proc x := by
  rcases h.g.wr with hn | hreg
  · rw [hr] at hn; cases hn
  · exact hreg.1

theorem GoodF.gci {w : World} (h : GoodF w) (hn : ¬ NoBatch w) : GCI w :=
  ⟨h.c hn, h.g.sc, (h.cs hn).1⟩

theorem GoodF.pend {w : World} (h : GoodF w) (hr : hasRes w = true) : C11W.Pend w := (h.r hr).pend

/-- **RF2. `wakeF_step`**: every event preserves the invariant (scope included). -/
theorem wakeF_step {w w' : World} {e : Event} (h : GoodF w) (hst : w.step = some (e, w')) :
    GoodF w' := by
  have r := swrw_step w w' e h.g.sc.nc hst
  have hres : hasRes w' = true → hasRes w = true := fun hr => by rw [← hasRes_of_swr' r]; exact hr
  have hnb : ¬ NoBatch w' → ¬ NoBatch w := fun hn hb => hn ((noBatch_of_swr' r).mpr hb)
  exact ⟨h.g.stepG h.invB h.settled h.i h.gc hst,
    fun hr => inv11_es_step (h.r (hres hr)) (h.s (hres hr)).opsOK h.g.sc.nc (h.procs (hres hr)) hst,
    fun hr => (h.s (hres hr)).of_step r,
    fun hn => ((h.gci (hnb hn)).step hst).1,
    fun hn => ⟨((h.gci (hnb hn)).step hst).2.scrB, sizesPos_of_swr r.1 (h.cs (hnb hn)).2⟩,
    h.i.step (istep_step hst), oneGrp_of_swr h.o r.1⟩

theorem wakeF_runLoop (n : Nat) : ∀ {w : World}, GoodF w → GoodF (runLoop n w) := by
  induction n with
  | zero =>
    intro w h
    have r := swrw_runLoop 0 w h.g.sc.nc
    have hres : hasRes (runLoop 0 w) = true → hasRes w = true :=
      fun hr => by rw [← hasRes_of_swr' r]; exact hr
    have hnb : ¬ NoBatch (runLoop 0 w) → ¬ NoBatch w := fun hn hb => hn ((noBatch_of_swr' r).mpr hb)
    refine ⟨h.g.setErr _, fun hr => ?_, fun hr => (h.s (hres hr)).of_step r,
      fun hn => ((h.gci (hnb hn)).setErr _).1,
      fun hn => ⟨((h.gci (hnb hn)).setErr _).2.scrB, sizesPos_of_swr r.1 (h.cs (hnb hn)).2⟩,
      h.i.step (istep_runLoop 0 w), oneGrp_of_swr h.o r.1⟩
    show C11W.Inv (es (w.setErr "fuel") [])
    rw [← es_setErr]
    exact (h.r (hres hr)).mono (C11W.monoS_setErr _ _).toMono
  | succ n ih =>
    intro w h
    unfold World.runLoop
    split
    · split
      · exact h
      · next e w' hst => exact ih (wakeF_step h hst)
    · exact h

theorem wakeF_runBegin {w : World} (h : GoodF w) (d : Int) : GoodF (w.runBegin d).1 := by
  have r := swrw_runBegin w d
  have hres : hasRes (w.runBegin d).1 = true → hasRes w = true :=
    fun hr => by rw [← hasRes_of_swr' r]; exact hr
  have hnb : ¬ NoBatch (w.runBegin d).1 → ¬ NoBatch w := fun hn hb => hn ((noBatch_of_swr' r).mpr hb)
  refine ⟨h.g.runBeginG d, fun hr => ?_, fun hr => (h.s (hres hr)).of_step r, fun hn => ?_,
    fun hn => ⟨scrB_of_kind r.2 (fun y => stat0_kind (stat0_of_swr r.1 y)) (h.cs (hnb hn)).1,
      sizesPos_of_swr r.1 (h.cs (hnb hn)).2⟩, h.i.step (istep_runBegin w d), oneGrp_of_swr h.o r.1⟩
  · rw [← es_runBegin]
    exact C11W.inv_runBegin (es w []) d (h.r (hres hr))
  · rw [← es_runBegin]
    exact C17W.ci_runBegin (es w []) d (h.c (hnb hn))

/-- **RF1. `wakeF_init`**: after `simulateInit` of a fresh world of the scope that satisfies the
registration invariant the invariant holds. -/
theorem wakeF_init {w : World} (hs : S4R w) (hi : C01.Inv w.env) (h0 : 0 ≤ w.now) (he : EvOK w)
    (hf : FreshA w) (hreg : C20W.Reg w) : GoodF w.simulateInit := by
  have hg : G [] [] [] w :=
    ⟨hs.1, fun _ => partsLeaf_fresh hf.1, hi, h0, he, heldValid_fresh hf.1,
      kidsValid_of_leaf (partsLeaf_fresh hf.1), stkOK_of_noParts hf.1.1,
      wr_fresh hf.2.1 (fun hr => (hf.2.2 hr).2.2.1), (fun _ hx => nomatch hx), wakeG_fresh hf.1⟩
  have r := swrw_simulateInit w
  have hres : hasRes w.simulateInit = true → hasRes w = true :=
    fun hr => by rw [← hasRes_of_swr' r]; exact hr
  have hnb : ¬ NoBatch w.simulateInit → ¬ NoBatch w := fun hn hb => hn ((noBatch_of_swr' r).mpr hb)
  refine ⟨hg.simulateInitG, fun hr => ?_, fun hr => (hs.2.1 (hres hr)).of_step r, fun hn => ?_,
    fun hn => ⟨scrB_of_kind r.2 (fun y => stat0_kind (stat0_of_swr r.1 y)) (hs.2.2.1 (hnb hn)).1,
      sizesPos_of_swr r.1 (hs.2.2.1 (hnb hn)).2⟩, Or.inr (ini_simulateInit hreg),
    oneGrp_of_swr hs.2.2.2 r.1⟩
  · rw [← es_simulateInit]
    exact C11W.inv_simulateInit (es w []) (hs.2.1 (hres hr)).nil (hf.2.2 (hres hr))
  · rw [← es_simulateInit]
    refine C17W.ci_init (es w []) ⟨hf.1, ?_, (hs.2.2.1 (hnb hn)).2⟩
    exact static_of hs.1.es_nil (fun l hl => nomatch hl) (fun l hl => nomatch hl) he

/-- an operation issued from outside that some script of the world contains -/
theorem wakeF_applyOp {w : World} (h : GoodF w) (o : Op) (ho : ∃ l ∈ w.scripts, o ∈ l) :
    GoodF (w.applyOp o).1 := by
  obtain ⟨l, hl, hol⟩ := ho
  have hop := h.g.sc.scriptOp hl hol
  have hnc := opSC_not_create hop
  have r : C02V.swr (w.applyOp o).1 = C02V.swr w := C02V.swr_applyOp w o hnc
  have hscr : (w.applyOp o).1.scripts = w.scripts := C02V.scr_applyOp w o
  have hres : hasRes (w.applyOp o).1 = true → hasRes w = true :=
    fun hr => by rw [← hasRes_of_swr r]; exact hr
  have hnb : ¬ NoBatch (w.applyOp o).1 → ¬ NoBatch w := fun hn hb => hn ((noBatch_of_swr r).mpr hb)
  have hgci : ¬ NoBatch (w.applyOp o).1 → GCI (w.applyOp o).1 := by
    intro hn
    obtain ⟨h1, h2⟩ := ci_es_applyOps [o] w (h.c (hnb hn)) (h.gci (hnb hn)).2
      (fun op hop => by rw [List.mem_singleton] at hop; subst hop; exact ⟨l, hl, hol⟩)
    have e : w.applyOps [o] = (w.applyOp o).1.addRes (w.applyOp o).2 := rfl
    rw [e] at h1 h2
    exact ⟨ci_frame (v := es ((w.applyOp o).1.addRes (w.applyOp o).2) []) (v' := es (w.applyOp o).1 [])
      h1 rfl rfl rfl rfl rfl, ⟨h2.sc.of_sw rfl, scrB_of_kind rfl (fun _ => rfl) h2.scrB⟩⟩
  refine ⟨h.g.applyOpG o hop h.i ⟨l, hl, hol⟩,
    fun hr => inv11_es_applyOp1 (h.r (hres hr)) o ((h.s (hres hr)).opsOK l hl o hol) hnc,
    fun hr => (h.s (hres hr)).of_swr r hscr, fun hn => (hgci hn).1,
    fun hn => ⟨(hgci hn).2.scrB, sizesPos_of_swr r (h.cs (hnb hn)).2⟩, ?_, oneGrp_of_swr h.o r⟩
  exact (h.i.step (istep_applyOp w o hnc)).step ⟨rfl, C20W.Pv.of_same rfl⟩

/-- a re-wiring issued from outside (admissible, leaves the world in the scope) -/
theorem wakeF_rewire {w : World} (h : GoodF w) (hi : Ini w) (x : Nat) (ups : List Nat)
    (hok : RewOK w x ups) (hfin : SC (w.rewire x ups)) :
    GoodF (w.rewire x ups) ∧ Ini (w.rewire x ups) := by
  have r : C02V.swr (w.rewire x ups) = C02V.swr w := C02V.swr_rewire w x ups
  have hscr : (w.rewire x ups).scripts = w.scripts := C02V.scr_floor.rewire w x ups
  have hres : hasRes (w.rewire x ups) = true → hasRes w = true :=
    fun hr => by rw [← hasRes_of_swr r]; exact hr
  have hnb : ¬ NoBatch (w.rewire x ups) → ¬ NoBatch w := fun hn hb => hn ((noBatch_of_swr r).mpr hb)
  have hi' : Ini (w.rewire x ups) := hi.step ⟨hscr, C20W.Pv_applyOp w (.rewire x ups) rfl⟩
  refine ⟨⟨h.g.rewireD x ups hok hfin (fun z hz => hi.inited hz), fun hr => ?_,
    fun hr => (h.s (hres hr)).of_swr r hscr, fun hn => ci_es_rewire (h.c (hnb hn)) x ups hfin,
    fun hn => ⟨scrB_of_kind hscr (kind_rewire w x ups) (h.cs (hnb hn)).1,
      sizesPos_of_swr r (h.cs (hnb hn)).2⟩, Or.inr hi', oneGrp_of_swr h.o r⟩, hi'⟩
  rw [← es_rewire]
  exact inv11_rewire (h.r (hres hr)) x ups

/-- **Reachable states** (stage RF): initialisation, events, runs, beginnings of runs, operations
issued from outside that some script contains, re-wirings issued from outside that are admissible
and leave the world in the scope. -/
inductive ReachF (w0 : World) : World → Prop
  | init : ReachF w0 w0.simulateInit
  | step {w w' : World} {e : Event} : ReachF w0 w → w.step = some (e, w') → ReachF w0 w'
  | loop {w : World} (n : Nat) : ReachF w0 w → ReachF w0 (runLoop n w)
  | run {w : World} (d : Int) : ReachF w0 w → ReachF w0 (w.runBegin d).1
  | op {w : World} (o : Op) : ReachF w0 w → (∃ l ∈ w.scripts, o ∈ l) → ReachF w0 (w.applyOp o).1
  | rew {w : World} (x : Nat) (ups : List Nat) : ReachF w0 w → RewOK w x ups →
      SC (w.rewire x ups) → ReachF w0 (w.applyOp (.rewire x ups)).1

/-- **RF3. `wakeF_reachable`**: the invariant holds in every reachable state. -/
theorem wakeF_reachable {w0 w : World} (hs : S4R w0) (hi : C01.Inv w0.env) (h0 : 0 ≤ w0.now)
    (he : EvOK w0) (hf : FreshA w0) (hreg : C20W.Reg w0) (hr : ReachF w0 w) : GoodF w ∧ Ini w := by
  induction hr with
  | init => exact ⟨wakeF_init hs hi h0 he hf hreg, ini_simulateInit hreg⟩
  | step _ hst ih => exact ⟨wakeF_step ih.1 hst, ih.2.step (istep_step hst)⟩
  | loop n _ ih => exact ⟨wakeF_runLoop n ih.1, ih.2.step (istep_runLoop n _)⟩
  | run d _ ih => exact ⟨wakeF_runBegin ih.1 d, ih.2.step (istep_runBegin _ d)⟩
  | @op w o _ ho ih =>
    obtain ⟨l, hl, hol⟩ := ho
    have hnc := opSC_not_create (ih.1.g.sc.scriptOp hl hol)
    exact ⟨wakeF_applyOp ih.1 o ⟨l, hl, hol⟩,
      (ih.2.step (istep_applyOp w o hnc)).step ⟨rfl, C20W.Pv.of_same rfl⟩⟩
  | rew x ups _ hok hfin ih => exact wakeF_rewire ih.1 ih.2 x ups hok hfin

theorem wakeF_w3 {w : World} (h : GoodF w) (d p : Nat) (hd : holdsD (w.dev d) = some p) :
    Att w d ∨ BlockedW w d p ∨
      ((w.dev d).waitingDS = true ∧ C11W.QueuedL w .rmCheck w.now pOtherHigh (-1)) :=
  wake_w3_of h.g h.pend h.gc d p hd

theorem blocked_genuinelyF {w : World} (h : GoodF w) (hc : ClockAdvances w) (d p : Nat)
    (hr : ready w d p) : BlockedW w d p := blocked_genuinely_of h.g h.pend h.gc hc d p hr

theorem no_lost_wakeupF {w : World} (h : GoodF w) (hc : ClockAdvances w) : Quiescent w :=
  quiescent_of h.g h.pend h.gc hc

/-- **The closed-world statement for the whole scope with mid-run re-wiring** (sources, handlers,
processors with or without resources, buffers, gates, batchers, batches, one shared group;
re-wiring in scripts and from outside): whenever the clock is about to advance no ready part could
be handed over, in the wiring of that moment. -/
theorem no_lost_wakeup_rewire_all_reachable {w0 w : World} (hs : S4R w0) (hi : C01.Inv w0.env)
    (h0 : 0 ≤ w0.now) (he : EvOK w0) (hf : FreshA w0) (hreg : C20W.Reg w0) (hr : ReachF w0 w)
    (hc : ClockAdvances w) : Quiescent w :=
  no_lost_wakeupF (wakeF_reachable hs hi h0 he hf hreg hr).1 hc

theorem s4r_reachable {w0 w : World} (hs : S4R w0) (hi : C01.Inv w0.env) (h0 : 0 ≤ w0.now)
    (he : EvOK w0) (hf : FreshA w0) (hreg : C20W.Reg w0) (hr : ReachF w0 w) : S4R w :=
  (wakeF_reachable hs hi h0 he hf hreg hr).1.s4r

/-- What remains PARTIAL with respect to "mid-run re-wiring" in the whole scope: re-wiring IN SCRIPTS
is covered for ONE group only (any number of group paths; re-wiring may connect and disconnect
group paths, machines inside the group, the group output; a group input keeps `up = []`:
`group_input_upstream_false`); with several groups re-wiring is covered when issued from OUTSIDE
(`no_lost_wakeup5_rewire_reachable`).  Not covered either: `create` (assets constructed mid-run). -/
theorem no_lost_wakeup_rewire_all_partial {w0 w : World} (hs : S4R w0) (hi : C01.Inv w0.env)
    (h0 : 0 ≤ w0.now) (he : EvOK w0) (hf : FreshA w0) (hreg : C20W.Reg w0) (hr : ReachF w0 w)
    (hc : ClockAdvances w) : Quiescent w :=
  no_lost_wakeup_rewire_all_reachable hs hi h0 he hf hreg hr hc

/-! ### non-vacuity, stage RF -/

/-- source 0 → batcher 1 (batches of 2) → slow sink 2 (cycle 5); sink 3 is not connected; at t = 5
script 0 gives the batcher the free sink 3 as a second downstream neighbour: `rewire 3 [1]` -/
def exBatRew : World :=
  { env := envAt 5 0
    scripts := [[.rewire 3 [1]]]
    devs := [{ kind := .source, aid := 1, down := [1], cycle := 1, maxParts := some 7 },
             { kind := .batcher, aid := 2, up := [0], down := [2], bsize := some 2 },
             { kind := .sink, aid := 3, up := [1], cycle := 5 },
             { kind := .sink, aid := 4 }],
    assets := [.dev 0, .dev 1, .dev 2, .dev 3] }

/-- two lines share one group (input 4, machine 5, output 6; paths 2 and 3); a second machine 9
stands ready inside the group (already wired to the group output) but is not connected to the
group input; at t = 5 script 0 connects it: `rewire 9 [4]` -/
def exGrpRew : World :=
  { env := envAt 5 0
    scripts := [[.rewire 9 [4]]]
    devs := [{ kind := .source, aid := 1, down := [2], cycle := 1, maxParts := some 3 },
             { kind := .source, aid := 2, down := [3], cycle := 1, maxParts := some 3 },
             { kind := .gpath, aid := 3, group := 0, up := [0], down := [7] },
             { kind := .gpath, aid := 4, group := 0, up := [1], down := [8] },
             { kind := .ginput, aid := 5, group := 0, down := [5] },
             { kind := .handler, aid := 6, up := [4], down := [6], cycle := 10 },
             { kind := .goutput, aid := 7, group := 0, up := [5, 9] },
             { kind := .sink, aid := 8, up := [2] },
             { kind := .sink, aid := 9, up := [3] },
             { kind := .handler, aid := 10, down := [6], cycle := 10 }],
    groups := [{ paths := [2, 3], input := 4, output := 6 }],
    assets := [.dev 0, .dev 1, .dev 2, .dev 3, .dev 4, .dev 5, .dev 6, .dev 7, .dev 8, .dev 9] }

/-- both are in the whole scope with re-wiring (batchers resp. group devices AND a re-wiring script),
not in the scopes of the stages before -/
theorem s4r_exBatRew : S4R exBatRew ∧ ¬ S2R exBatRew ∧ ¬ S4 exBatRew ∧ C20W.Reg exBatRew ∧
    S4R exGrpRew ∧ ¬ S2R exGrpRew ∧ ¬ S4 exGrpRew ∧ C20W.Reg exGrpRew := by decide

theorem freshA_exBatRew : FreshA exBatRew ∧ FreshA exGrpRew :=
  ⟨⟨⟨rfl, rfl, rfl, rfl, by decide⟩, by decide, fun h => by cases h⟩,
   ⟨⟨rfl, rfl, rfl, rfl, by decide⟩, by decide, fun h => by cases h⟩⟩

/-- the hypotheses of the closed-world theorem of stage RF are satisfiable -/
theorem goodF_exBatRew (n : Nat) : GoodF (runLoop n exBatRew.simulateInit) :=
  (wakeF_reachable s4r_exBatRew.1 (by decide) (by decide) (evOK_envAt5 _ rfl) freshA_exBatRew.1
    s4r_exBatRew.2.2.2.1 (.loop n .init)).1

theorem goodF_exGrpRew (n : Nat) : GoodF (runLoop n exGrpRew.simulateInit) :=
  (wakeF_reachable s4r_exBatRew.2.2.2.2.1 (by decide) (by decide) (evOK_envAt5 _ rfl)
    freshA_exBatRew.2 s4r_exBatRew.2.2.2.2.2.2.2 (.loop n .init)).1

/-- t = 4: the batcher holds the complete batch 4 and is flagged (the slow sink is busy until 7); the
clock is about to advance; genuinely blocked -/
example : (runLoop 10 exBatRew.simulateInit).now = 4 ∧ ClockAdvances (runLoop 10 exBatRew.simulateInit) ∧
    ready (runLoop 10 exBatRew.simulateInit) 1 4 ∧ BlockedW (runLoop 10 exBatRew.simulateInit) 1 4 ∧
    Quiescent (runLoop 10 exBatRew.simulateInit) := by decide

example : Quiescent (runLoop 10 exBatRew.simulateInit) := no_lost_wakeupF (goodF_exBatRew 10) (by decide)

/-- t = 5, right after the script: the free sink 3 is connected, the batcher is no longer flagged and
its attempt is queued for this instant; one event later the batch [3, 5] has been delivered to the
new sink, still at t = 5 -/
example : (runLoop 13 exBatRew.simulateInit).now = 5 ∧
    ((runLoop 13 exBatRew.simulateInit).dev 1).down = [2, 3] ∧
    ((runLoop 13 exBatRew.simulateInit).dev 1).waitingDS = false ∧
    Att (runLoop 13 exBatRew.simulateInit) 1 ∧
    (runLoop 14 exBatRew.simulateInit).now = 5 ∧
    (runLoop 14 exBatRew.simulateInit).delivered = [0, 2, 3, 5] ∧
    S4R (runLoop 14 exBatRew.simulateInit) := by decide

/-- the group: t = 2, both sources are blocked in front of the group (its only machine is busy until
11) and flagged; the clock is about to advance to 5; genuinely blocked -/
example : (runLoop 6 exGrpRew.simulateInit).now = 2 ∧ ClockAdvances (runLoop 6 exGrpRew.simulateInit) ∧
    ready (runLoop 6 exGrpRew.simulateInit) 0 2 ∧ ready (runLoop 6 exGrpRew.simulateInit) 1 1 ∧
    BlockedW (runLoop 6 exGrpRew.simulateInit) 0 2 ∧ BlockedW (runLoop 6 exGrpRew.simulateInit) 1 1 ∧
    Quiescent (runLoop 6 exGrpRew.simulateInit) := by decide

example : Quiescent (runLoop 6 exGrpRew.simulateInit) := no_lost_wakeupF (goodF_exGrpRew 6) (by decide)

/-- t = 5, right after the script has connected the second machine to the group input: the
notification has gone through the group input to BOTH group paths, both sources have their attempts
queued for this instant; one event later a part has moved into the new machine, at t = 5 -/
example : (runLoop 7 exGrpRew.simulateInit).now = 5 ∧
    ((runLoop 7 exGrpRew.simulateInit).dev 4).down = [5, 9] ∧
    Att (runLoop 7 exGrpRew.simulateInit) 0 ∧ Att (runLoop 7 exGrpRew.simulateInit) 1 ∧
    (runLoop 8 exGrpRew.simulateInit).now = 5 ∧
    ((runLoop 8 exGrpRew.simulateInit).dev 9).part = some 2 ∧
    S4R (runLoop 8 exGrpRew.simulateInit) := by decide

/-- the shared group again (machine 5, cycle 1); the sink 7 of the first line is slow (cycle 20); a
free sink 9 is not connected; at t = 5 script 0 makes it a second downstream neighbour OF THE GROUP
PATH 2 of the first line: `rewire 9 [2]` -/
def exPathRew : World :=
  { env := envAt 5 0
    scripts := [[.rewire 9 [2]]]
    devs := [{ kind := .source, aid := 1, down := [2], cycle := 1, maxParts := some 3 },
             { kind := .source, aid := 2, down := [3], cycle := 1, maxParts := some 3 },
             { kind := .gpath, aid := 3, group := 0, up := [0], down := [7] },
             { kind := .gpath, aid := 4, group := 0, up := [1], down := [8] },
             { kind := .ginput, aid := 5, group := 0, down := [5] },
             { kind := .handler, aid := 6, up := [4], down := [6], cycle := 1 },
             { kind := .goutput, aid := 7, group := 0, up := [5] },
             { kind := .sink, aid := 8, up := [2], cycle := 20 },
             { kind := .sink, aid := 9, up := [3], cycle := 20 },
             { kind := .sink, aid := 10 }],
    groups := [{ paths := [2, 3], input := 4, output := 6 }],
    assets := [.dev 0, .dev 1, .dev 2, .dev 3, .dev 4, .dev 5, .dev 6, .dev 7, .dev 8, .dev 9] }

theorem s4r_exPathRew : S4R exPathRew ∧ C20W.Reg exPathRew ∧ RewOK exPathRew 9 [2] := by decide

theorem goodF_exPathRew (n : Nat) : GoodF (runLoop n exPathRew.simulateInit) :=
  (wakeF_reachable s4r_exPathRew.1 (by decide) (by decide) (evOK_envAt5 _ rfl)
    ⟨⟨rfl, rfl, rfl, rfl, by decide⟩, by decide, fun h => by cases h⟩ s4r_exPathRew.2.1
    (.loop n .init)).1

/-- t = 3: the machine INSIDE the group holds part 2 — which came in through group path 2 (its stack)
and can leave towards the downstream devices of that path only — and is flagged: the sink 7 is busy
until 22; both sources are blocked in front of the group; the clock is about to advance -/
example : (runLoop 14 exPathRew.simulateInit).now = 3 ∧
    ClockAdvances (runLoop 14 exPathRew.simulateInit) ∧
    ((runLoop 14 exPathRew.simulateInit).part 2).stack = [2] ∧
    ready (runLoop 14 exPathRew.simulateInit) 5 2 ∧ BlockedW (runLoop 14 exPathRew.simulateInit) 5 2 ∧
    Quiescent (runLoop 14 exPathRew.simulateInit) := by decide

example : Quiescent (runLoop 14 exPathRew.simulateInit) :=
  no_lost_wakeupF (goodF_exPathRew 14) (by decide)

/-- t = 5, right after the script: the group path has the free sink 9 as a second downstream
neighbour; the notification has gone from the path through the group output to the machine inside,
whose attempt is queued for this instant; one event later — at t = 5 — part 2 has been delivered
to the new sink -/
example : (runLoop 15 exPathRew.simulateInit).now = 5 ∧
    ((runLoop 15 exPathRew.simulateInit).dev 2).down = [7, 9] ∧
    ((runLoop 15 exPathRew.simulateInit).dev 5).waitingDS = false ∧
    Att (runLoop 15 exPathRew.simulateInit) 5 ∧
    (runLoop 16 exPathRew.simulateInit).now = 5 ∧
    (runLoop 16 exPathRew.simulateInit).delivered = [0, 2] := by decide

/-! ## STAGES D, E, F: SEVERAL GROUPS (in sequence, re-entrant, nested)

`S5 cl w ⊇ S4 w` — the scope of stage C with "there is one group only" (`OneGrp`) replaced by "one
group, or the topology is TYPED by group contexts" (`C03Z.Typed cl w`, decidable; `cl` assigns to
every device its context: the ids of the groups it is inside, outermost first; `C03Z.ctxInfer w`
computes a candidate).  Typed means: a downstream connection stays in the context (for a group path:
the devices behind the group are in the context of the path); the input device of the group of a
group path is one level deeper; a group output is the output of its group and stands in a context
that ends with its group; and the world is flat (`C03Z.Flat cl`: no nesting — stages D, E: groups
used one after the other, in parallel, the same group through several paths; batchers anywhere) or
has no batcher (`C03Z.NoBat w` — stage F: groups nested in groups).
The invariant: `GoodB` as before; its clause `k : C03Z.GC w` ("one group, or typed stacks") now
carries `C03Z.TInv cl w`: the group-path stack of every part a device holds is typed for the context
of the device (`C03Z.TS`; in flat worlds also the stacks of the parts inside held batches).  This is
the invariant "each entry of a part's stack belongs to the group whose output the part will leave
through" (`C03Z.consS_of_ts`).
Re-wiring: in `S5` scripts do not re-wire (`NR`); a re-wiring issued from OUTSIDE is covered if the
re-wired world is typed again (`ReachD`). -/

theorem S5.sc {cl : List (List Nat)} {w : World} (h : S5 cl w) : SC w := h.1.1

/-- nobody holds anything in a fresh world (slot view) -/
theorem held_nil_fresh {w : World} (h : C02.Fresh w) : ∀ d ∈ w.devs, (C02V.sdev d).held = [] :=
  fun d hd => h.2.2.2.2 d hd

/-- **Everything the closed-world induction carries for several groups**: the invariant `GoodB` of
stages A, B, C (whose clause `k` says "one group, or typed stacks for SOME certificate"), the
scripts do not re-wire, and — unless there is one group only — the world is typed by the
certificate `cl` of the scope and the typed-stacks invariant holds for `cl`. -/
structure GoodD (cl : List (List Nat)) (w : World) : Prop where
  b : GoodB w
  nr : NR w
  t : ¬ OneGrp w → C03Z.Typed cl w ∧ C03Z.TInv cl w

/-- **D1. `wake5_init`**: after `simulateInit` of a fresh world of the scope `S5` the invariant
holds. -/
theorem wake5_init {cl : List (List Nat)} {w : World} (hs : S5 cl w) (hi : C01.Inv w.env)
    (h0 : 0 ≤ w.now) (he : EvOK w) (hf : FreshA w) : GoodD cl w.simulateInit := by
  have hg : G [] [] [] w :=
    ⟨hs.1.1, fun _ => partsLeaf_fresh hf.1, hi, h0, he, heldValid_fresh hf.1,
      kidsValid_of_leaf (partsLeaf_fresh hf.1), stkOK_of_noParts hf.1.1,
      wr_fresh hf.2.1 (fun hr => (hf.2.2 hr).2.2.1), (fun _ hx => nomatch hx), wakeG_fresh hf.1⟩
  have hgc : C03Z.GC w := by
    rcases hs.2.2.2 with h1 | h1
    · exact Or.inl h1
    · exact C03Z.gc_fresh hs.1.2 h1 (held_nil_fresh hf.1)
  have hIw : C02V.InvW w := (C02.consS_iff w).1 (C02.consS_fresh w hf.1)
  have esw := (sw_simulateInit w).sw_eq
  refine ⟨⟨hg.simulateInitG, fun hr => ?_, fun hn => ?_, Or.inl (hs.1.2.of_sw (sw_simulateInit w)),
    C03Z.gc_simulateInit hgc (fun _ => hIw) esw⟩, hs.1.2.of_sw (sw_simulateInit w), fun h1 => ?_⟩
  · rw [hasRes_of_ss (C02V.ss_simulateInit w)] at hr
    exact C11W.inv_simulateInit w (hs.2.1 hr) (hf.2.2 hr)
  · have hn0 : ¬ NoBatch w := fun hb => hn ((noBatch_of_sw (sw_simulateInit w).sw_eq).mpr hb)
    exact C17W.ci_init w ⟨hf.1, static_of hs.1.1 hs.1.2 (hs.2.2.1 hn0).1 he, (hs.2.2.1 hn0).2⟩
  · have hty : C03Z.Typed cl w := hs.2.2.2.resolve_left (fun ho => h1 (ho.of_sw esw))
    exact ⟨hty.of_sw esw,
      C03Z.tinv_simulateInit w hIw (C03Z.tinv_of_empty w (held_nil_fresh hf.1)) hty.tst.nb⟩

/-- **D2. `wake5_step`**: every event preserves the invariant — including the typed-stacks
invariant `C03Z.TInv cl`. -/
theorem wake5_step {cl : List (List Nat)} {w w' : World} {e : Event} (h : GoodD cl w)
    (hst : w.step = some (e, w')) : GoodD cl w' := by
  have r := swrw_step w w' e h.b.g.sc.nc hst
  have esw := (sw_step w w' e h.nr hst).sw_eq
  refine ⟨h.b.step hst, h.nr.of_sw (sw_step w w' e h.nr hst), fun h1 => ?_⟩
  have h0 : ¬ OneGrp w := fun ho => h1 (oneGrp_of_swr ho r.1)
  obtain ⟨hty, hti⟩ := h.t h0
  have hci := h.b.ci_of h0
  exact ⟨hty.of_sw esw, (C03Z.tinv_step w w' e hci.inv hti hty.tst hci.stat hst).2.1⟩

theorem wake5_runLoop {cl : List (List Nat)} (n : Nat) : ∀ {w : World}, GoodD cl w →
    GoodD cl (runLoop n w) := by
  induction n with
  | zero =>
    intro w h
    have esw : sw (w.setErr "fuel") = sw w :=
      C03Z.sw_of_swv (C02V.swv_blind.setErr w _) (C02V.scr_setErr ..)
    refine ⟨h.b.runLoop 0, C03Z.nr_of_sw h.nr esw, fun h1 => ?_⟩
    have h0 : ¬ OneGrp w := fun ho => h1 (ho.of_sw esw)
    obtain ⟨hty, hti⟩ := h.t h0
    exact ⟨hty.of_sw esw, hti.of_frame_st (C02V.sv_setErr ..) (C02V.st_setErr ..) (setErr_parts ..)⟩
  | succ n ih =>
    intro w h
    unfold World.runLoop
    split
    · split
      · exact h
      · next e w' hst => exact ih (wake5_step h hst)
    · exact h

theorem wake5_runBegin {cl : List (List Nat)} {w : World} (h : GoodD cl w) (d : Int) :
    GoodD cl (w.runBegin d).1 := by
  have esw := (sw_runBegin w d).sw_eq
  refine ⟨h.b.runBegin d, h.nr.of_sw (sw_runBegin w d), fun h1 => ?_⟩
  have h0 : ¬ OneGrp w := fun ho => h1 (ho.of_sw esw)
  obtain ⟨hty, hti⟩ := h.t h0
  exact ⟨hty.of_sw esw, C03Z.tinv_runBegin w d hti⟩

/-- The scope `S5` is preserved by every step. -/
theorem s5_step {cl : List (List Nat)} {w w' : World} {e : Event} (hs : S5 cl w) (h : GoodD cl w)
    (hst : w.step = some (e, w')) : S5 cl w' :=
  hs.of_sw (h.b.step hst).g.sc (sw_step w w' e hs.1.2 hst) (nr_step w w' e hs.1.2 hst)

theorem s5_runLoop {cl : List (List Nat)} (n : Nat) {w : World} (hs : S5 cl w) (h : GoodD cl w) :
    S5 cl (runLoop n w) :=
  hs.of_sw (h.b.runLoop n).g.sc (sw_runLoop n w hs.1.2) (nr_runLoop n w hs.1.2)

/-- **D3. `wake5_reachable`**: in every state reachable from an initialised fresh world of the
scope `S5` the invariant holds. -/
theorem wake5_reachable {cl : List (List Nat)} (n : Nat) {w : World} (hs : S5 cl w)
    (hi : C01.Inv w.env) (h0 : 0 ≤ w.now) (he : EvOK w) (hf : FreshA w) :
    GoodD cl (runLoop n w.simulateInit) :=
  wake5_runLoop n (wake5_init hs hi h0 he hf)

theorem wake5_simulate {cl : List (List Nat)} (n : Nat) (d : Int) {w : World} (hs : S5 cl w)
    (hi : C01.Inv w.env) (h0 : 0 ≤ w.now) (he : EvOK w) (hf : FreshA w) :
    GoodD cl (runLoop n (w.simulateInit.runBegin d).1) :=
  wake5_runLoop n (wake5_runBegin (wake5_init hs hi h0 he hf) d)

/-- **The typed-stacks invariant in words**: in a state of the invariant (several groups), the
group-path stack of every part that a device `d` (not a sink) holds — in a slot, in its buffer, as
its batch under construction — is typed for the context of `d`: reading the stack from the
innermost entry, each entry is a group path of the group that is the last entry of the context at
that level. -/
theorem stacks_typed {cl : List (List Nat)} {w : World} (h : GoodD cl w) (h1 : ¬ OneGrp w)
    {d p : Nat} (hd : d < w.devs.length) (hk : (w.dev d).kind ≠ .sink) (hp : p ∈ heldL (w.dev d)) :
    C03Z.TS (C08W.topo w) (C03Z.cx cl) (C03Z.cx cl d) (w.part p).stack :=
  (h.t h1).2.1 d (C02V.sdev (w.dev d)) p (C02V.sv_get w d hd) hk hp

/-- Every group output that an offer of a held part can reach is the output of the group of the
innermost group path on the stack of the part at that point (`consS`): "each entry of the stack
belongs to the group the part will leave through". -/
theorem exits_through_own_output {w : World} (h : GoodB w) {d p y : Nat}
    (hd : holdsD (w.dev d) = some p) (hy : y ∈ (w.dev d).down) (f : Nat) :
    consS f w y (w.part p).stack = true :=
  h.k.cs h.g.stk (holdsD_lt hd) (holdsD_hl hd).2 (holdsD_mem_heldL hd) hy f

/-- **D4. `blocked_genuinely5`**: when time is about to advance, every ready part — inside, between
or in front of the groups — is flagged, and no downstream neighbour (group path, group input, group
output of whichever group, …) would pass it on to anybody who accepts. -/
theorem blocked_genuinely5 {cl : List (List Nat)} {w : World} (h : GoodD cl w)
    (hc : ClockAdvances w) (d p : Nat) (hr : ready w d p) : BlockedW w d p :=
  blocked_genuinelyB h.b hc d p hr

theorem no_lost_wakeup5 {cl : List (List Nat)} {w : World} (h : GoodD cl w)
    (hc : ClockAdvances w) : Quiescent w := no_lost_wakeupB h.b hc

/-- **The closed-world statement for several groups** (stages D, E, F): in every state reachable by
`runLoop` from an initialised fresh world of the scope `S5 cl` — any number of groups, used one
after the other, in parallel, entered several times through different group paths, nested in each
other (then: no batcher) — whenever the clock is about to advance no ready part could be handed
over. -/
theorem no_lost_wakeup5_reachable {cl : List (List Nat)} (n : Nat) {w : World} (hs : S5 cl w)
    (hi : C01.Inv w.env) (h0 : 0 ≤ w.now) (he : EvOK w) (hf : FreshA w)
    (hc : ClockAdvances (runLoop n w.simulateInit)) : Quiescent (runLoop n w.simulateInit) :=
  no_lost_wakeup5 (wake5_reachable n hs hi h0 he hf) hc

theorem no_lost_wakeup5_simulate {cl : List (List Nat)} (n : Nat) (d : Int) {w : World}
    (hs : S5 cl w) (hi : C01.Inv w.env) (h0 : 0 ≤ w.now) (he : EvOK w) (hf : FreshA w)
    (hc : ClockAdvances (runLoop n (w.simulateInit.runBegin d).1)) :
    Quiescent (runLoop n (w.simulateInit.runBegin d).1) :=
  no_lost_wakeup5 (wake5_simulate n d hs hi h0 he hf) hc

/-- The same with the computed certificate: the scope `S5 (C03Z.ctxInfer w) w` is a decidable
predicate of the world alone. -/
theorem no_lost_wakeup5_infer (n : Nat) {w : World} (hs : S5 (C03Z.ctxInfer w) w)
    (hi : C01.Inv w.env) (h0 : 0 ≤ w.now) (he : EvOK w) (hf : FreshA w)
    (hc : ClockAdvances (runLoop n w.simulateInit)) : Quiescent (runLoop n w.simulateInit) :=
  no_lost_wakeup5_reachable n hs hi h0 he hf hc

/-! ### several groups and re-wiring from outside -/

/-- the scope `S5` survives an admissible re-wiring after which the world is in `SC` and typed
again -/
theorem S5.rewire {cl : List (List Nat)} {w : World} (h : S5 cl w) (x : Nat) (ups : List Nat)
    (hfin : SC (w.rewire x ups)) (hty : ¬ OneGrp w → C03Z.Typed cl (w.rewire x ups)) :
    S5 cl (w.rewire x ups) := by
  have r : C02V.swr (w.rewire x ups) = C02V.swr w := C02V.swr_rewire w x ups
  have hscr : (w.rewire x ups).scripts = w.scripts := C02V.scr_floor.rewire w x ups
  refine ⟨⟨hfin, h.1.2.of_scripts hscr⟩, fun hr => ?_, fun hn => ?_, ?_⟩
  · exact (h.2.1 (by rw [← hasRes_of_swr r]; exact hr)).of_ss ⟨sd_of_swr r, hscr⟩
  · have := h.2.2.1 (fun hb => hn ((noBatch_of_swr r).mpr hb))
    exact ⟨scrB_of_kind hscr (kind_rewire w x ups) this.1, sizesPos_of_swr r this.2⟩
  · by_cases h1 : OneGrp w
    · exact Or.inl (oneGrp_of_swr h1 r)
    · exact Or.inr (hty h1)

/-- **Reachable states** (several groups, re-wiring issued from outside): initialisation, events,
runs, beginnings of runs, and re-wirings that are admissible (`RewOK`) and leave the world in the
scope `SC` and — unless there is one group only — typed by the certificate of the scope (all
decidable on the current world). -/
inductive ReachD (cl : List (List Nat)) (w0 : World) : World → Prop
  | init : ReachD cl w0 w0.simulateInit
  | step {w w' : World} {e : Event} : ReachD cl w0 w → w.step = some (e, w') → ReachD cl w0 w'
  | loop {w : World} (n : Nat) : ReachD cl w0 w → ReachD cl w0 (runLoop n w)
  | run {w : World} (d : Int) : ReachD cl w0 w → ReachD cl w0 (w.runBegin d).1
  | rew {w : World} (x : Nat) (ups : List Nat) : ReachD cl w0 w → RewOK w x ups →
      SC (w.rewire x ups) → (¬ OneGrp w → C03Z.Typed cl (w.rewire x ups)) →
      ReachD cl w0 (w.applyOp (.rewire x ups)).1

/-- a re-wiring issued from outside preserves invariant and scope (the typed-stacks invariant does
not read the wiring) -/
theorem wake5_rewire {cl : List (List Nat)} {w : World} (hs : S5 cl w) (h : GoodD cl w) (hi : Ini w)
    (x : Nat) (ups : List Nat) (hok : RewOK w x ups) (hfin : SC (w.rewire x ups))
    (hty : ¬ OneGrp w → C03Z.Typed cl (w.rewire x ups)) :
    GoodD cl (w.rewire x ups) ∧ S5 cl (w.rewire x ups) ∧ Ini (w.rewire x ups) := by
  have r : C02V.swr (w.rewire x ups) = C02V.swr w := C02V.swr_rewire w x ups
  have hscr : (w.rewire x ups).scripts = w.scripts := C02V.scr_floor.rewire w x ups
  have hl : (w.rewire x ups).devs.length = w.devs.length := by
    have := congrArg (fun t => t.1.length) r
    simpa [C02V.swr] using this
  have hkind := kind_rewire w x ups
  have hgroup : ∀ y, ((w.rewire x ups).dev y).group = (w.dev y).group :=
    fun y => stat0_group (stat0_of_swr r y)
  have hgr : (w.rewire x ups).groups = w.groups := congrArg (fun t => t.2.2) r
  have hk : C03Z.GC (w.rewire x ups) := by
    by_cases h1 : OneGrp w
    · exact Or.inl (oneGrp_of_swr h1 r)
    · obtain ⟨_, hti⟩ := h.t h1
      exact Or.inr ⟨cl, h.nr.of_scripts hscr, hty h1,
        hti.of_kinds (C02V.sv_rewire w x ups) hkind hgroup (parts_rewire w x ups)⟩
  -- the part of the invariant shared with stages A, B, C
  have hg := h.b.g.rewireD x ups hok hfin (fun z hz => hi.inited hz)
  have hi' : Ini (w.rewire x ups) := by
    obtain ⟨h1, h2, _⟩ := C20W.Pv_applyOp w (.rewire x ups) rfl hi.1
    exact ⟨h1, h2.trans hi.2⟩
  have hb : GoodB (w.rewire x ups) := by
    refine ⟨hg, fun hr => inv11_rewire (h.b.r (by rw [← hasRes_of_swr r]; exact hr)) x ups,
      fun hn => ?_, Or.inr hi', hk⟩
    have hn0 : ¬ NoBatch w := fun hb0 => hn ((noBatch_of_swr r).mpr hb0)
    exact ci_rewire (h.b.c hn0) x ups hfin h.nr (hs.2.2.1 hn0).1 hg.ev
  refine ⟨⟨hb, h.nr.of_scripts hscr, fun h1 => ?_⟩, hs.rewire x ups hfin hty, hi'⟩
  have h0 : ¬ OneGrp w := fun ho => h1 (oneGrp_of_swr ho r)
  exact ⟨hty h0, (h.t h0).2.of_kinds (C02V.sv_rewire w x ups) hkind hgroup (parts_rewire w x ups)⟩

/-- **In every reachable state** (events, runs, outside re-wirings): invariant, scope, every device
initialised. -/
theorem wake5_rewire_reachable {cl : List (List Nat)} {w0 w : World} (hs : S5 cl w0)
    (hi : C01.Inv w0.env) (h0 : 0 ≤ w0.now) (he : EvOK w0) (hf : FreshA w0) (hreg : C20W.Reg w0)
    (hr : ReachD cl w0 w) : GoodD cl w ∧ S5 cl w ∧ Ini w := by
  induction hr with
  | init =>
    have hg := wake5_init hs hi h0 he hf
    exact ⟨hg, hs.of_sw hg.b.g.sc (sw_simulateInit w0) (C02V.ss_simulateInit w0), ini_simulateInit hreg⟩
  | step _ hst ih => exact ⟨wake5_step ih.1 hst, s5_step ih.2.1 ih.1 hst, ih.2.2.step (istep_step hst)⟩
  | loop n _ ih =>
    exact ⟨wake5_runLoop n ih.1, s5_runLoop n ih.2.1 ih.1, ih.2.2.step (istep_runLoop n _)⟩
  | run d _ ih =>
    exact ⟨wake5_runBegin ih.1 d,
      ih.2.1.of_sw (ih.1.b.runBegin d).g.sc (sw_runBegin _ d) (ss_runBegin _ d),
      ih.2.2.step (istep_runBegin _ d)⟩
  | rew x ups _ hok hfin hty ih => exact wake5_rewire ih.2.1 ih.1 ih.2.2 x ups hok hfin hty

/-- **The closed-world statement for several groups with re-wiring issued from outside.** -/
theorem no_lost_wakeup5_rewire_reachable {cl : List (List Nat)} {w0 w : World} (hs : S5 cl w0)
    (hi : C01.Inv w0.env) (h0 : 0 ≤ w0.now) (he : EvOK w0) (hf : FreshA w0) (hreg : C20W.Reg w0)
    (hr : ReachD cl w0 w) (hc : ClockAdvances w) : Quiescent w :=
  no_lost_wakeup5 (wake5_rewire_reachable hs hi h0 he hf hreg hr).1 hc

/-- What remains PARTIAL with respect to "several groups": (1) a batcher at nesting depth ≥ 2 is
outside the scope (`Typed`: `BatShallow`) — for a batcher INSIDE AN INNER group that unpacks batches
formed in an OUTER group the property is FALSE (`nested_batcher_false`, finding F14);
(2) all paths of a group must stand in the SAME context (a group shared between two different
nesting levels is not typed); (3) re-wiring IN SCRIPTS together with several groups (`S5` requires
`NR`; re-wiring from outside is covered: `no_lost_wakeup5_rewire_reachable`).
LATER STAGE V (end of this file) settles (3): `no_lost_wakeup5_script_rewire_reachable` (scope `S5R`,
typed envelope), and refines (2): a group shared between two nesting levels IS in scope when its usages
are not connected by the wiring (`s5_exLevels`); what remains open is listed at
`no_lost_wakeup5_script_rewire_partial`. -/
theorem no_lost_wakeup5_partial {cl : List (List Nat)} (n : Nat) {w : World} (hs : S5 cl w)
    (hi : C01.Inv w.env) (h0 : 0 ≤ w.now) (he : EvOK w) (hf : FreshA w)
    (hc : ClockAdvances (runLoop n w.simulateInit)) : Quiescent (runLoop n w.simulateInit) :=
  no_lost_wakeup5_reachable n hs hi h0 he hf hc

/-! ### non-vacuity, several groups -/

/-- STAGE D — two groups used one after the other: source 0 → group path 1 (group 0: input 2 →
machine 3 → output 4) → group path 5 (group 1: input 6 → machine 7 → output 8) → slow sink 9 -/
def exChain : World :=
  { devs := [{ kind := .source, aid := 1, down := [1], cycle := 1, maxParts := some 4 },
             { kind := .gpath, aid := 2, group := 0, up := [0], down := [5] },
             { kind := .ginput, aid := 3, group := 0, down := [3] },
             { kind := .handler, aid := 4, up := [2], down := [4], cycle := 1 },
             { kind := .goutput, aid := 5, group := 0, up := [3] },
             { kind := .gpath, aid := 6, group := 1, up := [1], down := [9] },
             { kind := .ginput, aid := 7, group := 1, down := [7] },
             { kind := .handler, aid := 8, up := [6], down := [8], cycle := 1 },
             { kind := .goutput, aid := 9, group := 1, up := [7] },
             { kind := .sink, aid := 10, up := [5], cycle := 5 }],
    groups := [{ paths := [1], input := 2, output := 4 }, { paths := [5], input := 6, output := 8 }],
    assets := [.dev 0, .dev 1, .dev 2, .dev 3, .dev 4, .dev 5, .dev 6, .dev 7, .dev 8, .dev 9] }

/-- its contexts: the machines, inputs and outputs are inside their groups, everything else outside -/
def clChain : List (List Nat) := [[], [], [0], [0], [0], [], [1], [1], [1], []]

/-- in the scope `S5` (typed, flat), not in the scope of stage C (two groups); the computed
certificate is the one above -/
theorem s5_exChain : S5 clChain exChain ∧ ¬ S4 exChain ∧ ¬ OneGrp exChain ∧ C03Z.Flat clChain := by
  decide

set_option maxRecDepth 4000 in
theorem ctxInfer_exChain : C03Z.ctxInfer exChain = clChain := by decide

/-- … so the world is in the certificate-free scope -/
theorem s5i_exChain : S5 (C03Z.ctxInfer exChain) exChain := ctxInfer_exChain ▸ s5_exChain.1

theorem freshA_exChain : FreshA exChain :=
  ⟨⟨rfl, rfl, rfl, rfl, by decide⟩, by decide, fun h => by cases h⟩

theorem evOK_exChain : EvOK exChain := fun n hn => by simp [C02V.acts, exChain] at hn

/-- the hypotheses of the closed-world theorems for several groups are satisfiable -/
theorem goodD_exChain (n : Nat) : GoodD clChain (runLoop n (exChain.simulateInit.runBegin 100).1) :=
  wake5_simulate n 100 s5_exChain.1 C01.inv_init (by decide) evOK_exChain freshA_exChain

/-- t = 4: the sink is busy until 8; the machine 7 of the SECOND group holds part 1 (stack [5]), the
machine 3 of the FIRST group holds part 2 (stack [1]: it would leave through the output of group 0
to group path 5 of group 1, whose machine is occupied), the source holds part 3; all three are
flagged; the clock is about to advance; everything is genuinely blocked -/
def exChainBlocked : World := runLoop 21 (exChain.simulateInit.runBegin 100).1

example : exChainBlocked.now = 4 ∧ ClockAdvances exChainBlocked ∧
    (exChainBlocked.part 1).stack = [5] ∧ (exChainBlocked.part 2).stack = [1] ∧
    ready exChainBlocked 7 1 ∧ ready exChainBlocked 3 2 ∧ ready exChainBlocked 0 3 ∧
    BlockedW exChainBlocked 7 1 ∧ BlockedW exChainBlocked 3 2 ∧ BlockedW exChainBlocked 0 3 ∧
    WakeA exChainBlocked ∧ Quiescent exChainBlocked := by decide

example : Quiescent exChainBlocked := no_lost_wakeup5 (goodD_exChain 21) (by decide)

/-- the stacks are typed for the contexts of the holders (the invariant, computed): part 1 inside
group 1 entered through path 5, part 2 inside group 0 entered through path 1 -/
example : C03Z.TS (C08W.topo exChainBlocked) (C03Z.cx clChain) (C03Z.cx clChain 7)
      (exChainBlocked.part 1).stack ∧
    C03Z.TS (C08W.topo exChainBlocked) (C03Z.cx clChain) (C03Z.cx clChain 3)
      (exChainBlocked.part 2).stack ∧
    ¬ C03Z.TS (C08W.topo exChainBlocked) (C03Z.cx clChain) (C03Z.cx clChain 7)
      (exChainBlocked.part 2).stack := by decide

/-- … as the theorem says -/
example : C03Z.TS (C08W.topo exChainBlocked) (C03Z.cx clChain) (C03Z.cx clChain 7)
    (exChainBlocked.part 1).stack :=
  stacks_typed (goodD_exChain 21) (by decide) (by decide) (by decide) (by decide)

/-- `give` answers `wouldAccept` through BOTH groups: the offer of part 2 to the output 4 of group 0
(pop path 1, on to path 5, push, input 6, machine 7: occupied) is refused -/
example : (exChainBlocked.givePart 4 2).2 = false ∧
    wouldAccept exChainBlocked.fuel exChainBlocked 4 2 = false := by decide

/-- t = 8: the sink has notified group path 5; through the output 8 of group 1 the machine 7 has
been woken (W1); one event later it has handed part 1 over and its notification has gone — group
input 6, group path 5, group path 1, OUTPUT 4 OF GROUP 0 — to the machine 3, whose attempt is queued;
another event later part 2 has moved from group 0 into group 1 (stack [5]) and the source is woken -/
example : (runLoop 22 (exChain.simulateInit.runBegin 100).1).now = 8 ∧
    Att (runLoop 22 (exChain.simulateInit.runBegin 100).1) 7 ∧
    ((runLoop 23 (exChain.simulateInit.runBegin 100).1).dev 9).part = some 1 ∧
    Att (runLoop 23 (exChain.simulateInit.runBegin 100).1) 3 ∧
    ((runLoop 24 (exChain.simulateInit.runBegin 100).1).dev 7).part = some 2 ∧
    ((runLoop 24 (exChain.simulateInit.runBegin 100).1).part 2).stack = [5] ∧
    Att (runLoop 24 (exChain.simulateInit.runBegin 100).1) 0 := by decide

/-- STAGE E — a group shared by two lines, with a second group behind one of them: source 0 → path 2
→ path 7 (group 1: input 8 → machine 9 → output 10) → sink 11, and source 1 → path 3 → sink 12; the
paths 2 and 3 share group 0 (input 4 → machine 5 → output 6) -/
def exShared : World :=
  { devs := [{ kind := .source, aid := 1, down := [2], cycle := 1, maxParts := some 3 },
             { kind := .source, aid := 2, down := [3], cycle := 1, maxParts := some 3 },
             { kind := .gpath, aid := 3, group := 0, up := [0], down := [7] },
             { kind := .gpath, aid := 4, group := 0, up := [1], down := [12] },
             { kind := .ginput, aid := 5, group := 0, down := [5] },
             { kind := .handler, aid := 6, up := [4], down := [6], cycle := 2 },
             { kind := .goutput, aid := 7, group := 0, up := [5] },
             { kind := .gpath, aid := 8, group := 1, up := [2], down := [11] },
             { kind := .ginput, aid := 9, group := 1, down := [9] },
             { kind := .handler, aid := 10, up := [8], down := [10], cycle := 1 },
             { kind := .goutput, aid := 11, group := 1, up := [9] },
             { kind := .sink, aid := 12, up := [7], cycle := 5 },
             { kind := .sink, aid := 13, up := [3], cycle := 5 }],
    groups := [{ paths := [2, 3], input := 4, output := 6 }, { paths := [7], input := 8, output := 10 }],
    assets := [.dev 0, .dev 1, .dev 2, .dev 3, .dev 4, .dev 5, .dev 6, .dev 7, .dev 8, .dev 9, .dev 10,
      .dev 11, .dev 12] }

def clShared : List (List Nat) := [[], [], [], [], [0], [0], [0], [], [1], [1], [1], [], []]

/-- in the scope `S5`; the certificate is the computed one -/
theorem s5_exShared : S5 clShared exShared ∧ ¬ S4 exShared := by decide

set_option maxRecDepth 4000 in
theorem ctxInfer_exShared : C03Z.ctxInfer exShared = clShared := by decide

theorem goodD_exShared (n : Nat) :
    GoodD clShared (runLoop n (exShared.simulateInit.runBegin 100).1) :=
  wake5_simulate n 100 s5_exShared.1 C01.inv_init (by decide)
    (fun n hn => by simp [C02V.acts, exShared] at hn)
    ⟨⟨rfl, rfl, rfl, rfl, by decide⟩, by decide, fun h => by cases h⟩

/-- t = 7: the shared machine 5 holds part 3 of the FIRST line (stack [2]): it would leave through
path 2 into the second group, whose machine 9 holds part 2 (stack [7]) in front of the busy sink 11;
the source of the second line is blocked in front of the shared machine although ITS sink 12 is idle;
the clock is about to advance; everything is genuinely blocked -/
example : (runLoop 24 (exShared.simulateInit.runBegin 100).1).now = 7 ∧
    ClockAdvances (runLoop 24 (exShared.simulateInit.runBegin 100).1) ∧
    ((runLoop 24 (exShared.simulateInit.runBegin 100).1).part 3).stack = [2] ∧
    ((runLoop 24 (exShared.simulateInit.runBegin 100).1).part 2).stack = [7] ∧
    ((runLoop 24 (exShared.simulateInit.runBegin 100).1).dev 12).part = none ∧
    BlockedW (runLoop 24 (exShared.simulateInit.runBegin 100).1) 5 3 ∧
    BlockedW (runLoop 24 (exShared.simulateInit.runBegin 100).1) 9 2 ∧
    BlockedW (runLoop 24 (exShared.simulateInit.runBegin 100).1) 1 1 ∧
    Quiescent (runLoop 24 (exShared.simulateInit.runBegin 100).1) := by decide

example : Quiescent (runLoop 24 (exShared.simulateInit.runBegin 100).1) :=
  no_lost_wakeup5 (goodD_exShared 24) (by decide)

/-- t = 9: sink 11 has notified; machine 9 is woken through the output of group 1, hands part 2 over,
and the shared machine 5 is woken through the output of group 0 -/
example : (runLoop 25 (exShared.simulateInit.runBegin 100).1).now = 9 ∧
    Att (runLoop 25 (exShared.simulateInit.runBegin 100).1) 9 ∧
    ((runLoop 26 (exShared.simulateInit.runBegin 100).1).dev 11).part = some 2 ∧
    Att (runLoop 26 (exShared.simulateInit.runBegin 100).1) 5 := by decide

/-- STAGE E — re-entrant use with another group in between: source 0 → path 1 (group 0: input 2 →
machine 3 → output 4) → path 5 (group 1: input 6 → machine 7 → output 8) → path 9 (GROUP 0 AGAIN) →
sink 10; every part passes the machine 3 twice -/
def exReent : World :=
  { devs := [{ kind := .source, aid := 1, down := [1], cycle := 4, maxParts := some 3 },
             { kind := .gpath, aid := 2, group := 0, up := [0], down := [5] },
             { kind := .ginput, aid := 3, group := 0, down := [3] },
             { kind := .handler, aid := 4, up := [2], down := [4], cycle := 1 },
             { kind := .goutput, aid := 5, group := 0, up := [3] },
             { kind := .gpath, aid := 6, group := 1, up := [1], down := [9] },
             { kind := .ginput, aid := 7, group := 1, down := [7] },
             { kind := .handler, aid := 8, up := [6], down := [8], cycle := 1 },
             { kind := .goutput, aid := 9, group := 1, up := [7] },
             { kind := .gpath, aid := 10, group := 0, up := [5], down := [10] },
             { kind := .sink, aid := 11, up := [9], cycle := 5 }],
    groups := [{ paths := [1, 9], input := 2, output := 4 }, { paths := [5], input := 6, output := 8 }],
    assets := [.dev 0, .dev 1, .dev 2, .dev 3, .dev 4, .dev 5, .dev 6, .dev 7, .dev 8, .dev 9, .dev 10] }

def clReent : List (List Nat) := [[], [], [0], [0], [0], [], [1], [1], [1], [], []]

theorem s5_exReent : S5 clReent exReent ∧ ¬ S4 exReent := by decide

theorem goodD_exReent (n : Nat) :
    GoodD clReent (runLoop n (exReent.simulateInit.runBegin 100).1) :=
  wake5_simulate n 100 s5_exReent.1 C01.inv_init (by decide)
    (fun n hn => by simp [C02V.acts, exReent] at hn)
    ⟨⟨rfl, rfl, rfl, rfl, by decide⟩, by decide, fun h => by cases h⟩

/-- t = 11: part 1 is in the machine 3 for the SECOND time (history 0, 1, 3, 5, 7, 9, 3), now with
the stack [9]: it will leave group 0 through path 9 to the sink, which is busy until 12; the
machine is flagged, the clock is about to advance, the part is genuinely blocked; at t = 12 the sink
notifies path 9, the machine is woken through the output of group 0 and hands the part over -/
example : (runLoop 16 (exReent.simulateInit.runBegin 100).1).now = 11 ∧
    ClockAdvances (runLoop 16 (exReent.simulateInit.runBegin 100).1) ∧
    ((runLoop 16 (exReent.simulateInit.runBegin 100).1).part 1).stack = [9] ∧
    ((runLoop 16 (exReent.simulateInit.runBegin 100).1).part 1).hist = [0, 1, 3, 5, 7, 9, 3] ∧
    BlockedW (runLoop 16 (exReent.simulateInit.runBegin 100).1) 3 1 ∧
    Quiescent (runLoop 16 (exReent.simulateInit.runBegin 100).1) ∧
    Att (runLoop 18 (exReent.simulateInit.runBegin 100).1) 3 ∧
    ((runLoop 20 (exReent.simulateInit.runBegin 100).1).dev 10).part = some 1 := by decide

example : Quiescent (runLoop 16 (exReent.simulateInit.runBegin 100).1) :=
  no_lost_wakeup5 (goodD_exReent 16) (by decide)

/-- STAGE F — a group nested in a group: source 0 → group path 1 of the OUTER group 0 (input 2 →
machine 3 → group path 4 of the INNER group 1 (input 5 → machine 6 → output 7) → output 8) → slow
sink 9; the path of the inner group is a member of the outer group (its last one) -/
def exNested : World :=
  { devs := [{ kind := .source, aid := 1, down := [1], cycle := 1, maxParts := some 4 },
             { kind := .gpath, aid := 2, group := 0, up := [0], down := [9] },
             { kind := .ginput, aid := 3, group := 0, down := [3] },
             { kind := .handler, aid := 4, up := [2], down := [4], cycle := 1 },
             { kind := .gpath, aid := 5, group := 1, up := [3], down := [8] },
             { kind := .ginput, aid := 6, group := 1, down := [6] },
             { kind := .handler, aid := 7, up := [5], down := [7], cycle := 1 },
             { kind := .goutput, aid := 8, group := 1, up := [6] },
             { kind := .goutput, aid := 9, group := 0, up := [4] },
             { kind := .sink, aid := 10, up := [1], cycle := 5 }],
    groups := [{ paths := [1], input := 2, output := 8 }, { paths := [4], input := 5, output := 7 }],
    assets := [.dev 0, .dev 1, .dev 2, .dev 3, .dev 4, .dev 5, .dev 6, .dev 7, .dev 8, .dev 9] }

def clNested : List (List Nat) := [[], [], [0], [0], [0], [0, 1], [0, 1], [0, 1], [0], []]

/-- in the scope `S5` (typed, NOT flat, no batcher); the inner machine stands in the context [0, 1] -/
theorem s5_exNested : S5 clNested exNested ∧ ¬ S4 exNested ∧ ¬ C03Z.Flat clNested ∧
    C03Z.NoBat exNested := by decide

set_option maxRecDepth 4000 in
theorem ctxInfer_exNested : C03Z.ctxInfer exNested = clNested := by decide

theorem goodD_exNested (n : Nat) :
    GoodD clNested (runLoop n (exNested.simulateInit.runBegin 100).1) :=
  wake5_simulate n 100 s5_exNested.1 C01.inv_init (by decide)
    (fun n hn => by simp [C02V.acts, exNested] at hn)
    ⟨⟨rfl, rfl, rfl, rfl, by decide⟩, by decide, fun h => by cases h⟩

/-- t = 4: the INNER machine 6 holds part 1 with the stack [1, 4] (outer path, inner path), the outer
machine 3 holds part 2 (stack [1]), the source part 3; the sink is busy until 8; all are flagged, the
clock is about to advance, everything is genuinely blocked: the offer of part 1 goes through the
inner output 7 (pop 4), the outer output 8 (pop 1) to the sink -/
def exNestedBlocked : World := runLoop 21 (exNested.simulateInit.runBegin 100).1

example : exNestedBlocked.now = 4 ∧ ClockAdvances exNestedBlocked ∧
    (exNestedBlocked.part 1).stack = [1, 4] ∧ (exNestedBlocked.part 2).stack = [1] ∧
    ready exNestedBlocked 6 1 ∧ ready exNestedBlocked 3 2 ∧ ready exNestedBlocked 0 3 ∧
    BlockedW exNestedBlocked 6 1 ∧ BlockedW exNestedBlocked 3 2 ∧ BlockedW exNestedBlocked 0 3 ∧
    (exNestedBlocked.givePart 7 1).2 = false ∧ Quiescent exNestedBlocked := by decide

example : Quiescent exNestedBlocked := no_lost_wakeup5 (goodD_exNested 21) (by decide)

/-- the stack [1, 4] is typed for the context [0, 1] of the inner machine -/
example : C03Z.TS (C08W.topo exNestedBlocked) (C03Z.cx clNested)
    (C03Z.cx clNested 6) (exNestedBlocked.part 1).stack :=
  stacks_typed (goodD_exNested 21) (by decide) (by decide) (by decide) (by decide)

/-- t = 8: the sink has notified the OUTER group path 1; the notification has gone through the outer
output 8 to the inner group path 4 and through the INNER output 7 to the machine 6 (W1); one event
later part 1 is in the sink with the empty stack and the outer machine 3 is woken -/
example : (runLoop 22 (exNested.simulateInit.runBegin 100).1).now = 8 ∧
    Att (runLoop 22 (exNested.simulateInit.runBegin 100).1) 6 ∧
    ((runLoop 23 (exNested.simulateInit.runBegin 100).1).dev 9).part = some 1 ∧
    ((runLoop 23 (exNested.simulateInit.runBegin 100).1).part 1).stack = [] ∧
    Att (runLoop 23 (exNested.simulateInit.runBegin 100).1) 3 := by decide

/-! #### several groups and a re-wiring from outside -/

/-- `exChain` with a free sink 10 that is not connected -/
def exChainR : World :=
  { exChain with devs := exChain.devs ++ [{ kind := .sink, aid := 11 }],
                 assets := exChain.assets ++ [.dev 10] }

theorem s5_exChainR : S5 (clChain ++ [[]]) exChainR ∧ C20W.Reg exChainR := by decide

/-- the blocked state at t = 4 (as `exChainBlocked`) is reachable; connecting the free sink behind
group path 5 (`rewire 10 [5]`) is admissible there and leaves the world in the scope and typed -/
theorem reachD_exChainR :
    ReachD (clChain ++ [[]]) exChainR (runLoop 21 (exChainR.simulateInit.runBegin 100).1) ∧
    RewOK (runLoop 21 (exChainR.simulateInit.runBegin 100).1) 10 [5] ∧
    SC ((runLoop 21 (exChainR.simulateInit.runBegin 100).1).rewire 10 [5]) ∧
    C03Z.Typed (clChain ++ [[]]) ((runLoop 21 (exChainR.simulateInit.runBegin 100).1).rewire 10 [5]) :=
  ⟨.loop 21 (.run 100 .init), by decide, by decide, by decide⟩

/-- the state after the outside re-wiring is covered by the theorem … -/
example : GoodD (clChain ++ [[]]) ((runLoop 21 (exChainR.simulateInit.runBegin 100).1).rewire 10 [5]) :=
  (wake5_rewire_reachable s5_exChainR.1 C01.inv_init (by decide)
    (fun n hn => by simp [C02V.acts, exChainR, exChain] at hn)
    ⟨⟨rfl, rfl, rfl, rfl, by decide⟩, by decide, fun h => by cases h⟩ s5_exChainR.2
    (.rew 10 [5] reachD_exChainR.1 reachD_exChainR.2.1 reachD_exChainR.2.2.1
      (fun _ => reachD_exChainR.2.2.2))).1

/-- … the notification has gone from group path 5 through the output of group 1 to the machine 7,
whose attempt is queued for the present instant; one event later part 1 has been delivered to the new
sink -/
example : Quiescent (runLoop 21 (exChainR.simulateInit.runBegin 100).1) ∧
    (((runLoop 21 (exChainR.simulateInit.runBegin 100).1).rewire 10 [5]).dev 5).down = [9, 10] ∧
    Att ((runLoop 21 (exChainR.simulateInit.runBegin 100).1).rewire 10 [5]) 7 ∧
    (runLoop 1 ((runLoop 21 (exChainR.simulateInit.runBegin 100).1).rewire 10 [5])).delivered = [0, 1] :=
  by decide

/-! ### FALSE for a batcher inside an inner group (finding F14)

`group.py` keeps the group-path stack on the object that is handed over; the parts INSIDE a batch
keep the stacks they had when they were batched.  A batch formed inside an outer group (its parts
carry the outer path) that enters an inner group and is unpacked THERE yields parts whose innermost
stack entry is the OUTER path: the inner group output sends them out through the outer path —
by-passing the rest of the outer group — and the wake-up that later comes back along the outer path
reaches the output of the OUTER group only: the unbatcher inside the inner group is never woken. -/

/-- source 0 → OUTER group 0 (path 1, input 2, output 9): batcher 3 (batches of 2) → INNER group 1
(path 4, input 5, output 7): unbatcher 6 → machine 8 → outer output 9; slow sink 10 behind path 1 -/
def cexNestBat : World :=
  { devs := [{ kind := .source, aid := 1, down := [1], cycle := 1, maxParts := some 4 },
             { kind := .gpath, aid := 2, group := 0, up := [0], down := [10] },
             { kind := .ginput, aid := 3, group := 0, down := [3] },
             { kind := .batcher, aid := 4, up := [2], down := [4], bsize := some 2 },
             { kind := .gpath, aid := 5, group := 1, up := [3], down := [8] },
             { kind := .ginput, aid := 6, group := 1, down := [6] },
             { kind := .batcher, aid := 7, up := [5], down := [7] },
             { kind := .goutput, aid := 8, group := 1, up := [6] },
             { kind := .handler, aid := 9, up := [4], down := [9] },
             { kind := .goutput, aid := 10, group := 0, up := [8] },
             { kind := .sink, aid := 11, up := [1], cycle := 10 }],
    groups := [{ paths := [1], input := 2, output := 9 }, { paths := [4], input := 5, output := 7 }],
    assets := [.dev 0, .dev 1, .dev 2, .dev 3, .dev 4, .dev 5, .dev 6, .dev 7, .dev 8, .dev 9, .dev 10] }

def clNestBat : List (List Nat) := [[], [], [0], [0], [0], [0, 1], [0, 1], [0, 1], [0], [0], []]

/-- **Nested groups with a batcher in the inner group lose a wake-up.**  The world satisfies every
condition of the scope `S5` — the wiring is typed by `clNestBat` — except "every batcher stands at
nesting depth ≤ 1" (`BatShallow`: the unbatcher 6 stands in the context [0, 1]); it is fresh.  At the end of the run (t = 100, nothing queued any more) the unbatcher 6 inside the INNER
group still holds part 2, whose stack is [1] (the OUTER path), flagged, while the sink — reached
through the inner output 7 and the downstream list of path 1 — is idle and would accept it. -/
theorem nested_batcher_false :
    (SC cexNestBat ∧ NR cexNestBat) ∧ (∀ x ∈ List.range cexNestBat.devs.length,
      C03Z.TypedAt clNestBat cexNestBat x) ∧ ¬ C03Z.BatShallow clNestBat cexNestBat ∧
    C03Z.cx clNestBat 6 = [0, 1] ∧
    ¬ S5 clNestBat cexNestBat ∧ FreshA cexNestBat ∧
    ClockAdvances (runLoop 20 (cexNestBat.simulateInit.runBegin 100).1) ∧
    ((runLoop 20 (cexNestBat.simulateInit.runBegin 100).1).part 2).stack = [1] ∧
    ready (runLoop 20 (cexNestBat.simulateInit.runBegin 100).1) 6 2 ∧
    ((runLoop 20 (cexNestBat.simulateInit.runBegin 100).1).dev 6).waitingDS = true ∧
    wouldAccept (runLoop 20 (cexNestBat.simulateInit.runBegin 100).1).fuel
      (runLoop 20 (cexNestBat.simulateInit.runBegin 100).1) 7 2 = true ∧
    (runLoop 20 (cexNestBat.simulateInit.runBegin 100).1).error = none ∧
    ¬ Quiescent (runLoop 20 (cexNestBat.simulateInit.runBegin 100).1) := by
  refine ⟨by decide, by decide, by decide, by decide, by decide,
    ⟨⟨rfl, rfl, rfl, rfl, by decide⟩, by decide, fun h => by cases h⟩,
    by decide, by decide, by decide, by decide, by decide, by decide, by decide⟩

/-- **Nested groups WITH batchers, all at nesting depth ≤ 1**: as `cexNestBat`, but the unbatcher
stands BEHIND the inner group (device 8, context [0]) and the inner group contains a plain machine
(device 6): the batches formed in the outer group pass the inner group as batches and are unpacked
in the outer group again -/
def exNestBat : World :=
  { devs := [{ kind := .source, aid := 1, down := [1], cycle := 1, maxParts := some 6 },
             { kind := .gpath, aid := 2, group := 0, up := [0], down := [10] },
             { kind := .ginput, aid := 3, group := 0, down := [3] },
             { kind := .batcher, aid := 4, up := [2], down := [4], bsize := some 2 },
             { kind := .gpath, aid := 5, group := 1, up := [3], down := [8] },
             { kind := .ginput, aid := 6, group := 1, down := [6] },
             { kind := .handler, aid := 7, up := [5], down := [7], cycle := 1 },
             { kind := .goutput, aid := 8, group := 1, up := [6] },
             { kind := .batcher, aid := 9, up := [4], down := [9] },
             { kind := .goutput, aid := 10, group := 0, up := [8] },
             { kind := .sink, aid := 11, up := [1], cycle := 4 }],
    groups := [{ paths := [1], input := 2, output := 9 }, { paths := [4], input := 5, output := 7 }],
    assets := [.dev 0, .dev 1, .dev 2, .dev 3, .dev 4, .dev 5, .dev 6, .dev 7, .dev 8, .dev 9, .dev 10] }

/-- in the scope: typed by the same certificate, neither flat nor without batchers, but every
batcher at depth ≤ 1 -/
theorem s5_exNestBat : S5 clNestBat exNestBat ∧ ¬ C03Z.Flat clNestBat ∧ ¬ C03Z.NoBat exNestBat ∧
    C03Z.BatShallow clNestBat exNestBat := by decide

theorem goodD_exNestBat (n : Nat) :
    GoodD clNestBat (runLoop n (exNestBat.simulateInit.runBegin 100).1) :=
  wake5_simulate n 100 s5_exNestBat.1 C01.inv_init (by decide)
    (fun n hn => by simp [C02V.acts, exNestBat] at hn)
    ⟨⟨rfl, rfl, rfl, rfl, by decide⟩, by decide, fun h => by cases h⟩

/-- t = 8: the inner machine 6 holds the BATCH 7 = [6, 8] (stack [4]: the inner path; its parts carry
[1], the outer path), the unbatcher 8 holds part 3 (stack [1]) in front of the busy sink; both are
flagged; the clock is about to advance; everything is genuinely blocked; at t = 11 the sink notifies
and the parts flow again (part 3 delivered, part 5 unpacked) -/
example : (runLoop 30 (exNestBat.simulateInit.runBegin 100).1).now = 8 ∧
    ClockAdvances (runLoop 30 (exNestBat.simulateInit.runBegin 100).1) ∧
    ((runLoop 30 (exNestBat.simulateInit.runBegin 100).1).part 7).kids = some [6, 8] ∧
    ((runLoop 30 (exNestBat.simulateInit.runBegin 100).1).part 7).stack = [4] ∧
    ((runLoop 30 (exNestBat.simulateInit.runBegin 100).1).part 6).stack = [1] ∧
    BlockedW (runLoop 30 (exNestBat.simulateInit.runBegin 100).1) 6 7 ∧
    BlockedW (runLoop 30 (exNestBat.simulateInit.runBegin 100).1) 8 3 ∧
    Quiescent (runLoop 30 (exNestBat.simulateInit.runBegin 100).1) ∧
    (runLoop 32 (exNestBat.simulateInit.runBegin 100).1).delivered = [0, 2, 3] := by decide

example : Quiescent (runLoop 30 (exNestBat.simulateInit.runBegin 100).1) :=
  no_lost_wakeup5 (goodD_exNestBat 30) (by decide)

/-- the same batcher arrangement WITHOUT nesting (both batchers in the one outer group) is in the
scope: flat worlds may have batchers anywhere -/
def exFlatBat : World :=
  { devs := [{ kind := .source, aid := 1, down := [1], cycle := 1, maxParts := some 4 },
             { kind := .gpath, aid := 2, group := 0, up := [0], down := [6] },
             { kind := .ginput, aid := 3, group := 0, down := [3] },
             { kind := .batcher, aid := 4, up := [2], down := [4], bsize := some 2 },
             { kind := .batcher, aid := 5, up := [3], down := [5] },
             { kind := .goutput, aid := 6, group := 0, up := [4] },
             { kind := .gpath, aid := 7, group := 1, up := [1], down := [10] },
             { kind := .ginput, aid := 8, group := 1, down := [8] },
             { kind := .handler, aid := 9, up := [7], down := [9], cycle := 1 },
             { kind := .goutput, aid := 10, group := 1, up := [8] },
             { kind := .sink, aid := 11, up := [6], cycle := 10 }],
    groups := [{ paths := [1], input := 2, output := 5 }, { paths := [6], input := 7, output := 9 }],
    assets := [.dev 0, .dev 1, .dev 2, .dev 3, .dev 4, .dev 5, .dev 6, .dev 7, .dev 8, .dev 9, .dev 10] }

def clFlatBat : List (List Nat) := [[], [], [0], [0], [0], [0], [], [1], [1], [1], []]

theorem s5_exFlatBat : S5 clFlatBat exFlatBat ∧ ¬ S4 exFlatBat ∧ C03Z.Flat clFlatBat ∧
    ¬ C03Z.NoBat exFlatBat := by decide

theorem goodD_exFlatBat (n : Nat) :
    GoodD clFlatBat (runLoop n (exFlatBat.simulateInit.runBegin 100).1) :=
  wake5_simulate n 100 s5_exFlatBat.1 C01.inv_init (by decide)
    (fun n hn => by simp [C02V.acts, exFlatBat] at hn)
    ⟨⟨rfl, rfl, rfl, rfl, by decide⟩, by decide, fun h => by cases h⟩

/-! ## STAGE V: SEVERAL GROUPS AND RE-WIRING IN SCRIPTS

`S5R cl w ⊇ S4R w, S5 cl w`: the scope of stage RF (resources, batchers, batches, re-wiring scripts)
with "there is one group only" replaced by "one group, or the ENVELOPE is typed by group contexts":
`C03V.TE cl w = C03Z.Typed cl (envl w)` (`Proofs/C03VTyp.lean`).  Every wiring the scripts can ever
produce is a sub-wiring of the envelope, and a sub-wiring of a typed wiring is typed
(`C03V.Typed.sub`), so the typing is preserved by every step, the re-wiring steps included.  The
invariant `GoodV cl w` carries the typed-stacks invariant `C03Z.TInv cl w` (which reads neither the
scripts nor the wiring) next to the invariants of stage RF. -/

/-- **The whole scope: several groups AND mid-run re-wiring in scripts.**  As `S4R`, with "there is
one group only" replaced by "one group, or the ENVELOPE is typed by group contexts"
(`C03V.TE cl w = C03Z.Typed cl (envl w)`): the wiring plus every connection `u → x` that a scripted
`rewire x ups`, `u ∈ ups`, may add respects the contexts of the certificate `cl`. -/
def S5R (cl : List (List Nat)) (w : World) : Prop :=
  SC w ∧ (hasRes w = true → S11R w) ∧ (¬ NoBatch w → ScrB w ∧ C17W.SizesPos w) ∧
    (OneGrp w ∨ C03V.TE cl w)

instance (cl : List (List Nat)) (w : World) : Decidable (S5R cl w) := by unfold S5R; infer_instance

/-- stage RF (one group, scripted re-wiring) is a sub-scope -/
theorem S4R.s5r {w : World} (h : S4R w) (cl : List (List Nat)) : S5R cl w :=
  ⟨h.1, h.2.1, h.2.2.1, Or.inl h.2.2.2⟩

/-- stages D, E, F (several groups, no scripted re-wiring) are a sub-scope -/
theorem S5.s5r {cl : List (List Nat)} {w : World} (h : S5 cl w) : S5R cl w :=
  ⟨h.1.1, fun hr => s11R_of_S (h.2.1 hr), h.2.2.1, h.2.2.2.imp id (C03V.te_of_nr h.1.2)⟩

/-- without re-wiring scripts the scope is that of stages D, E, F with `S11R` for `C11W.S` -/
theorem s5r_iff_of_nr {cl : List (List Nat)} {w : World} (hn : NR w) :
    S5R cl w ↔ SC w ∧ (hasRes w = true → S11R w) ∧ (¬ NoBatch w → ScrB w ∧ C17W.SizesPos w) ∧
      (OneGrp w ∨ C03Z.Typed cl w) := by
  unfold S5R; rw [C03V.te_iff_of_nr hn]

/-- Everything the closed-world induction carries (stage V): as `GoodF` (stage RF), with the clause
"one group" replaced by "one group, or the envelope is typed by the certificate of the scope and the
typed-stacks invariant holds". -/
structure GoodV (cl : List (List Nat)) (w : World) : Prop where
  g : G [] [] [] w
  r : hasRes w = true → C11W.Inv (es w [])
  s : hasRes w = true → S11R w
  c : ¬ NoBatch w → C17W.CI (es w [])
  cs : ¬ NoBatch w → ScrB w ∧ C17W.SizesPos w
  i : IOK w
  t : ¬ OneGrp w → C03V.TE cl w ∧ C03Z.TInv cl w

theorem GoodV.s5r {cl : List (List Nat)} {w : World} (h : GoodV cl w) : S5R cl w :=
  ⟨h.g.sc, h.s, h.cs, by
    by_cases h1 : OneGrp w
    · exact Or.inl h1
    · exact Or.inr (h.t h1).1⟩

/-- the machinery's condition, for the world without its scripts -/
theorem GoodV.gc {cl : List (List Nat)} {w : World} (h : GoodV cl w) : C03Z.GC (es w []) :=
  C03V.gc_es h.t

theorem GoodV.invB {cl : List (List Nat)} {w : World} (h : GoodV cl w) : InvB w :=
  fun hnb => (h.c hnb).inv.of_sv (w := es w []) (w' := w) rfl

theorem GoodV.settled {cl : List (List Nat)} {w : World} (h : GoodV cl w) : Settled w := by
  intro x hk ho
  have hnb : ¬ NoBatch w := fun hn => (noBatch_dev hn x).1 hk
  rcases ((h.c hnb).bat x hk).settled with h1 | h1
  · have h1' : (w.dev x).output.isSome = true := h1
    rw [ho] at h1'; cases h1'
  · exact h1

theorem GoodV.procs {cl : List (List Nat)} {w : World} (h : GoodV cl w) (hr : hasRes w = true) :
    ∀ e ∈ w.rm.waiting, ∃ x, e.2 = Cb.proc x := by
  rcases h.g.wr with hn | hreg
  · rw [hr] at hn; cases hn
  · exact hreg.1

theorem GoodV.gci {cl : List (List Nat)} {w : World} (h : GoodV cl w) (hn : ¬ NoBatch w) : GCI w :=
  ⟨h.c hn, h.g.sc, (h.cs hn).1⟩

theorem GoodV.pend {cl : List (List Nat)} {w : World} (h : GoodV cl w) (hr : hasRes w = true) :
    C11W.Pend w := (h.r hr).pend

theorem GoodV.nb {cl : List (List Nat)} {w : World} (_ : GoodV cl w) (h1 : ¬ OneGrp w) :
    ¬ NoBatch w := fun hb => h1 (oneGrp_of_noBatch hb)

/-- the typed-stacks part of the invariant, in the form of `GoodD` -/
theorem GoodV.typed {cl : List (List Nat)} {w : World} (h : GoodV cl w) (h1 : ¬ OneGrp w) :
    C03Z.Typed cl w ∧ C03Z.TInv cl w := ⟨(h.t h1).1.typed, (h.t h1).2⟩

/-- **V2. `wakeV_step`**: every event preserves the invariant (scope included) — also the events
that run a re-wiring script. -/
theorem wakeV_step {cl : List (List Nat)} {w w' : World} {e : Event} (h : GoodV cl w)
    (hst : w.step = some (e, w')) : GoodV cl w' := by
  have r := swrw_step w w' e h.g.sc.nc hst
  have hres : hasRes w' = true → hasRes w = true := fun hr => by rw [← hasRes_of_swr' r]; exact hr
  have hnb : ¬ NoBatch w' → ¬ NoBatch w := fun hn hb => hn ((noBatch_of_swr' r).mpr hb)
  refine ⟨C03V.G.stepV h.g h.invB h.settled h.i h.gc hst,
    fun hr => inv11_es_step (h.r (hres hr)) (h.s (hres hr)).opsOK h.g.sc.nc (h.procs (hres hr)) hst,
    fun hr => (h.s (hres hr)).of_step r,
    fun hn => ((h.gci (hnb hn)).step hst).1,
    fun hn => ⟨((h.gci (hnb hn)).step hst).2.scrB, sizesPos_of_swr r.1 (h.cs (hnb hn)).2⟩,
    h.i.step (istep_step hst), fun h1 => ?_⟩
  have h0 : ¬ OneGrp w := fun ho => h1 (oneGrp_of_swr ho r.1)
  obtain ⟨hte, hti⟩ := h.t h0
  have := C03V.tinv_stepV (h.c (h.nb h0)) h.g.sc hte hti hst
  exact ⟨this.2, this.1⟩

theorem wakeV_runLoop {cl : List (List Nat)} (n : Nat) : ∀ {w : World}, GoodV cl w →
    GoodV cl (runLoop n w) := by
  induction n with
  | zero =>
    intro w h
    have r := swrw_runLoop 0 w h.g.sc.nc
    have hres : hasRes (runLoop 0 w) = true → hasRes w = true :=
      fun hr => by rw [← hasRes_of_swr' r]; exact hr
    have hnb : ¬ NoBatch (runLoop 0 w) → ¬ NoBatch w := fun hn hb => hn ((noBatch_of_swr' r).mpr hb)
    have esw : sw (w.setErr "fuel") = sw w :=
      C03Z.sw_of_swv (C02V.swv_blind.setErr w _) (C02V.scr_setErr ..)
    refine ⟨h.g.setErr _, fun hr => ?_, fun hr => (h.s (hres hr)).of_step r,
      fun hn => ((h.gci (hnb hn)).setErr _).1,
      fun hn => ⟨((h.gci (hnb hn)).setErr _).2.scrB, sizesPos_of_swr r.1 (h.cs (hnb hn)).2⟩,
      h.i.step (istep_runLoop 0 w), fun h1 => ?_⟩
    · show C11W.Inv (es (w.setErr "fuel") [])
      rw [← es_setErr]
      exact (h.r (hres hr)).mono (C11W.monoS_setErr _ _).toMono
    · have h0 : ¬ OneGrp w := fun ho => h1 (oneGrp_of_swr ho r.1)
      obtain ⟨hte, hti⟩ := h.t h0
      exact ⟨hte.of_sw esw,
        hti.of_frame_st (C02V.sv_setErr ..) (C02V.st_setErr ..) (setErr_parts ..)⟩
  | succ n ih =>
    intro w h
    unfold World.runLoop
    split
    · split
      · exact h
      · next e w' hst => exact ih (wakeV_step h hst)
    · exact h

theorem wakeV_runBegin {cl : List (List Nat)} {w : World} (h : GoodV cl w) (d : Int) :
    GoodV cl (w.runBegin d).1 := by
  have r := swrw_runBegin w d
  have hres : hasRes (w.runBegin d).1 = true → hasRes w = true :=
    fun hr => by rw [← hasRes_of_swr' r]; exact hr
  have hnb : ¬ NoBatch (w.runBegin d).1 → ¬ NoBatch w := fun hn hb => hn ((noBatch_of_swr' r).mpr hb)
  refine ⟨h.g.runBeginG d, fun hr => ?_, fun hr => (h.s (hres hr)).of_step r, fun hn => ?_,
    fun hn => ⟨scrB_of_kind r.2 (fun y => stat0_kind (stat0_of_swr r.1 y)) (h.cs (hnb hn)).1,
      sizesPos_of_swr r.1 (h.cs (hnb hn)).2⟩, h.i.step (istep_runBegin w d), fun h1 => ?_⟩
  · rw [← es_runBegin]
    exact C11W.inv_runBegin (es w []) d (h.r (hres hr))
  · rw [← es_runBegin]
    exact C17W.ci_runBegin (es w []) d (h.c (hnb hn))
  · have h0 : ¬ OneGrp w := fun ho => h1 (oneGrp_of_swr ho r.1)
    obtain ⟨hte, hti⟩ := h.t h0
    exact ⟨hte.of_sw (sw_runBegin w d).sw_eq, C03Z.tinv_runBegin w d hti⟩

/-- **V1. `wakeV_init`**: after `simulateInit` of a fresh world of the scope that satisfies the
registration invariant the invariant holds. -/
theorem wakeV_init {cl : List (List Nat)} {w : World} (hs : S5R cl w) (hi : C01.Inv w.env)
    (h0 : 0 ≤ w.now) (he : EvOK w) (hf : FreshA w) (hreg : C20W.Reg w) :
    GoodV cl w.simulateInit := by
  have hg : G [] [] [] w :=
    ⟨hs.1, fun _ => partsLeaf_fresh hf.1, hi, h0, he, heldValid_fresh hf.1,
      kidsValid_of_leaf (partsLeaf_fresh hf.1), stkOK_of_noParts hf.1.1,
      wr_fresh hf.2.1 (fun hr => (hf.2.2 hr).2.2.1), (fun _ hx => nomatch hx), wakeG_fresh hf.1⟩
  have r := swrw_simulateInit w
  have hres : hasRes w.simulateInit = true → hasRes w = true :=
    fun hr => by rw [← hasRes_of_swr' r]; exact hr
  have hnb : ¬ NoBatch w.simulateInit → ¬ NoBatch w := fun hn hb => hn ((noBatch_of_swr' r).mpr hb)
  have esw := (sw_simulateInit w).sw_eq
  refine ⟨hg.simulateInitG, fun hr => ?_, fun hr => (hs.2.1 (hres hr)).of_step r, fun hn => ?_,
    fun hn => ⟨scrB_of_kind r.2 (fun y => stat0_kind (stat0_of_swr r.1 y)) (hs.2.2.1 (hnb hn)).1,
      sizesPos_of_swr r.1 (hs.2.2.1 (hnb hn)).2⟩, Or.inr (ini_simulateInit hreg), fun h1 => ?_⟩
  · rw [← es_simulateInit]
    exact C11W.inv_simulateInit (es w []) (hs.2.1 (hres hr)).nil (hf.2.2 (hres hr))
  · rw [← es_simulateInit]
    refine C17W.ci_init (es w []) ⟨hf.1, ?_, (hs.2.2.1 (hnb hn)).2⟩
    exact static_of hs.1.es_nil (fun l hl => nomatch hl) (fun l hl => nomatch hl) he
  · have hte : C03V.TE cl w := hs.2.2.2.resolve_left (fun ho => h1 (oneGrp_of_swr ho r.1))
    have hIw : C02V.InvW w := (C02.consS_iff w).1 (C02.consS_fresh w hf.1)
    exact ⟨hte.of_sw esw,
      C03Z.tinv_simulateInit w hIw (C03Z.tinv_of_empty w (held_nil_fresh hf.1)) hte.typed.tst.nb⟩

/-- an operation issued from outside that some script of the world contains (a re-wiring
included) -/
theorem wakeV_applyOp {cl : List (List Nat)} {w : World} (h : GoodV cl w) (o : Op)
    (ho : ∃ l ∈ w.scripts, o ∈ l) : GoodV cl (w.applyOp o).1 := by
  obtain ⟨l, hl, hol⟩ := ho
  have hop := h.g.sc.scriptOp hl hol
  have hnc := opSC_not_create hop
  have r : C02V.swr (w.applyOp o).1 = C02V.swr w := C02V.swr_applyOp w o hnc
  have hscr : (w.applyOp o).1.scripts = w.scripts := C02V.scr_applyOp w o
  have hres : hasRes (w.applyOp o).1 = true → hasRes w = true :=
    fun hr => by rw [← hasRes_of_swr r]; exact hr
  have hnb : ¬ NoBatch (w.applyOp o).1 → ¬ NoBatch w := fun hn hb => hn ((noBatch_of_swr r).mpr hb)
  have hgci : ¬ NoBatch (w.applyOp o).1 → GCI (w.applyOp o).1 := by
    intro hn
    obtain ⟨h1, h2⟩ := ci_es_applyOps [o] w (h.c (hnb hn)) (h.gci (hnb hn)).2
      (fun op hop => by rw [List.mem_singleton] at hop; subst hop; exact ⟨l, hl, hol⟩)
    have e : w.applyOps [o] = (w.applyOp o).1.addRes (w.applyOp o).2 := rfl
    rw [e] at h1 h2
    exact ⟨ci_frame (v := es ((w.applyOp o).1.addRes (w.applyOp o).2) []) (v' := es (w.applyOp o).1 [])
      h1 rfl rfl rfl rfl rfl, ⟨h2.sc.of_sw rfl, scrB_of_kind rfl (fun _ => rfl) h2.scrB⟩⟩
  refine ⟨h.g.applyOpG o hop h.i ⟨l, hl, hol⟩,
    fun hr => inv11_es_applyOp1 (h.r (hres hr)) o ((h.s (hres hr)).opsOK l hl o hol) hnc,
    fun hr => (h.s (hres hr)).of_swr r hscr, fun hn => (hgci hn).1,
    fun hn => ⟨(hgci hn).2.scrB, sizesPos_of_swr r (h.cs (hnb hn)).2⟩, ?_, fun h1 => ?_⟩
  · exact (h.i.step (istep_applyOp w o hnc)).step ⟨rfl, C20W.Pv.of_same rfl⟩
  · have h0 : ¬ OneGrp w := fun ho => h1 (oneGrp_of_swr ho r)
    obtain ⟨hte, hti⟩ := h.t h0
    have rw := C03V.rw_applyOp w o hnc ⟨l, hl, hol⟩
    exact ⟨hte.of_rw rw, C03V.TInv.of_rw hti rw⟩

/-- a re-wiring issued from outside: admissible, leaves the world in the scope `SC` and — unless
there is one group only — its envelope typed -/
theorem wakeV_rewire {cl : List (List Nat)} {w : World} (h : GoodV cl w) (hi : Ini w) (x : Nat)
    (ups : List Nat) (hok : RewOK w x ups) (hfin : SC (w.rewire x ups))
    (hty : ¬ OneGrp w → C03V.TE cl (w.rewire x ups)) :
    GoodV cl (w.rewire x ups) ∧ Ini (w.rewire x ups) := by
  have r : C02V.swr (w.rewire x ups) = C02V.swr w := C02V.swr_rewire w x ups
  have hscr : (w.rewire x ups).scripts = w.scripts := C02V.scr_floor.rewire w x ups
  have hres : hasRes (w.rewire x ups) = true → hasRes w = true :=
    fun hr => by rw [← hasRes_of_swr r]; exact hr
  have hnb : ¬ NoBatch (w.rewire x ups) → ¬ NoBatch w := fun hn hb => hn ((noBatch_of_swr r).mpr hb)
  have hi' : Ini (w.rewire x ups) := hi.step ⟨hscr, C20W.Pv_applyOp w (.rewire x ups) rfl⟩
  refine ⟨⟨h.g.rewireD x ups hok hfin (fun z hz => hi.inited hz), fun hr => ?_,
    fun hr => (h.s (hres hr)).of_swr r hscr, fun hn => ci_es_rewire (h.c (hnb hn)) x ups hfin,
    fun hn => ⟨scrB_of_kind hscr (kind_rewire w x ups) (h.cs (hnb hn)).1,
      sizesPos_of_swr r (h.cs (hnb hn)).2⟩, Or.inr hi', fun h1 => ?_⟩, hi'⟩
  · rw [← es_rewire]
    exact inv11_rewire (h.r (hres hr)) x ups
  · have h0 : ¬ OneGrp w := fun ho => h1 (oneGrp_of_swr ho r)
    exact ⟨hty h0, (h.t h0).2.of_kinds (C02V.sv_rewire w x ups) (kind_rewire w x ups)
      (fun y => stat0_group (stat0_of_swr r y)) (parts_rewire w x ups)⟩

/-- **Reachable states** (stage V): initialisation, events (the scripts' re-wirings included), runs,
beginnings of runs, operations issued from outside that some script contains, re-wirings issued from
outside that are admissible and leave the world in the scope (all conditions decidable on the
current world). -/
inductive ReachV (cl : List (List Nat)) (w0 : World) : World → Prop
  | init : ReachV cl w0 w0.simulateInit
  | step {w w' : World} {e : Event} : ReachV cl w0 w → w.step = some (e, w') → ReachV cl w0 w'
  | loop {w : World} (n : Nat) : ReachV cl w0 w → ReachV cl w0 (runLoop n w)
  | run {w : World} (d : Int) : ReachV cl w0 w → ReachV cl w0 (w.runBegin d).1
  | op {w : World} (o : Op) : ReachV cl w0 w → (∃ l ∈ w.scripts, o ∈ l) →
      ReachV cl w0 (w.applyOp o).1
  | rew {w : World} (x : Nat) (ups : List Nat) : ReachV cl w0 w → RewOK w x ups →
      SC (w.rewire x ups) → (¬ OneGrp w → C03V.TE cl (w.rewire x ups)) →
      ReachV cl w0 (w.applyOp (.rewire x ups)).1

/-- **V3. `wakeV_reachable`**: the invariant holds in every reachable state. -/
theorem wakeV_reachable {cl : List (List Nat)} {w0 w : World} (hs : S5R cl w0)
    (hi : C01.Inv w0.env) (h0 : 0 ≤ w0.now) (he : EvOK w0) (hf : FreshA w0) (hreg : C20W.Reg w0)
    (hr : ReachV cl w0 w) : GoodV cl w ∧ Ini w := by
  induction hr with
  | init => exact ⟨wakeV_init hs hi h0 he hf hreg, ini_simulateInit hreg⟩
  | step _ hst ih => exact ⟨wakeV_step ih.1 hst, ih.2.step (istep_step hst)⟩
  | loop n _ ih => exact ⟨wakeV_runLoop n ih.1, ih.2.step (istep_runLoop n _)⟩
  | run d _ ih => exact ⟨wakeV_runBegin ih.1 d, ih.2.step (istep_runBegin _ d)⟩
  | @op w o _ ho ih =>
    obtain ⟨l, hl, hol⟩ := ho
    have hnc := opSC_not_create (ih.1.g.sc.scriptOp hl hol)
    exact ⟨wakeV_applyOp ih.1 o ⟨l, hl, hol⟩,
      (ih.2.step (istep_applyOp w o hnc)).step ⟨rfl, C20W.Pv.of_same rfl⟩⟩
  | rew x ups _ hok hfin hty ih => exact wakeV_rewire ih.1 ih.2 x ups hok hfin hty

/-- the scope is preserved along every reachable state -/
theorem s5r_reachable {cl : List (List Nat)} {w0 w : World} (hs : S5R cl w0) (hi : C01.Inv w0.env)
    (h0 : 0 ≤ w0.now) (he : EvOK w0) (hf : FreshA w0) (hreg : C20W.Reg w0)
    (hr : ReachV cl w0 w) : S5R cl w :=
  (wakeV_reachable hs hi h0 he hf hreg hr).1.s5r

/-- the invariant gives the machinery's invariants for the world without its scripts -/
theorem GoodV.quiescent_es {cl : List (List Nat)} {w : World} (h : GoodV cl w)
    (hc : ClockAdvances w) (d p : Nat) (hr : ready w d p) : BlockedW (es w []) d p :=
  blocked_genuinely_of (w := es w []) (C03V.G.esG h.g [] h.g.sc.es_nil)
    (fun hr => (h.r hr).pend) h.gc hc d p hr

/-- **V4. `blocked_genuinelyV`**: when time is about to advance, every ready part — inside, between
or in front of the groups, in the wiring of that moment — is flagged, and no downstream neighbour
would pass it on to anybody who accepts. -/
theorem blocked_genuinelyV {cl : List (List Nat)} {w : World} (h : GoodV cl w)
    (hc : ClockAdvances w) (d p : Nat) (hr : ready w d p) : BlockedW w d p := by
  obtain ⟨h1, h2⟩ := h.quiescent_es hc d p hr
  refine ⟨h1, fun y hy => ?_⟩
  have := h2 y hy
  rw [C03V.wouldAccept_es] at this
  exact this

theorem no_lost_wakeupV {cl : List (List Nat)} {w : World} (h : GoodV cl w)
    (hc : ClockAdvances w) : Quiescent w := by
  rw [quiescent_iff]
  intro d p x hr hx
  exact (blocked_genuinelyV h hc d p hr).2 x hx

/-- the stacks of the held parts are typed for the contexts of their holders, whatever the scripts
have re-wired so far -/
theorem stacks_typedV {cl : List (List Nat)} {w : World} (h : GoodV cl w) (h1 : ¬ OneGrp w)
    {d p : Nat} (hd : d < w.devs.length) (hk : (w.dev d).kind ≠ .sink) (hp : p ∈ heldL (w.dev d)) :
    C03Z.TS (C08W.topo w) (C03Z.cx cl) (C03Z.cx cl d) (w.part p).stack :=
  (h.t h1).2.1 d (C02V.sdev (w.dev d)) p (C02V.sv_get w d hd) hk hp

/-- **The closed-world statement for several groups with re-wiring IN SCRIPTS** (and from outside):
in every state reachable from an initialised fresh world of the scope `S5R cl` — any number of
groups, in sequence, re-entrant, nested; resources, batchers (nesting depth ≤ 1), batches, buffers,
gates; scripts that re-wire devices outside, between, inside the groups, group paths and group
outputs, within the typed envelope — whenever the clock is about to advance no ready part could be
handed over, in the wiring of that moment. -/
theorem no_lost_wakeup5_script_rewire_reachable {cl : List (List Nat)} {w0 w : World}
    (hs : S5R cl w0) (hi : C01.Inv w0.env) (h0 : 0 ≤ w0.now) (he : EvOK w0) (hf : FreshA w0)
    (hreg : C20W.Reg w0) (hr : ReachV cl w0 w) (hc : ClockAdvances w) : Quiescent w :=
  no_lost_wakeupV (wakeV_reachable hs hi h0 he hf hreg hr).1 hc

theorem no_lost_wakeup5_script_rewire_runLoop {cl : List (List Nat)} (n : Nat) {w : World}
    (hs : S5R cl w) (hi : C01.Inv w.env) (h0 : 0 ≤ w.now) (he : EvOK w) (hf : FreshA w)
    (hreg : C20W.Reg w) (hc : ClockAdvances (runLoop n w.simulateInit)) :
    Quiescent (runLoop n w.simulateInit) :=
  no_lost_wakeup5_script_rewire_reachable hs hi h0 he hf hreg (.loop n .init) hc

/-- The same with the computed certificate (a decidable scope of the world alone): the contexts are
inferred from the ENVELOPE. -/
theorem no_lost_wakeup5_script_rewire_infer {w0 w : World}
    (hs : S5R (C03Z.ctxInfer (envl w0)) w0) (hi : C01.Inv w0.env) (h0 : 0 ≤ w0.now) (he : EvOK w0)
    (hf : FreshA w0) (hreg : C20W.Reg w0) (hr : ReachV (C03Z.ctxInfer (envl w0)) w0 w)
    (hc : ClockAdvances w) : Quiescent w :=
  no_lost_wakeup5_script_rewire_reachable hs hi h0 he hf hreg hr hc

/-- stage V subsumes stage RF: the states reachable there are reachable here -/
theorem ReachF.reachV {w0 w : World} (cl : List (List Nat)) (hs : S4R w0) (hi : C01.Inv w0.env)
    (h0 : 0 ≤ w0.now) (he : EvOK w0) (hf : FreshA w0) (hreg : C20W.Reg w0) (hr : ReachF w0 w) :
    ReachV cl w0 w := by
  induction hr with
  | init => exact .init
  | step _ hst ih => exact .step ih hst
  | loop n _ ih => exact .loop n ih
  | run d _ ih => exact .run d ih
  | op o _ ho ih => exact .op o ih ho
  | rew x ups hr' hok hfin ih =>
    exact .rew x ups ih hok hfin
      (fun h1 => absurd (wakeF_reachable hs hi h0 he hf hreg hr').1.o h1)

/-- stage V subsumes stages D, E, F with re-wiring from outside -/
theorem ReachD.reachV {cl : List (List Nat)} {w0 w : World} (hs : S5 cl w0) (hi : C01.Inv w0.env)
    (h0 : 0 ≤ w0.now) (he : EvOK w0) (hf : FreshA w0) (hreg : C20W.Reg w0) (hr : ReachD cl w0 w) :
    ReachV cl w0 w := by
  induction hr with
  | init => exact .init
  | step _ hst ih => exact .step ih hst
  | loop n _ ih => exact .loop n ih
  | run d _ ih => exact .run d ih
  | @rew w x ups hr' hok hfin hty ih =>
    refine .rew x ups ih hok hfin (fun h1 => C03V.te_of_nr ?_ (hty h1))
    exact (wake5_rewire_reachable hs hi h0 he hf hreg hr').1.nr.of_scripts
      (C02V.scr_floor.rewire w x ups)

/-- What remains PARTIAL after stage V with respect to "several groups": (1) a batcher at nesting
depth ≥ 2 (FALSE: `nested_batcher_false`); (2) a group whose paths stand in different contexts AND are
connected by the wiring (no certificate exists: `shared_levels_untypable`; groups shared between
nesting levels in different components of the wiring ARE covered: `exLevels`); (3) `create` (assets
constructed mid-run).  Scripted re-wiring is covered whenever the envelope is typed (necessary:
`script_rewire_untyped_false`, `outside_rewire_untyped_false`). -/
theorem no_lost_wakeup5_script_rewire_partial {cl : List (List Nat)} {w0 w : World}
    (hs : S5R cl w0) (hi : C01.Inv w0.env) (h0 : 0 ≤ w0.now) (he : EvOK w0) (hf : FreshA w0)
    (hreg : C20W.Reg w0) (hr : ReachV cl w0 w) (hc : ClockAdvances w) : Quiescent w :=
  no_lost_wakeup5_script_rewire_reachable hs hi h0 he hf hreg hr hc

/-! ### non-vacuity, stage V -/

/-- STAGE D with a scripted re-wiring: `exChain` (two groups in sequence) with a free sink 10 that
is not connected; at t = 5 script 0 connects it behind group path 5 of the second group:
`rewire 10 [5]` -/
def exChainS : World :=
  { exChainR with env := envAt 5 0, scripts := [[.rewire 10 [5]]] }

/-- in the scope of stage V — typed envelope — and in none of the scopes before (several groups AND
a re-wiring script); registered; the certificate is the one computed from the envelope -/
theorem s5r_exChainS : S5R (clChain ++ [[]]) exChainS ∧ ¬ S4R exChainS ∧
    ¬ S5 (clChain ++ [[]]) exChainS ∧ ¬ OneGrp exChainS ∧ ¬ NR exChainS ∧ C20W.Reg exChainS := by
  decide

set_option maxRecDepth 4000 in
theorem ctxInfer_exChainS : C03Z.ctxInfer (envl exChainS) = clChain ++ [[]] := by decide

theorem freshA_exChainS : FreshA exChainS :=
  ⟨⟨rfl, rfl, rfl, rfl, by decide⟩, by decide, fun h => by cases h⟩

/-- the hypotheses of the closed-world theorem of stage V are satisfiable -/
theorem goodV_exChainS (n : Nat) : GoodV (clChain ++ [[]]) (runLoop n exChainS.simulateInit) :=
  (wakeV_reachable s5r_exChainS.1 (by decide) (by decide) (evOK_envAt5 _ rfl) freshA_exChainS
    s5r_exChainS.2.2.2.2.2 (.loop n .init)).1

/-- t = 4 (as `exChainBlocked`): the machine 7 of the second group holds part 1 (stack [5]), the
machine 3 of the first group part 2 (stack [1]), the source part 3; the sink is busy until 8; all
flagged; the clock is about to advance to 5; everything is genuinely blocked -/
example : (runLoop 21 exChainS.simulateInit).now = 4 ∧ ClockAdvances (runLoop 21 exChainS.simulateInit) ∧
    ((runLoop 21 exChainS.simulateInit).part 1).stack = [5] ∧
    BlockedW (runLoop 21 exChainS.simulateInit) 7 1 ∧ BlockedW (runLoop 21 exChainS.simulateInit) 3 2 ∧
    BlockedW (runLoop 21 exChainS.simulateInit) 0 3 ∧
    Quiescent (runLoop 21 exChainS.simulateInit) := by decide

example : Quiescent (runLoop 21 exChainS.simulateInit) :=
  no_lost_wakeupV (goodV_exChainS 21) (by decide)

/-- … instantiating the closed-world theorem itself -/
example : Quiescent (runLoop 21 exChainS.simulateInit) :=
  no_lost_wakeup5_script_rewire_runLoop 21 s5r_exChainS.1 (by decide) (by decide)
    (evOK_envAt5 _ rfl) freshA_exChainS s5r_exChainS.2.2.2.2.2 (by decide)

/-- t = 5, right after the SCRIPT has re-wired: group path 5 has the free sink as a second downstream
neighbour; the notification has gone from the path through the output of group 1 to the machine 7,
whose attempt is queued for this instant; one event later part 1 has been delivered to the new
sink, still at t = 5; the scope is preserved -/
example : (runLoop 22 exChainS.simulateInit).now = 5 ∧
    ((runLoop 22 exChainS.simulateInit).dev 5).down = [9, 10] ∧
    ((runLoop 22 exChainS.simulateInit).dev 7).waitingDS = false ∧
    Att (runLoop 22 exChainS.simulateInit) 7 ∧
    (runLoop 23 exChainS.simulateInit).now = 5 ∧
    (runLoop 23 exChainS.simulateInit).delivered = [0, 1] ∧
    S5R (clChain ++ [[]]) (runLoop 23 exChainS.simulateInit) := by decide

/-- STAGE F with a scripted re-wiring INSIDE THE INNER GROUP: `exNested` with a slow inner machine 6
(cycle 10) and a second inner machine 10 (context [0, 1], already wired to the inner output 7) that is
not connected to the inner group input 5; at t = 5 script 0 connects it: `rewire 10 [5]` -/
def exNestedS : World :=
  { env := envAt 5 0
    scripts := [[.rewire 10 [5]]]
    devs := [{ kind := .source, aid := 1, down := [1], cycle := 1, maxParts := some 4 },
             { kind := .gpath, aid := 2, group := 0, up := [0], down := [9] },
             { kind := .ginput, aid := 3, group := 0, down := [3] },
             { kind := .handler, aid := 4, up := [2], down := [4], cycle := 1 },
             { kind := .gpath, aid := 5, group := 1, up := [3], down := [8] },
             { kind := .ginput, aid := 6, group := 1, down := [6] },
             { kind := .handler, aid := 7, up := [5], down := [7], cycle := 10 },
             { kind := .goutput, aid := 8, group := 1, up := [6, 10] },
             { kind := .goutput, aid := 9, group := 0, up := [4] },
             { kind := .sink, aid := 10, up := [1] },
             { kind := .handler, aid := 11, down := [7], cycle := 1 }],
    groups := [{ paths := [1], input := 2, output := 8 }, { paths := [4], input := 5, output := 7 }],
    assets := [.dev 0, .dev 1, .dev 2, .dev 3, .dev 4, .dev 5, .dev 6, .dev 7, .dev 8, .dev 9, .dev 10] }

/-- in the scope of stage V (nested groups, a re-wiring script); the context [0, 1] of the new machine
is found by inferring the contexts from the ENVELOPE (the wiring alone does not reach it) -/
theorem s5r_exNestedS : S5R (clNested ++ [[0, 1]]) exNestedS ∧ ¬ S4R exNestedS ∧
    ¬ C03Z.Flat (clNested ++ [[0, 1]]) ∧ C20W.Reg exNestedS := by decide

set_option maxRecDepth 4000 in
theorem ctxInfer_exNestedS : C03Z.ctxInfer (envl exNestedS) = clNested ++ [[0, 1]] ∧
    C03Z.ctxInfer exNestedS ≠ clNested ++ [[0, 1]] := by decide

theorem goodV_exNestedS (n : Nat) : GoodV (clNested ++ [[0, 1]]) (runLoop n exNestedS.simulateInit) :=
  (wakeV_reachable s5r_exNestedS.1 (by decide) (by decide) (evOK_envAt5 _ rfl)
    ⟨⟨rfl, rfl, rfl, rfl, by decide⟩, by decide, fun h => by cases h⟩ s5r_exNestedS.2.2.2
    (.loop n .init)).1

/-- t = 3: the inner machine 6 is busy until 12; the OUTER machine 3 holds part 1 (stack [1]) in front
of the inner group and is flagged, the source holds part 2; the clock is about to advance to 5;
genuinely blocked -/
example : (runLoop 11 exNestedS.simulateInit).now = 3 ∧ ClockAdvances (runLoop 11 exNestedS.simulateInit) ∧
    ((runLoop 11 exNestedS.simulateInit).part 1).stack = [1] ∧
    BlockedW (runLoop 11 exNestedS.simulateInit) 3 1 ∧ BlockedW (runLoop 11 exNestedS.simulateInit) 0 2 ∧
    Quiescent (runLoop 11 exNestedS.simulateInit) := by decide

example : Quiescent (runLoop 11 exNestedS.simulateInit) :=
  no_lost_wakeupV (goodV_exNestedS 11) (by decide)

/-- t = 5, right after the script: the inner group input has the new machine as a second downstream
neighbour; the notification has gone from the inner group input through the inner group path 4 to
the outer machine 3, whose attempt is queued for this instant; one event later part 1 stands in the
new inner machine with the stack [1, 4] — typed for its context [0, 1], as the invariant says -/
example : (runLoop 12 exNestedS.simulateInit).now = 5 ∧
    ((runLoop 12 exNestedS.simulateInit).dev 5).down = [6, 10] ∧
    Att (runLoop 12 exNestedS.simulateInit) 3 ∧
    ((runLoop 13 exNestedS.simulateInit).dev 10).part = some 1 ∧
    ((runLoop 13 exNestedS.simulateInit).part 1).stack = [1, 4] ∧
    (runLoop 20 exNestedS.simulateInit).delivered = [1] := by decide

example : C03Z.TS (C08W.topo (runLoop 13 exNestedS.simulateInit)) (C03Z.cx (clNested ++ [[0, 1]]))
    (C03Z.cx (clNested ++ [[0, 1]]) 10) ((runLoop 13 exNestedS.simulateInit).part 1).stack :=
  stacks_typedV (goodV_exNestedS 13) (by decide) (by decide) (by decide) (by decide)

/-- an operation issued from outside (taken from the scripts' vocabulary): the re-wiring at t = 3 -/
example : GoodV (clNested ++ [[0, 1]]) ((runLoop 11 exNestedS.simulateInit).applyOp (.rewire 10 [5])).1 :=
  wakeV_applyOp (goodV_exNestedS 11) _ ⟨_, List.mem_singleton.mpr rfl, List.mem_singleton.mpr rfl⟩

/-- WHAT IS RE-WIRED MAY BE A GROUP OUTPUT: as `exNestedS`, but the second inner machine 10 is
connected to the inner group input 5 from the start and has NO downstream neighbour; at t = 5 script 0
re-wires the OUTPUT 7 OF THE INNER GROUP: `rewire 7 [6, 10]` (no condition "what is re-wired is a
plain device" is needed: the typing of the envelope is all) -/
def exNestedT : World :=
  { env := envAt 5 0
    scripts := [[.rewire 7 [6, 10]]]
    devs := [{ kind := .source, aid := 1, down := [1], cycle := 1, maxParts := some 4 },
             { kind := .gpath, aid := 2, group := 0, up := [0], down := [9] },
             { kind := .ginput, aid := 3, group := 0, down := [3] },
             { kind := .handler, aid := 4, up := [2], down := [4], cycle := 1 },
             { kind := .gpath, aid := 5, group := 1, up := [3], down := [8] },
             { kind := .ginput, aid := 6, group := 1, down := [10, 6] },
             { kind := .handler, aid := 7, up := [5], down := [7], cycle := 10 },
             { kind := .goutput, aid := 8, group := 1, up := [6] },
             { kind := .goutput, aid := 9, group := 0, up := [4] },
             { kind := .sink, aid := 10, up := [1] },
             { kind := .handler, aid := 11, up := [5], cycle := 1 }],
    groups := [{ paths := [1], input := 2, output := 8 }, { paths := [4], input := 5, output := 7 }],
    assets := [.dev 0, .dev 1, .dev 2, .dev 3, .dev 4, .dev 5, .dev 6, .dev 7, .dev 8, .dev 9, .dev 10] }

theorem s5r_exNestedT : S5R (clNested ++ [[0, 1]]) exNestedT ∧ C20W.Reg exNestedT := by decide

theorem goodV_exNestedT (n : Nat) : GoodV (clNested ++ [[0, 1]]) (runLoop n exNestedT.simulateInit) :=
  (wakeV_reachable s5r_exNestedT.1 (by decide) (by decide) (evOK_envAt5 _ rfl)
    ⟨⟨rfl, rfl, rfl, rfl, by decide⟩, by decide, fun h => by cases h⟩ s5r_exNestedT.2
    (.loop n .init)).1

/-- t = 4: the inner machine 10 holds part 0 (stack [1, 4]) and has nobody to hand it to: flagged,
genuinely blocked, the clock is about to advance; t = 5, right after the script: the inner group
output has the machine as a second upstream neighbour, the machine has been told and its attempt is
queued for this instant; one event later part 0 has left both groups and is delivered -/
example : (runLoop 18 exNestedT.simulateInit).now = 4 ∧ ClockAdvances (runLoop 18 exNestedT.simulateInit) ∧
    ((runLoop 18 exNestedT.simulateInit).part 0).stack = [1, 4] ∧
    ((runLoop 18 exNestedT.simulateInit).dev 10).down = [] ∧
    BlockedW (runLoop 18 exNestedT.simulateInit) 10 0 ∧
    (runLoop 19 exNestedT.simulateInit).now = 5 ∧
    ((runLoop 19 exNestedT.simulateInit).dev 10).down = [7] ∧
    Att (runLoop 19 exNestedT.simulateInit) 10 ∧
    (runLoop 20 exNestedT.simulateInit).delivered = [0] := by decide

example : Quiescent (runLoop 18 exNestedT.simulateInit) :=
  no_lost_wakeupV (goodV_exNestedT 18) (by decide)

/-- BATCHERS, TWO GROUPS AND A RE-WIRING SCRIPT: `exFlatBat` (batcher and unbatcher inside group 0,
group 1 behind it, slow sink 10) with a free sink 11; at t = 5 script 0 connects it behind group path 6
of the second group: `rewire 11 [6]` -/
def exFlatBatS : World :=
  { exFlatBat with
      env := envAt 5 0
      scripts := [[.rewire 11 [6]]]
      devs := exFlatBat.devs ++ [{ kind := .sink, aid := 12 }]
      assets := exFlatBat.assets ++ [.dev 11] }

theorem s5r_exFlatBatS : S5R (clFlatBat ++ [[]]) exFlatBatS ∧ ¬ S4R exFlatBatS ∧
    ¬ C03Z.NoBat exFlatBatS ∧ C20W.Reg exFlatBatS := by decide

theorem goodV_exFlatBatS (n : Nat) : GoodV (clFlatBat ++ [[]]) (runLoop n exFlatBatS.simulateInit) :=
  (wakeV_reachable s5r_exFlatBatS.1 (by decide) (by decide) (evOK_envAt5 _ rfl)
    ⟨⟨rfl, rfl, rfl, rfl, by decide⟩, by decide, fun h => by cases h⟩ s5r_exFlatBatS.2.2.2
    (.loop n .init)).1

/-- t = 4: the machine 8 of the second group holds part 2 (stack [6]) in front of the busy sink, the
unbatcher 4 of the first group holds the unpacked part 3 (stack [1]); both flagged; the clock is about
to advance; t = 5, after the script: the machine 8 has been woken through the output of group 1 and
delivers part 2 to the new sink -/
example : (runLoop 18 exFlatBatS.simulateInit).now = 4 ∧ ClockAdvances (runLoop 18 exFlatBatS.simulateInit) ∧
    BlockedW (runLoop 18 exFlatBatS.simulateInit) 8 2 ∧ BlockedW (runLoop 18 exFlatBatS.simulateInit) 4 3 ∧
    (runLoop 21 exFlatBatS.simulateInit).now = 5 ∧ Att (runLoop 21 exFlatBatS.simulateInit) 8 ∧
    (runLoop 22 exFlatBatS.simulateInit).delivered = [0, 2] := by decide

example : Quiescent (runLoop 18 exFlatBatS.simulateInit) :=
  no_lost_wakeupV (goodV_exFlatBatS 18) (by decide)

/-! ### the typing of the envelope is needed (machine-checked counterexamples) -/

/-- two groups (group 0: path 1, input 2, machine 3, output 4, in front of the slow sink 9; group 1:
path 5, input 6, machine 7, output 8); at t = 1 script 0 makes the machine 3 INSIDE GROUP 0 a second
upstream neighbour of the machine 7 INSIDE GROUP 1: `rewire 7 [6, 3]` — a connection across the
contexts [0] and [1] -/
def cexCross : World :=
  { env := envAt 1 0
    scripts := [[.rewire 7 [6, 3]]]
    devs := [{ kind := .source, aid := 1, down := [1], cycle := 1, maxParts := some 3 },
             { kind := .gpath, aid := 2, group := 0, up := [0], down := [9] },
             { kind := .ginput, aid := 3, group := 0, down := [3] },
             { kind := .handler, aid := 4, up := [2], down := [4], cycle := 1 },
             { kind := .goutput, aid := 5, group := 0, up := [3] },
             { kind := .gpath, aid := 6, group := 1, down := [10] },
             { kind := .ginput, aid := 7, group := 1, down := [7] },
             { kind := .handler, aid := 8, up := [6], down := [8], cycle := 1 },
             { kind := .goutput, aid := 9, group := 1, up := [7] },
             { kind := .sink, aid := 10, up := [1], cycle := 10 },
             { kind := .sink, aid := 11, up := [5] }],
    groups := [{ paths := [1], input := 2, output := 4 }, { paths := [5], input := 6, output := 8 }],
    assets := [.dev 0, .dev 1, .dev 2, .dev 3, .dev 4, .dev 5, .dev 6, .dev 7, .dev 8, .dev 9, .dev 10] }

def clCross : List (List Nat) := [[], [], [0], [0], [0], [], [1], [1], [1], [], []]

/-- **A scripted re-wiring across group contexts loses a wake-up.**  The world satisfies every
condition of the scope `S5R` — `SC` (the re-wiring is admissible: `RewOK`, `EnvOK`), the conditions
of the conservation theorem, the wiring of the moment is typed by `clCross` — except that the
ENVELOPE is not typed (the scripted connection 3 → 7 leads from the context [0] into the context
[1]); it is fresh and registered.  Part 0 moves from the machine 3 (stack [1], a path of group 0)
straight into the machine 7 of group 1; its way out leads through the output 8 of group 1 and the
downstream list of path 1 to the sink 9; when the sink becomes idle its notification goes up along
path 1 to the output of group 0 only: at the end of the run (t = 23, nothing queued any more) the
machine 7 still holds part 0, flagged, while the sink would accept it. -/
theorem script_rewire_untyped_false :
    SC cexCross ∧ (¬ NoBatch cexCross → ScrB cexCross ∧ C17W.SizesPos cexCross) ∧
    hasRes cexCross = false ∧ C03Z.Typed clCross cexCross ∧ ¬ C03V.TE clCross cexCross ∧
    ¬ S5R clCross cexCross ∧ FreshA cexCross ∧ C20W.Reg cexCross ∧
    ClockAdvances (runLoop 23 cexCross.simulateInit) ∧
    ((runLoop 23 cexCross.simulateInit).part 0).stack = [1] ∧
    ready (runLoop 23 cexCross.simulateInit) 7 0 ∧
    ((runLoop 23 cexCross.simulateInit).dev 7).waitingDS = true ∧
    wouldAccept (runLoop 23 cexCross.simulateInit).fuel (runLoop 23 cexCross.simulateInit) 8 0 = true ∧
    (runLoop 23 cexCross.simulateInit).error = none ∧
    ¬ Quiescent (runLoop 23 cexCross.simulateInit) := by
  refine ⟨by decide, by decide, by decide, by decide, by decide, by decide,
    ⟨⟨rfl, rfl, rfl, rfl, by decide⟩, by decide, fun h => by cases h⟩,
    by decide, by decide, by decide, by decide, by decide, by decide, by decide, by decide⟩

/-- the same world without the script -/
def cexCrossO : World := { cexCross with env := {}, scripts := [] }

/-- **The same re-wiring issued from outside**: the world is in the scope `S5` of stages D, E, F; the
re-wiring is admissible and leaves the world in the scope `SC` — the first two conditions of
`ReachD.rew` / `ReachV.rew` — but not typed (the third condition); the same wake-up is lost. -/
theorem outside_rewire_untyped_false :
    S5 clCross cexCrossO ∧ RewOK (cexCrossO.simulateInit.runBegin 100).1 7 [6, 3] ∧
    SC ((cexCrossO.simulateInit.runBegin 100).1.rewire 7 [6, 3]) ∧
    ¬ C03Z.Typed clCross ((cexCrossO.simulateInit.runBegin 100).1.rewire 7 [6, 3]) ∧
    ClockAdvances (runLoop 23 ((cexCrossO.simulateInit.runBegin 100).1.rewire 7 [6, 3])) ∧
    ready (runLoop 23 ((cexCrossO.simulateInit.runBegin 100).1.rewire 7 [6, 3])) 7 0 ∧
    (runLoop 23 ((cexCrossO.simulateInit.runBegin 100).1.rewire 7 [6, 3])).error = none ∧
    ¬ Quiescent (runLoop 23 ((cexCrossO.simulateInit.runBegin 100).1.rewire 7 [6, 3])) := by
  refine ⟨by decide, by decide, by decide, by decide, by decide, by decide, by decide, by decide⟩

/-! ## (B) ALL PATHS OF A GROUP IN THE SAME CONTEXT

`C03Z.Typed` assigns ONE context to every device, hence to the devices inside a group; the input
device of a group stands in the context of each of its paths extended by the group.  The contexts
of the certificate are LABELS, however: nothing forces the top level of the plant to carry the empty
context.  A group shared between two different nesting levels is typed (by a certificate that places
the outer usage "virtually inside" the enclosing group of the inner usage) whenever the two usages
are not connected by the wiring: `exLevels`, covered by the theorems of stages D, E, F as they are.
If the usages ARE connected (the same part passes the shared group at level 0 and again at level 1),
no certificate exists: `shared_levels_untypable` — the restriction is necessary for the typing, hence
for the invariant `TInv`.  `Quiescent` itself is not known to fail there: on the concrete world
`cexLevels` the stacks route every part correctly through both levels ([1] at the first passage,
[2, 5] at the second), every wake-up arrives (through the outputs of BOTH groups), and the state is
quiescent at every clock advance of the run (`shared_levels_run_quiescent`, by evaluation); a proof
for all such worlds needs a typing with SETS of contexts per device and is not attempted. -/

/-- line 1 (top level): source 0 → group path 2 of group 0 → sink 11; line 2: source 1 → group path 3
of group 1 (input 4 → machine 5 → GROUP PATH 6 OF GROUP 0 → output 7) → sink 12; group 0 (input 8 →
machine 9 → output 10) is shared between the top level (path 2) and the inside of group 1 (path 6) -/
def exLevels : World :=
  { devs := [{ kind := .source, aid := 1, down := [2], cycle := 1, maxParts := some 3 },
             { kind := .source, aid := 2, down := [3], cycle := 1, maxParts := some 3 },
             { kind := .gpath, aid := 3, group := 0, up := [0], down := [11] },
             { kind := .gpath, aid := 4, group := 1, up := [1], down := [12] },
             { kind := .ginput, aid := 5, group := 1, down := [5] },
             { kind := .handler, aid := 6, up := [4], down := [6], cycle := 1 },
             { kind := .gpath, aid := 7, group := 0, up := [5], down := [7] },
             { kind := .goutput, aid := 8, group := 1, up := [6] },
             { kind := .ginput, aid := 9, group := 0, down := [9] },
             { kind := .handler, aid := 10, up := [8], down := [10], cycle := 2 },
             { kind := .goutput, aid := 11, group := 0, up := [9] },
             { kind := .sink, aid := 12, up := [2], cycle := 5 },
             { kind := .sink, aid := 13, up := [3], cycle := 5 }],
    groups := [{ paths := [2, 6], input := 8, output := 10 }, { paths := [3], input := 4, output := 7 }],
    assets := [.dev 0, .dev 1, .dev 2, .dev 3, .dev 4, .dev 5, .dev 6, .dev 7, .dev 8, .dev 9, .dev 10,
      .dev 11, .dev 12] }

/-- the certificate: line 1 carries the label [1] ("virtually inside group 1"), the shared group
stands in the context [1, 0] -/
def clLevels : List (List Nat) :=
  [[1], [], [1], [], [1], [1], [1], [1], [1, 0], [1, 0], [1, 0], [1], []]

/-- **A group shared between two nesting levels is in the scope `S5`** (typed by `clLevels`); the
contexts computed by propagation from the sources (top level = empty context) are NOT a typing. -/
theorem s5_exLevels : S5 clLevels exLevels ∧ ¬ S4 exLevels ∧ ¬ C03Z.Flat clLevels := by decide

set_option maxRecDepth 4000 in
theorem ctxInfer_exLevels : ¬ C03Z.Typed (C03Z.ctxInfer exLevels) exLevels := by decide

theorem goodD_exLevels (n : Nat) :
    GoodD clLevels (runLoop n (exLevels.simulateInit.runBegin 100).1) :=
  wake5_simulate n 100 s5_exLevels.1 C01.inv_init (by decide)
    (fun n hn => by simp [C02V.acts, exLevels] at hn)
    ⟨⟨rfl, rfl, rfl, rfl, by decide⟩, by decide, fun h => by cases h⟩

/-- the shared machine 9 holds a part of line 1 with the stack [2] (depth 1) at t = 5 and a part of
line 2 with the stack [3, 6] (depth 2) at t = 17; both states are quiescent when the clock advances,
by the theorem -/
example : ((runLoop 18 (exLevels.simulateInit.runBegin 100).1).part 2).stack = [2] ∧
    ready (runLoop 18 (exLevels.simulateInit.runBegin 100).1) 9 2 ∧
    ((runLoop 44 (exLevels.simulateInit.runBegin 100).1).part 3).stack = [3, 6] ∧
    ready (runLoop 44 (exLevels.simulateInit.runBegin 100).1) 9 3 ∧
    BlockedW (runLoop 44 (exLevels.simulateInit.runBegin 100).1) 9 3 := by decide

example : Quiescent (runLoop 18 (exLevels.simulateInit.runBegin 100).1) ∧
    Quiescent (runLoop 44 (exLevels.simulateInit.runBegin 100).1) :=
  ⟨no_lost_wakeup5 (goodD_exLevels 18) (by decide), no_lost_wakeup5 (goodD_exLevels 44) (by decide)⟩

/-- ONE line passes the shared group 0 twice — at the top level through path 1, and again inside
group 1 through path 5: source 0 → path 1 (group 0) → path 2 (group 1: input 3 → machine 4 → PATH 5 OF
GROUP 0 → output 6) → sink 10; group 0: input 7 → machine 8 → output 9 -/
def cexLevels : World :=
  { devs := [{ kind := .source, aid := 1, down := [1], cycle := 4, maxParts := some 3 },
             { kind := .gpath, aid := 2, group := 0, up := [0], down := [2] },
             { kind := .gpath, aid := 3, group := 1, up := [1], down := [10] },
             { kind := .ginput, aid := 4, group := 1, down := [4] },
             { kind := .handler, aid := 5, up := [3], down := [5], cycle := 1 },
             { kind := .gpath, aid := 6, group := 0, up := [4], down := [6] },
             { kind := .goutput, aid := 7, group := 1, up := [5] },
             { kind := .ginput, aid := 8, group := 0, down := [8] },
             { kind := .handler, aid := 9, up := [7], down := [9], cycle := 2 },
             { kind := .goutput, aid := 10, group := 0, up := [8] },
             { kind := .sink, aid := 11, up := [2], cycle := 7 }],
    groups := [{ paths := [1, 5], input := 7, output := 9 }, { paths := [2], input := 3, output := 6 }],
    assets := [.dev 0, .dev 1, .dev 2, .dev 3, .dev 4, .dev 5, .dev 6, .dev 7, .dev 8, .dev 9, .dev 10] }

/-- **No certificate types a group whose usages at two nesting levels are connected by the wiring**:
the input device 7 of group 0 would have to stand in the context of path 1 and in that of path 5,
each extended by the group, and the wiring 1 → 2 ⇒ 3 → 4 → 5 puts path 5 one level below path 1.  The
world satisfies every other condition of the scope `S5`. -/
theorem shared_levels_untypable :
    ((SC cexLevels ∧ NR cexLevels) ∧ (hasRes cexLevels = true → C11W.S cexLevels) ∧
      (¬ NoBatch cexLevels → ScrB cexLevels ∧ C17W.SizesPos cexLevels)) ∧
    ∀ cl, ¬ C03Z.Typed cl cexLevels := by
  refine ⟨by decide, fun cl h => ?_⟩
  have h1 := (h.at 1).2.1 (by decide)
  have h5 := (h.at 5).2.1 (by decide)
  have h2 := (h.at 2).2.1 (by decide)
  have e12 := (h.at 1).1 2 (by decide)
  have e34 := (h.at 3).1 4 (by decide)
  have e45 := (h.at 4).1 5 (by decide)
  have g1 : groupIn cexLevels 1 = 7 := by decide
  have g5 : groupIn cexLevels 5 = 7 := by decide
  have g2 : groupIn cexLevels 2 = 3 := by decide
  rw [g1] at h1; rw [g5] at h5; rw [g2] at h2
  have k1 : (cexLevels.dev 1).group = 0 := by decide
  have k5 : (cexLevels.dev 5).group = 0 := by decide
  rw [k1] at h1; rw [k5] at h5
  have e15 : C03Z.cx cl 1 = C03Z.cx cl 5 := List.append_cancel_right (h1.symm.trans h5)
  have : (C03Z.cx cl 5).length = (C03Z.cx cl 1).length + 1 := by
    rw [e45, e34, h2, e12]; simp
  rw [e15] at this
  omega

/-- **… but the run is quiescent at every clock advance** (by evaluation, up to the end of the run at
fuel 35: every part delivered, no error): at t = 6 the shared machine 8 holds part 0 with the stack
[1], at t = 9 with the stack [2, 5]; at t = 14 it holds part 1 (stack [2, 5]) in front of the busy sink,
flagged, the clock is about to advance; at t = 16 the notification of the sink has gone through the
output of group 1 AND the output of group 0 to the machine 8, whose attempt is queued -/
theorem shared_levels_run_quiescent :
    (∀ n ∈ List.range 36, ClockAdvances (runLoop n (cexLevels.simulateInit.runBegin 100).1) →
      Quiescent (runLoop n (cexLevels.simulateInit.runBegin 100).1)) ∧
    ((runLoop 3 (cexLevels.simulateInit.runBegin 100).1).part 0).stack = [1] ∧
    ((runLoop 9 (cexLevels.simulateInit.runBegin 100).1).part 0).stack = [2, 5] ∧
    ClockAdvances (runLoop 19 (cexLevels.simulateInit.runBegin 100).1) ∧
    BlockedW (runLoop 19 (cexLevels.simulateInit.runBegin 100).1) 8 1 ∧
    Att (runLoop 20 (cexLevels.simulateInit.runBegin 100).1) 8 ∧
    (runLoop 35 (cexLevels.simulateInit.runBegin 100).1).delivered = [0, 1, 2] ∧
    (runLoop 35 (cexLevels.simulateInit.runBegin 100).1).error = none := by
  refine ⟨by decide, by decide, by decide, by decide, by decide, by decide, by decide, by decide⟩


end C03W
end SimProc
