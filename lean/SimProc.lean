import SimProc.Model.Env
import SimProc.Model.Basic
import SimProc.Model.World
import SimProc.Proofs.EnvLemmas
import SimProc.Proofs.FloorWalk
import SimProc.Proofs.WorldWalk
import SimProc.Props.C01
import SimProc.Props.C07
import SimProc.Props.Facts
import SimProc.Props.C12
import SimProc.Props.C18
import SimProc.Props.C19
import SimProc.Props.C10
import SimProc.Props.C09
import SimProc.Props.C16
import SimProc.Props.C14
import SimProc.Props.C14Split
import SimProc.Proofs.FloorCore2
import SimProc.Props.C20
import SimProc.Props.C02
import SimProc.Props.C17
import SimProc.Props.C03
import SimProc.Props.C08
import SimProc.Props.C05
import SimProc.Props.C11
import SimProc.Props.C04
import SimProc.Props.C13
import SimProc.Props.C06
import SimProc.Props.C15
import SimProc.Props.C01W
import SimProc.Props.C17W
import SimProc.Props.C05W
import SimProc.Props.C11W
import SimProc.Props.C16W
import SimProc.Props.C15W
import SimProc.Props.C03W
import SimProc.Props.C06W
import SimProc.Props.C08W
import SimProc.Props.C04W
import SimProc.Props.C06T
import SimProc.Props.C02W
import SimProc.Props.C12W
import SimProc.Props.C19W
import SimProc.Props.C18W
import SimProc.Props.C20W
import SimProc.Props.C14W
import SimProc.Props.C08S
import SimProc.Props.C10W
import SimProc.Props.C16D
import SimProc.Props.C15D
import SimProc.Props.C13W
import SimProc.Props.C09W
import SimProc.Props.C13Q
import SimProc.Props.C18D
import SimProc.Props.C19D
import SimProc.Props.C07R
